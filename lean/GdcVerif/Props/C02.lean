import GdcVerif.Model.JpegLossless
import GdcVerif.Lemmas.JpegLossless
import GdcVerif.Lemmas.JllBits
import GdcVerif.Lemmas.JllCanon
import GdcVerif.Lemmas.JllScan
import GdcVerif.Lemmas.JllOptimal
import GdcVerif.Lemmas.JllOptimalGen
import GdcVerif.Lemmas.JllCompose
import GdcVerif.Lemmas.JllStreamEnc
import GdcVerif.Lemmas.JllStreamDec
/-!
  C02 — JPEG Lossless (Process 14, predictors 1–7) and SV1: exact reconstruction.

  Property theorems only.  `Predictor` and `losslessDifference` are the regenerated
  `Gen.JpegLossless` definitions; the scan loops' neighbour trees, the wrap block, the
  category coder, the bit writer/reader and the canonical Huffman tables are the code-shaped
  hand model `Model/JpegLossless.lean`; the scan loops and the pixel packing are
  `Model/JpegLosslessScan.lean`, `BuildOptimalHuffmanTable` is `Model/OptimalHuffman.lean`, the whole
  `Encode`/`Decode` functions (frequency pass, predictor selection, marker loop; header writers from
  `Model/JpegContainer.lean`) are `Model/JpegLosslessStream.lean` — all tied to /repo by this
  check's correspondence run.
-/
namespace JLL
open Gen.JpegLossless

/-! ## L1 — the copies of the neighbour-selection tree agree -/

/-- encoder scan, decoder scan and frequency pass of jpeg/lossless predict the same value -/
theorem neighbour_rules_agree (P predictor row col : Int) (nb : Nb) (hr : 0 ≤ row) (hc : 0 ≤ col) :
    decPredicted P predictor row col nb = encPredicted P predictor row col nb ∧
    freqPredicted P predictor row col nb = encPredicted P predictor row col nb :=
  ⟨decPredicted_eq_enc P predictor row col nb, freqPredicted_eq_enc P predictor row col nb hr hc⟩

/-- the SV1 trees (scan and frequency pass) are the general tree at predictor 1 -/
theorem sv1_rules_agree (P row col : Int) (nb : Nb) (hr : 0 ≤ row) (hc : 0 ≤ col) :
    sv1Predicted P row col nb = encPredicted P 1 row col nb ∧
    sv1FreqPredicted P row col nb = sv1Predicted P row col nb :=
  ⟨sv1Predicted_eq_enc P row col nb hr hc, sv1FreqPredicted_eq P row col nb hr hc⟩

example : encPredicted 8 4 1 1 ⟨10, 20, 5⟩ = 25 ∧ sv1Predicted 8 1 0 ⟨10, 20, 5⟩ = 20 := by decide

/-! ## L2 — difference modulo 2^16 and its inverse -/

/-- L2, jpeg/lossless (decoder shape since fix 479126d, `(predicted + diff) & (2^P - 1)`):
    for every precision 2..16, every predictor 1..7, every neighbourhood and position, the
    decoder's reconstruction of the encoder's int16-wrapped difference is the sample. -/
theorem diff_wrap_inverse (P predictor row col : Int) (nb : Nb) (sample : Int)
    (hP : 2 ≤ P ∧ P ≤ 16) (_hp : 1 ≤ predictor ∧ predictor ≤ 7) (_hr : 0 ≤ row) (_hc : 0 ≤ col)
    (_hnb : NbIn P nb) (hs : 0 ≤ sample ∧ sample < Go.shl 1 P) :
    decSample P (decPredicted P predictor row col nb)
      (encDiff sample (encPredicted P predictor row col nb)) = sample := by
  rw [decPredicted_eq_enc]; exact diff_wrap_inverse' P _ sample hP hs

example : NbIn 16 ⟨65535, 0, 65535⟩ ∧ (0:Int) ≤ 65535 ∧ (65535:Int) < Go.shl 1 16 := by decide

/-- … in fact for every predicted value whatsoever (in range or not) -/
theorem diff_wrap_inverse_any_prediction (P predicted sample : Int) (hP : 2 ≤ P ∧ P ≤ 16)
    (hs : 0 ≤ sample ∧ sample < Go.shl 1 P) :
    decSample P predicted (encDiff sample predicted) = sample :=
  diff_wrap_inverse' P predicted sample hP hs

/-- regression: the witnesses of the former defect `jll-pred456-wrap` (single wrap; P = 15/16,
    predictors 4, 5, 6, Ra = Rb = 2^P−1, Rc = 0, sample 0 — the image [0, 32767; 32767, 0] at its
    last position decoded 32768) are reconstructed correctly by the repaired shape -/
example :
    decSample 15 (decPredicted 15 4 1 1 ⟨32767, 32767, 0⟩) (encDiff 0 (encPredicted 15 4 1 1 ⟨32767, 32767, 0⟩)) = 0 ∧
    decSample 15 (decPredicted 15 5 1 1 ⟨32767, 32767, 0⟩) (encDiff 0 (encPredicted 15 5 1 1 ⟨32767, 32767, 0⟩)) = 0 ∧
    decSample 15 (decPredicted 15 6 1 1 ⟨32767, 32767, 0⟩) (encDiff 0 (encPredicted 15 6 1 1 ⟨32767, 32767, 0⟩)) = 0 ∧
    decSample 16 (decPredicted 16 4 1 1 ⟨65535, 65535, 0⟩) (encDiff 0 (encPredicted 16 4 1 1 ⟨65535, 65535, 0⟩)) = 0 := by
  decide

/-- the single-wrap shape that lossless14sv1 still uses would NOT be enough for predictors 4–6
    (this is the old defect, kept as a guard against re-introducing that shape in jpeg/lossless) -/
theorem single_wrap_insufficient_for_pred4 :
    sv1DecSample 15 (encPredicted 15 4 1 1 ⟨32767, 32767, 0⟩)
      (encDiff 0 (encPredicted 15 4 1 1 ⟨32767, 32767, 0⟩)) = 32768 := by decide

/-- L2, lossless14sv1 (single-wrap block, selection value 1 on both sides): full statement —
    the SV1 prediction is always a sample or 2^(P−1), so one wrap suffices -/
theorem sv1_diff_wrap_inverse (P row col : Int) (nb : Nb) (sample : Int)
    (hP : 2 ≤ P ∧ P ≤ 16) (hr : 0 ≤ row) (hc : 0 ≤ col)
    (hnb : NbIn P nb) (hs : 0 ≤ sample ∧ sample < Go.shl 1 P) :
    sv1DecSample P (sv1Predicted P row col nb) (encDiff sample (sv1Predicted P row col nb)) = sample :=
  sv1DecSample_encDiff P sample _ hP hs (sv1Predicted_range P row col nb hP hnb)

example : NbIn 12 ⟨4095, 0, 7⟩ ∧ (0:Int) ≤ 4095 ∧ (4095:Int) < Go.shl 1 12 := by decide

/-- the prediction is confined to [-2^P, 2^(P+1)), and to [0, 2^P) for predictors 1, 2, 3, 7 -/
theorem predicted_range (P predictor row col : Int) (nb : Nb) (hP : 2 ≤ P ∧ P ≤ 16)
    (hp : 1 ≤ predictor ∧ predictor ≤ 7) (hnb : NbIn P nb) :
    (-(Go.shl 1 P) ≤ encPredicted P predictor row col nb ∧
      encPredicted P predictor row col nb < 2 * Go.shl 1 P) ∧
    ((predictor = 1 ∨ predictor = 2 ∨ predictor = 3 ∨ predictor = 7) →
      0 ≤ encPredicted P predictor row col nb ∧ encPredicted P predictor row col nb < Go.shl 1 P) :=
  encPredicted_range P predictor row col nb hP hnb

/-! ## L3 — categories and amplitude bits -/

/-- every 16-bit difference survives category + amplitude coding; categories are 0..16, the
    amplitude fits the category's bit count, category 16 is exactly −32768 and carries no bits -/
theorem category_roundtrip (d : Int) (hlo : -32768 ≤ d) (hhi : d ≤ 32767) :
    receiveLosslessDifference (encodeLosslessDifference d).1 (encodeLosslessDifference d).2 = d ∧
    0 ≤ (encodeLosslessDifference d).1 ∧ (encodeLosslessDifference d).1 ≤ 16 ∧
    0 ≤ (encodeLosslessDifference d).2 ∧
    (encodeLosslessDifference d).2 < (2:Int) ^ (encodeLosslessDifference d).1.toNat ∧
    ((encodeLosslessDifference d).1 = 16 ↔ d = -32768) :=
  category_roundtrip' d hlo hhi

theorem category16_no_bits : encodeLosslessDifference (-32768) = (16, 0) ∧ extraBits 16 = 0 ∧
    receiveLosslessDifference 16 0 = -32768 := by decide

example : encodeLosslessDifference (-5) = (3, 2) ∧ receiveLosslessDifference 3 2 = -5 := by decide

/-- the frequency pass (`diffCategory`) counts the category the scan emits, so (with L6) the
    emitted category always has a code in the per-image optimal table -/
theorem diffCategory_eq (d : Int) (hlo : -32768 ≤ d) (hhi : d ≤ 32767) :
    diffCategory d = (encodeLosslessDifference d).1 := diffCategory_eq' d hlo hhi

/-- the encoder's difference is always a 16-bit value (so L3 applies to it) -/
theorem encDiff_range (sample predicted : Int) :
    -32768 ≤ encDiff sample predicted ∧ encDiff sample predicted ≤ 32767 :=
  encDiff_range' sample predicted

/-! ## L4 — bit writer / reader and the stuffing invariant -/

/-- the stuffing invariant: whatever is written (any values, widths ≤ 16) the entropy-coded
    bytes have every 0xFF followed by 0x00 — no marker code inside the scan (reused by C16) -/
theorem huffbits_stuffing_invariant (ws : List (Nat × Nat)) (hn : ∀ w ∈ ws, w.2 ≤ 16) :
    StuffOk (writeAll {} ws) = true := writeAll_stuffOk ws hn

/-- the reader over the writer's bytes sees exactly the written bits, then only 1-padding (< 8 bits) -/
theorem huffbits_roundtrip_thm (ws : List (Nat × Nat)) (hn : ∀ w ∈ ws, w.2 ≤ 16) :
    ∃ pad : List Bool, pad.length < 8 ∧ (∀ b ∈ pad, b = true) ∧
      pending { data := writeAll {} ws } = ws.flatMap (fun w => bitsOf w.1 w.2) ++ pad :=
  huffbits_roundtrip ws hn

/-- `ReadBit` returns the next pending bit and keeps the invariants -/
theorem readBit_correct (d : HuffDec) (hs : StuffOk d.data = true) (hb : d.nBits ≤ 7) (b : Bool)
    (rest : List Bool) (hp : pending d = b :: rest) :
    ∃ d', d.readBit = some (b, d') ∧ pending d' = rest ∧ StuffOk d'.data = true ∧ d'.nBits ≤ 7 :=
  let ⟨d', e, hs', hb', hp'⟩ := Reads.readBit ⟨hs, hb, hp⟩
  ⟨d', e, hp', hs', hb'⟩

/-- `ReadBits(n)`, n ≤ 16, returns the number spelled by the next n pending bits -/
theorem readBits_correct (d : HuffDec) (hs : StuffOk d.data = true) (hb : d.nBits ≤ 7) (n : Nat)
    (hn : n ≤ 16) (bs rest : List Bool) (hl : bs.length = n) (hp : pending d = bs ++ rest) :
    ∃ d', d.readBits n = some (ofBits bs, d') ∧ pending d' = rest ∧ StuffOk d'.data = true ∧ d'.nBits ≤ 7 :=
  let ⟨d', e, hs', hb', hp'⟩ := Reads.readBits (d := d) (rest := rest) ⟨hs, hb, hp⟩ (hl ▸ hn)
  ⟨d', hl ▸ e, hp', hs', hb'⟩

/-- amplitude bits written with `WriteBits(bits, cat)` read back as the same number -/
theorem amplitude_roundtrip (v n : Nat) (hv : v < 2 ^ n) : ofBits (bitsOf v n) = v := by
  rw [ofBits_bitsOf]; exact Nat.mod_eq_of_lt hv

/-- the 8-bit lookup fast path of `HuffmanDecoder.Decode` is dead code: with `nBits ≤ 7` (which
    `readBit_correct` / `readBits_correct` maintain) `Decode` is its slow path -/
theorem decode_fast_path_is_dead (d : HuffDec) (t : Table) (hb : d.nBits ≤ 7) :
    d.decode t = decodeLoop t.values HuffDec.readBit t.codes 0 d := decode_fast_path_dead d t hb

example : (∀ w ∈ [((0xFF : Nat), (8 : Nat)), (5, 3)], w.2 ≤ 16) ∧ StuffOk [0xFF, 0x00, 0xBF] = true := by decide

/-! ## L5 — canonical Huffman tables (`HuffmanTable.Build`, `BuildHuffmanCodes`, `Decode`) -/

/-- `Build` succeeds on every valid table (its over-subscription guard — before fix 1cb8f42 the
    `lookupTable[code+j]` / `Values[p]` index panic — cannot fire) -/
theorem table_build_ok (bits : List Nat) (values : Array Nat) (hv : ValidTable bits values = true) :
    ∃ t, Table.build bits values = .ok t ∧ t.values = values ∧ t.codes = buildCodes bits 0 0 :=
  build_ok bits values hv

/-- untrusted BITS = [3,0,…] are rejected with an error (regression: this input used to drive the
    lookup index to 256 and panic) -/
theorem build_rejects_oversubscribed :
    Table.build [3, 0, 0, 0, 0, 0, 0, 0, 0, 0, 0, 0, 0, 0, 0, 0] #[0, 1, 2] = .err := by decide

/-- every symbol of a valid table has a code of 1..16 bits that fits its length -/
theorem canonical_codes_wf (bits : List Nat) (values : Array Nat) (hv : ValidTable bits values = true)
    (sym : Nat) (hs : sym ∈ values.toList) :
    ∃ c len, (buildHuffmanCodes bits values)[sym]? = some (c, len) ∧ 1 ≤ len ∧ len ≤ 16 ∧ c < 2 ^ len :=
  codes_wf bits values hv sym hs

/-- L5: for every valid (BITS, HUFFVAL) the decoder's slow path, fed the encoder's code of
    `sym` followed by anything, returns `sym` and consumes exactly the code's bits -/
theorem canonical_decode_encode_thm (bits : List Nat) (values : Array Nat)
    (hv : ValidTable bits values = true) (sym : Nat) (hs : sym ∈ values.toList) (c len : Nat)
    (hc : (buildHuffmanCodes bits values)[sym]? = some (c, len)) (rest : List Bool) :
    decodeLoop values listBit (buildCodes bits 0 0) 0 (bitsOf c len ++ rest) = .ok (sym, rest) :=
  canonical_decode_encode bits values hv sym hs c len hc rest

/-- a symbol that is not in the table has Len = 0: `WriteBits(code, 0)` would silently write nothing -/
theorem canonical_codes_absent (bits : List Nat) (values : Array Nat) (sym : Nat) (h256 : sym < 256)
    (hs : sym ∉ values.toList) : (buildHuffmanCodes bits values)[sym]? = some (0, 0) := by
  unfold buildHuffmanCodes
  rw [huffGo_absent values sym hs]
  simp [h256]

example : ValidTable [0, 1, 5, 1, 1, 1, 1, 1, 1, 0, 0, 0, 0, 0, 0, 0] #[0, 1, 2, 3, 4, 5, 6, 7, 8, 9, 10, 11] = true := by
  decide

/-! ## L7 — whole-scan round trip (composition of L1–L5 over the scan loops) -/

/-- The entropy-coded segment: any sequence of (category, amplitude) symbols as the encoder forms
    them (`SymOk`) whose categories have a code in the valid table, written with that table's codes
    and `WriteBits`/`Flush`, is read back symbol for symbol by `Decode` + `ReadBits`, and the bytes
    satisfy the stuffing invariant. -/
theorem entropy_layer_roundtrip (bits : List Nat) (values : Array Nat) (t : Table)
    (hv : ValidTable bits values = true) (ht : Table.build bits values = .ok t)
    (syms : List (Nat × Nat)) (hok : ∀ x ∈ syms, SymOk x ∧ x.1 ∈ values.toList) :
    (∃ d', readSyms t syms.length
        { data := writeAll {} (symWrites (buildHuffmanCodes bits values) syms) } = .ok (syms, d')) ∧
    StuffOk (writeAll {} (symWrites (buildHuffmanCodes bits values) syms)) = true :=
  entropy_roundtrip bits values t hv ht syms hok

/-- L7: `decodeScan (encodeScan planes) = planes` for jpeg/lossless (sv1 = false, any predictor)
    and lossless14sv1 (sv1 = true): every geometry w × h × nc (no upper bound), every precision
    2..16, every P-bit content, every valid Huffman table that has a code for each category the scan
    emits (`emittedCats`, executable) — which the per-image table has by `diffCategory_eq` and L6
    (`lossless_scan_roundtrip_optimal` below).  The scan bytes satisfy the stuffing invariant. -/
theorem lossless_scan_roundtrip_thm (sv1 : Bool) (P predictor w h nc : Nat) (bits : List Nat)
    (values : Array Nat) (t : Table) (s : Array (Array Int))
    (hP : 2 ≤ P ∧ P ≤ 16)
    (hv : ValidTable bits values = true) (ht : Table.build bits values = .ok t)
    (hcat : ∀ k ∈ emittedCats sv1 P predictor w h nc s, k ∈ values.toList)
    (hsz : s.size = nc ∧ ∀ c (hc : c < s.size), s[c].size = w * h)
    (hrng : ∀ c (hc : c < s.size) i (hi : i < s[c].size), 0 ≤ s[c][i] ∧ s[c][i] < Go.shl 1 P) :
    ∃ scan, encodeScan sv1 P predictor w h nc (buildHuffmanCodes bits values) s = .ok scan ∧
      StuffOk scan = true ∧ decodeScan sv1 P predictor w h nc t scan = .ok s :=
  let ⟨scan, h1, hpk, h3⟩ := scan_roundtrip sv1 P predictor w h nc bits values t s hP hv ht hcat
    (sized_of w h nc s hsz) (inRange_of P hP s hrng)
  ⟨scan, h1, hpk.stuffOk, h3⟩

/-- non-vacuity: a 2×2 one-component 8-bit image, predictor 4, the K.3 luminance DC table -/
example :
    let bits := [0, 1, 5, 1, 1, 1, 1, 1, 1, 0, 0, 0, 0, 0, 0, 0]
    let values : Array Nat := #[0, 1, 2, 3, 4, 5, 6, 7, 8, 9, 10, 11]
    let s : Array (Array Int) := #[#[10, 200, 30, 40]]
    ValidTable bits values = true ∧ (∃ t, Table.build bits values = .ok t) ∧
    (∀ k ∈ emittedCats false 8 4 2 2 1 s, k ∈ values.toList) := by
  refine ⟨by decide, table_build_ok _ _ (by decide) |>.imp (fun _ h => h.1), by decide⟩

/-! ## L6 — `BuildOptimalHuffmanTable` (code-shaped model `JLL.Opt.buildOptimal`) -/

/-- safety: with at most 32 non-zero frequencies among the 256 (the lossless alphabet has 17) neither
    the `bits[size]` index panic nor any other panic nor non-termination of the `others` chain
    walks is reachable.  (Since fix 9f5cc40 the count hypothesis is not
    needed any more: `optimal_table_total` below.) -/
theorem optimal_table_no_panic (f : List Nat) (hlen : f.length = 256)
    (hc : f.countP (fun x => x != 0) ≤ 32) : ∃ r, Opt.buildOptimal f = .ok r :=
  Opt.buildOptimal_total f hlen

/-- L6: for every frequency vector over the 17 difference categories the result is a `ValidTable`
    (16 counts, counts sum to the number of values, values distinct bytes, Kraft) with STRICT
    Kraft inequality (the all-ones code stays reserved), code lengths ≤ 16, and its symbols are
    exactly the categories with non-zero frequency -/
theorem optimal_table_valid (f : List Nat) (hf : Opt.LosslessFreq f) :
    ∃ bits values, Opt.buildOptimal f = .ok (bits, values) ∧
      ValidTable (bits.map Int.toNat) values.toArray = true ∧
      KraftStrict (bits.map Int.toNat) = true ∧
      (∀ i, i ∈ values ↔ i < 256 ∧ f[i]?.getD 0 ≠ 0) :=
  let ⟨bits, values, hb, _, hv, hks, hmem⟩ := optimal_table_valid_nonneg f hf.1
  ⟨bits, values, hb, hv, hks, hmem⟩

example : Opt.LosslessFreq (catFreq [0, 3, 3, 16, 7]) := catFreq_lossless _ (by decide)

/-! ### L6 for ANY alphabet (≤ 256 symbols: the DCT codecs' DC/AC tables use the same function) -/

/-- `BuildOptimalHuffmanTable` returns normally for ANY 256 frequencies: no panic, no
    non-termination.  Since fix 9f5cc40 the work array `bits` has 257 entries
    (`maxHuffmanCodeLength = 256`), so `bits[size]++` is in range for every possible code size: a
    Huffman tree over the 256 symbols plus the pseudo-symbol is at most 256 levels deep
    (`Opt.depthLe_256`).  Before the fix the array had 33 entries and the function panicked exactly
    when the depth of the unrestricted code exceeded 32. -/
theorem optimal_table_total (f : List Nat) (hlen : f.length = 256) :
    (∃ r, Opt.buildOptimal f = .ok r) ∧ Opt.buildOptimal f ≠ .panic ∧ Opt.buildOptimal f ≠ .err := by
  obtain ⟨r, hr⟩ := Opt.buildOptimal_total f hlen
  rw [hr]
  exact ⟨⟨r, rfl⟩, nofun, nofun⟩

/-- the result is a valid table for ANY alphabet and ANY counts — no bound on the counts or their
    total: 16 non-negative counts summing to the number of values, values = exactly the
    symbols with non-zero frequency (each once), strict Kraft inequality (all-ones code reserved),
    code lengths ≤ 16 -/
theorem optimal_table_valid_any_alphabet (f : List Nat) (hlen : f.length = 256) :
    ∃ bits values, Opt.buildOptimal f = .ok (bits, values) ∧
      bits.length = 16 ∧ (∀ x ∈ bits, 0 ≤ x) ∧ (bits.map Int.toNat).sum = values.length ∧
      values.Nodup ∧ (∀ i, i ∈ values ↔ i < 256 ∧ f[i]?.getD 0 ≠ 0) ∧ Opt.kraft16 bits < 65536 :=
  Opt.buildOptimal_valid f hlen

/-- the depth is bounded by the total count: a code size d ≥ 1 needs fib (d+2) ≤ total + 1, so every
    frequency vector with fewer than fib 35 − 1 = 9 227 464 counted symbols has depth ≤ 32.  Not
    needed for safety (`optimal_table_total` holds without it); it says when
    the length-limiting loop has work beyond size 32 (only from that total on), i.e. when the code
    differs from what libjpeg's 33-entry array could handle.  The bound is sharp (`[fib 33, …, fib 1]`
    has total fib 35 − 1 and depth 33: `#eval Opt.maxDepth`, not a theorem). -/
theorem optimal_table_depth_from_total (f : List Nat) (hlen : f.length = 256)
    (hs : f.sum + 1 < 9227465) : Opt.DepthLe f 32 ∧ Opt.fib 35 = 9227465 :=
  ⟨Opt.depthLe_of_sum f hlen hs, Opt.fib_35⟩

example : (catFreq [0, 3, 3, 16, 7]).length = 256 := by simp [catFreq]

/-- hypotheses of `optimal_table_depth_from_total` are satisfiable; and an alphabet with all 256
    symbols present is admissible for `optimal_table_total` / `optimal_table_valid_any_alphabet` -/
example : (List.replicate 256 1).length = 256 ∧ (List.replicate 256 1).sum + 1 < 9227465 :=
  ⟨List.length_replicate, by rw [List.sum_replicate_nat]; decide⟩

/-- regression / non-vacuity on the former panic witness `[fib 33, fib 32, …, fib 2, fib 1]` (total
    fib 35 − 1 = 9 227 464, just outside `optimal_table_depth_from_total`; depth 33): before fix
    9f5cc40 `bits[33]++` was out of range on it, now the function returns
    normally.  (`#eval` of the model gives `.ok ([1,1,1,1,1,1,1,1,1,1,1,0,1,0,2,19], [223, …, 255])`
    and `Opt.maxDepth f = 33`.) -/
example :
    let f : List Nat := List.replicate 223 0 ++
      [3524578, 2178309, 1346269, 832040, 514229, 317811, 196418, 121393, 75025, 46368, 28657,
       17711, 10946, 6765, 4181, 2584, 1597, 987, 610, 377, 233, 144, 89, 55, 34, 21, 13, 8, 5, 3, 2, 1, 1]
    f.length = 256 ∧ f.sum + 1 = 9227465 ∧
    (∃ r, Opt.buildOptimal f = .ok r) ∧ Opt.buildOptimal f ≠ .panic ∧ Opt.buildOptimal f ≠ .err := by
  intro f
  have hlen : f.length = 256 := by
    simp only [f, List.length_append, List.length_replicate, List.length_cons, List.length_nil]
  have hsum : f.sum + 1 = 9227465 := by
    simp only [f, List.sum_append, List.sum_replicate_nat, List.sum_cons, List.sum_nil, Nat.reduceMul,
      Nat.reduceAdd]
  exact ⟨hlen, hsum, optimal_table_total f hlen⟩

/-! ## L6 + L7 — the scan round trip with the per-image optimal table, no table hypothesis left -/

/-- `lossless_roundtrip` at scan level: for every geometry, precision 2..16,
    predictor (sv1 = false) or SV1 (sv1 = true) and P-bit content, the table built by
    `BuildOptimalHuffmanTable` from the category counts of the scan (`catFreq (emittedCats …)`, what
    the frequency pass accumulates — `diffCategory_eq`, `neighbour_rules_agree`) passes `Build`,
    `encodeScan` succeeds, its bytes satisfy the stuffing invariant, and `decodeScan` returns the
    source planes. -/
theorem lossless_scan_roundtrip_optimal (sv1 : Bool) (P predictor w h nc : Nat) (s : Array (Array Int))
    (hP : 2 ≤ P ∧ P ≤ 16)
    (hsz : s.size = nc ∧ ∀ c (hc : c < s.size), s[c].size = w * h)
    (hrng : ∀ c (hc : c < s.size) i (hi : i < s[c].size), 0 ≤ s[c][i] ∧ s[c][i] < Go.shl 1 P) :
    ∃ bits values t scan,
      Opt.buildOptimal (catFreq (emittedCats sv1 P predictor w h nc s)) = .ok (bits, values) ∧
      Table.build (bits.map Int.toNat) values.toArray = .ok t ∧
      encodeScan sv1 P predictor w h nc (buildHuffmanCodes (bits.map Int.toNat) values.toArray) s = .ok scan ∧
      StuffOk scan = true ∧ decodeScan sv1 P predictor w h nc t scan = .ok s := by
  obtain ⟨bits, values, hb, _, hv, _, _, hcat⟩ := optimal_table_emitted sv1 P predictor w h nc s
  obtain ⟨t, ht, _, _⟩ := build_ok _ _ hv
  obtain ⟨scan, h⟩ := lossless_scan_roundtrip_thm sv1 P predictor w h nc _ _ t s hP hv ht hcat hsz hrng
  exact ⟨bits, values, t, scan, hb, ht, h⟩

example : let s : Array (Array Int) := #[#[0, 32767, 32767, 0]]
    s.size = 1 ∧ (∀ c (hc : c < s.size), s[c].size = 2 * 2) ∧
    (∀ c (hc : c < s.size) i (hi : i < s[c].size), 0 ≤ s[c][i] ∧ s[c][i] < Go.shl 1 15) := by decide

/-- C02 for the byte-exact models of `lossless.Encode/Decode` (sv1 = false) and
    `lossless14sv1.Encode/Decode` (sv1 = true), `Model/JpegLosslessStream.lean`:
    for every width and height in 1..65535, 1 or 3 components, precision 2..16, predictor
    argument 0..7 (0 = automatic selection: whatever `SelectBestPredictor` returns, proved to be in
    1..7) and SV1, and every native pixel buffer of exactly w·h·nc samples that occupy the low P bits
    (`PixOk`: P ≤ 8 one byte per sample < 2^P; P > 8 two bytes little-endian, high byte < 2^(P−8)):
    `Encode` succeeds and `Decode` of its stream returns exactly the pixel bytes together with the
    same width, height, component count and precision. -/
theorem lossless_roundtrip (sv1 : Bool) (pix : Array Nat) (w h nc P predictor : Nat)
    (hw : 1 ≤ w ∧ w ≤ 65535) (hh : 1 ≤ h ∧ h ≤ 65535) (hc : nc = 1 ∨ nc = 3)
    (hP : 2 ≤ P ∧ P ≤ 16) (hpr : predictor ≤ 7) (hpix : PixOk P w h nc pix) :
    ∃ stream, Stream.encode sv1 pix w h nc P predictor = .ok stream ∧
      Stream.decode sv1 stream = .ok (pix.toList, w, h, nc, P) := by
  obtain ⟨s, pred, tb, t, scan, hdr, e⟩ := encode_ok sv1 pix w h nc P predictor hw hh hc hP hpr hpix
  refine ⟨_, e.stream, ?_⟩
  rw [Stream.decode_header sv1 w h nc P pred tb t hdr scan hw hh hc hP e.pred_range e.pred_sv1 e.tableOk e.built
    e.header e.packs.stuffOk, decodeScan_eq,
    decScan_of_packs sv1 P pred w h nc _ _ (fun _ => t) (fun _ _ => ⟨e.valid, e.built⟩) s e.sized e.inRange hP e.coded e.packs]
  simp only [Outcome.ok_bind, e.pixels]
  rfl

example : PixOk 12 2 1 1 #[0xFF, 0x0F, 0x00, 0x00] ∧ PixOk 8 1 1 3 #[1, 2, 255] := by
  refine ⟨?_, ?_⟩ <;> simp only [PixOk] <;> decide

/-- container bytes ↔ samples: `samplesToPixels ∘ pixelsToSamples = id` on admissible buffers, and the
    samples are P-bit values in planes of the right shape -/
theorem pixels_samples_inverse (P w h nc : Nat) (pix : Array Nat) (hp : PixOk P w h nc pix)
    (hP : 2 ≤ P ∧ P ≤ 16) :
    ∃ s, pixelsToSamples P w h nc pix = .ok s ∧ Sized w h nc s ∧ InRange P s ∧
      samplesToPixels P w h nc s = .ok pix.toList := pixels_samples P w h nc pix hp hP

/-- the frequency pass accumulates exactly the category counts of the scan it precedes -/
theorem freq_pass_counts (sv1 : Bool) (P predictor w h nc : Nat) (s : Array (Array Int)) (hs : Sized w h nc s) :
    Stream.freqPass sv1 P predictor w h nc s = .ok (catFreq (emittedCats sv1 P predictor w h nc s)) :=
  freqPass_ok sv1 P predictor w h nc s hs

/-- automatic selection returns a legal predictor -/
theorem auto_predictor_legal (w h nc : Nat) (s : Array (Array Int)) (hs : Sized w h nc s) :
    ∃ p, Stream.selectBestPredictor w h nc s = .ok p ∧ 1 ≤ p ∧ p ≤ 7 :=
  selectBestPredictor_ok w h nc s hs

/-- the decoder's marker loop on the encoder's header: for ANY stuffing-clean scan the stream model of
    `Decode` reduces to the scan decoder with the table of the DHT segment -/
theorem decode_of_encoder_layout (sv1 : Bool) (w h nc P pred : Nat) (tb : JpegC.HuffTable) (t : Table)
    (hdr scan : List Nat)
    (hw : 1 ≤ w ∧ w ≤ 65535) (hh : 1 ≤ h ∧ h ≤ 65535) (hc : nc = 1 ∨ nc = 3) (hP : 2 ≤ P ∧ P ≤ 16)
    (hpred : 1 ≤ pred ∧ pred ≤ 7) (hsv : sv1 = true → pred = 1) (htb : JpegC.TableOk tb)
    (hb : Table.build (tb.bits.map Int.toNat) tb.values.toArray = .ok t)
    (hhdr : (if sv1 then JpegC.sv1Header w h nc P tb else JpegC.losslessHeader w h nc P pred tb) = .ok hdr)
    (hst : StuffOk scan = true) :
    Stream.decode sv1 (hdr ++ scan ++ [0xFF, 0xD9]) =
      (do let s ← decodeScan sv1 P pred w h nc t scan
          let pix ← samplesToPixels P w h nc s
          pure (pix, w, h, nc, P)) :=
  Stream.decode_header sv1 w h nc P pred tb t hdr scan hw hh hc hP hpred hsv htb hb hhdr hst

end JLL
