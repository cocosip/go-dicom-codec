import GdcVerif.Spec.T81H
import GdcVerif.Model.JpegLossless
import GdcVerif.Lemmas.JpegLossless
import GdcVerif.Lemmas.T81H
import GdcVerif.Lemmas.T81HStream
import GdcVerif.Lemmas.T81HEncDec
/-!
  C13 — JPEG Lossless streams and decoders conform to T.81 Annex H.

  `T81H` is the independent specification (Spec/T81H.lean); `JLL` is the code-shaped model of
  the repo's scan loops (Model/JpegLossless.lean, over the regenerated `Gen.JpegLossless.Predictor`).
  Property theorems only.  The decoder direction (`decoder_accepts_spec_streams`) is about the streams of ONE independent
  encoder with a fixed layout (SOI, DHT segments, SOF3, SOS, one interleaved scan, EOI; point transform 0, no restart
  interval): the property's "every conformant single-scan stream" with APPn/COM segments, DHT after SOF3 or several
  tables in one DHT segment has no theorem (searched with a Go reference encoder).

  All former findings are repaired in /repo and proved in full; their old witnesses are regression
  `example`s: `jll-firstrow-predictor-enc` and `-dec` (fix 946feeb: first line Ra, line start Rb),
  `jll-td23-rejected` (fix 879b6e2), `sv1-sos-selector` (fix f4e8601), `jll-pred456-wrap` (fix 479126d).
-/
namespace T81H
open JLL

/-! ## the specification is self-consistent -/

/-- per-sample round trip of the spec: for every prediction and every sample < 2^16,
    decoding the (SSSS, additional bits) of the modulo-2^16 difference restores the sample -/
theorem spec_sample_roundtrip (x p : Int) (hx : 0 ≤ x ∧ x < 65536) :
    decodeSample p (encodeSample x p).1 (encodeSample x p).2.1 = x := sample_roundtrip x p hx

/-- Table H.2 / F.2.2.1: EXTEND inverts the additional bits, SSSS ≤ 16, SSSS = 16 ⇔ 32768 -/
theorem spec_extend_extraBits (d : Int) (hlo : -32767 ≤ d) (hhi : d ≤ 32768) :
    extend (extraBits d).1 (ssss d) = d ∧ ssss d ≤ 16 ∧ (extraBits d).1 < 2 ^ (extraBits d).2 ∧
    (ssss d = 16 ↔ d = 32768) := extend_extraBits d hlo hhi

example : encodeSample 0 32768 = (16, 0, 0) ∧ decodeSample 32768 16 0 = 0 ∧
    encodeSample 3 10 = (3, 0, 3) ∧ decodeSample 10 3 0 = 3 := by decide

/-! ## code vs specification: prediction -/

/-- Table H.1: the repo's `Predictor` (regenerated from predictors.go) is the standard's table -/
theorem code_predictor_table_conforms (sel : Nat) (ra rb rc : Int) (h : 1 ≤ sel ∧ sel ≤ 7) :
    Gen.JpegLossless.Predictor (sel : Int) ra rb rc = predictor sel ra rb rc :=
  predictor_agrees sel ra rb rc h

/-- H.1.2.1, FULL: the prediction of jpeg/lossless (encoder scan, frequency pass and decoder scan;
    since fix 946feeb) equals the standard's Px at every position — first sample 2^(P−1), first line
    Ra, line start Rb, elsewhere the selected predictor — for every precision and predictor 1..7 -/
theorem px_conformance (P sel row col : Nat) (nb : Nb) (hP : 2 ≤ P ∧ P ≤ 16) (hs : 1 ≤ sel ∧ sel ≤ 7) :
    encPredicted P sel row col nb = px P 0 sel row col nb.left nb.up nb.upLeft ∧
    decPredicted P sel row col nb = px P 0 sel row col nb.left nb.up nb.upLeft ∧
    freqPredicted P sel row col nb = px P 0 sel row col nb.left nb.up nb.upLeft := by
  have h := encPredicted_conforms P sel row col nb (by omega) hs
  refine ⟨h, by rw [decPredicted_eq_enc]; exact h, ?_⟩
  rw [freqPredicted_eq_enc _ _ _ _ _ (by omega) (by omega)]; exact h

example : encPredicted 8 7 3 2 ⟨10, 21, 5⟩ = px 8 0 7 3 2 10 21 5 := by decide

/-- regression: the witnesses of the former defect `jll-firstrow-predictor-*` (first line, col 1, Ra = 10:
    the code predicted 2^(P−1) = 128 for predictors 2, 3, 6, 7; second line, col 0, Rb = 10: wrong for
    predictors 3, 5, 7) now give the standard's value 10 for every predictor -/
example : ∀ sel ∈ [1, 2, 3, 4, 5, 6, 7],
    encPredicted 8 (sel : Nat) 0 1 ⟨10, 0, 0⟩ = 10 ∧ px 8 0 sel 0 1 10 0 0 = 10 ∧
    decPredicted 8 (sel : Nat) 1 0 ⟨0, 10, 0⟩ = 10 ∧ px 8 0 sel 1 0 0 10 0 = 10 := by decide

/-- SV1 (both sides) follows H.1.2.1 at every position -/
theorem sv1_px_conforms (P row col : Nat) (nb : Nb) (hP : 1 ≤ P) :
    sv1Predicted P row col nb = px P 0 1 row col nb.left nb.up nb.upLeft :=
  sv1Predicted_conforms P row col nb hP

/-! ## code vs specification: difference and reconstruction -/

/-- the code's int16 difference and the standard's modulo-2^16 difference are the same residue;
    they differ as integers only at 32768 / −32768 (category 16) -/
theorem code_diff_conforms (x p : Int) :
    (encDiff x p - diff x p) % 65536 = 0 ∧ (diff x p ≠ 32768 → encDiff x p = diff x p) ∧
    (diff x p = 32768 → encDiff x p = -32768) := by
  rw [encDiff_diff]
  split <;> omega

/-- jpeg/lossless (mask shape, fix 479126d): the decoder's reconstruction is the standard's
    modulo-2^16 reconstruction, for EVERY prediction (in range or not) and every P-bit sample -/
theorem code_recon_conforms (P x p : Int) (hP : 2 ≤ P ∧ P ≤ 16) (hx : 0 ≤ x ∧ x < Go.shl 1 P) :
    decSample P p (encDiff x p) = recon p (diff x p) := by
  have hf := pow_facts P hP.1 hP.2
  rw [recon_diff x p (by omega)]
  exact diff_wrap_inverse' P p x hP hx

/-- regression: the former defect's witness (prediction 65534 at P = 15) now reconstructs like the standard -/
example : decSample 15 65534 (encDiff 0 65534) = 0 ∧ recon 65534 (diff 0 65534) = 0 := by decide

/-- lossless14sv1 (single wrap): conforms whenever the prediction is inside [0, 2^P), which the
    SV1 trees guarantee (`JLL.sv1Predicted_range`; by `sv1_px_conforms` the prediction is a sample or 2^(P−1)) -/
theorem sv1_recon_conforms (P x p : Int) (hP : 2 ≤ P ∧ P ≤ 16)
    (hx : 0 ≤ x ∧ x < Go.shl 1 P) (hp : 0 ≤ p ∧ p < Go.shl 1 P) :
    sv1DecSample P p (encDiff x p) = recon p (diff x p) := by
  have hf := pow_facts P hP.1 hP.2
  rw [recon_diff x p (by omega)]
  exact sv1DecSample_encDiff P x p hP hx hp

example : (2:Int) ≤ 12 ∧ (0:Int) ≤ 4095 ∧ (4095:Int) < Go.shl 1 12 ∧ (0:Int) ≤ 2048 ∧ (2048:Int) < Go.shl 1 12 := by decide

/-! ## code vs specification: scan header table selectors (B.2.3) -/

/-- jpeg/lossless (fix 879b6e2) and lossless14sv1 (fix f4e8601): the table destination is the high
    nibble of the selector byte, every legal destination 0..3 is accepted, anything else is an
    error (never an index panic) — exactly B.2.3's Td -/
theorem selectors_conform (b : Nat) :
    (td b = some (b / 16) → jllSelector b = .ok (b / 16) ∧ sv1Selector b = .ok (b / 16)) ∧
    (td b = none → jllSelector b = .err ∧ sv1Selector b = .err) := by
  unfold jllSelector sv1Selector td
  simp only [Nat.shiftRight_eq_div_pow]
  by_cases h : b / 16 ≤ 3
  · rw [if_pos h, if_neg (by omega)]; simp
  · rw [if_neg h, if_pos (by omega)]; simp

/-- regression: the former witnesses (`jll-td23-rejected`: byte 0x20; `sv1-sos-selector`: byte 0x10) -/
example : td 0x20 = some 2 ∧ jllSelector 0x20 = .ok 2 ∧ td 0x10 = some 1 ∧ sv1Selector 0x10 = .ok 1 ∧
    td 0x40 = none ∧ jllSelector 0x40 = .err ∧ sv1Selector 0xFF = .err := by decide

/-! ## STREAM LEVEL — the independent specification decodes the model encoder's stream -/

/-- `specDecode (modelEncode img) = img`, FULL: the stream that the byte-exact model of `lossless.Encode`
    (sv1 = false) / `lossless14sv1.Encode` (sv1 = true) produces is accepted by the strict Annex B reader
    and decoded by the Annex H procedure (`Spec/T81HStream.lean`) to exactly the source samples, with
    the same width, height and precision — for every geometry 1..65535, 1 or 3 components, P 2..16,
    every admissible content, SV1, and EVERY predictor argument 0..7 (0: whatever automatic selection
    picks) on every image. -/
theorem encoder_stream_conforms (sv1 : Bool) (pix : Array Nat) (w h nc P predictor : Nat)
    (hw : 1 ≤ w ∧ w ≤ 65535) (hh : 1 ≤ h ∧ h ≤ 65535) (hc : nc = 1 ∨ nc = 3)
    (hP : 2 ≤ P ∧ P ≤ 16) (hpr : predictor ≤ 7) (hpix : PixOk P w h nc pix) :
    ∃ stream s, Stream.encode sv1 pix w h nc P predictor = .ok stream ∧
      pixelsToSamples P w h nc pix = .ok s ∧
      specDecode stream =
        some { width := w, height := h, precision := P,
               planes := (List.range nc).map fun c => (List.range (w * h)).map fun i => cell s c i } := by
  obtain ⟨s, pred, tb, t, scan, hdr, e⟩ := encode_ok sv1 pix w h nc P predictor hw hh hc hP hpr hpix
  exact ⟨_, s, e.stream, e.samples,
    specDecode_model_stream sv1 P pred w h nc tb s hdr scan hw hh hc hP e.pred_range e.pred_sv1 e.tableOk e.valid
      e.coded e.inRange e.header e.packs e.ne_nil⟩

/-- non-vacuity / regression: the geometry and predictor of the old witness (2×2, 8 bit, predictor 2,
    samples 10 20 30 40) satisfy the hypotheses -/
example : PixOk 8 2 2 1 #[10, 20, 30, 40] ∧ (2 : Nat) ≤ 7 := by
  refine ⟨?_, by decide⟩; simp only [PixOk]; decide

/-- two independent transcriptions of B.1.1.5 and Annex C agree: the spec's bit sequence of an
    entropy-coded segment and its code table are the model's -/
theorem spec_bits_and_codes_agree (scan : List Nat) (bits vals : List Nat) :
    ecsBits scan = (unstuff scan).flatMap (fun b => bitsOf b 8) ∧
    codeTable bits vals = vals.zip (specCodes bits 0 0) :=
  ⟨ecsBits_eq scan, codeTable_eq bits vals⟩

/-! ## STREAM LEVEL, decoder direction — the model decoders decode the independent spec ENCODER's streams -/

/-- `modelDecode (specEncode img cfg) = img`: every interchange stream the independent T.81 encoder
    (`Spec/T81HEnc.lean`: arbitrary component ids, an arbitrary table destination 0..3 per component,
    arbitrary valid Huffman tables — several DHT segments, later ones replacing earlier ones at the
    same destination — one interleaved scan) produces is decoded by the byte-exact model of
    `lossless.Decode` (sv1 = false) resp. `lossless14sv1.Decode` (sv1 = true, Ss = 1, distinct ids) to
    exactly the source samples in the native byte layout, with the same width, height, component
    count and precision — for every geometry 1..65535, 1 or 3 components, P 2..16 and every
    predictor 1..7 (SV1: selection value 1). -/
theorem decoder_accepts_spec_streams (sv1 : Bool) (P w h : Nat) (planes : List (List Int)) (cfg : EncCfg)
    (bytes : List Nat) (hcfg : CfgOk sv1 planes.length cfg) (himg : ImgOk P w h planes)
    (henc : specEncode P w h planes cfg = some bytes) :
    Stream.decode sv1 bytes =
      .ok ((List.range (w * h)).flatMap (fun i => (List.range planes.length).flatMap fun c =>
             bytesOf P ((planes.getD c []).getD i 0)), w, h, planes.length, P) :=
  decode_specEncode_gen sv1 P w h planes cfg bytes hcfg himg henc

/-- non-vacuity: three components on destinations 2, 0, 1 with three different tables (destination 1
    written twice), a 2×2 8-bit image; the spec encoder succeeds on it -/
example : CfgOk false 3 exCfg ∧ CfgOk true 3 exCfg ∧ ImgOk 8 2 2 exPlanes ∧
    (specEncode 8 2 2 exPlanes exCfg).isSome = true := by
  refine ⟨by decide, by decide, by decide, ?_⟩
  rw [specEncode_isSome]; decide

end T81H
