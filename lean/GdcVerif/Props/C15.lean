import GdcVerif.Model.JpegAddr
import GdcVerif.Gen.JpegBaseline
import GdcVerif.Lemmas.JpegAddr
import GdcVerif.Lemmas.JpegAddrFull
import GdcVerif.Lemmas.JpegAc
/-!
  C15 — JPEG DCT streams and decoders agree with an independent implementation.  PARTIAL.

  What a theorem can carry here is the decoder's *addressing and scan-structure logic* (exact).  Numeric
  agreement with image/jpeg within 2 (6) grey levels is differential testing — SEARCHED, not proved.

  Proved for the code at /repo HEAD (after fixes 2d44354, 4dc30ed, 5946dc5, 9a8b7d9, 3cde299, be7825e), at full strength:
  * `c15_addressing`: for EVERY frame size, sampling factors and pixel the baseline decoder shows the data unit
    T.81 A.1.1/A.2.3 designates (walk, blockOffset, skip rule, convertToPixels — code-shaped model tied to
    baseline.Decode by `jpg-cellmap`).  The pre-fix model is kept as `shownOld` with its witness
    (regression anchor: `c15_block_alias_regression`).
  * `c15_restart_intervals`: the scan collection cuts the entropy-coded data exactly at the RSTn markers (and
    nowhere else) — whatever number of 0xFF fill bytes precedes the marker (T.81 B.1.1.2; since fix
    3cde299) —, without DRI behaves as before, and the MCU loop switches interval / resets
    the DC predictors exactly before MCUs Ri, 2Ri, … (T.81 E.1.4).
  * `c15_grey_factors_ignored` (since fix 9a8b7d9): a single-component frame is decoded with
    factors 1×1 whatever its header declares; every pixel shows the data unit of the raster order (T.81 A.2.3).
  * `c15_addressing_noninterleaved` (since fix be7825e): a component coded in a scan of its own
    is walked over its own ⌈xi/8⌉ × ⌈yi/8⌉ grid, which fits the component buffer, and every pixel shows the data unit
    T.81 A.2.3 designates — every frame size and every factor.
  * `c15_ac_runlength_roundtrip`: the decoder's AC run/size loop inverts the encoder's for every coefficient block
    (symbol level; tied to baseline.Decode by `jpg-acblock`, to the reference encoder by `jpg-acsyms`).
  * `baseline_scan_symbols_roundtrip`: block order, DC prediction and run-length coding round-trip at the symbol level
    for grey and 4:4:4 (encoder side tied to baseline.Encode by `jpg-scan-enc`); the bit-level statement is a `def` with
    the one missing lemma named.
  * `c15_dri_value`: the generated parseDRI expression is the 16-bit Ri (typed 8-bit shift semantics).
  * `c15_repack_tight`: DecodeSimple's grey row copy reads inside Pix and fills width·height samples bijectively.

  WHAT COMPOSES for foreign (subsampled) streams: `c15_addressing` covers every H, V ∈ 1..4 and every size, so the decoder
  model is  bytes → [bit-level reader: missing lemma] → symbols → `decBlocks` over `JpegAddr.walk` order (with
  `mcuInterval` resets when DRI > 0) → per-block `idctF` with the component's table → `shown` pixel map → ycbcrToRGB.
  Every arrow except the bit-level reader is a theorem or a generated kernel; the up-sampling by replication is part of
  `specOrdinal`.  Numeric agreement with image/jpeg (its IDCT and colour arithmetic differ) stays differential testing.
-/
namespace JpegAddr

/-- the frame on which the pre-fix decoder failed: 17×16, Y 2×2, Cb 1×1, Cr 1×1 -/
def witness : Frame := { w := 17, h := 16, comps := [⟨2, 2⟩, ⟨1, 1⟩, ⟨1, 1⟩] }

/-- FULL addressing theorem: every pixel shows the designated data unit — no hypothesis on width, height,
    divisibility of sampling factors or component order -/
theorem c15_addressing (f : Frame) (c : Comp) (hH : 0 < c.H) (hV : 0 < c.V)
    (x y : Nat) (hx : x < f.w) (hy : y < f.h) :
    shown f c x y = (specOrdinal f c x y : Int) :=
  shownOn_eq f c (walk f c) (ord (mcuCols f) c.H c.V) (walk_map_ord f c)
    (fun b hb => (mem_walk f c b).1 hb) x y
    ((mem_walk f c _).2 ⟨block_lt hH (maxH_pos f) hx, block_lt hV (maxV_pos f) hy⟩)

/-- the walk's offsets are injective, and no block of the walk is skipped (all of them fit comp.data) -/
theorem c15_walk_injective_in_bounds (f : Frame) (c : Comp) :
    (∀ b ∈ walk f c, ∀ b' ∈ walk f c,
        blockOffset (compWidth f c) b.1 b.2 = blockOffset (compWidth f c) b'.1 b'.2 → b = b') ∧
    (∀ b ∈ walk f c, writeOffset (compWidth f c) (dataLen f c) b = some (blockOffset (compWidth f c) b.1 b.2) ∧
        blockOffset (compWidth f c) b.1 b.2 + 64 ≤ dataLen f c) := by
  constructor
  · intro b hb b' hb' he
    have := offset_inj _ _ _ _ _ ((mem_walk f c b).1 hb).1 ((mem_walk f c b').1 hb').1 he
    exact Prod.ext this.1 this.2
  · intro b hb
    have hbd := (mem_walk f c b).1 hb
    have := inblock_lt (compWidth f c) (compHeight f c) b.1 b.2 hbd.1 hbd.2 63 (by omega)
    exact ⟨writeOffset_some _ _ b this, by simp only [dataLen]; omega⟩

/-- regression anchor of finding c15-baseline-dec-block-alias (fixed by 2d44354): on the witness frame the
    pre-fix geometry stored block (3,0) over block (0,1) and pixel (0,8) showed data unit 5; the current code
    shows data unit 2, as T.81 designates -/
theorem c15_block_alias_regression :
    let c : Comp := ⟨2, 2⟩
    compWidthOld witness c = 3 ∧ mcuCols witness * c.H = 4 ∧
    writeOffset (compWidthOld witness c) (dataLenOld witness c) (3, 0) = some 192 ∧
    writeOffset (compWidthOld witness c) (dataLenOld witness c) (0, 1) = some 192 ∧
    shownOld witness c 0 8 = 5 ∧ specOrdinal witness c 0 8 = 2 ∧ shown witness c 0 8 = 2 := by decide
example : validFrame witness = true ∧ (walk witness ⟨2, 2⟩).length = 8 ∧ shown witness ⟨1, 1⟩ 16 15 = 1 := by decide

/-- restart intervals: for entropy-coded data `pre` in which every FF is stuffed, and ANY number `n` of 0xFF fill
    bytes in front of the marker (T.81 B.1.1.2),
    * `pre ++ FF ++ fill ++ RSTk ++ rest` closes the current interval with exactly `cur ++ pre` and starts an empty one;
    * `pre ++ FF ++ fill ++ m` for any other marker code `m` (not 00, not FF, not RSTn) ends the scan with `cur ++ pre`
      as the last interval;
    * without DRI the joined intervals are the scan filter (RSTn and fill bytes dropped, nothing else);
    * MCU n (0-based) is decoded from interval ⌊n/Ri⌋ and the DC predictors are reset exactly when Ri | n, n > 0 -/
theorem c15_restart_intervals (pre rest cur : List Nat) (acc : List (List Nat)) (k n m : Nat) (hk : k < 8)
    (hw : wellStuffed pre = true) (hne : ∀ b ∈ pre.getLast?, b ≠ 0xFF)
    (hm : m ≠ 0 ∧ m ≠ 0xFF ∧ isRST m = false) :
    scanSplitAux (pre ++ 0xFF :: (List.replicate n 0xFF ++ (0xD0 + k) :: rest)) cur acc
      = scanSplitAux rest [] (acc ++ [cur ++ pre]) ∧
    scanSplitAux (pre ++ 0xFF :: (List.replicate n 0xFF ++ m :: rest)) cur acc = acc ++ [cur ++ pre] ∧
    (∀ s, scanIntervals 0 s = [scanFilter s]) ∧
    (∀ ri n, 0 < ri → (mcuInterval ri n).1 = n / ri ∧ ((mcuInterval ri n).2 = true ↔ (0 < n ∧ n % ri = 0))) := by
  have h1 : isRST (0xD0 + k) = true := by simp [isRST]; omega
  have h2 : ¬ (0xD0 + k = 0) := by omega
  have h3 : ¬ (0xD0 + k = 0xFF) := by omega
  refine ⟨?_, ?_, ?_, fun ri n h => mcuInterval_spec ri h n⟩
  · rw [scanSplit_prefix pre _ cur acc hw hne]
    simp only [scanSplitAux]
    rw [scanSplitGo, if_pos rfl, scanSplitGo_fill, scanSplitGo, if_neg h3, if_neg h2, if_pos h1]
  · rw [scanSplit_prefix pre _ cur acc hw hne]
    simp only [scanSplitAux]
    rw [scanSplitGo, if_pos rfl, scanSplitGo_fill, scanSplitGo, if_neg hm.2.1, if_neg hm.1]
    simp [hm.2.2]
  · intro s
    simp only [scanIntervals, if_true]
    rw [scanSplit_flatten]; simp
example : scanIntervals 2 [0x12, 0xFF, 0x00, 0x34, 0xFF, 0xD3, 0x56, 0xFF, 0xD9, 0x99] = [[0x12, 0xFF, 0x00, 0x34], [0x56]] ∧
    scanIntervals 0 [0x12, 0xFF, 0x00, 0x34, 0xFF, 0xD3, 0x56, 0xFF, 0xD9, 0x99] = [[0x12, 0xFF, 0x00, 0x34, 0x56]] ∧
    mcuInterval 3 7 = (2, false) ∧ mcuInterval 3 6 = (2, true) := by decide
/-- regression anchor of finding c15h-baseline-fill-bytes-before-marker: `FF FF D3` is a restart marker preceded by one
    fill byte (before the fix the scan ended there and the interval `56` was lost); fill bytes before EOI; a trailing
    run of FF at the end of the data keeps one FF -/
example : scanIntervals 2 [0x12, 0xFF, 0xFF, 0xD3, 0x56, 0xFF, 0xFF, 0xFF, 0xD9, 0x99] = [[0x12], [0x56]] ∧
    scanIntervals 0 [0x12, 0xFF, 0xFF, 0xD3, 0x56, 0xFF, 0xFF, 0xD9] = [[0x12, 0x56]] ∧
    scanIntervals 1 [0x12, 0xFF, 0xFF, 0xFF] = [[0x12, 0xFF]] ∧
    wellStuffed [0x12, 0xFF, 0x00, 0x34] = true ∧ (0xDA ≠ 0 ∧ 0xDA ≠ 0xFF ∧ isRST 0xDA = false) := by decide

/-- single-component frames (since fix 9a8b7d9): whatever sampling factors the frame
    header declares for the only component, the decoder works with 1×1 (`parsedFrame`) and every pixel shows the data
    unit of the raster order over ⌈w/8⌉ columns — a scan with one component is never interleaved (T.81 A.2.3) -/
theorem c15_grey_factors_ignored (w h : Nat) (c : Comp) (x y : Nat) (hx : x < w) (hy : y < h) :
    parsedFrame { w := w, h := h, comps := [c] } = { w := w, h := h, comps := [⟨1, 1⟩] } ∧
    shown (parsedFrame { w := w, h := h, comps := [c] }) ⟨1, 1⟩ x y = ((y / 8 * divCeil w 8 + x / 8 : Nat) : Int) := by
  have e : parsedFrame { w := w, h := h, comps := [c] } = { w := w, h := h, comps := [⟨1, 1⟩] } := rfl
  refine ⟨e, ?_⟩
  rw [e, c15_addressing _ ⟨1, 1⟩ (by decide) (by decide) x y hx hy]
  simp [specOrdinal, maxH, maxV, mcuCols, Nat.mod_one]
/-- the witness geometry of finding c15h-baseline-grey-sampling-factors: 24×16, factors 2×2 — pixel (17, 9) shows data unit 1·3 + 2 = 5; read with the declared
    factors (the pre-fix behaviour) the same pixel shows data unit 6 of a 2×2-block MCU walk -/
example : shown (parsedFrame { w := 24, h := 16, comps := [⟨2, 2⟩] }) ⟨1, 1⟩ 17 9 = 5 ∧
    shown { w := 24, h := 16, comps := [⟨2, 2⟩] } ⟨2, 2⟩ 17 9 = 6 ∧
    validFrame { w := 24, h := 16, comps := [⟨2, 2⟩] } = true := by decide

/-- non-interleaved scans (since fix be7825e): a component coded in a scan of its own is
    walked in raster order over `niCols × niRows` = ⌈xi/8⌉ × ⌈yi/8⌉ data units (xi = ⌈X·Hi/Hmax⌉, yi = ⌈Y·Vi/Vmax⌉),
    this grid lies inside the component buffer parseSOF allocated, and every pixel shows the data unit T.81 A.2.3
    designates — no hypothesis on the frame size or the factors -/
theorem c15_addressing_noninterleaved (f : Frame) (c : Comp) (hH : 0 < c.H) (hV : 0 < c.V)
    (x y : Nat) (hx : x < f.w) (hy : y < f.h) :
    shownNI f c x y = (specOrdinalNI f c x y : Int) ∧
    niCols f c ≤ compWidth f c ∧ niRows f c ≤ compHeight f c ∧
    (walkNI f c).length = niRows f c * niCols f c := by
  refine ⟨?_, niCols_le f c, niRows_le f c, (List.getElem_of_map_eq_range (walkNI_map_ord f c)).1⟩
  exact shownOn_eq f c (walkNI f c) (fun b => b.2 * niCols f c + b.1) (walkNI_map_ord f c)
    (fun b hb => ⟨Nat.lt_of_lt_of_le ((mem_walkNI f c b).1 hb).1 (niCols_le f c),
      Nat.lt_of_lt_of_le ((mem_walkNI f c b).1 hb).2 (niRows_le f c)⟩)
    x y ((mem_walkNI f c _).2 ⟨block_lt_ni hH (maxH_pos f) hx, block_lt_ni hV (maxV_pos f) hy⟩)
/-- 17×16 4:2:0: luma scan 3×2 data units (the interleaved walk has 8), chroma scans 2×1; pixel (16, 9) of Y shows data
    unit 1·3 + 2 = 5 in its own scan and (0·2 + 1)·4 + 1·2 + 0 = 6 in the interleaved walk -/
example : niCols witness ⟨2, 2⟩ = 3 ∧ niRows witness ⟨2, 2⟩ = 2 ∧ niCols witness ⟨1, 1⟩ = 2 ∧ niRows witness ⟨1, 1⟩ = 1 ∧
    shownNI witness ⟨2, 2⟩ 16 9 = 5 ∧ shown witness ⟨2, 2⟩ 16 9 = 6 ∧ shownNI witness ⟨1, 1⟩ 16 15 = 1 := by decide

/-- the restart interval parseDRI stores (GENERATED right-hand side of `d.restartInt = …`; go2lean wraps a shift
    whose left operand is a byte to 8 bits, as Go does) is the 16-bit big-endian value Ri of T.81 B.2.4.4 for every
    pair of bytes — in particular for Ri ≥ 256.  `int(data[0]<<8)` instead of `int(data[0])<<8` would translate to
    `Go.uwrap8 (Go.shl data_0 8) = 0` and lose the high byte (256 → 0, 300 → 44). -/
theorem c15_dri_value (d0 d1 : Nat) (h0 : d0 < 256) (h1 : d1 < 256) :
    Gen.JpegBaseline.parseDRI.restartInt (d0 : Int) (d1 : Int) = (d0 : Int) * 256 + d1 := by
  have hs : Go.shl (d0 : Int) 8 = ((d0 * 256 : Nat) : Int) := by simp [Go.shl]
  simp only [Gen.JpegBaseline.parseDRI.restartInt, hs]
  rw [Go.or_add 8 (by decide) (by omega) (Nat.dvd_mul_left _ _) h1]
  simp
example : Gen.JpegBaseline.parseDRI.restartInt 1 44 = 300 ∧ Go.or (Go.uwrap8 (Go.shl 1 8)) 44 = 44 := by decide

/-- DecodeSimple's grey row copy (fix 5946dc5): with the Stride 8·⌈w/8⌉ of image/jpeg's sub-image every read is inside the `pixLen` bytes
    image/jpeg's sub-image holds, every destination index is inside width·height, and distinct pixels go to
    distinct destinations.  Regression anchor: before the fix the whole padded buffer was returned
    (`pixLen 1 1 = 64` bytes for a 1×1 image). -/
theorem c15_repack_tight (w h x y : Nat) (hx : x < w) (hy : y < h) :
    repackSrc (8 * divCeil w 8) x y < pixLen w h ∧ repackDst w x y < w * h ∧
    (∀ x' y', x' < w → y' < h → repackDst w x y = repackDst w x' y' → x = x' ∧ y = y') := by
  have hw8 : w ≤ 8 * divCeil w 8 := by simp only [divCeil]; omega
  have hh8 : h ≤ 8 * divCeil h 8 := by simp only [divCeil]; omega
  refine ⟨?_, ?_, ?_⟩
  · simp only [repackSrc, pixLen]
    rw [Nat.mul_comm (8 * divCeil w 8)]
    exact Radix.lt (by omega) (by omega)
  · simp only [repackDst]
    rw [Nat.mul_comm w h]
    exact Radix.lt hy hx
  · intro x' y' hx' hy' he
    have := Radix.inj hx hx' he
    exact ⟨this.2, this.1⟩
example : pixLen 1 1 = 64 ∧ repackDst 17 16 8 = 152 ∧ repackSrc 24 16 8 = 208 := by decide

end JpegAddr

namespace JpegAc

/-- run-length coding of the AC coefficients: decodeBlock's AC loop (code-shaped model: ZRL advances 16, EOB ends,
    `k += r`, EXTEND) applied to the symbols encodeBlock's AC loop emits for ANY 63 coefficients (zig-zag order, each
    |v| < 2^15, i.e. category ≤ 15) returns exactly those coefficients — every position 1..63, zero runs of any length
    (≥ 16, ≥ 32, ≥ 48 included), trailing zeros via EOB, a non-zero last coefficient without EOB -/
theorem c15_ac_runlength_roundtrip (ac : List Int) (hl : ac.length = 63) (hb : ∀ v ∈ ac, v.natAbs < 2 ^ 15) :
    decodeAC (encAC ac 0) = some ac := by
  have := dec_enc ac [] 0 ((encAC ac 0).length + 1) (by simpa using hl) hb (Nat.le_refl _)
  simpa [decodeAC] using this
example : encAC (List.replicate 62 0 ++ [5]) 0 = [ZRL, ZRL, ZRL, (14 * 16 + 3, 5)] ∧
    encAC ([0, -2] ++ List.replicate 61 0) 0 = [(1 * 16 + 2, 1), EOB] ∧
    decodeAC [ZRL, ZRL, ZRL, (14 * 16 + 3, 5)] = some (List.replicate 62 0 ++ [5]) := by decide

end JpegAc

namespace JpegScan

/-- the baseline scan at the level of Huffman SYMBOLS: for any MCU-ordered list of (component, block) — greyscale
    (one component) and 4:4:4 (Y, Cb, Cr per block position) alike, any number of blocks — decodeBlock's symbol
    consumption (DC: `dcPred += EXTEND`, AC loop) applied to the symbols encodeBlock emits (DC difference against the
    per-component predictor, category coding, run-length coding) returns exactly the quantised coefficient blocks.
    Hypotheses: 63 AC coefficients per block with |v| < 2^15, DC values and initial predictors below 2^30 in magnitude
    (the 8-bit codecs stay below 2^11).  Composition of `c15_ac_runlength_roundtrip`, `dc_roundtrip` (the category
    round trip `Dct.category_roundtrip`, which `c11_category_roundtrip` restates) and the DC prediction.
    The encoder side of this model (`encBlocks` over `quantF ∘ fdctF` of the planes) is tied to the real
    baseline.Encode by `jpg-scan-enc` (the Huffman symbols decoded from the real stream), the decoder side by
    `jpg-acblock` and the whole-image ops `jpg-greyimage` / `jpg-rgbimage`. -/
theorem baseline_scan_symbols_roundtrip (l : List (Nat × Block)) (pred : Nat → Int)
    (hl : ∀ b ∈ l, b.2.2.length = 63 ∧ (∀ v ∈ b.2.2, v.natAbs < 2 ^ 15) ∧ b.2.1.natAbs < 2 ^ 30)
    (hp : ∀ c, (pred c).natAbs < 2 ^ 30) :
    decBlocks pred (l.map (·.1)) (encBlocks pred l) = some l := by
  induction l generalizing pred with
  | nil => simp [encBlocks, decBlocks]
  | cons b rest ih =>
    obtain ⟨c, dc, ac⟩ := b
    have h1 := hl (c, (dc, ac)) (by simp)
    have hrt := JpegAc.c15_ac_runlength_roundtrip ac h1.1 h1.2.1
    have hdcb : dc.natAbs < 2 ^ 30 := h1.2.2
    have hpc := hp c
    have hdc := dc_roundtrip (dc - pred c) (by omega)
    have ih' := ih (fun c' => if c' = c then dc else pred c')
      (fun b hb => hl b (by simp [hb]))
      (fun c' => by
        by_cases e : c' = c
        · rw [if_pos e]
          exact hdcb
        · rw [if_neg e]
          exact hp c')
    have e : pred c + (dc - pred c) = dc := by omega
    simp only [encBlocks, List.map_cons, decBlocks, hdc, e, hrt]
    simp only [Option.bind_eq_bind, Option.bind_some, Option.pure_def, ih']
example : encBlocks (fun _ => 0) [(0, (5, List.replicate 63 0)), (0, (3, 7 :: List.replicate 62 0))] =
    [((3, 5), [JpegAc.EOB]), ((2, 1), [(3, 7), JpegAc.EOB])] := by decide

/-- The bit-level statement `decodeScan (encodeScan coeffBlocks) = coeffBlocks` for baseline grey / 4:4:4 (entropy-coded
    BYTES, with the per-image optimal tables).  NOT proved here.  What composes, and the one missing lemma:
    * symbols: `baseline_scan_symbols_roundtrip` (this file);
    * tables: `JLL.optimal_table_valid_any_alphabet` (Props/C02) — the DC and AC tables built from the counted symbols are
      valid and contain every emitted symbol (for any counts: the bound of `optimal_table_depth_from_total` is not needed);
    * codes and bits: `JLL.canonical_decode_encode_thm` (a symbol's code followed by anything decodes to that symbol and
      consumes exactly its bits), `JLL.huffbits_roundtrip_thm` / `readBits_correct` (WriteBits/Flush vs ReadBit(s), stuffing);
    * MISSING: the fused reader lemma for the DCT scan — `JLL.entropy_layer_roundtrip` (Props/C02) reads a list of
      (category, amplitude) symbols with ONE table; the DCT decoder alternates a DC table and an AC table per component and
      decides from the symbols read so far (k, EOB, ZRL) which table comes next.  Needed: for a tagged symbol list
      [(table, symbol, amplitude)] written with `symWrites` per tag, the code-shaped bit-level decodeBlock loop returns the
      same symbols that `decBlocks` consumes — an induction of the same shape as `entropy_roundtrip` with the table chosen by
      the tag, plus `decAC`'s control flow.
    `enc`/`dec` stand for the byte-level scan encoder / decoder. -/
def baseline_scan_roundtrip_FullStatement (enc : List (Nat × Block) → Option (List Nat))
    (dec : List Nat → List Nat → Option (List (Nat × Block))) : Prop :=
  ∀ l : List (Nat × Block), (∀ b ∈ l, b.2.2.length = 63 ∧ (∀ v ∈ b.2.2, v.natAbs < 2 ^ 11) ∧ b.2.1.natAbs < 2 ^ 11) →
    ∃ bytes, enc l = some bytes ∧ dec (l.map (·.1)) bytes = some l

end JpegScan
