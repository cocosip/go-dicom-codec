import GdcVerif.Model.J2kLossless
import GdcVerif.Lemmas.J2kLossless
import GdcVerif.Gen.J2kTiles
/-!
  C05 — the JPEG 2000 Lossless-Only transfer syntaxes stay lossless under every accepted parameter set.

  Decision logic only: what `Validate` + `configureLosslessEncodeParams` hand to the encoder, and what
  `finalizeBlock` / `appendRDLosslessLayer` put into the last layer.  The models are hand-written
  (Model/J2kLossless.lean: float64 fields and slices are outside go2lean's subset) and tied by the C05
  correspondence run.  NOT modelled: the PCRD slope search (rate_distortion.go) — only its output enters
  `finalize` as an arbitrary list `alloc`; T1/T2/packet decoding (C04, whose composed round trip is for a single
  quality layer: for the layered paths, the default parameters among them, that the decoder returns the frame
  is not a theorem anywhere).
-/
namespace J2kL

/-- (1) every parameter object is accepted (Validate returns nil) and, when it keeps the final lossless layer
    or requests no rate target, the encoder parameters are: reversible, ≥ 1 layer, 0..6 levels, progression
    0..4; an active rate target comes with AppendLosslessLayer and ≥ 2 layers; with a rate ladder the
    LayerRates end in 0 (the all-pass layer); and whenever the layered path is taken
    (NumLayers > 1 ∨ TargetRatio > 0) the encoder's `appendLossless` flag is on. -/
theorem lossless_params_sound (p : LParams) (bs ba : Int) (hbs : 1 ≤ bs) (hba : 1 ≤ ba)
    (hpg : 0 ≤ p.ProgressionOrder) (hs : inScope p) :
    let e := encodeParams bs ba p
    e.Lossless = true ∧ 1 ≤ e.NumLayers ∧ 0 ≤ e.NumLevels ∧ e.NumLevels ≤ 6 ∧
    0 ≤ e.ProgressionOrder ∧ e.ProgressionOrder ≤ 4 ∧
    (e.TargetRatio.pos = true → e.AppendLosslessLayer = true ∧ 2 ≤ e.NumLayers) ∧
    ((validate p).Rate > 0 → e.LayerRates.getLast? = some Frac.zero) ∧
    (useLayered e = true → appendLosslessFlag e = true) := by
  obtain ⟨hly, htr, hlast, hflag⟩ :=
    configure_sound (validate p) bs ba hbs hba (validate_layers_pos p) (validate_inScope p hs)
  have hlv : 0 ≤ (validate p).NumLevels ∧ (validate p).NumLevels ≤ 6 := by
    rw [validate_levels]; omega
  have hpg' : 0 ≤ (validate p).ProgressionOrder ∧ (validate p).ProgressionOrder ≤ 4 := by
    rw [validate_order]; omega
  exact ⟨rfl, hly, hlv.1, hlv.2, hpg'.1, hpg'.2, htr, hlast, hflag⟩

/-- non-vacuity: the default parameter object (Rate=20 ladder, AppendLosslessLayer) on a 12-in-16-bit frame:
    in scope; 7+1 layers; LayerRates = [1280,…,40, 15, 0] -/
example :
    let p : LParams := { NumLevels := 5, AllowMCT := true, Rate := 20, RateLevels := defaultRateLevels, ProgressionOrder := 0, NumLayers := 1, TargetRatio := Frac.zero, UsePCRDOpt := false, AppendLosslessLayer := true }
    inScope p ∧ (encodeParams 12 16 p).NumLayers = 8 ∧ (encodeParams 12 16 p).LayerRates.length = 8 ∧
    (encodeParams 12 16 p).LayerRates.getLast? = some Frac.zero ∧ appendLosslessFlag (encodeParams 12 16 p) = true := by
  unfold inScope; decide

/-- and an out-of-range object is repaired, not rejected -/
example :
    let p : LParams := { NumLevels := 9, AllowMCT := false, Rate := -3, RateLevels := [], ProgressionOrder := 7, NumLayers := 0, TargetRatio := ⟨-1, 1⟩, UsePCRDOpt := true, AppendLosslessLayer := false }
    inScope (validate p) ∧ (encodeParams 8 8 p).NumLevels = 5 ∧ (encodeParams 8 8 p).NumLayers = 1 ∧
    useLayered (encodeParams 8 8 p) = false := by
  unfold inScope; decide

/-- (2) last layer: for EVERY allocation the budget logic can return (any list of per-layer pass counts —
    negative, zero, above the total, not monotone), with ≥ 1 layer and a block of n ≥ 1 passes,
    finalizeBlock / appendRDLosslessLayer set the cumulative pass count of the last layer to n (so that, for a
    monotone allocation, the packet headers announce every remaining pass of the code-block; for the others see
    (3)); the number of layers is unchanged. -/
theorem last_layer_carries_all_passes (rate : Int → Int) (n total : Int) (alloc : List Int)
    (hn : 1 ≤ n) (ha : alloc ≠ []) :
    ((finalize rate n total alloc true).getLast?).map (·.1) = some n ∧
    (finalize rate n total alloc true).length = alloc.length := by
  unfold finalize
  rw [if_pos ⟨rfl, by omega⟩]
  have hne : layerLoop rate n total alloc 0 ≠ [] := by
    intro h
    have := layerLoop_length rate n total alloc 0
    rw [h] at this
    exact ha (List.length_eq_zero_iff.1 this.symm)
  have := appendLast_last rate n total _ hne
  rw [layerLoop_length] at this
  exact this

example : finalize (fun k => 10 * k) 19 190 [1, 7, 0] true = [(1, 0, 10), (7, 10, 70), (19, 70, 190)] := by decide

/-- (3) FULL statement about the byte slices: for every allocation the layer slices are contiguous
    (each starts where the previous one ended), so their concatenation is CompleteData[0 : rate n] -/
def layer_slices_contiguous_FullStatement : Prop :=
  ∀ (alloc : List Int) (n : Int), 1 ≤ n → alloc ≠ [] →
    let ls := finalize (fun k => 10 * k) n (10 * n) alloc true
    ∀ i, i + 1 < ls.length → (ls.getD i (0, 0, 0)).2.2 = (ls.getD (i + 1) (0, 0, 0)).2.1

/-- (3) is false for allocations that are not monotone: [5, 3, ·] — layer 1 gets no bytes and pass count 3 < 5,
    the last layer then restarts at byte rate(3) and repeats bytes 30..50 (and the header announces 19−3 passes).
    The real allocators are monitored for monotonicity by the C05 harness on every run (no violation seen);
    this is a latent hazard of finalizeBlock, not a reproduced defect. -/
theorem layer_slices_contiguous_counterexample : ¬ layer_slices_contiguous_FullStatement := by
  intro h
  have := h [5, 3, 0] 19 (by decide) (by decide) 1 (by decide)
  revert this
  decide

/-- (4) generic `codec.Parameters` objects (extractBasicLosslessParams, after the repair that lets "rate": 0
    override the default): the extracted Rate is the key's value when it is an int ≥ 0 and the default 20
    otherwise — so it is 0 exactly when the bag says "rate": 0; the extracted object is in the property's scope
    exactly when the bag does not switch the final lossless layer off, or asks for no rate target with its own
    keys ("rate": 0 and no / a zero "targetRatio"); the progression order is reduced modulo 256 (uint8) and then
    repaired by Validate; for every in-scope generic object the conclusions of (1) hold, and when the bag keeps
    the final lossless layer and the extracted Rate is positive (in particular when "rate" is absent) the layered
    path with ≥ 2 layers and a closing all-pass layer is taken. -/
theorem generic_params_sound (g : GParams) (bs ba : Int) (hbs : 1 ≤ bs) (hba : 1 ≤ ba) :
    (extractGeneric g).Rate ≥ 0 ∧ ((extractGeneric g).Rate = 0 ↔ g.rate = some 0) ∧
    0 ≤ (extractGeneric g).ProgressionOrder ∧
    (inScope (extractGeneric g) ↔
      (g.appendLosslessLayer ≠ some false ∨ (g.rate = some 0 ∧ ∀ t, g.targetRatio = some t → t.num = 0))) ∧
    (inScope (extractGeneric g) →
      let e := encodeParams bs ba (extractGeneric g)
      e.Lossless = true ∧ 1 ≤ e.NumLayers ∧ 0 ≤ e.NumLevels ∧ e.NumLevels ≤ 6 ∧
      0 ≤ e.ProgressionOrder ∧ e.ProgressionOrder ≤ 4 ∧
      (e.TargetRatio.pos = true → e.AppendLosslessLayer = true ∧ 2 ≤ e.NumLayers) ∧
      ((validate (extractGeneric g)).Rate > 0 → e.LayerRates.getLast? = some Frac.zero) ∧
      (useLayered e = true → appendLosslessFlag e = true)) ∧
    (g.appendLosslessLayer ≠ some false → (extractGeneric g).Rate > 0 →
      let e := encodeParams bs ba (extractGeneric g)
      e.Lossless = true ∧ 2 ≤ e.NumLayers ∧ 0 ≤ e.NumLevels ∧ e.NumLevels ≤ 6 ∧
      0 ≤ e.ProgressionOrder ∧ e.ProgressionOrder ≤ 4 ∧ e.AppendLosslessLayer = true ∧
      e.LayerRates.getLast? = some Frac.zero ∧ appendLosslessFlag e = true) := by
  have htz : (extractGeneric g).TargetRatio.num = 0 ↔ ∀ t, g.targetRatio = some t → t.num = 0 := by
    rw [extract_target]
    cases g.targetRatio with
    | none => simp [Frac.zero]
    | some t => simp
  have hscope : inScope (extractGeneric g) ↔
      (g.appendLosslessLayer ≠ some false ∨ (g.rate = some 0 ∧ ∀ t, g.targetRatio = some t → t.num = 0)) := by
    unfold inScope
    rw [extract_append, extract_rate_zero, htz]
  refine ⟨extract_rate g, extract_rate_zero g, extract_prog g, hscope,
    lossless_params_sound _ bs ba hbs hba (extract_prog g), ?_⟩
  intro hne hrate
  obtain ⟨s1, -, s3, s4, s5, s6, s7, s8, s9⟩ :=
    lossless_params_sound _ bs ba hbs hba (extract_prog g) (hscope.mpr (Or.inl hne))
  have hvr : (validate (extractGeneric g)).Rate > 0 := by
    rw [validate_rate]; omega
  have hpos : (encodeParams bs ba (extractGeneric g)).TargetRatio.pos = true := by
    rw [encodeParams, configure_target _ bs ba hbs hba]
    simp [hvr]
  obtain ⟨hA, h2⟩ := s7 hpos
  exact ⟨s1, h2, s3, s4, s5, s6, hA, s8 hvr, s9 (by simp [useLayered, hpos])⟩

example :
    let g : GParams := ⟨some 9, none, some (-4), some [], some 260, some 3, none, none, none⟩
    extractGeneric g = { defaultLParams with ProgressionOrder := 4, NumLayers := 3 } ∧
    (encodeParams 12 16 (extractGeneric g)).NumLayers = 4 := by decide

/-- non-vacuity of the repaired branch: "rate": 0, "targetRatio": 0,
    "appendLosslessLayer": false, "rateLevels": [10, 5] — the bag is in scope through its own keys, the
    extracted Rate is 0 and the encoder gets ONE layer and no rate target (before the repair: Rate 20 and a
    single rate-limited layer without the closing lossless layer) -/
example :
    let g : GParams := ⟨some 5, some true, some 0, some [10, 5], some 0, some 1, some Frac.zero, some false, some false⟩
    (extractGeneric g).Rate = 0 ∧ (extractGeneric g).AppendLosslessLayer = false ∧
    (g.rate = some 0 ∧ ∀ t, g.targetRatio = some t → t.num = 0) ∧
    (encodeParams 8 8 (extractGeneric g)).NumLayers = 1 ∧
    (encodeParams 8 8 (extractGeneric g)).TargetRatio.pos = false ∧
    useLayered (encodeParams 8 8 (extractGeneric g)) = false := by
  refine ⟨by decide, by decide, ⟨rfl, ?_⟩, by decide, by decide, by decide⟩
  intro t ht
  cases ht
  rfl

/-- (5) the encoder's own decision, GENERATED from encoder.go initRDLayerConfig: for a reversible parameter set the
    layer count is max(1, NumLayers) and `appendLossless` is on exactly when there are ≥ 2 layers — it does not
    depend on LayerRates, on AppendLosslessLayer or on anything else; and it is the `appendLosslessFlag` of the
    hand model that `lossless_params_sound` speaks about. -/
theorem initRDLayerConfig_sound (e : Gen.J2kTiles.Encoder) (hL : e.params.Lossless = true) :
    let r := Gen.J2kTiles.Encoder.initRDLayerConfig e
    1 ≤ r.1 ∧ (1 ≤ e.params.NumLayers → r.1 = e.params.NumLayers) ∧ (r.2 = true ↔ e.params.NumLayers > 1) ∧
    ∀ m : EParams, m.Lossless = e.params.Lossless → m.NumLayers = e.params.NumLayers →
      m.AppendLosslessLayer = e.params.AppendLosslessLayer → 1 ≤ m.NumLayers → r.2 = appendLosslessFlag m := by
  intro r
  have h1 : r.1 = if e.params.NumLayers ≤ 0 then 1 else e.params.NumLayers := by
    simp only [r, Gen.J2kTiles.Encoder.initRDLayerConfig, decide_eq_true_eq]
  have h2 : r.2 = decide (r.1 > 1) := by
    simp only [r, Gen.J2kTiles.Encoder.initRDLayerConfig, hL, Bool.true_and]
    split <;> simp_all
  refine ⟨by omega, fun _ => by omega, by rw [h2, decide_eq_true_eq]; omega, fun m hm1 hm2 _ hm4 => ?_⟩
  rw [h2, appendLosslessFlag, hm1, hL, hm2, Bool.true_and, h1, if_neg (by omega)]
  cases m.AppendLosslessLayer <;> simp

example :
    let e : Gen.J2kTiles.Encoder := { (default : Gen.J2kTiles.Encoder) with params :=
      { (default : Gen.J2kTiles.EncodeParams) with Lossless := true, NumLayers := 3, AppendLosslessLayer := false } }
    Gen.J2kTiles.Encoder.initRDLayerConfig e = (3, true) := by decide

end J2kL
