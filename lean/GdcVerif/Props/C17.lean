import GdcVerif.Lemmas.C17
import GdcVerif.Lemmas.Rle
/-!
  C17 — encoders reject unrepresentable input.

  Every theorem below is about a go2lean-GENERATED definition (`Gen/Validate*.lean`,
  `Gen/JpegLs.lean`: the validation prefix of the Go `Encode` as it is in /repo now), except the
  RLE ones, which are about the hand model `Model/Rle.lean` (tied by C01/C17 correspondence).
  `…Representable` (Lemmas/C17.lean) is written from the formats, not from the code.
  What is proved is the decision: acceptance implies representability.  That an accepted call does not panic
  later, and that the returned stream decodes to the requested geometry, has a theorem only for RLE (model); for
  the other encoders the emitters are C16's and this part of the property is searched.

  State after the `fix:` commits c081061 … a965712 in /repo: for every encoder
  `X_accepts_representable` holds at full strength (accepts = true → Representable, all integers,
  no extra hypothesis), except
    * JPEG-LS near-lossless: NEAR ≤ MAXVAL/2 is still not enforced (known finding, kept as
      `_counterexample` + `_partial`);
    * JPEG 2000: full since d320418 (32-bit SIZ fields) and the later guards (tile extent ≤ 2^32−1, at
      most 65535 tiles, source byte count within a Go `int`); the only extra hypothesis is the `uint8`
      type invariant of ProgressionOrder.
  The witnesses of the repaired defects are kept as `example`s (regression anchors): the
  regenerated function now rejects them.
-/
namespace C17
open Gen

/-- a dimension that is `Dim16` is read back unchanged from the SOF header -/
theorem declared16_faithful (v : Int) (h : Dim16 v) : declared16 v = v :=
  declared16_of_fits v (by unfold Dim16 at h; omega) h.2

/-- width 65536 is written as 0, 65537 as 1 -/
theorem declared16_wraps : declared16 65536 = 0 ∧ declared16 65537 = 1 := by decide

example : Dim16 65535 ∧ ¬ Dim16 65536 ∧ ¬ Dim16 0 := by decide

/-! ## JPEG Baseline — jpeg/baseline/encoder.go `Encode` -/

/-- positive 16-bit dimensions, 1|3 components, quality 1..100, buffer length -/
theorem baseline_accepts_representable (len w h c q : Int)
    (hacc : ValidateJpegBaseline.Encode_accepts len w h c q = true) : BaselineRepresentable len w h c q := by
  unfold ValidateJpegBaseline.Encode_accepts at hacc
  unfold BaselineRepresentable Dim16
  simp at hacc
  omega

/-- regression anchor (was FINDING `jpeg-dim-over-65535`, fixed by c081061): width 65536 is rejected, 65535 accepted -/
example : ValidateJpegBaseline.Encode_accepts 65536 65536 1 1 90 = false ∧
    ValidateJpegBaseline.Encode_accepts 65535 65535 1 1 90 = true := by decide

example : ValidateJpegBaseline.Encode_accepts 12 2 2 3 75 = true := by decide

/-! ## JPEG Extended — jpeg/extended `Encode`, `EncodeSimple`, `encodeSequential12` -/

/-- the exported `EncodeSimple` entry point: positive 16-bit dimensions, depth 8 (1|3 components,
    1 byte/sample) or 12 (monochrome, 2 bytes/sample), quality, buffer — through the tail calls into
    `encodeSequential12` / `baseline.Encode` -/
theorem extendedSimple_accepts_representable (len w h c p q : Int)
    (hacc : ValidateJpegExtended.EncodeSimple_accepts len w h c p q = true) : ExtendedRepresentable len w h c p q := by
  unfold ValidateJpegExtended.EncodeSimple_accepts
    ValidateJpegExtended.encodeSequential12_accepts ValidateJpegBaseline.Encode_accepts
    ValidateJpegExtended.sequential12Precision at hacc
  unfold ExtendedRepresentable Dim16
  by_cases hp : p = 12
  · subst hp
    simp at hacc
    omega
  · simp [hp] at hacc
    omega

/-- `Encode` sends depth 12 straight to `encodeSequential12` and everything else to `EncodeSimple` -/
theorem extended_accepts_representable (len w h c p q : Int)
    (hacc : ValidateJpegExtended.Encode_accepts len w h c p q = true) : ExtendedRepresentable len w h c p q := by
  unfold ValidateJpegExtended.Encode_accepts at hacc
  split at hacc
  · rename_i hp
    obtain rfl : p = 12 := by simpa [ValidateJpegExtended.sequential12Precision] using hp
    exact sequential12_accepts_representable len w h c q hacc
  · exact extendedSimple_accepts_representable len w h c p q hacc

/-- regression anchor (was `jpeg-dim-over-65535` on the 12-bit path, fixed by c081061) -/
example : ValidateJpegExtended.Encode_accepts 131072 65536 1 1 12 90 = false ∧
    ValidateJpegExtended.Encode_accepts 131070 65535 1 1 12 90 = true := by decide

example : ValidateJpegExtended.Encode_accepts 8 2 2 1 12 50 = true ∧
    ValidateJpegExtended.Encode_accepts 12 2 2 3 8 50 = true ∧
    ValidateJpegExtended.Encode_accepts 24 2 2 3 12 50 = false := by decide

/-! ## JPEG Lossless — jpeg/lossless/encoder.go `Encode` -/

theorem lossless_accepts_representable (len w h c p pred : Int)
    (hacc : ValidateJpegLossless.Encode_accepts len w h c p pred = true) : LosslessRepresentable len w h c p pred := by
  unfold ValidateJpegLossless.Encode_accepts at hacc
  unfold LosslessRepresentable Dim16
  simp at hacc
  rw [tdiv8 p (by omega)] at hacc
  omega

/-- regression anchor (was `jpeg-dim-over-65535`, fixed by c081061) -/
example : ValidateJpegLossless.Encode_accepts 65536 65536 1 1 8 1 = false ∧
    ValidateJpegLossless.Encode_accepts 65535 65535 1 1 8 1 = true := by decide

example : ValidateJpegLossless.Encode_accepts 24 2 2 3 12 4 = true := by decide

/-! ## JPEG Lossless SV1 — jpeg/lossless14sv1/encoder.go `Encode`: the guard chain of jpeg/lossless at predictor 1 -/

theorem sv1_accepts_representable (len w h c p : Int)
    (hacc : ValidateJpegSv1.Encode_accepts len w h c p = true) : LosslessRepresentable len w h c p 1 :=
  lossless_accepts_representable len w h c p 1 (hacc : ValidateJpegLossless.Encode_accepts len w h c p 1 = true)

/-- regression anchor (was `jpeg-dim-over-65535`, fixed by c081061) -/
example : ValidateJpegSv1.Encode_accepts 65536 1 65536 1 8 = false ∧
    ValidateJpegSv1.Encode_accepts 65535 1 65535 1 8 = true := by decide

example : ValidateJpegSv1.Encode_accepts 8 2 2 1 16 = true := by decide

/-! ## JPEG-LS near-lossless — jpegls/nearlossless/encoder.go `Encode` -/

def jpeglsNear_accepts_representable_FullStatement : Prop :=
  ∀ len w h c p near, ValidateJpegLsNear.Encode_accepts len w h c p near = true →
    JpegLsRepresentable len w h c p near

/-- KNOWN FINDING `jpegls-near-exceeds-maxval-half` (not fixed: the repo's own test expects
    NEAR = 255 at 8 bit): NEAR = 200 at P = 2 (MAXVAL = 3, limit 1) is accepted -/
theorem jpeglsNear_accepts_near_counterexample :
    ValidateJpegLsNear.Encode_accepts 4 2 2 1 2 200 = true ∧ ¬ JpegLsRepresentable 4 2 2 1 2 200 := by decide

theorem jpeglsNear_FullStatement_false : ¬ jpeglsNear_accepts_representable_FullStatement :=
  fun h => jpeglsNear_accepts_near_counterexample.2 (h _ _ _ _ _ _ jpeglsNear_accepts_near_counterexample.1)

/-- missing in the code: NEAR ≤ MAXVAL/2 (hypothesis `hnear`). Proved: 16-bit positive dimensions,
    components, depth, 0 ≤ NEAR ≤ 255, buffer length. -/
theorem jpeglsNear_accepts_representable_partial (len w h c p near : Int)
    (hacc : ValidateJpegLsNear.Encode_accepts len w h c p near = true)
    (hnear : near ≤ ((2 : Int) ^ p.toNat - 1) / 2) :
    JpegLsRepresentable len w h c p near := by
  unfold ValidateJpegLsNear.Encode_accepts at hacc
  unfold JpegLsRepresentable Dim16
  simp at hacc
  rw [tdiv8 p (by omega)] at hacc
  omega

/-- regression anchors (were `jpegls-no-buffer-length-check` / `jpegls-dim-over-65535` on this entry point) -/
example : ValidateJpegLsNear.Encode_accepts 0 2 2 1 8 3 = false ∧
    ValidateJpegLsNear.Encode_accepts 65536 65536 1 1 8 3 = false := by decide

example : ValidateJpegLsNear.Encode_accepts 4 2 2 1 8 3 = true ∧ (3 : Int) ≤ ((2 : Int) ^ (8 : Int).toNat - 1) / 2 := by decide

/-! ## JPEG-LS lossless — jpegls/lossless/encoder.go `Encode`: the guard chain of the near-lossless `Encode` at NEAR = 0 -/

theorem jpegls_accepts_representable (len w h c p : Int)
    (hacc : JpegLs.Encode_accepts len w h c p = true) : JpegLsRepresentable len w h c p 0 :=
  jpeglsNear_accepts_representable_partial len w h c p 0 (hacc : ValidateJpegLsNear.Encode_accepts len w h c p 0 = true)
    (Int.ediv_nonneg (Int.sub_nonneg_of_le (Int.pow_pos (by decide))) (by decide))

/-- regression anchors (were `jpegls-no-buffer-length-check`, fixed by b0e179c, and
    `jpegls-dim-over-65535`, fixed by 47d622b) -/
example : JpegLs.Encode_accepts 0 2 2 1 8 = false ∧ JpegLs.Encode_accepts 3 2 2 1 8 = false ∧
    JpegLs.Encode_accepts 65536 65536 1 1 8 = false ∧ JpegLs.Encode_accepts 65535 65535 1 1 8 = true := by decide

example : JpegLs.Encode_accepts 4 2 2 1 8 = true := by decide

/-! ## JPEG 2000 — jpeg2000/encoder.go `Encoder.Encode` = `validateParams` ; `convertPixelData` -/

def j2k_accepts_representable_FullStatement : Prop :=
  ∀ (e : ValidateJ2k.Encoder) (len : Int),
    ValidateJ2k.Encoder.Encode_accepts e len = true → J2kRepresentable e.params len

/-- `DefaultEncodeParams(16,16,1,8,false)` -/
def j2kDefault16 : ValidateJ2k.EncodeParams :=
  { (default : ValidateJ2k.EncodeParams) with
    Width := 16, Height := 16, Components := 1, BitDepth := 8, NumLevels := 5, Lossless := true,
    Quality := 80, CodeBlockWidth := 64, CodeBlockHeight := 64, NumLayers := 1, EnableMCT := true }
def j2kEnc (p : ValidateJ2k.EncodeParams) : ValidateJ2k.Encoder := { (default : ValidateJ2k.Encoder) with params := p }

/-- non-vacuity: the default parameters are accepted and representable -/
example : ValidateJ2k.Encoder.Encode_accepts (j2kEnc j2kDefault16) 256 = true ∧
    J2kRepresentable j2kDefault16 256 := by decide

/-- regression anchors — each was a FINDING, now rejected by the regenerated guard chain:
    `j2k-negative-tile-size` (1b6e509), `j2k-precinct-not-power-of-two` (1434162),
    `j2k-codeblock-area-over-4096` (e398db4), `j2k-progression-order-unchecked` (4c8a156),
    `j2k-lossy-quality-unchecked` (a965712), `j2k-layers-over-65535` (fa1268b) -/
example :
    ValidateJ2k.Encoder.Encode_accepts (j2kEnc { j2kDefault16 with TileWidth := -1 }) 256 = false ∧
    ValidateJ2k.Encoder.Encode_accepts (j2kEnc { j2kDefault16 with PrecinctWidth := 3 }) 256 = false ∧
    ValidateJ2k.Encoder.Encode_accepts (j2kEnc { j2kDefault16 with PrecinctHeight := 65536 }) 256 = false ∧
    ValidateJ2k.Encoder.Encode_accepts (j2kEnc { j2kDefault16 with CodeBlockWidth := 128, CodeBlockHeight := 128 }) 256 = false ∧
    ValidateJ2k.Encoder.Encode_accepts (j2kEnc { j2kDefault16 with ProgressionOrder := 9 }) 256 = false ∧
    ValidateJ2k.Encoder.Encode_accepts (j2kEnc { j2kDefault16 with Lossless := false, Quality := 0 }) 256 = false ∧
    ValidateJ2k.Encoder.Encode_accepts (j2kEnc { j2kDefault16 with NumLayers := 65536 }) 256 = false := by decide

/-- the guards do not over-reject: the extreme representable values are accepted -/
example :
    ValidateJ2k.Encoder.Encode_accepts (j2kEnc { j2kDefault16 with CodeBlockWidth := 128, CodeBlockHeight := 32 }) 256 = true ∧
    ValidateJ2k.Encoder.Encode_accepts (j2kEnc { j2kDefault16 with CodeBlockWidth := 4, CodeBlockHeight := 1024 }) 256 = true ∧
    ValidateJ2k.Encoder.Encode_accepts (j2kEnc { j2kDefault16 with PrecinctWidth := 32768, PrecinctHeight := 1 }) 256 = true ∧
    ValidateJ2k.Encoder.Encode_accepts (j2kEnc { j2kDefault16 with TileWidth := 0, TileHeight := 7 }) 256 = true ∧
    ValidateJ2k.Encoder.Encode_accepts (j2kEnc { j2kDefault16 with ProgressionOrder := 4, NumLayers := 65535 }) 256 = true ∧
    ValidateJ2k.Encoder.Encode_accepts (j2kEnc { j2kDefault16 with Lossless := false, Quality := 100 }) 256 = true := by decide

/-- regression anchor (class `j2k-dim-over-32bit`, repaired by d320418): an extent beyond the
    32-bit SIZ fields is now rejected -/
example :
    ValidateJ2k.Encoder.Encode_accepts (j2kEnc { j2kDefault16 with Width := 4294967296, Height := 1 }) 4294967296 = false ∧
    ¬ J2kRepresentable { j2kDefault16 with Width := 4294967296, Height := 1 } 4294967296 := by decide

/-- regression anchors (hunters' findings, repaired in `validateParams`):
    `j2k-tile-count-over-65535` — 256×257 with 1×1 tiles (65792 tiles; Isot is 16 bit) and 256×256 (65536) are
    rejected, 255×257 (65535 tiles) is accepted;
    `j2k-tile-size-over-32bit` — a tile extent of 2^32 (XTsiz/YTsiz are 32 bit) is rejected, 2^32 − 1 accepted -/
example :
    ValidateJ2k.Encoder.Encode_accepts (j2kEnc { j2kDefault16 with Width := 256, Height := 257, TileWidth := 1, TileHeight := 1 }) 65792 = false ∧
    ¬ J2kRepresentable { j2kDefault16 with Width := 256, Height := 257, TileWidth := 1, TileHeight := 1 } 65792 ∧
    ValidateJ2k.Encoder.Encode_accepts (j2kEnc { j2kDefault16 with Width := 256, Height := 256, TileWidth := 1, TileHeight := 1 }) 65536 = false ∧
    ValidateJ2k.Encoder.Encode_accepts (j2kEnc { j2kDefault16 with Width := 255, Height := 257, TileWidth := 1, TileHeight := 1 }) 65535 = true ∧
    J2kRepresentable { j2kDefault16 with Width := 255, Height := 257, TileWidth := 1, TileHeight := 1 } 65535 ∧
    ValidateJ2k.Encoder.Encode_accepts (j2kEnc { j2kDefault16 with TileWidth := 4294967296, TileHeight := 4294967296 }) 256 = false ∧
    ¬ J2kRepresentable { j2kDefault16 with TileWidth := 4294967296, TileHeight := 4294967296 } 256 ∧
    ValidateJ2k.Encoder.Encode_accepts (j2kEnc { j2kDefault16 with TileWidth := 4294967295, TileHeight := 0 }) 256 = true := by decide

/-- regression anchor (`j2k-extent-product-overflow`): width × height × components × bytes beyond a Go `int`
    is rejected whatever the buffer length (was: the product wrapped, the length check passed, `make` panicked);
    the largest square that fits is accepted when the buffer holds it -/
example :
    ValidateJ2k.Encoder.Encode_accepts (j2kEnc { j2kDefault16 with Width := 4294967295, Height := 4294967295 }) 0 = false ∧
    ValidateJ2k.Encoder.Encode_accepts (j2kEnc { j2kDefault16 with Width := 2147483648, Height := 1073741824, Components := 4, BitDepth := 16 }) 0 = false ∧
    ValidateJ2k.Encoder.Encode_accepts (j2kEnc { j2kDefault16 with Width := 3037000500, Height := 3037000500 }) 9223372037000250000 = false ∧
    ¬ J2kRepresentable { j2kDefault16 with Width := 3037000500, Height := 3037000500 } 9223372037000250000 ∧
    ValidateJ2k.Encoder.Encode_accepts (j2kEnc { j2kDefault16 with Width := 3037000499, Height := 3037000499 }) 9223372030926249001 = true := by decide

/-- Everything the format predicate asks for is proved from the generated guard chain
    (`validateParams` ; `convertPixelData` as composed by `Encoder.Encode`): positive dimensions
    within the 32-bit SIZ fields, 1..4 components, depth 1..16, a source byte count
    width·height·components·bytes that fits a Go `int` (so the `Int` reading of the two products in
    `convertPixelData` is the Go value), levels 0..6, code-block sides ∈ {4,…,1024} powers of two
    (via the generated `isPowerOfTwo`) with area ≤ 4096, tile sizes within 0..2^32−1 and at most
    65535 tiles (`tilesAlong`, the ⌈·⌉ of T.800 B.3, from the generated `(W + t − 1) / t`),
    precinct sizes 0 or a power of two ≤ 2^15, 1..65535 layers, progression order ≤ 4, lossy
    quality 1..100, buffer length.
    `hu8` is not a guard but the type invariant of the Go field (`ProgressionOrder uint8`), which
    go2lean's `Int` reading of the structure drops.
    Outside the translated prefix (float/slice-valued arguments, checked after it in `validateParams`):
    ROI / ROIConfig, CustomQuantSteps length, MCT matrix and binding shapes — harness only. -/
theorem j2k_accepts_representable (e : ValidateJ2k.Encoder) (len : Int)
    (hacc : ValidateJ2k.Encoder.Encode_accepts e len = true)
    (hu8 : 0 ≤ e.params.ProgressionOrder) :
    J2kRepresentable e.params len := by
  unfold ValidateJ2k.Encoder.Encode_accepts ValidateJ2k.Encoder.validateParams_accepts
    ValidateJ2k.Encoder.convertPixelData_accepts at hacc
  simp at hacc
  obtain ⟨⟨h1, h2, h3, hext, h4, h5, h6, h7, h8, h9, htiles, h10, h11, h12⟩, h13⟩ := hacc
  rw [tdiv8 _ (by omega)] at h13 hext
  rw [tdiv_tiles _ _ (by omega) (by omega), tdiv_tiles _ _ (by omega) (by omega)] at htiles
  have hbps : 0 < bytesPerSample e.params.BitDepth := by unfold bytesPerSample; omega
  have hfit := mul_le_of_le_tdiv_tdiv _ _ _ _ (by decide) (Int.mul_pos (by omega) hbps) (by omega) hext
  rw [← Int.mul_assoc] at hfit
  have hcw := isPowerOfTwo_range e.params.CodeBlockWidth (by omega) (by omega) h5.2
  have hch := isPowerOfTwo_range e.params.CodeBlockHeight (by omega) (by omega) h6.2
  have hpw := h10.1.imp id fun hz => isPowerOfTwo_precinct _ hz.2 hz.1
  have hph := h10.2.imp id fun hz => isPowerOfTwo_precinct _ hz.2 hz.1
  unfold J2kRepresentable
  refine ⟨⟨by omega, by omega⟩, ⟨by omega, by omega⟩, by omega, by omega, by omega, hcw, hch, by omega,
    ⟨by omega, by omega⟩, ⟨by omega, by omega⟩, htiles.2, hpw, hph,
    by omega, ⟨hu8, by omega⟩, ?_, hfit, by omega⟩
  intro hl
  rcases h12 with hq | hq
  · rw [hl] at hq; cases hq
  · exact hq

/-- a multi-tile instance of the hypotheses: 33×17 in 8×8 tiles (5 × 3 tiles) -/
example : ValidateJ2k.Encoder.Encode_accepts (j2kEnc { j2kDefault16 with Width := 33, Height := 17, TileWidth := 8, TileHeight := 8 }) 561 = true ∧
    tilesAlong 33 8 * tilesAlong 17 8 = 15 := by decide

/-! ## RLE — rle/rle.go `Codec.encodeFrame` (hand model `Rle.encodeFrame`, tied by the C01/C17
    `rle-enc` correspondence lines; the model carries the guard added by 1dbcb53) -/

/-- PS3.5 Annex G: 1..15 segments (the header has room for 15 offsets); a frame has at least
    one pixel.  Unlike the other `…Representable` it asks only a non-empty buffer, not one of the frame's size
    (the model answers an error for a short buffer, `readPlane`; that is not stated here). -/
def RleRepresentable (i : Rle.Info) (len : Nat) : Prop :=
  1 ≤ i.numberOfSegments ∧ i.numberOfSegments ≤ 15 ∧ 1 ≤ i.pixelCount ∧ len ≠ 0

/-- for EVERY frame info and EVERY source buffer (any length, any content) the encoder does not
    panic: the `offsets[15]` overrun is excluded by the new guard, the `tempBuffer[132]` overrun by
    C01's encoder invariant (`encodeSegment_spec`), read positions are checked against `len(src)`. -/
theorem rle_encode_never_panics (i : Rle.Info) (src : Array Rle.Byte) : Rle.encodeFrame i src ≠ .panic := by
  rcases encodeFrame_cases i src with h | ⟨_, _, _, _, _, _, h⟩
  · rw [h]
    nofun
  · rw [h]
    nofun

/-- whenever a stream is returned, the frame is representable -/
theorem rle_stream_implies_representable (i : Rle.Info) (src : Array Rle.Byte) (enc : List Rle.Byte)
    (h : Rle.encodeFrame i src = .ok enc) : RleRepresentable i src.size := by
  rcases encodeFrame_cases i src with he | ⟨_, _, hne, hg, _, _, _⟩
  · rw [he] at h
    cases h
  · exact ⟨by omega, by omega, by omega, hne⟩

/-- whenever a stream is returned — ANY frame description, ANY source buffer — it is even and at most
    0xFFFFFFFE bytes long: every segment offset fits the 32-bit field the header gives it and the frame fits a
    DICOM item (the guard added by the repair of `rle-offsets-beyond-4gib`; before it `uint32(buffer.Len())`
    wrapped silently and a stream beyond 4 GiB carried a non-ascending offset table) -/
theorem rle_stream_fits_32bit (i : Rle.Info) (src : Array Rle.Byte) (enc : List Rle.Byte)
    (h : Rle.encodeFrame i src = .ok enc) :
    enc.length ≤ Rle.maxEncodedFrameLength ∧ enc.length % 2 = 0 := by
  rcases encodeFrame_cases i src with he | ⟨body, offs, _, hg, hoffs, hfit, he⟩
  · rw [he] at h
    cases h
  · rw [he] at h
    cases h
    have heven := Rle.padE_length_even body
    have hpad := Rle.padE_fits body
    simp only [List.length_append, Rle.le32_length, Rle.flatMap_le32_length, List.length_replicate]
    omega

/-- regression anchor (was FINDING `rle-more-than-15-segments`, fixed by 1dbcb53):
    BitsAllocated 32 × SamplesPerPixel 4 = 16 segments is now an error, not an `offsets[15]` panic -/
theorem rle_16_segments_rejected :
    Rle.encodeFrame { width := 1, height := 1, bitsAllocated := 32, spp := 4, planar := 0 }
      #[1, 2, 3, 4, 5, 6, 7, 8, 9, 10, 11, 12, 13, 14, 15, 16] = .err := by decide

/-- regression anchor (was FINDING `rle-degenerate-frame-accepted`, fixed by 1dbcb53) -/
theorem rle_degenerate_rejected :
    Rle.encodeFrame { width := 1, height := 1, bitsAllocated := 8, spp := 0, planar := 0 } #[1] = .err ∧
    Rle.encodeFrame { width := 0, height := 3, bitsAllocated := 8, spp := 1, planar := 0 } #[1] = .err ∧
    Rle.encodeFrame { width := 3, height := 0, bitsAllocated := 8, spp := 1, planar := 0 } #[1] = .err := by decide

/-- non-vacuity: an ordinary frame is encoded (15-plane frames are exercised on the real code and the model by the `rle-enc` lines) -/
example : Rle.encodeFrame { width := 2, height := 1, bitsAllocated := 8, spp := 1, planar := 0 } #[7, 7] ≠ .panic ∧
    Rle.encodeFrame { width := 2, height := 1, bitsAllocated := 8, spp := 1, planar := 0 } #[7, 7] ≠ .err := by
  -- (the size guard compares the length of the encoded segments, built by well-founded recursion: not a `decide`)
  obtain ⟨enc, he⟩ := Rle.encodeFrame_ok_of_fits32 { width := 2, height := 1, bitsAllocated := 8, spp := 1, planar := 0 }
    (by decide) (by decide) #[7, 7] (by decide)
  rw [he]
  constructor
  · intro h; cases h
  · intro h; cases h

/-! ## DICOM adapters: `Validate` normalises instead of rejecting — what reaches `Encode` -/

/-- jpeg/baseline/parameters.go: after `Validate` the quality is always one the encoder accepts -/
theorem baseline_validate_quality (p : ValidateJpegBaseline.JPEGBaselineParameters) :
    let q := (ValidateJpegBaseline.JPEGBaselineParameters.Validate p).1.Quality
    1 ≤ q ∧ q ≤ 100 ∧ ((1 ≤ p.Quality ∧ p.Quality ≤ 100) → q = p.Quality) := by
  simp only [ValidateJpegBaseline.JPEGBaselineParameters.Validate,
    apply_ite ValidateJpegBaseline.JPEGBaselineParameters.Quality, Bool.or_eq_true, decide_eq_true_eq]
  omega

/-- jpeg/extended/parameters.go -/
theorem extended_validate (p : ValidateJpegExtended.JPEGExtendedParameters) :
    let r := (ValidateJpegExtended.JPEGExtendedParameters.Validate p).1
    (1 ≤ r.Quality ∧ r.Quality ≤ 100) ∧ (r.BitDepth = 8 ∨ r.BitDepth = 12) := by
  simp only [ValidateJpegExtended.JPEGExtendedParameters.Validate,
    apply_ite ValidateJpegExtended.JPEGExtendedParameters.Quality,
    apply_ite ValidateJpegExtended.JPEGExtendedParameters.BitDepth, ite_self,
    Bool.or_eq_true, Bool.and_eq_true, bne_iff_ne, decide_eq_true_eq]
  omega

/-- jpeg/lossless/parameters.go -/
theorem lossless_validate_predictor (p : ValidateJpegLossless.JPEGLosslessParameters) :
    let r := (ValidateJpegLossless.JPEGLosslessParameters.Validate p).1.Predictor
    0 ≤ r ∧ r ≤ 7 := by
  simp only [ValidateJpegLossless.JPEGLosslessParameters.Validate,
    apply_ite ValidateJpegLossless.JPEGLosslessParameters.Predictor, Bool.or_eq_true, decide_eq_true_eq]
  omega

/-- jpegls/nearlossless/parameters.go: only 0..255 is enforced … -/
theorem jpeglsNear_validate_near (p : ValidateJpegLsNear.JPEGLSNearLosslessParameters) :
    let r := (ValidateJpegLsNear.JPEGLSNearLosslessParameters.Validate p).1.NEAR
    0 ≤ r ∧ r ≤ 255 := by
  simp only [ValidateJpegLsNear.JPEGLSNearLosslessParameters.Validate,
    apply_ite ValidateJpegLsNear.JPEGLSNearLosslessParameters.NEAR, Bool.or_eq_true, decide_eq_true_eq]
  omega

/-- … so NEAR = 200 survives `Validate` and reaches `Encode` whatever the bit depth -/
theorem jpeglsNear_validate_keeps_200 :
    (ValidateJpegLsNear.JPEGLSNearLosslessParameters.Validate { NEAR := 200 }).1.NEAR = 200 := by decide

/-- jpeg2000/lossless/parameters.go (hand model of the integer part) -/
theorem j2kLossless_validate (p : C17Model.J2kLosslessParams) :
    let r := p.Validate
    (0 ≤ r.NumLevels ∧ r.NumLevels ≤ 6) ∧ 1 ≤ r.NumLayers ∧ 0 ≤ r.Rate ∧ r.ProgressionOrder ≤ 4 := by
  simp only [j2kLossless_validate_levels, j2kLossless_validate_layers, j2kLossless_validate_rate,
    j2kLossless_validate_order]
  omega

/-- jpeg2000/lossy/parameters.go (hand model of the integer part) -/
theorem j2kLossy_validate (p : C17Model.J2kLossyParams) :
    let r := p.Validate
    (0 ≤ r.NumLevels ∧ r.NumLevels ≤ 6) ∧ 1 ≤ r.NumLayers ∧ 1 ≤ r.Rate := by
  simp only [j2kLossy_validate_levels, j2kLossy_validate_layers, j2kLossy_validate_rate]
  omega

/-- jpeg2000/htj2k/parameters.go `Validate` (generated; `nearestPowerOf2` hand-modelled and proved
    in general, `nearestPowerOf2_range`): for EVERY input the normalised parameters have quality
    1..100, code-block sides that are powers of two in 4..1024, and 0..6 levels.
    (The area ≤ 4096 is not enforced here: 1024×1024 survives `Validate` and is now rejected with
    an error by `validateParams`.) -/
theorem htj2k_validate (p : ValidateHtj2k.Parameters) :
    let r := (ValidateHtj2k.Parameters.Validate p).1
    (1 ≤ r.Quality ∧ r.Quality ≤ 100) ∧ r.BlockWidth ∈ pow2s 2 10 ∧ r.BlockHeight ∈ pow2s 2 10 ∧
      (0 ≤ r.NumLevels ∧ r.NumLevels ≤ 6) := by
  simp only [htj2k_validate_quality, htj2k_validate_levels, htj2k_validate_width, htj2k_validate_height]
  have hw := clampI_range 4 1024 p.BlockWidth (by decide)
  have hh := clampI_range 4 1024 p.BlockHeight (by decide)
  exact ⟨clampI_range 1 100 _ (by decide), nearestPowerOf2_range _ hw.1 hw.2,
    nearestPowerOf2_range _ hh.1 hh.2, clampI_range 0 6 _ (by decide)⟩

example : (ValidateHtj2k.Parameters.Validate { Quality := 0, BlockWidth := 100, BlockHeight := 3, NumLevels := 9 }).1 =
    { Quality := 1, BlockWidth := 128, BlockHeight := 4, NumLevels := 6 } := by decide

end C17
