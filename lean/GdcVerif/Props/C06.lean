import GdcVerif.Model.Htj2k
import GdcVerif.Lemmas.Basics
import GdcVerif.Lemmas.Htj2kMel
import GdcVerif.Lemmas.Htj2kKmax
import GdcVerif.Lemmas.Htj2kCodestream
import GdcVerif.Lemmas.Htj2kMagSgn
import GdcVerif.Lemmas.Htj2kBlock
import GdcVerif.Lemmas.GoBits
/-!
  C06 — HTJ2K Lossless (.201/.202): exact round trip and exact third-party decode.

  PARTIAL.  Theorems below cover: the MEL coder (mel.go; same text as the cleanup pass's MEL writer),
  `calculateMaxLevels`, the band-precision (Kmax) / missing-MSB bookkeeping shared by encoder, QCD marker,
  packet header and decoder (generated kernels), the sign-magnitude words at the two ends of the cleanup
  pass, prefix-freeness and completeness of the VLC source tables (generated), the U-VLC pair code, the band
  bits of the HT packet header, the range of U_q, MagSgn bit packing, the MEL/VLC fusion byte and Scup, the
  Psot/TLM arithmetic of `writeHTJ2KTileParts`/`writeTLM`, and of the cleanup pass itself (modelled whole in
  `Model/Htj2kBlock.lean`) the layers up to one first-row quad pair.  NOT proved: the row loops of the cleanup
  pass (`openjph_cleanup_*`) as a whole, the VLC byte writer against its reader.  NOT modelled: `ojphMELReader`,
  `reverseBitReader`, T2 below band granularity, DWT, RCT — there the property is only searched (harness `c06.go`);
  the 14 third-party codestreams are a finite test of that harness, no theorem speaks of them.

  The finding `htj2k-kmax-0levels-min-sample` (Kmax = P-1 at 0 levels) is repaired in /repo (18c42dd):
  `kmax_0levels` holds at full strength and the old witnesses are regression examples.
-/
namespace Htj2k

/-- the generated `MelE` is Table 2 of ISO/IEC 15444-15 (13 states, exponents 0,0,0,1,1,1,2,2,2,3,3,4,5) -/
theorem melE_is_T814_table2 : Gen.Htj2k.MelE = #[0, 0, 0, 1, 1, 1, 2, 2, 2, 3, 3, 4, 5] := by decide

/-- MEL round trip, every symbol sequence: `NewMELDecoder(Flush(EncodeBit*(bits)))` returns exactly `bits`
    on its first `len(bits)` `DecodeBit` calls, each with `ok = true` — including the final flush of a pending
    run (Flush appends a terminating 1 that is never asked for) and the 7-bit byte after every 0xFF byte. -/
theorem mel_roundtrip (bits : List Bool) : melDecode (melEncode bits) bits.length = (bits, true) := by
  obtain ⟨z, ez⟩ := (melEncode_bits bits).1
  have := decodeN_encS bits 0 0 { rest := melEncode bits } (List.replicate z false) (Nat.two_pow_pos _) ez
  simpa [melDecode] using this

/-- non-vacuity: 40 zeros drive k up and emit only 1-bits (0xFF, then a 7-bit byte 0x71); then a 1 -/
example : melEncode (List.replicate 40 false ++ [true]) = [0xFF, 0x71, 0x80] ∧
    melDecode [0xFF, 0x71, 0x80] 41 = (List.replicate 40 false ++ [true], true) := by decide +kernel

/-- byte stuffing of the MEL stream: no byte that follows 0xFF has its top bit set, so the MEL bytes never
    contain a marker code 0xFF80..0xFFFF (shared with C16) -/
theorem mel_stuffed (bits : List Bool) : Stuffed false (melEncode bits) := (melEncode_bits bits).2

example : Stuffed false [0xFF, 0x71, 0x80] ∧ ¬ Stuffed false [0xFF, 0x80] := by simp [Stuffed]

/-- `calculateMaxLevels(w, h)` ∈ 0..6; it is ⌈log2(min(w,h))⌉ clamped to 6 (and 0 for min ≤ 0): when the
    clamp is not hit, `2^(r-1) < min ≤ 2^r`; when it returns 6, `min > 32`.  (`w,h ≤ 2^62`: beyond that Go's
    `1 << maxLevels` wraps and the loop does not terminate; the codec passes uint16 values.) -/
theorem calculateMaxLevels_spec (w h : Int) (hw : w ≤ 2 ^ 62) (hh : h ≤ 2 ^ 62) :
    let r := calculateMaxLevels w h
    let m := if h < w then h else w
    0 ≤ r ∧ r ≤ 6 ∧ (m ≤ 0 → r = 0) ∧
    (0 < m → r < 6 → m ≤ 2 ^ r.toNat ∧ (0 < r → (2 : Int) ^ (r.toNat - 1) < m)) ∧
    (0 < m → r = 6 → (32 : Int) < m) := by
  intro r m
  have hm : m ≤ 2 ^ 62 := by show (if h < w then h else w) ≤ _; split <;> assumption
  have hr : r = if m ≤ 0 then 0 else
      (if maxLevelsLoop m 64 0 > 6 then 6 else (maxLevelsLoop m 64 0 : Int)) := rfl
  obtain ⟨_, h2, h3⟩ := maxLevelsLoop_spec m 64 0 (by
    have : (2 : Int) ^ 62 ≤ 2 ^ (0 + 64) := by decide
    omega)
  generalize maxLevelsLoop m 64 0 = L at hr h2 h3
  -- from 6 turns on the result is clamped, and 2^5 < m is what is left to say
  have h32 : 6 ≤ L → (32 : Int) < m := fun h6 => by
    have := h3 (by omega)
    have : (2 : Int) ^ 5 ≤ 2 ^ (L - 1) := Int.two_pow_mono (by omega)
    omega
  split at hr
  · rw [hr]; omega
  · split at hr
    · rw [hr]
      exact ⟨by omega, by omega, by omega, by omega, fun _ _ => h32 (by omega)⟩
    · rw [hr]
      simp only [Int.toNat_natCast]
      exact ⟨by omega, by omega, by omega, fun _ _ => ⟨by omega, fun _ => h3 (by omega)⟩, fun _ _ => h32 (by omega)⟩

example : calculateMaxLevels 1 9 = 0 ∧ calculateMaxLevels 3 5 = 2 ∧ calculateMaxLevels 64 64 = 6 ∧
    calculateMaxLevels 65535 33 = 6 ∧ calculateMaxLevels 32 600 = 5 := by decide

/-! ## Band precision (Kmax) and missing MSBs: encoder = QCD = decoder (generated kernels) -/

/-- encoder (`jpeg2000/encoder.go`) and decoder (`t2/bitplane.go`) index the QCD exponents identically -/
theorem subbandIndex_enc_dec_agree (numLevels res band : Int) :
    Gen.Htj2kEnc.subbandIndex numLevels res band = Gen.Htj2kDec.subbandIndex numLevels res band := by
  unfold Gen.Htj2kEnc.subbandIndex Gen.Htj2kDec.subbandIndex
  rfl

/-- the index of an existing band is `3·(res-1) + band` (0 for LL), so distinct bands get distinct indices, and it
    stays inside the `3·numLevels+1` exponents -/
theorem subbandIndex_range (nl res band : Int) (h : 0 ≤ Gen.Htj2kEnc.subbandIndex nl res band) :
    Gen.Htj2kEnc.subbandIndex nl res band < 3 * nl + 1 ∧ 0 ≤ res ∧ res ≤ nl ∧
    (res = 0 → band = 0) ∧ (0 < res → 1 ≤ band ∧ band ≤ 3) ∧
    Gen.Htj2kEnc.subbandIndex nl res band = (if res = 0 then 0 else 3 * (res - 1) + band) := by
  unfold Gen.Htj2kEnc.subbandIndex at h ⊢
  simp only [Bool.or_eq_true, decide_eq_true_eq, beq_iff_eq, bne_iff_ne, ne_eq] at h ⊢
  -- each rejecting branch returns -1, which `h` excludes
  omega

/-- HT branch of `codeBlockPassLayout`: one pass (none for an all-zero block), and the number of zero bit
    planes signalled in the packet header is `bandNumbps - 1` (clamped at 0) — independent of the block -/
theorem ht_passlayout (e : Gen.Htj2kEnc.Encoder) (h : e.params.HTJ2KMode = true) (cb bn : Int) :
    e.codeBlockPassLayout cb bn = (if cb = 0 then 0 else 1, if bn - 1 < 0 then 0 else bn - 1) := by
  unfold Gen.Htj2kEnc.Encoder.codeBlockPassLayout
  simp only [h]
  by_cases h1 : cb = 0 <;> by_cases h2 : bn - 1 < 0 <;> simp [h1, h2]

/-- missing-MSB agreement: the encoder codes with `missingMSBs = kmax - 1` (`SetKMax(bandNumbps)`); the decoder's
    `htj2kMissingMSBs` returns that same number whether it takes the packet header's zero-bit-plane count
    (as written by `ht_passlayout`) or falls back to the band precision — for every band precision ≥ 1 -/
theorem ht_missing_msbs_agree (e : Gen.Htj2kEnc.Encoder) (h : e.params.HTJ2KMode = true)
    (td : Gen.Htj2kDec.TileDecoder) (info : Gen.Htj2kDec.cbInfo) (cb kmax : Int) (hk : 1 ≤ kmax) :
    (info.zeroBitplanesSet = true → info.zeroBitplanes = (e.codeBlockPassLayout cb kmax).2 →
      td.htj2kMissingMSBs info kmax = kmax - 1) ∧
    (info.zeroBitplanesSet = false → td.htj2kMissingMSBs info kmax = kmax - 1) := by
  rw [ht_passlayout e h]
  unfold Gen.Htj2kDec.TileDecoder.htj2kMissingMSBs
  constructor
  · intro hs hz
    simp only [hs, if_true, hz]
    have : ¬ (kmax - 1 < 0) := by omega
    simp [this]
  · intro hs
    have : ¬ (kmax ≤ 0) := by omega
    simp [hs, this]

/-- QCD byte round trip: `Sqcd = uint8(guard << 5)`, `SPqcd = uint8(expn << 3)` read back by
    `bandNumbpsFromQCD` (style 0) give `expn + guard - 1`, for every 5-bit exponent and 3-bit guard count -/
theorem qcd_byte_roundtrip (expn guard : Int) (he : 0 ≤ expn ∧ expn ≤ 31) (hg : 0 ≤ guard ∧ guard ≤ 7) :
    decBandNumbps (qcdSqcd guard) (qcdSPqcd expn) = expn + guard - 1 := by
  unfold decBandNumbps qcdSqcd qcdSPqcd Go.uwrap8
  omega

/-- Kmax agreement over the whole finite index space of the HTJ2K lossless encoder: for every
    `numLevels` (the encoder clamps to 0..6), bit depth 1..16, with or without RCT, every resolution and band, the decoder recomputes from
    the QCD bytes exactly the `bandNumbps` the encoder hands to `SetKMax` -/
theorem kmax_enc_dec_agree (nl bd : Nat) (rct : Bool) (res band : Nat) (hbd : 1 ≤ bd ∧ bd ≤ 16) :
    decBandNumbps (qcdSqcd htGuardBits) (qcdSPqcd (htExpn nl bd rct res band)) = encBandNumbps nl bd rct res band := by
  have hb := biboLog2_le nl res band
  have h0 : 0 ≤ htExpn nl bd rct res band ∧ htExpn nl bd rct res band ≤ 31 := by
    have := Bool.toNat_le rct
    rw [htExpn_eq]; split <;> omega
  rw [qcd_byte_roundtrip _ _ h0 (by decide)]
  rfl

example : encBandNumbps 5 8 false 0 0 = 9 ∧ encBandNumbps 5 8 false 1 1 = 10 ∧ encBandNumbps 5 8 false 5 3 = 9 ∧
    encBandNumbps 5 8 true 0 0 = 10 ∧ encBandNumbps 0 16 false 0 0 = 16 ∧ encBandNumbps 0 8 true 0 0 = 9 := by decide

/-- 0 decomposition levels, one component (repaired by 18c42dd; was the finding `htj2k-kmax-0levels-min-sample`):
    every level-shifted P-bit sample — including the most negative one, magnitude 2^(P-1) — fits in the Kmax
    magnitude bits of the only band. -/
theorem kmax_0levels (P : Nat) (h1 : 1 ≤ P) (v : Int) (hlo : -(2 : Int) ^ (P - 1) ≤ v) (hhi : v < 2 ^ (P - 1)) :
    v.natAbs < 2 ^ (encBandNumbps 0 P false 0 0).toNat := by
  have hK : ((2 ^ (encBandNumbps 0 P false 0 0).toNat : Nat) : Int) = 2 ^ 1 * 2 ^ (P - 1) :=
    kmax_pow 0 P false 0 0 h1 rfl
  omega

/-- regression anchors: the old witnesses (8-bit unsigned 0 ↦ −128, 16-bit unsigned 0 ↦ −32768) now fit, and the
    sign-magnitude word at the repaired Kmax carries them exactly -/
example : (-128 : Int).natAbs < 2 ^ (encBandNumbps 0 8 false 0 0).toNat ∧
    (-32768 : Int).natAbs < 2 ^ (encBandNumbps 0 16 false 0 0).toNat ∧
    fromSignMag 8 (toSignMag 8 (-128)) = -128 ∧ fromSignMag 16 (toSignMag 16 (-32768)) = -32768 := by decide

/-- 0 levels with RCT (3 components): Y ∈ [−2^(P−1), 2^(P−1)), Cb/Cr ∈ (−2^P, 2^P) all fit (Kmax = P+1) -/
theorem kmax_0levels_rct (P : Nat) (v : Int) (hlo : -(2 : Int) ^ P ≤ v) (hhi : v ≤ 2 ^ P) :
    v.natAbs < 2 ^ (encBandNumbps 0 P true 0 0).toNat := by
  have hK : ((2 ^ (encBandNumbps 0 P true 0 0).toNat : Nat) : Int) = 2 ^ 1 * 2 ^ P :=
    kmax_pow 0 P true 0 0 (Nat.le_add_left 1 P) rfl
  have hp : (0 : Int) < 2 ^ P := Int.pow_pos (by decide)
  omega

/-- the band-exponent table the encoder uses is exactly the ceil-log2 of the squared BIBO gains of quantization.go:
    `2^(X-1) < G ≤ 2^X` for every band of every decomposition depth 0..6 -/
theorem biboLog2_is_ceil_log2_of_gain : ∀ nl : Fin 7, ∀ res : Fin 7, ∀ band : Fin 4, res.val ≤ nl.val →
    bandGain nl res band ≤ 2 ^ biboLog2 nl res band * 10 ^ 8 ∧
    (0 < biboLog2 nl res band → 2 ^ (biboLog2 nl res band - 1) * 10 ^ 8 < bandGain nl res band) := by decide +kernel

/-- Kmax sufficiency for 1..6 levels, GIVEN the analysis-gain bound of the band.
    LABELLED HYPOTHESIS `hgain` (not proved here for depth ≥ 2; it is the defining property of the BIBO gain table
    `openJPH53LowBIBO/HighBIBO`, a statement about the cascaded 5/3 analysis filters): the coefficient's magnitude is
    at most `bandGain / 10^8` times the largest sample magnitude `2^(precision-1)`.
    Conclusion: the coefficient fits in the Kmax magnitude bits the encoder hands to the block coder — for every band
    except HH of the first decomposition, whose nominal gain is exactly 4 = 2^X (`kmax_level1_sufficient` handles it
    exactly for `nl = 1`; for deeper transforms that band has the same Kmax, `encBandNumbps` depending on `nl - res`
    only, but no theorem here says so). -/
theorem kmax_sufficient_of_gain (nl bd : Nat) (rct : Bool) (res band : Nat) (c : Int)
    (hnl : 1 ≤ nl ∧ nl ≤ 6) (hbd : 1 ≤ bd) (hres : res ≤ nl) (hband : band ≤ 3)
    (hnotHH1 : ¬ (band = 3 ∧ res = nl))
    (hgain : c.natAbs * 10 ^ 8 ≤ bandGain nl res band * 2 ^ (bd + rct.toNat - 1)) :
    c.natAbs < 2 ^ (encBandNumbps nl bd rct res band).toNat := by
  rw [kmax_toNat nl bd rct res band (by omega), if_neg (by omega), Nat.pow_add, Nat.mul_comm]
  have hs := gain_strict ⟨nl, by omega⟩ ⟨res, by omega⟩ ⟨band, by omega⟩ hnl.1 hres hnotHH1
  exact lt_of_scaled _ _ _ _ _ (Nat.two_pow_pos _) hs hgain

example : bandGain 5 0 0 = 291282489 ∧ bandGain 5 5 3 = 400000000 ∧ bandGain 6 1 3 = 807128100 ∧
    (300 : Int).natAbs * 10 ^ 8 ≤ bandGain 5 0 0 * 2 ^ (8 + false.toNat - 1) := by decide

/-- one decomposition level, PROVED from the lifting formulas of dwt53.go (no gain hypothesis): with
    `M = 2^(precision-1)` and samples in `[-M, M-1]`, the first pass maps into `inLow1`/`inHigh1` and the second pass
    of either kind stays strictly inside `(-4M, 4M)`, and `4M = 2^Kmax` for all four level-1 bands. Neighbours are
    arbitrary in-range values, which covers the symmetric extension at the borders. -/
theorem kmax_level1_sufficient (bd : Nat) (rct : Bool) (hbd : 1 ≤ bd) (M : Int) (hM : M = 2 ^ (bd + rct.toNat - 1)) :
    (∀ a b c d e, inSamples M a → inSamples M b → inSamples M c → inSamples M d → inSamples M e →
      inLow1 M (lift53Low (lift53High a b c) c (lift53High c d e))) ∧
    (∀ a b c, inSamples M a → inSamples M b → inSamples M c → inHigh1 M (lift53High a b c)) ∧
    (∀ res band, res ≤ 1 → band ≤ 3 →
      let K : Int := ((2 ^ (encBandNumbps 1 bd rct res band).toNat : Nat) : Int)
      (∀ a b c d e, inLow1 M a → inLow1 M b → inLow1 M c → inLow1 M d → inLow1 M e →
        -K < lift53Low (lift53High a b c) c (lift53High c d e) ∧ lift53Low (lift53High a b c) c (lift53High c d e) < K) ∧
      (∀ a b c d e, inHigh1 M a → inHigh1 M b → inHigh1 M c → inHigh1 M d → inHigh1 M e →
        -K < lift53Low (lift53High a b c) c (lift53High c d e) ∧ lift53Low (lift53High a b c) c (lift53High c d e) < K) ∧
      (∀ a b c, inLow1 M a → inLow1 M b → inLow1 M c → -K < lift53High a b c ∧ lift53High a b c < K) ∧
      (∀ a b c, inHigh1 M a → inHigh1 M b → inHigh1 M c → -K < lift53High a b c ∧ lift53High a b c < K)) := by
  have hM1 : 1 ≤ M := by
    rw [hM]; have : (0 : Int) < 2 ^ (bd + rct.toNat - 1) := Int.pow_pos (by decide); omega
  refine ⟨fun a b c d e ha hb hc hd he => ?_, fun a b c ha hb hc => ?_, ?_⟩
  · have := lift53Low_bounds _ _ a b c d e ha hb hc hd he
    unfold inLow1; omega
  · have := lift53High_bounds _ _ a b c ha hb hc
    unfold inHigh1; omega
  intro res band hres hband
  have hb : ∀ r : Fin 2, ∀ b : Fin 4, biboLog2 1 r b = 2 := by decide
  have hK := kmax_pow 1 bd rct res band (by omega) (hb ⟨res, by omega⟩ ⟨band, by omega⟩)
  simp only [hK, ← hM]
  clear hK hM
  refine ⟨fun a b c d e ha hb hc hd he => ?_, fun a b c d e ha hb hc hd he => ?_,
    fun a b c ha hb hc => ?_, fun a b c ha hb hc => ?_⟩
  · have := lift53Low_bounds _ _ a b c d e ha hb hc hd he
    omega
  · have := lift53Low_bounds _ _ a b c d e ha hb hc hd he
    omega
  · have := lift53High_bounds _ _ a b c ha hb hc
    omega
  · have := lift53High_bounds _ _ a b c ha hb hc
    omega

example : inSamples 128 (-128) ∧ inSamples 128 127 ∧ lift53High (-128) 127 (-128) = 255 ∧ inHigh1 128 255 ∧
    lift53High (-255) 255 (-255) = 510 ∧ (510 : Int) < 2 ^ (encBandNumbps 1 8 false 1 3).toNat := by
  unfold inSamples inHigh1; decide

/-- the sign-magnitude word built by `encodeOpenJPHCleanup` and taken apart by `decodeOpenJPHCleanup` is exact for
    every coefficient that fits in Kmax ≤ 31 magnitude bits — the block coder's contract, which `kmax_0levels`,
    `kmax_0levels_rct`, `kmax_level1_sufficient` establish for the coefficients the encoder produces at 0 and 1 levels,
    `kmax_level2_hl_lh_sufficient` for two bands at 2 levels, and `kmax_sufficient_of_gain` only under its gain hypothesis -/
theorem signmag_roundtrip (kmax : Nat) (hk : kmax ≤ 31) (v : Int) (hv : v.natAbs < 2 ^ kmax) :
    fromSignMag kmax (toSignMag kmax v) = v := by
  rw [toSignMag_eq kmax hk v hv, fromSignMag_eq kmax _ (mag_shift_lt kmax hk _ hv) _ (sgnBit_le v),
    Nat.mul_div_cancel _ (Nat.two_pow_pos _)]
  exact sgnBit_natAbs v

/-- the contract is tight: a magnitude of exactly 2^Kmax turns into the word 0x80000000 ("−0"), its magnitude field is
    0 (coded as insignificant) and it comes back as 0 — what the old Kmax = P−1 did to the sample −128 -/
example : toSignMag 7 (-128) = 0x80000000 ∧ magField 7 (toSignMag 7 (-128)) = 0 ∧ fromSignMag 7 (toSignMag 7 (-128)) = 0 ∧
    fromSignMag 15 (toSignMag 15 (-32767)) = -32767 := by decide

/-- `writeScupLocator` then `parseStandardSegments`: the 12-bit Scup value is read back exactly, the upper nibble
    of the second-to-last byte (VLC bits) is untouched, both bytes stay bytes -/
theorem scup_roundtrip (oldLast2 scup : Nat) (hs : scup < 4096) :
    let w := scupWrite oldLast2 scup
    scupRead w.1 w.2 = scup ∧ w.1 / 16 = oldLast2 % 256 / 16 ∧ w.1 < 256 ∧ w.2 < 256 := by
  unfold scupWrite scupRead; omega

/-- an accepted locator splits the code-block exactly: MagSgn bytes + (MEL+VLC) bytes = Lcup, with at least the two
    locator bytes in the suffix and at most 4079 -/
theorem scup_split_exact (lcup scup ms cl : Nat) (h : scupSplit lcup scup = some (ms, cl)) :
    ms + cl = lcup ∧ cl = scup ∧ 2 ≤ cl ∧ cl ≤ 4079 := by
  unfold scupSplit at h
  split at h
  · simp at h
  · simp only [Option.some.injEq, Prod.mk.injEq] at h; omega

example : scupWrite 0xA7 0x123 = (0xA3, 0x12) ∧ scupRead 0xA3 0x12 = 0x123 ∧ scupSplit 300 0x123 = some (9, 291) ∧
    scupSplit 1 2 = none ∧ scupSplit 5000 4080 = none := by decide

/-! ## VLC / U-VLC tables (generated from vlc_tables.go) -/

/-- `VLCTbl0` (initial quad row): all 444 rows well-formed; within each of the 8 contexts no codeword is a
    prefix (LSB-first) of another -/
theorem vlc_tbl0_prefix_free : vlcTableOk Gen.Htj2k.VLCTbl0 = true := vlcTableOk_of_rowsOk _ tbl0_ok.1 tbl0_ok.2.1

/-- `VLCTbl1` (non-initial rows, 358 rows): same -/
theorem vlc_tbl1_prefix_free : vlcTableOk Gen.Htj2k.VLCTbl1 = true := vlcTableOk_of_rowsOk _ tbl1_ok.1 tbl1_ok.2.1

/-- both tables are complete prefix codes in every context: Kraft sum exactly 1 (= 128/128), so every 7-bit
    window the decoder peeks at matches exactly one row -/
theorem vlc_tbl_complete :
    (List.range 8).map (vlcKraft Gen.Htj2k.VLCTbl0) = List.replicate 8 128 ∧
    (List.range 8).map (vlcKraft Gen.Htj2k.VLCTbl1) = List.replicate 8 128 := ⟨tbl0_ok.kraft, tbl1_ok.kraft⟩

/-- the four U-VLC prefixes `1`, `01`, `001`, `000` (LSB first) are prefix-free and complete -/
theorem uvlc_prefix_free : prefixFreeKeys uvlcPrefixes = true ∧
    uvlcPrefixes.foldl (fun acc k => acc + 2 ^ (3 - k.2.2)) 0 = 8 := by decide

/-- for every code 1..92 the encoder's `ojphUVLC` uses exactly those prefixes, and its (prefix, suffix, extension) value
    decodes back: u = 1, 2, 3 + suf, 5 + suf (suf < 28), 33 + (suf − 28) + 4·ext -/
theorem ojphUVLC_decodes (code : Int) (h1 : 1 ≤ code) (h2 : code ≤ 92) :
    let (pre, preLen, suf, sufLen, ext, extLen) := ojphUVLC code
    ((pre.toNat, preLen.toNat) ∈ [(1, 1), (2, 2), (4, 3), (0, 3)]) ∧ 0 ≤ suf ∧ suf < 2 ^ sufLen.toNat ∧
    0 ≤ ext ∧ ext < 2 ^ extLen.toNat ∧
    code = (if pre = 1 then 1 else if pre = 2 then 2 else if pre = 4 then 3 + suf
            else if suf < 28 then 5 + suf else 33 + (suf - 28) + 4 * ext) := by
  -- 92 codes: the statement is evaluated at each
  obtain ⟨n, rfl⟩ : ∃ n : Fin 93, code = (n.val : Int) :=
    ⟨⟨code.toNat, by omega⟩, (Int.toNat_of_nonneg (by omega)).symm⟩
  revert n
  decide +kernel

/-- non-initial quad rows: `decodeOJPHUVLC(false, mode, window)` returns exactly the `(u0, u1)` that
    `ojphEncodeNonInitialUVLC` coded and consumes exactly the coded bits — for every `u0, u1 ≤ 32` (the encoder never
    writes the 4-bit extension, so 32 is the largest value the pair can carry; Kmax ≤ 30 keeps u below it) and for
    EVERY continuation `rest` of the VLC bit stream after the code (the decoder's 6-bit prefix look-ahead never
    lets following bits change the result). Tables: model of `generateUVLCTables`, compared entry by entry with the
    package's `UVLCTbl1`. -/
theorem uvlc_noninitial_roundtrip (u0 u1 rest : Nat) (h0 : u0 ≤ 32) (h1 : u1 ≤ 32) :
    decodeUVLC false (uvlcMode false u0 u1)
      ((encodeNonInitialUVLC u0 u1).1 + rest * 2 ^ (encodeNonInitialUVLC u0 u1).2) =
      (u0, u1, (encodeNonInitialUVLC u0 u1).2) := by
  have h := decodeUVLC_items false u0 u1 rest h0 h1
  rwa [winOf_concat, uvlcItems_concat] at h

/-- initial quad row: same for `ojphEncodeInitialUVLC` with its three layouts (both > 2 with MEL event 1 and codes
    of u−2; u0 > 2 with a 1-bit u1 ∈ {1,2} between prefix and suffix; the general prefix-prefix-suffix-suffix layout),
    the mode including the MEL event exactly as `mel.encode(min(u0,u1) > 2)` signals it -/
theorem uvlc_initial_roundtrip (u0 u1 rest : Nat) (h0 : u0 ≤ 32) (h1 : u1 ≤ 32) :
    decodeUVLC true (uvlcMode true u0 u1)
      ((encodeInitialUVLC u0 u1).1 + rest * 2 ^ (encodeInitialUVLC u0 u1).2) =
      (u0, u1, (encodeInitialUVLC u0 u1).2) := by
  have h := decodeUVLC_items true u0 u1 rest h0 h1
  rwa [winOf_concat, uvlcItems_concat] at h

example : encodeInitialUVLC 7 9 = (0x1000, 16) ∧ uvlcMode true 7 9 = 256 ∧ decodeUVLC true 256 (0x1000 + 5 * 2 ^ 16) = (7, 9, 16) ∧
    encodeInitialUVLC 5 1 = (0, 9) ∧ uvlcMode true 5 1 = 192 ∧ encodeNonInitialUVLC 32 0 = (0xD8, 8) ∧
    uvlcTbl0 64 = 5803 ∧ uvlcTbl1 255 = 9218 := by decide

/-! ## HT packet header: empty-band signalling (seeded change C06-m2 lands here) -/

/-- what `encodeHTJ2KPacketHeader` writes, for ANY sequence of bands (absent / code-blocks but none coded / coded):
    `0` when no band is coded; otherwise `1`, then in band order nothing for an absent band, ONE `0` for each band with
    code-blocks but none coded — also for those before the first coded band (`for range skippedBands`) — and the band's
    own bits for a coded band. Tied to the real writer by op `htj2k-pkthdr` (all 26 kind patterns × 3 body variants). -/
theorem ht_header_bits (bands : List HtBand) :
    encodeHtBands bands = if bands.any HtBand.isCoded then true :: bandsBits bands else [false] := by
  unfold encodeHtBands
  have h := HtHdrSt.foldl_band bands {}
  show (let st := bands.foldl HtHdrSt.band {}; if st.coded then st.out else st.out ++ [false]) = _
  simp only [h.1, h.2]
  cases bands.any HtBand.isCoded <;> simp

/-- round trip with the decoder's reading (`parsePacketHeaderMulti`: packet bit, then per band with code-blocks the
    root of a fresh inclusion tag tree — `0` = nothing of the band included, no further bits for it), for any pattern
    of empty bands, given only that a coded band starts with its root bit `1` and that the rest of its bits is
    self-delimiting for the band parser (`HtBand.WellFormed`): every band is classified correctly, every coded band's
    bits are handed to the band parser at the right offset, and exactly the header's bits are consumed. -/
theorem ht_header_bands_roundtrip {α : Type} (parseTail : List Bool → Option (α × List Bool)) (info : List Bool → α)
    (bands : List HtBand) (hwf : ∀ b ∈ bands, b.WellFormed parseTail info) (rest : List Bool) :
    decodeHtBands parseTail (bands.map HtBand.present) (encodeHtBands bands ++ rest) =
      some (bands.map (HtBand.result info), rest) := by
  rw [ht_header_bits]
  by_cases hc : bands.any HtBand.isCoded = true
  · simp only [hc, if_true, List.cons_append, decodeHtBands]
    exact decodeHtBandsAux_bands parseTail info bands hwf rest
  · have hc' : bands.any HtBand.isCoded = false := by simpa using hc
    simp only [hc', Bool.false_eq_true, if_false, List.cons_append, List.nil_append, decodeHtBands]
    congr 2
    rw [List.map_map]
    apply List.map_congr_left
    intro b hb
    cases b with
    | absent => rfl
    | empty => rfl
    | coded body =>
      exfalso; apply hc
      exact List.any_eq_true.mpr ⟨_, hb, rfl⟩

/-- the checkerboard case (HL, LH empty, HH coded): two `0` bits between the packet bit and HH's bits; with a single `0`
    (the seeded variant) the decoder would take HH's root bit `1` for LH's and mis-assign the band -/
example : encodeHtBands [.empty, .empty, .coded [true, true, false]] = [true, false, false, true, true, false] ∧
    encodeHtBands [.empty, .absent, .empty] = [false] ∧
    encodeHtBands [.coded [true], .empty, .coded [true, false]] = [true, true, false, true, false] ∧
    decodeHtBands (fun s => some (s.take 2, s.drop 2)) [true, true, true] [true, false, false, true, true, false, true] =
      some ([some none, some none, some (some [true, false])], [true]) := by decide

/-! ## U_q, missing MSBs and Kmax (seeded change C06-m1 lands here) -/

/-- the exponent the cleanup encoder computes for a significant coefficient (`prepareOJPHSample`:
    `bits.Len32(((t+t)>>p &^ 1) - 1)` on the sign-magnitude word, `p = 31 - Kmax`) is the bit length of `2|v|-1`:
    between 1 and Kmax+1 for every admissible coefficient, 0 for 0 -/
theorem sample_exponent_range (kmax : Nat) (hk : 1 ≤ kmax ∧ kmax ≤ 30) (v : Int) (hv : v.natAbs < 2 ^ kmax) :
    sampleVal kmax (toSignMag kmax v) = 2 * v.natAbs ∧
    sampleEQ kmax (toSignMag kmax v) ≤ kmax + 1 ∧ (v ≠ 0 → 1 ≤ sampleEQ kmax (toSignMag kmax v)) ∧
    (v = 0 → sampleEQ kmax (toSignMag kmax v) = 0) :=
  ⟨sampleVal_signMag kmax hk v hv, sampleEQ_range kmax hk v hv⟩

/-- FIRST row pair: the U_q the encoder signals (`uq = max(eQMax, 1)`, eQMax the largest exponent of the quad) lies in
    `1 .. missingMSBs+2` (missingMSBs = Kmax-1), so the decoder's check `uq > mmsbp2` accepts it … -/
theorem uq_initial_accepted (kmax : Nat) (hk : 1 ≤ kmax ∧ kmax ≤ 30) (v0 v1 v2 v3 : Int)
    (h0 : v0.natAbs < 2 ^ kmax) (h1 : v1.natAbs < 2 ^ kmax) (h2 : v2.natAbs < 2 ^ kmax) (h3 : v3.natAbs < 2 ^ kmax) :
    let uq := uqInitial (max (max (sampleEQ kmax (toSignMag kmax v0)) (sampleEQ kmax (toSignMag kmax v1)))
      (max (sampleEQ kmax (toSignMag kmax v2)) (sampleEQ kmax (toSignMag kmax v3))))
    1 ≤ uq ∧ uq ≤ (kmax - 1) + 2 ∧ uqAccepted uq (kmax - 1) = true := by
  intro uq
  have hu : uq ≤ kmax + 1 := Nat.max_le.mpr ⟨Nat.max_le.mpr
    ⟨Nat.max_le.mpr ⟨(sampleEQ_range kmax hk v0 h0).1, (sampleEQ_range kmax hk v1 h1).1⟩,
     Nat.max_le.mpr ⟨(sampleEQ_range kmax hk v2 h2).1, (sampleEQ_range kmax hk v3 h3).1⟩⟩, by omega⟩
  exact ⟨Nat.le_max_right _ _, by omega, (uqAccepted_iff _ _).mpr (by omega)⟩

/-- … and the accepted range is EXACT: every `uq` in `1 .. missingMSBs+2` is signalled by some admissible quad
    (Kmax ≥ 2; one witness each, a quad with this one significant sample), in particular `uq = missingMSBs+2` (129 at
    Kmax = 8 below); the check accepts `uq` iff `uq ≤ missingMSBs+2`.
    A one-sided tightening (`>=`) rejects blocks the encoder produces. -/
theorem uq_accepted_range_exact (kmax : Nat) (hk : 2 ≤ kmax ∧ kmax ≤ 30) :
    (∀ uq : Nat, uqAccepted uq (kmax - 1) = true ↔ uq ≤ (kmax - 1) + 2) ∧
    (∀ uq : Nat, 1 ≤ uq → uq ≤ (kmax - 1) + 2 →
      ∃ v : Int, v.natAbs < 2 ^ kmax ∧ uqInitial (sampleEQ kmax (toSignMag kmax v)) = uq) := by
  constructor
  · intro uq
    rw [uqAccepted_iff]
    omega
  · intro uq h1 h2
    obtain ⟨v, hv, he⟩ := sampleEQ_onto kmax uq hk ⟨h1, by omega⟩
    exact ⟨v, hv, by rw [he]; unfold uqInitial; omega⟩

/-- LATER row pairs: `U_q = max(eQMax, kappa)`, `kappa = max(1, maxE)` for quads with ≥ 2 significant samples, `maxE` one
    less than the larger exponent of the two samples above — all exponents ≤ Kmax+1 — again in `1 .. missingMSBs+2`, accepted by the same check
    in the second loop of `decodeOJPHScratchMagSgn`; with a single significant sample it equals the first-row value,
    so the range is exact here too -/
theorem uq_later_accepted (kmax eQMax e0 e1 : Nat) (two : Bool) (hk : 1 ≤ kmax)
    (hq : eQMax ≤ kmax + 1) (h0 : e0 ≤ kmax + 1) (h1 : e1 ≤ kmax + 1) :
    1 ≤ uqLater eQMax two e0 e1 ∧ uqLater eQMax two e0 e1 ≤ ((kmax - 1 : Nat) : Int) + 2 ∧
    uqAccepted (uqLater eQMax two e0 e1) (kmax - 1) = true ∧
    (1 ≤ eQMax → uqLater eQMax false e0 e1 = uqInitial eQMax) := by
  have h := uqLater_range kmax eQMax e0 e1 two hq h0 h1
  refine ⟨h.1, by omega, (uqAccepted_iff _ _).mpr (by omega), ?_⟩
  · intro h1; unfold uqLater uqInitial; simp; omega

example : sampleEQ 8 (toSignMag 8 129) = 9 ∧ uqInitial 9 = (8 - 1) + 2 ∧ uqAccepted 9 7 = true ∧ uqAccepted 10 7 = false ∧
    sampleEQ 8 (toSignMag 8 128) = 8 ∧ sampleEQ 8 (toSignMag 8 (-1)) = 1 ∧ uqLater 3 true 9 2 = 8 := by decide

/-- MagSgn stream round trip: for every sequence of codewords `(cwd, len)`, `len ≥ 1`, written by
    `ojphMSWriter.encode` (LSB first, a byte that follows 0xFF carries 7 bits) and closed by `terminate` (open byte
    filled with 1s; an all-ones last byte dropped), `MagSgnDecoder.readBits` with the same lengths returns exactly
    `cwd mod 2^len` each — the dropped / missing tail is regenerated by the decoder's 0xFF feeding. (The model's registers
    are unbounded; Go's `cwd` is a uint32 and the reader's buffer a uint64, which serves the `len ≤ Kmax+1 ≤ 31` of the block coder.) -/
theorem magsgn_roundtrip (ws : List (Nat × Nat)) (hpos : ∀ w ∈ ws, 1 ≤ w.2) :
    MsReader.readAll { rest := ((({} : MsWriter).encodeAll ws).terminate) } (ws.map (·.2)) =
      ws.map (fun w => w.1 % 2 ^ w.2) := by
  obtain ⟨a1, a2⟩ := msw_all ws {} msw_init
  apply msr_all ws _ [] ⟨Nat.one_pos, (msw_terminate _ a1).2⟩
  show sbit (unpackL false _) = _
  rw [(msw_terminate _ a1).1, a2]
  simp [MsWriter.view, unpackBy, bitsLSB_zero]

/-- the bytes the MagSgn writer has completed (`buf`, before `terminate` adds or drops the last one) obey the stuffing
    rule (no byte ≥ 0x80 after 0xFF) and are bytes -/
theorem magsgn_stuffed (ws : List (Nat × Nat)) :
    Stuffed false (({} : MsWriter).encodeAll ws).buf ∧ ∀ x ∈ (({} : MsWriter).encodeAll ws).buf, x < 256 := by
  have h := (msw_all ws {} msw_init).1
  exact ⟨h.stuffed, h.bytes⟩

example : (({} : MsWriter).encodeAll [(0xFF, 8), (0x7F, 7), (5, 3), (1, 1)]).terminate = [0xFF, 0x7F, 0xFD] ∧
    MsReader.readAll { rest := [0xFF, 0x7F, 0xFD] } [8, 7, 3, 1] = [0xFF, 0x7F, 5, 1] ∧
    (({} : MsWriter).encodeAll [(0xFF, 8)]).terminate = [] ∧ MsReader.readAll { rest := [] } [8] = [0xFF] := by decide

/-- `terminateOJPHMELVLC` shares one byte between the MEL tail (top bits) and the VLC tail (bottom bits) only when
    the shared byte agrees with the MEL register on every MEL bit and with the VLC register on every VLC bit
    (and is not 0xFF): neither reader sees a changed bit -/
theorem fusion_byte_lossless (melTmp vlcTmp melMask vlcMask : Nat)
    (h : (((melTmp ||| vlcTmp) ^^^ melTmp) &&& melMask) ||| (((melTmp ||| vlcTmp) ^^^ vlcTmp) &&& vlcMask) = 0) :
    (melTmp ||| vlcTmp) &&& melMask = melTmp &&& melMask ∧ (melTmp ||| vlcTmp) &&& vlcMask = vlcTmp &&& vlcMask := by
  obtain ⟨h1, h2⟩ := Nat.or_eq_zero_iff.mp h
  rw [Nat.and_xor_distrib_right] at h1 h2
  exact ⟨Nat.eq_of_xor_eq_zero h1, Nat.eq_of_xor_eq_zero h2⟩

/-- Scup = MEL bytes + VLC bytes is at least 2 in all three exits of `terminateOJPHMELVLC`, GIVEN `hbuf`, `hinv`, `hu`
    of the VLC writer (it starts with the locator byte 0xFF and 4 used bits; `usedBits = 0` only right after it appended
    a byte; no theorem here derives them from `VlcWriter.encode`), so the locator
    written by `writeScupLocator` always lands inside the suffix and `parseStandardSegments` accepts it
    (`scup_roundtrip`, `scup_split_exact`) as long as the suffix is shorter than 4080 bytes -/
theorem scup_consistent (pk : MelPacker) (vlcBuf : List Nat) (vlcTmp vlcUsed : Nat)
    (hbuf : 1 ≤ vlcBuf.length) (hinv : vlcUsed = 0 → 2 ≤ vlcBuf.length) (hu : vlcUsed ≤ 8)
    (msLen : Nat) (hlt : scupOf (terminateMelVlc pk vlcBuf vlcTmp vlcUsed) ≤ 4079) :
    let scup := scupOf (terminateMelVlc pk vlcBuf vlcTmp vlcUsed)
    2 ≤ scup ∧ scupSplit (msLen + scup) scup = some (msLen, scup) := by
  intro scup
  have h2 : 2 ≤ scup := scup_at_least_two pk vlcBuf vlcTmp vlcUsed hbuf hinv
  refine ⟨h2, ?_⟩
  unfold scupSplit
  have : ¬ (msLen + scup < 2 ∨ scup < 2 ∨ scup > msLen + scup ∨ scup > 4079) := by omega
  simp [this]

example : terminateMelVlc { buf := [0x12], tmp := 0b101, remainingBits := 5 } [0xFF, 0x34] 0b00010 2 = ([0x12, 0xA2], [0xFF, 0x34]) ∧
    terminateMelVlc { buf := [0x12], tmp := 0b101, remainingBits := 5 } [0xFF, 0x34] 0b10000010 8 = ([0x12, 0xA0], [0xFF, 0x34, 0x82]) ∧
    terminateMelVlc { buf := [0x12], tmp := 0b101, remainingBits := 5 } [0xFF] 0b0010 4 = ([0x12, 0xA0], [0xFF, 0x02]) := by
  decide

/-- two decomposition levels, bands HL and LH of the second decomposition (resolution 1), PROVED from the lifting
    formulas by interval composition (gains 9/4 · 3/2 · 2 = 27/4 < 8 = 2^X): LL1 values lie in `inLL1`, the first pass of
    the second decomposition maps them into `inLow2a` / `inHigh2a`, and the second pass of the other kind stays strictly
    inside `(-8M, 8M)` with `8M = 2^Kmax` (M = 2^(precision-1) ≥ 8). For LL2 and HH2 the per-level interval bound
    (gains 81/16 > 4 and 9 > 8) is too weak; there `kmax_sufficient_of_gain` with its hypothesis remains. -/
theorem kmax_level2_hl_lh_sufficient (bd : Nat) (rct : Bool) (hbd : 4 ≤ bd) (M : Int) (hM : M = 2 ^ (bd + rct.toNat - 1)) :
    (∀ a b c d e, inLow1 M a → inLow1 M b → inLow1 M c → inLow1 M d → inLow1 M e →
      inLL1 M (lift53Low (lift53High a b c) c (lift53High c d e))) ∧
    (∀ a b c d e, inLL1 M a → inLL1 M b → inLL1 M c → inLL1 M d → inLL1 M e →
      inLow2a M (lift53Low (lift53High a b c) c (lift53High c d e))) ∧
    (∀ a b c, inLL1 M a → inLL1 M b → inLL1 M c → inHigh2a M (lift53High a b c)) ∧
    (∀ band, band = 1 ∨ band = 2 →
      let K : Int := ((2 ^ (encBandNumbps 2 bd rct 1 band).toNat : Nat) : Int)
      (∀ a b c, inLow2a M a → inLow2a M b → inLow2a M c → -K < lift53High a b c ∧ lift53High a b c < K) ∧
      (∀ a b c d e, inHigh2a M a → inHigh2a M b → inHigh2a M c → inHigh2a M d → inHigh2a M e →
        -K < lift53Low (lift53High a b c) c (lift53High c d e) ∧ lift53Low (lift53High a b c) c (lift53High c d e) < K)) := by
  have hM8 : 8 ≤ M := by
    rw [hM]
    have h : (2 : Int) ^ 3 ≤ 2 ^ (bd + rct.toNat - 1) := Int.two_pow_mono (by omega)
    have : (2 : Int) ^ 3 = 8 := by decide
    omega
  refine ⟨fun a b c d e ha hb hc hd he => ?_, fun a b c d e ha hb hc hd he => ?_, fun a b c ha hb hc => ?_, ?_⟩
  · have := lift53Low_bounds _ _ a b c d e ha hb hc hd he
    unfold inLL1; omega
  · have := lift53Low_bounds _ _ a b c d e ha hb hc hd he
    unfold inLow2a; omega
  · have := lift53High_bounds _ _ a b c ha hb hc
    unfold inHigh2a; omega
  intro band hband
  have hK := kmax_pow 2 bd rct 1 band (X := 3) (by omega) (by rcases hband with rfl | rfl <;> decide)
  simp only [hK, ← hM]
  clear hK hM
  refine ⟨fun a b c ha hb hc => ?_, fun a b c d e ha hb hc hd he => ?_⟩
  · have := lift53High_bounds _ _ a b c ha hb hc
    omega
  · have := lift53Low_bounds _ _ a b c d e ha hb hc hd he
    omega

/-! ## The cleanup pass itself: context VLC, one sample, the first-row quad pair

  `Model/Htj2kBlock.lean` is a code-shaped model of the WHOLE cleanup encoder (`encodeOpenJPHCleanup` with both row
  loops, the three bit writers, termination, fusion byte, Scup) — byte-exact against `HTEncoder.Encode` on every block
  the harness tries (op `ht-enc`) — and of the decoder at stream level (`ht-dec`, incl. foreign band precisions).
  Proved: the layers a whole-block lock-step needs, up to and including one first-row quad pair. -/

/-- context-VLC round trip over the generated tables, both quad-row kinds: for every index the encoder can form
    (`eps ⊆ rho`, not an all-zero quad in context 0) `initOJPHEncoderVLCTable` holds a row, and `InitVLCTables` maps that
    row's codeword followed by ANY further bits, in the same context, back to the same row — so the decoder recovers
    rho, u_off (= eps ≠ 0) and an (e_k, e_1) pair with `e_1 = eps & e_k`. -/
theorem vlc_cxt_roundtrip (initial : Bool) (cq rho eps : Nat) (hcq : cq < 8) (hrho : rho < 16) (heps : eps < 16)
    (hsub : eps &&& rho = eps) (hnz : ¬ (rho = 0 ∧ cq = 0)) :
    ∃ r, encSelect (rowsOf initial) cq rho eps = some r ∧
      (∀ rest, decLookup (rowsOf initial) cq ((r.cwd + rest * 2 ^ r.len) % 128) = some r) ∧
      r.rho = rho ∧ r.uoff = (if eps = 0 then 0 else 1) ∧ eps &&& r.ek = r.e1 ∧ 1 ≤ r.len ∧ r.len ≤ 7 := by
  obtain ⟨hok, hcomp⟩ := rowsOf_ok initial
  obtain ⟨r, hr, hd, hrho', huoff, he1, hl1, hl7, _⟩ :=
    encSelect_decLookup (rowsOf initial) hok hcomp cq rho eps hcq hrho heps hsub hnz
  exact ⟨r, hr, hd, hrho', huoff, he1, hl1, hl7⟩

/-- one significant sample (`v ≠ 0`) through MagSgn: from the `m = U_q - e_k` low bits of `s = 2|v| - 2 + sign`
    (`prepareOJPHSample`, `ojphEncodeMagSgn`) and the quad row's (e_k, e_1) bits, `decodeOJPHSampleMS` (its arithmetic written
    out in the statement as in `decSample`, the MagSgn reader left out) + the final shift return exactly `v`, and
    its `v_n` is `2|v| - 1`; hypotheses: `U_q` bounds the sample's exponent, an e_k bit occurs only with `U_q ≥ 2` and then
    e_1 says whether the exponent equals `U_q`, no e_1 bit without an e_k bit (what `eps` and the VLC row guarantee) -/
theorem sample_roundtrip (kmax : Nat) (hk : 1 ≤ kmax ∧ kmax ≤ 30) (v : Int) (hv : v.natAbs < 2 ^ kmax) (hv0 : v ≠ 0)
    (uq ekb e1b : Nat) (hek : ekb ≤ 1)
    (h1 : (prepSample kmax (toSignMag kmax v)).2.1 ≤ uq) (huq : 1 ≤ uq)
    (h2 : ekb = 1 → 2 ≤ uq ∧ (e1b = 1 ↔ (prepSample kmax (toSignMag kmax v)).2.1 = uq) ∧ e1b ≤ 1)
    (h3 : ekb = 0 → e1b = 0) :
    let s := (prepSample kmax (toSignMag kmax v)).2.2
    let mn := uq - ekb
    let msVal := s % 2 ^ mn
    let vn := (msVal % 2 ^ mn + e1b * 2 ^ mn) / 2 * 2 + 1
    1 ≤ mn ∧ vn = 2 * v.natAbs - 1 ∧
    fromSignMag kmax (msVal % 2 * 2 ^ 31 + (vn + 2) * 2 ^ (30 - kmax) % 2 ^ 32) = v := by
  rw [prepSample_signMag kmax hk v hv] at h1 h2 ⊢
  simp only [hv0, if_false] at h1 h2 ⊢
  obtain ⟨hm, hc⟩ := emb_case v hv0 uq ekb e1b hek h1 huq h2 h3
  have := sample_rebuild kmax hk v hv hv0 (uq - ekb) e1b hm (hc _ (sgnBit_le v))
  exact ⟨hm, this.1, this.2⟩

/-- the first-row quad pair, VLC + MEL + U-VLC lock step: whatever context `cq0` the pair starts in, from the MEL
    events and VLC items one turn of `encodeOJPHInitialRows` writes (two quads, or one at a narrow right edge; listed by
    `pairMel` / `pairVlcItems` — that the model's `encInitialPair` logs exactly these is not a theorem here) followed by
    ANY further events / bits, one turn of `decodeOpenJPHInitialRow` recovers both quads' VLC rows (hence rho, e_k, e_1),
    both `U_q = 1 + u`, the next context, and leaves exactly the rest of both streams -/
theorem initial_pair_roundtrip (w x cq0 : Nat) (q0 q1 : QuadSig) (hcq : cq0 < 8) (h0 : q0.Valid) (h1 : q1.Valid)
    (mr : List Bool) (vr : Nat) :
    decInitialPair w x cq0 { mel := pairMel cq0 (decide (x + 2 < w)) q0 q1 ++ mr,
                             vlc := winOf (pairVlcItems cq0 (decide (x + 2 < w)) q0 q1) vr } =
      (((quadRow true cq0 q0.rho q0.eps, 1 + q0.u),
        (if x + 2 < w then quadRow true (q0.rho / 2 ||| q0.rho % 2) q1.rho q1.eps else none,
         1 + (if x + 2 < w then q1.u else 0))),
       (if x + 2 < w then q1.rho / 2 ||| q1.rho % 2 else 0), { mel := mr, vlc := vr }) := by
  have huoff0 := QuadSig.Valid.uoff h0
  have huoff1 := QuadSig.Valid.uoff h1
  obtain ⟨hr0, he0, hs0, _, hu0⟩ := h0
  obtain ⟨hr1, he1, hs1, _, hu1⟩ := h1
  have hrows : vlcRows0 = rowsOf true := rfl
  obtain ⟨Q0, hrho0, hu0', _⟩ := quad_vlc_roundtrip true cq0 q0.rho q0.eps hcq hr0 he0 hs0
  obtain ⟨Q1, hrho1, hu1', _⟩ :=
    quad_vlc_roundtrip true (q0.rho / 2 ||| q0.rho % 2) q1.rho q1.eps (ctx_lt8 _ hr0) hr1 he1 hs1
  rw [decInitialPair_eq]
  by_cases hq : x + 2 < w
  · -- two quads: regroup both streams by reader, then quad, quad, U-VLC
    have e1 : pairMel cq0 true q0 q1 ++ mr = quadMel cq0 q0.rho ++
        (quadMel (q0.rho / 2 ||| q0.rho % 2) q1.rho ++
          ((if q0.u > 0 ∧ q1.u > 0 then [decide (min q0.u q1.u > 2)] else []) ++ mr)) := by
      simp [pairMel, List.append_assoc]
    have e2 : winOf (pairVlcItems cq0 true q0 q1) vr = winOf [quadItem true cq0 q0.rho q0.eps]
        (winOf [quadItem true (q0.rho / 2 ||| q0.rho % 2) q1.rho q1.eps] (winOf (uvlcItems true q0.u q1.u) vr)) := by
      simp only [pairVlcItems, if_true, List.append_assoc]
      rw [winOf_append, winOf_append]
    simp only [hq, decide_true, if_true, e1, e2, hrows, Q0, hrho0, Q1, hrho1, hu0', hu1', huoff0, huoff1,
      pair_uvlc_roundtrip _ _ _ _ hu0 hu1]
  · -- a single quad (last, narrow column pair): the second lookup is skipped, its `u` is 0
    have e1 : pairMel cq0 false q0 q1 ++ mr =
        quadMel cq0 q0.rho ++ ((if q0.u > 0 ∧ 0 > 0 then [decide (min q0.u 0 > 2)] else []) ++ mr) := by
      simp [pairMel]
    have e2 : winOf (pairVlcItems cq0 false q0 q1) vr = winOf [quadItem true cq0 q0.rho q0.eps]
        (winOf (uvlcItems true q0.u 0) vr) := by
      simp only [pairVlcItems, Bool.false_eq_true, if_false, List.append_nil]
      rw [winOf_append]
    have hu1z : rowUoff none = if 0 > 0 then 1 else 0 := rfl
    simp only [hq, decide_false, if_false, e1, e2, hrows, Q0, hrho0, decVlcQuad_absent, hu0', huoff0, hu1z,
      pair_uvlc_roundtrip _ _ _ _ hu0 (Nat.zero_le 32)]
    rfl

/-- its hypotheses hold for every quad the encoder prepares from admissible coefficients: `rho < 16`, `eps ⊆ rho`,
    `eps = 0 ↔ u = 0`, `u ≤ 32` (indeed ≤ Kmax) -/
theorem prepared_quad_valid (kmax : Nat) (hk : 1 ≤ kmax ∧ kmax ≤ 30) (v0 v1 v2 v3 : Int)
    (h0 : v0.natAbs < 2 ^ kmax) (h1 : v1.natAbs < 2 ^ kmax) (h2 : v2.natAbs < 2 ^ kmax) (h3 : v3.natAbs < 2 ^ kmax) :
    let q := prepQuad kmax [toSignMag kmax v0, toSignMag kmax v1, toSignMag kmax v2, toSignMag kmax v3]
    QuadSig.Valid ⟨q.rho, max q.eQMax 1 - 1, epsOf q.eQ q.eQMax ((max q.eQMax 1 - 1 : Nat) : Int)⟩ := by
  intro q
  obtain ⟨hrho, heq, hmax⟩ := prepQuad_four kmax (toSignMag kmax v0) (toSignMag kmax v1) (toSignMag kmax v2) (toSignMag kmax v3)
  obtain ⟨a0, c0⟩ := prepSample_exponent kmax hk v0 h0
  obtain ⟨a1, c1⟩ := prepSample_exponent kmax hk v1 h1
  obtain ⟨a2, c2⟩ := prepSample_exponent kmax hk v2 h2
  obtain ⟨a3, c3⟩ := prepSample_exponent kmax hk v3 h3
  show QuadSig.Valid ⟨q.rho, max q.eQMax 1 - 1, epsOf q.eQ q.eQMax _⟩
  rw [show q.rho = _ from hrho, show q.eQ = _ from heq, epsOf_four]
  have hM : q.eQMax = _ := hmax
  exact quadSig_valid _ _ _ _ _ _ _ _ q.eQMax a0 a1 a2 a3 (by omega) (by omega)

set_option maxRecDepth 100000 in
/-- non-vacuity / regression anchor: a whole 2×2 block through the encoder model (bytes as the real encoder emits them)
    and back through the stream-level decoder model, evaluated by the kernel -/
example : htEncodeBlock 8 2 2 [5, -3, 0, 127] = some [136, 2, 1, 0, 116, 0] ∧
    (htEncodeState 8 2 2 [5, -3, 0, 127]).bind (htDecodeFromEnc 8 2 2) = some [5, -3, 0, 127] ∧
    (htEncodeState 8 2 2 [5, -3, 0, 127]).bind (htDecodeFromEnc 6 2 2) = none := by decide +kernel

/-! ## Tile-parts: Psot and the TLM walk (shared with C16) -/

/-- the Psot values `writeHTJ2KTileParts` writes add up to the bytes it emits (one tile-part per resolution:
    12-byte SOT, header, 2-byte SOD, packets), provided each part is shorter than 2^32 bytes -/
theorem tileparts_psot_sum (parts : List (Nat × Nat)) (hfit : ∀ p ∈ parts, p.2 + p.1 + 14 < 2 ^ 32) :
    (psots parts).sum = (parts.map (fun p => tilePartLen p.1 p.2)).sum := psots_sum parts hfit

/-- `writeTLM`'s walk over the tile-part buffer (follow Psot from offset 0, reject `< 14` or overrun) succeeds,
    visits one offset per tile-part — `writeTLM` makes one 6-byte entry (tile index, Psot) per visit; the marker's
    bytes are not modelled — and ends exactly at the end of the buffer -/
theorem tileparts_tlm_walk (parts : List (Nat × Nat)) (hfit : ∀ p ∈ parts, p.2 + p.1 + 14 < 2 ^ 32) :
    ∃ offs, tlmWalk (parts.map (fun p => tilePartLen p.1 p.2)).sum (psots parts) 0 = some offs ∧
      offs.length = parts.length := by
  rw [psots_eq parts hfit]
  obtain ⟨offs, h1, h2⟩ := tlmWalk_lens (parts.map fun p => tilePartLen p.1 p.2) (fun l hl => by
    obtain ⟨p, _, rfl⟩ := List.mem_map.mp hl
    simp only [tilePartLen]; omega) 0 _ (Nat.zero_add _).symm
  exact ⟨offs, h1, by rw [h2, List.length_map]⟩

example : psots [(0, 10), (0, 0), (5, 7)] = [24, 14, 26] ∧
    tlmWalk 64 [24, 14, 26] 0 = some [0, 24, 38] ∧ tilePartsOk 64 true [24, 14, 26] [0, 1, 2] [3, 3, 3] [24, 14, 26] = true := by
  decide

end Htj2k
