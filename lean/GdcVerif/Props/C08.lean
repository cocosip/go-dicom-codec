import GdcVerif.Lemmas.RleTotal
import GdcVerif.Lemmas.ParsersTotal
import GdcVerif.Model.J2kParse
import GdcVerif.Lemmas.JlsRunBound
import GdcVerif.Lemmas.J2kMctTotal
/-!
  C08 — no decoder panics: every byte string yields a result or an error.

  Models follow /repo HEAD after the guard commits (1cb8f42, b3192bf, 8718df8, c3ac264, 456a615,
  871ae92, e67cccf, 9650374, f4e8601, 879b6e2, 7825a71, 72b8b5a, 43b6ee7).  Every index, division and `make` the Go code
  performs on stream-derived values is an explicit `panic site` branch of the model, placed after
  the guard the code now has; the theorems below show every such branch dead — for ALL byte
  strings (and all uint16 frame descriptions for RLE), at loop level (the marker loops are
  well-founded recursions on the unread length, `PC.run`).  The byte strings that used to panic
  are kept as regression `example`s: they are errors now.
  Entry points without a model (entropy decoding other than MQ, T2 bodies, HT cleanup, the whole jpeg/extended
  decoder — `decodeSequential12` with its own marker loop and parseSOF1 / parseDQT / parseDHT / parseSOS —,
  block decoding, pixel conversion, image/jpeg) are searched only.  The MQ decoder and the T1 block decoder have
  models of their own; that they return normally on every byte string (T1: every non-empty one) is in Props/C20
  (`mq_decoder_total`, `t1_decode_no_panic`).
-/

namespace Rle

/-- (1) every store `buffer[pos] = b` of `rleDecoder.decode` is in range — for every frame
    description, every stride and every byte string: the run pre-checks of rle.go suffice -/
theorem rle_store_total (i : Info) (data : List Byte) : (decodeFrameC i data).1 ≠ .panic .store := by
  rcases decodeFrameC_cases i data with ⟨_, _, h⟩ | ⟨hp, _, _⟩
  · rw [h]
    nofun
  · exact hp _

/-- (1') the bounds-checked decode loop IS the unchecked one of the C01 model -/
theorem rle_loop_checked_eq (stride : Nat) (buf : Array Byte) (pos : Nat) (rem : List Byte) :
    decodeLoopChk stride buf pos rem = liftErr (decodeLoop stride buf pos rem) :=
  decodeLoopChk_eq stride buf pos rem

/-- (2) FULL: `Codec.decodeFrame` has no panic outcome for any uint16 FrameInfo (zero, wrapped and
    mismatching values included) and any byte string.  (`U16` is the Go type of the fields, not a
    guard.)  The guard of commit 9650374 bounds the frame buffer by 15·65535² + 1 bytes. -/
theorem rle_decode_total (i : Info) (hu : i.U16) (data : List Byte) (s : Site) :
    (decodeFrameC i data).1 ≠ .panic s := by
  rcases decodeFrameC_cases i data with ⟨hg, hm, _⟩ | ⟨hp, _, _⟩
  · exact absurd (frameSize_le_maxAlloc i hg hu) (Nat.not_le.mpr hm)
  · exact hp s

/-- (2') the exact bound on the frame buffer of an accepted description -/
theorem rle_frame_size_bound (i : Info) (hg : ¬ i.Rejected) (hu : i.U16) :
    i.frameSize ≤ 15 * (65535 * 65535) + 1 := frameSize_le_of_not_rejected i hg hu

/-- (2'') the C08 view and the C01 model are the same function -/
theorem rle_decode_agrees (i : Info) (hu : i.U16) (data : List Byte) :
    (decodeFrameC i data).1.plain = decodeFrame i data := by
  rcases decodeFrameC_cases i data with ⟨hg, hm, _⟩ | ⟨_, he, _⟩
  · exact absurd (frameSize_le_maxAlloc i hg hu) (Nat.not_le.mpr hm)
  · exact he

/-- regression anchor: the former makeslice witness (65535×65535, BitsAllocated 0, 65535 samples) -/
example : (decodeFrameC { width := 65535, height := 65535, bitsAllocated := 0, spp := 65535, planar := 0 } [1]).1
    = .err := by decide

/-- non-vacuity: a description that is accepted and reaches the allocation -/
example : let i : Info := { width := 3, height := 2, bitsAllocated := 16, spp := 3, planar := 0 }
    i.U16 ∧ ¬ i.Rejected := by decide

end Rle

namespace JM
open PC

/-- (3) FULL: `HuffmanTable.Build` has no panic outcome for any BITS and any number of values
    (commit 1cb8f42) -/
theorem huff_build_total (bits : List Nat) (nvalues : Nat) (s : Site) :
    build bits nvalues ≠ .error (.panic s) := (buildLens_total nvalues bits 0 0).ne_panic s

/-- regression anchor: over-subscribed BITS = [3,0,…] is ErrInvalidDHT now -/
example : build [3, 0, 0, 0, 0, 0, 0, 0, 0, 0, 0, 0, 0, 0, 0, 0] 3 = .error .err := rfl
/-- … and fewer values than codes as well -/
example : build [1, 1, 0, 0, 0, 0, 0, 0, 0, 0, 0, 0, 0, 0, 0, 0] 1 = .error .err := rfl
/-- non-vacuity: the standard luminance DC table of T.81 K.3 is accepted -/
example : build [0, 1, 5, 1, 1, 1, 1, 1, 1, 0, 0, 0, 0, 0, 0, 0] 12 = .ok () := rfl

/-- (4) FULL: `lossless14sv1.Decode` — marker loop, parseSOF3, parseDHT + Build, parseSOS, first
    table lookup of decodeScan — has no panic outcome for any byte string -/
theorem sv1_decode_total (bs : Bytes) (s : Site) : (sv1Decode bs).2 ≠ .panic s :=
  soi_run_post (Inv := fun st _ => Sel4 st.comps) (P := fun p => NoPanic p.2) rfl NoPanic.err
    (fun _ _ => sv1Step_total) (fun _ _ => Sel4.nil) s

/-- regression anchors: the former witnesses (Td/Ta byte 0x04 resp. 0x40, over-subscribed DHT) -/
example : (sv1Decode [0xff, 0xd8, 0xff, 0xc3, 0x00, 0x0b, 0x02, 0x00, 0x01, 0x00, 0x01, 0x01, 0x01, 0x11, 0x00,
    0xff, 0xda, 0x00, 0x08, 0x01, 0x01, 0x04, 0x01, 0x00, 0x00]).2 = .err := by
  rw [sv1Decode_eval 8 rfl rfl] <;> rfl
example : (sv1Decode [0xff, 0xd8, 0xff, 0xc3, 0x00, 0x0b, 0x02, 0x00, 0x01, 0x00, 0x01, 0x01, 0x01, 0x11, 0x00,
    0xff, 0xda, 0x00, 0x08, 0x01, 0x01, 0x40, 0x01, 0x00, 0x00]).2 = .err := by
  rw [sv1Decode_eval 8 rfl rfl] <;> rfl
example : dhtTable 3 [0x00, 0x03, 0, 0, 0, 0, 0, 0, 0, 0, 0, 0, 0, 0, 0, 0, 0, 1, 2, 3] = .error .err := rfl

/-- regression anchor (C09, commit 7825a71): a second frame header is an error -/
example : (sv1Decode [0xff, 0xd8, 0xff, 0xc3, 0x00, 0x0b, 0x08, 0x00, 0x01, 0x00, 0x01, 0x01, 0x01, 0x11, 0x00,
    0xff, 0xc3, 0x00, 0x0b, 0x08, 0x04, 0x00, 0x04, 0x00, 0x01, 0x01, 0x11, 0x00]).2 = .err := by
  rw [sv1Decode_eval 8 rfl rfl] <;> rfl

/-- (5) FULL: `jpeg/lossless.Decode` (marker loop, parseSOF3, parseDHT, parseSOS incl. the
    `data[2+component*2]` / `dcTableSelectors[component]` indices, first table lookup) -/
theorem jll_decode_total (bs : Bytes) (s : Site) : (jllDecode bs).2 ≠ .panic s :=
  soi_run_post (Inv := fun st _ => JllInv st) (P := fun p => NoPanic p.2) rfl NoPanic.err
    (fun _ _ => jllStep_total) (fun _ _ => JllInv.init) s

/-- regression anchor (C09 class c09-second-frame-header-resize, commit 72b8b5a): the second frame header of a
    jpeg/lossless stream (the first declares 1x1, the copy 30000x30000) is an error -/
example : (jllDecode [0xff, 0xd8, 0xff, 0xc3, 0x00, 0x0b, 0x08, 0x00, 0x01, 0x00, 0x01, 0x01, 0x01, 0x11, 0x00,
    0xff, 0xc3, 0x00, 0x0b, 0x08, 0x75, 0x30, 0x75, 0x30, 0x01, 0x01, 0x11, 0x00]).2 = .err := by
  rw [jllDecode_eval 8 rfl rfl] <;> rfl

/-- (6) FULL: `baseline.Decode` (marker loop, parseSOF incl. the DivCeil divisors, parseDQT,
    parseDHT, parseDRI, parseSOS, start of decodeScan and the first decodeBlock table lookup) -/
theorem baseline_decode_total (bs : Bytes) (s : Site) : (blDecode bs).2 ≠ .panic s :=
  soi_run_post (Inv := fun st _ => BlInv st) (P := fun p => NoPanic p.2) rfl NoPanic.err
    (fun _ _ => blStep_total) (fun _ _ => BlInv.init) s

/-- regression anchors: SOS before any SOF (was DivCeil by 0); Td = 4 in SOS (was dcTables[4]) -/
example : (blDecode [0xff, 0xd8, 0xff, 0xda, 0x00, 0x06, 0x00, 0x00, 0x00, 0x00]).2 = .err := by
  rw [blDecode_eval 8 rfl rfl] <;> rfl
example : (blDecode [0xff, 0xd8, 0xff, 0xc0, 0x00, 0x0b, 0x08, 0x00, 0x01, 0x00, 0x01, 0x01, 0x01, 0x11, 0x00,
    0xff, 0xda, 0x00, 0x08, 0x01, 0x01, 0x40, 0x00, 0x3f, 0x00]).2 = .err := by
  rw [blDecode_eval 8 rfl rfl] <;> rfl

end JM

namespace JlsH
open PC

/-- (7) FULL: `jpegls/lossless.Decode` up to the scan (marker loop, parseSOF55, parseLSE, parseSOS
    and every division of ComputeCodingParameters / computeThresholds they trigger) -/
theorem jls_header_total (bs : Bytes) (s : Site) : (header bs).2 ≠ .panic s :=
  JM.soi_run_post (Inv := fun st _ => Inv st) (P := fun p => NoPanic p.2) rfl NoPanic.err
    (fun _ _ => step_total) (fun _ _ => Inv.init) s

/-- (8) FULL: `jpegls/nearlossless.Decode` up to the scan (parameters derived at SOS with the
    NEAR byte of the stream: `(maxVal+2·near)/(2·near+1)`, `256/(maxVal+1)`) -/
theorem jlsnear_header_total (bs : Bytes) (s : Site) : (nheader bs).2 ≠ .panic s :=
  JM.soi_run_post (Inv := fun st _ => Inv st) (P := fun p => NoPanic p.2) rfl NoPanic.err
    (fun _ _ => nstep_total) (fun _ _ => Inv.init) s

/-- regression anchor: SOF55 with precision byte 0x40 (was 256/(MAXVAL+1) with MAXVAL = −1) -/
example : (header [0xff, 0xd8, 0xff, 0xf7, 0x00, 0x0b, 0x40, 0x00, 0x01, 0x00, 0x01, 0x01, 0x01, 0x11, 0x00]).2 = .err := by
  rw [header_eval 8 rfl rfl] <;> rfl

/-- regression anchor (class c09-second-frame-header-resize, commit 72b8b5a): the outside probe's header — SOF55 8x8, then
    a copy declaring 30000x30000 — is an error in both JPEG-LS decoders -/
example : (header [0xff, 0xd8, 0xff, 0xf7, 0x00, 0x0b, 0x08, 0x00, 0x08, 0x00, 0x08, 0x01, 0x01, 0x11, 0x00,
    0xff, 0xf7, 0x00, 0x0b, 0x08, 0x75, 0x30, 0x75, 0x30, 0x01, 0x01, 0x11, 0x00]).2 = .err := by
  rw [header_eval 8 rfl rfl] <;> rfl
example : (nheader [0xff, 0xd8, 0xff, 0xf7, 0x00, 0x0b, 0x08, 0x00, 0x08, 0x00, 0x08, 0x01, 0x01, 0x11, 0x00,
    0xff, 0xf7, 0x00, 0x0b, 0x08, 0x75, 0x30, 0x75, 0x30, 0x01, 0x01, 0x11, 0x00]).2 = .err := by
  rw [nheader_eval 8 rfl rfl] <;> rfl

/-- the division guard is not vacuous: without the precision check MAXVAL would be −1 -/
example : thresholdsDivOk (maxValOf 64) = false := by decide

end JlsH

namespace J2kH
open PC

/-- (9) FULL: `codestream.Parser.Parse` — SOC, main header (SIZ, COD, COC, QCD, QCC, POC, RGN, COM,
    unknown segments incl. the backwards step of skipSegment), tile-parts (SOT, tile-part header,
    SOD, Psot arithmetic, marker scan), mergeTilePart — has no panic outcome for any byte string.
    (MCT/MCC/MCO segments are walked as `parseMCT` / `parseMCC` / `parseMCO` do and counted; what the decoder
    does with them is (11).) -/
theorem j2k_parse_total (bs : Bytes) (s : Site) : (parse bs).2 ≠ .panic s :=
  soc_run_post (Inv := fun _ _ => True) (P := fun p => NoPanic p.2) NoPanic.err
    (fun st bs _ => (step_turn st bs).noPanic) trivial s

/-- regression anchors: QCD / COM with length 0 (were make([]byte, −3) / make([]byte, −4)) -/
example : (parse [0xff, 0x4f, 0xff, 0x51, 0x00, 0x29, 0, 0, 0, 0, 0, 1, 0, 0, 0, 1, 0, 0, 0, 0, 0, 0, 0, 0, 0, 0, 0, 1, 0, 0, 0, 1,
    0, 0, 0, 0, 0, 0, 0, 0, 0, 1, 7, 1, 1, 0xff, 0x5c, 0x00, 0x00, 0x40]).2 = .err := by
  rw [parse_eval 8 rfl rfl] <;> rfl
example : (parse [0xff, 0x4f, 0xff, 0x51, 0x00, 0x29, 0, 0, 0, 0, 0, 1, 0, 0, 0, 1, 0, 0, 0, 0, 0, 0, 0, 0, 0, 0, 0, 1, 0, 0, 0, 1,
    0, 0, 0, 0, 0, 0, 0, 0, 0, 1, 7, 1, 1, 0xff, 0x64, 0x00, 0x00, 0x00, 0x01]).2 = .err := by
  rw [parse_eval 8 rfl rfl] <;> rfl

end J2kH

namespace JpegLsRun

/-- (10) FULL, JPEG-LS scan level: the run length `RunModeScanner.DecodeRunLength` returns is within
    0..remainingInLine and the run index stays inside the J table (no `J[RunIndex]` panic), for every
    bit sequence, every run index 0..31 on entry and every remainder ≥ 0 — over the run-mode model `Model/JpegLsRun.lean`, which the `jls-runseg-dec`
    correspondence lines tie to both decoders' copies of the function.  This bound is what keeps the
    `runLength`·components sample writes of decodeSampleRunMode / doRunMode inside the pixel buffer. -/
theorem jls_run_length_bound (bs : List Bool) (idx remaining : Int) (h0 : 0 ≤ idx) (h31 : idx ≤ 31)
    (hrem : 0 ≤ remaining) :
    decodeRunLength bs idx remaining ≠ .error .panic ∧
    ∀ rl i rest, decodeRunLength bs idx remaining = .ok (rl, i, rest) → 0 ≤ rl ∧ rl ≤ remaining ∧ 0 ≤ i ∧ i ≤ 31 :=
  decodeRunLength_bound bs idx remaining h0 h31 hrem

/-- (10b) the run-index bookkeeping the model of (10) uses IS the code's: the REGENERATED
    `RunModeScanner.incRunIndex` / `DecRunIndex` (jpegls/lossless/runmode.go, shared by both decoders)
    change nothing but `RunIndex`, agree with the model's `incRunIndex` / `decRunIndex` for every
    scanner state, keep `RunIndex` within 0..31, and the regenerated J table has 32 entries.  (What this
    excludes is seeded change C08-m8: a saturating `min(i+1, len(J))` leaves the table by one, which
    only a ≥ 32768-sample flat line can reach.) -/
theorem jls_run_index_generated (r : Gen.JpegLs.RunModeScanner) :
    (Gen.JpegLs.RunModeScanner.incRunIndex r).RunIndex = incRunIndex r.RunIndex ∧
    (Gen.JpegLs.RunModeScanner.DecRunIndex r).RunIndex = decRunIndex r.RunIndex ∧
    (Gen.JpegLs.RunModeScanner.incRunIndex r).traits = r.traits ∧
    (Gen.JpegLs.RunModeScanner.DecRunIndex r).traits = r.traits ∧
    (0 ≤ r.RunIndex ∧ r.RunIndex ≤ 31 →
      (0 ≤ (Gen.JpegLs.RunModeScanner.incRunIndex r).RunIndex ∧ (Gen.JpegLs.RunModeScanner.incRunIndex r).RunIndex ≤ 31) ∧
      (0 ≤ (Gen.JpegLs.RunModeScanner.DecRunIndex r).RunIndex ∧ (Gen.JpegLs.RunModeScanner.DecRunIndex r).RunIndex ≤ 31)) ∧
    Gen.JpegLsRun.J.size = 32 := by
  rw [gen_incRunIndex, gen_decRunIndex]
  exact ⟨rfl, rfl, rfl, rfl, fun h => ⟨inc_range _ h, dec_range _ h⟩, rfl⟩

example : (Gen.JpegLs.RunModeScanner.incRunIndex { RunIndex := 31, traits := default }).RunIndex = 31 ∧
    (Gen.JpegLs.RunModeScanner.incRunIndex { RunIndex := 30, traits := default }).RunIndex = 31 ∧
    (Gen.JpegLs.RunModeScanner.DecRunIndex { RunIndex := 0, traits := default }).RunIndex = 0 := by decide

/-- the scan `FF 30` on a 13-sample line: eight 1-bits make the run 12 and RUNindex 8 (J = 2), the
    two remainder bits `11` would make it 15 > 13: an error, not an overshoot -/
example : decodeRunLength [true, true, true, true, true, true, true, true, false, true, true, false, false, false, false] 0 13
    = .error .err := by rfl

/-- non-vacuity: the same bits on a 16-sample line give run length 15 -/
example : decodeRunLength [true, true, true, true, true, true, true, true, false, true, true] 0 16
    = .ok (15, 8, []) := by rfl

end JpegLsRun

namespace Mct

/-- (11) FULL, JPEG 2000 Part-2 multi-component transform, decoder side (`extractBindings`,
    `decodeMCTMatrix*`, `decodeMCTOffsets`, `applyDecoderMCTBindings`, `applyIntegerMatrixTransform`,
    `applyFloatMatrixTransform`, `applyBindingOffsets`, `applyDecoderInverseCustomMCT` after 43b6ee7):
    for EVERY list of parsed MCT / MCC / MCO segments, component count and image with that many planes (`v`: one
    value per component stands for its plane) no slice index is out of range — every index of the Go code is an
    explicit `Option` site of the model.  `WF` is the abstraction invariant (the payload of an MCT segment splits
    into complete elements and a rest shorter than one element); every byte string has such a split, but the
    model starts from parsed segments and no Lean function builds an `MctSeg` from bytes. -/
theorem j2k_mct_total (cs : Cs) (components : Nat) (v : List Int) (hwf : ∀ s ∈ cs.mct, s.WF)
    (hv : v.length = components) : transform cs components v ≠ none :=
  Option.ne_none_iff_exists'.mpr (transform_total cs components v hwf hv)

/-- regression anchor (corpus/C08/jpeg2000.Decoder.applyIntegerMatrixTransform-index-109f8625): a
    collection naming component 3 of a 3-component image used to index `d.data[3]`; since 43b6ee7 the
    collection is skipped and the image is left as it is -/
example : transform { mct := [{ index := 1, arrayType := 1, elemType := 1, vals := [1, 0, 0, 0, 1, 0, 0, 0, 1], pad := 0 }],
                      mcc := [{ index := 2, collType := 1, numComps := 3, compIDs := [3, 1, 2], outIDs := [3, 1, 2],
                                decorr := 1, offs := 0, reversible := true }],
                      mco := [] } 3 [5, 6, 7] = some [5, 6, 7] := by decide

/-- non-vacuity: the same stream with ids 2,1,0 and a non-trivial matrix does transform the image -/
example : transform { mct := [{ index := 1, arrayType := 1, elemType := 1, vals := [1, 1, 0, 0, 1, 0, 0, 0, 2], pad := 0 }],
                      mcc := [{ index := 2, collType := 1, numComps := 3, compIDs := [2, 1, 0], outIDs := [2, 1, 0],
                                decorr := 1, offs := 0, reversible := true }],
                      mco := [] } 3 [5, 6, 7] = some [10, 6, 13] := by decide

/-- a short matrix (8 of 9 elements) is not a matrix: no binding, nothing indexed -/
example : transform { mct := [{ index := 1, arrayType := 1, elemType := 0, vals := [1, 1, 0, 0, 1, 0, 0, 0], pad := 1 }],
                      mcc := [{ index := 2, collType := 1, numComps := 3, compIDs := [2, 1, 0], outIDs := [],
                                decorr := 1, offs := 0, reversible := false }],
                      mco := [[2, 2]] } 3 [5, 6, 7] = some [5, 6, 7] := by decide

end Mct
