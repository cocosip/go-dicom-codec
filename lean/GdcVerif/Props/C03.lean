import GdcVerif.Gen.JpegLs
import GdcVerif.Lemmas.JpegLs
import GdcVerif.Lemmas.JpegLsNear
import GdcVerif.Model.Golomb
import GdcVerif.Lemmas.Golomb
import GdcVerif.Lemmas.GolombCode
import GdcVerif.Lemmas.GolombExact
import GdcVerif.Lemmas.JpegFrames
import GdcVerif.Lemmas.JpegLsScanStep
import GdcVerif.Lemmas.JpegLsLockstep
import GdcVerif.Lemmas.GolombReader
import GdcVerif.Lemmas.JpegLsRunInt
import GdcVerif.Lemmas.JpegLsT87Ctx
/-!
  C03 — JPEG-LS lossless: exact reconstruction at every bit depth.

  Theorems over the GENERATED kernels of /repo/jpegls/lossless (`Gen/JpegLs.lean`):
  `Encoder.computeErrorValue`, `Traits.ComputeReconstructedSample`, `MapErrorValue`,
  `UnmapErrorValue`, `ApplySign`, `BitwiseSign`, `ComputeContextID`,
  `GradientQuantizer.ComputeContext`, `Context.UpdateContext`, `RunModeContext.*`,
  and over the code-shaped hand models `Model/Golomb.lean` (bit writer, limited-length Golomb code),
  `Model/JpegLsRun.lean` (run mode), `Model/JpegLsScan.lean` / `Model/JpegLsScanL.lean` (regular-mode
  step, whole scan) and `Model/GolombReader.lean` (bit reader), all tied to the real code by
  correspondence lines.

  History: until fix bb6666a `Encoder.computeErrorValue` narrowed to int8/int16 instead of reducing
  modulo RANGE, so for P ∉ {8,16} the per-sample statement was false (witness P = 12, Px = 0,
  x = 4095: mapped error 8190 did not fit qbpp = 12 bits).

  Not a theorem here: `Decode(Encode(pixels)) = pixels` at stream level.  The whole-image theorems are about
  the entropy-coded scan; the container conversion (`pixelsToIntegers` / `integersToPixels`), the marker
  segments, the decoders' header walk and hence the reported width, height, component count and precision
  are not composed with them, and the decoders' value loops are proved over a bit list, which
  `golomb_reader_exact` relates to the reader model one operation at a time.
-/
namespace C03
open Gen.JpegLs JpegLsLemmas

/-- the lossless encoder object for precision `P` (fields the kernels read; NewEncoder) -/
def IsEncoder (enc : Encoder) (P : Nat) : Prop :=
  enc.bitDepth = P ∧ enc.maxVal = (2 : Int) ^ P - 1 ∧ enc.traits = NewTraits ((2 : Int) ^ P - 1) 0 64

instance (enc : Encoder) (P : Nat) : Decidable (IsEncoder enc P) := by unfold IsEncoder; infer_instance

/-- per-sample statement for one encoder object: for every prediction `Px`, source sample `x` and
    sign: the decoder's reconstruction from the transmitted error is `x`, and the mapped error
    (with or without the k = 0 correction XOR) fits the escape code's `qbpp`-bit field. -/
def SampleExact (enc : Encoder) (P : Nat) : Prop :=
  ∀ (Px x s : Int), (0 ≤ Px ∧ Px ≤ (2 : Int) ^ P - 1) → (0 ≤ x ∧ x ≤ (2 : Int) ^ P - 1) → (s = 1 ∨ s = -1) →
    Traits.ComputeReconstructedSample enc.traits Px (s * Encoder.computeErrorValue enc (s * (x - Px))) = x ∧
    ∀ c : Int, (c = 0 ∨ c = -1) →
      0 ≤ MapErrorValue (Go.xor c (Encoder.computeErrorValue enc (s * (x - Px)))) ∧
      MapErrorValue (Go.xor c (Encoder.computeErrorValue enc (s * (x - Px)))) - 1 < (2 : Int) ^ enc.traits.Qbpp.toNat

/-- the property's per-sample layer at full strength -/
def ls_lossless_sample_exact_FullStatement : Prop :=
  ∀ (P : Nat) (enc : Encoder), 2 ≤ P ∧ P ≤ 16 → IsEncoder enc P → SampleExact enc P

/-- full strength for any encoder whose error reduction is `ModuloRange` (what fix bb6666a made
    the lossless encoder do) -/
theorem ls_lossless_sample_exact_of_reduction (P : Nat) (enc : Encoder) (hP : 2 ≤ P ∧ P ≤ 16)
    (he : IsEncoder enc P)
    (hred : ∀ d : Int, -((2 : Int) ^ P) < d ∧ d < 2 ^ P →
      Encoder.computeErrorValue enc d = Traits.ModuloRange enc.traits d) :
    SampleExact enc P := by
  intro Px x s hPx hx hs
  obtain ⟨_, _, ht⟩ := he
  have hadm := JpegLsNear.admissible_zero P hP
  have hd : -((2 : Int) ^ P) < s * (x - Px) ∧ s * (x - Px) < 2 ^ P := by
    rcases hs with rfl | rfl <;> omega
  have hE : Encoder.computeErrorValue enc (s * (x - Px)) = JpegLsNear.err P 0 Px x s := by
    rw [hred _ hd, ht]
    exact (computeErrorValue_near0 _ rfl _).symm
  rw [hE, ht]
  refine ⟨JpegLsNear.near_zero_exact P hP Px x s hPx hx hs, ?_⟩
  intro c hc
  exact JpegLsNear.near_mapped_fits P 0 hadm Px x s hPx hx hs c hc

/-- full strength on the repaired kernel: `Encoder.computeErrorValue` IS `Traits.ModuloRange` -/
theorem ls_lossless_sample_exact : ls_lossless_sample_exact_FullStatement := by
  intro P enc hP he
  exact ls_lossless_sample_exact_of_reduction P enc hP he (fun _ _ => rfl)

/-- the 12-bit encoder object (the former counterexample) -/
def enc12 : Encoder := { width := 4, height := 1, components := 1, bitDepth := 12, maxVal := 4095,
                         traits := NewTraits 4095 0 64 }

example : IsEncoder enc12 12 ∧ Encoder.computeErrorValue enc12 (1 * (4095 - 0)) = -1 := by decide

/-- the decoder's unmapping inverts the encoder's mapping (all 32-bit error values) -/
theorem map_unmap_inverse (e : Int) (h : -2147483648 ≤ e ∧ e < 2147483648) :
    UnmapErrorValue (MapErrorValue e) = e := unmap_map e h

example : UnmapErrorValue (MapErrorValue (-2048)) = -2048 := by decide

theorem applySign_involutive (i s : Int) (hs : s = 0 ∨ s = -1)
    (h : -9223372036854775807 ≤ i ∧ i < 9223372036854775808) : ApplySign (ApplySign i s) s = i :=
  JpegLsLemmas.applySign_involutive i s hs h

/-- with `sign = BitwiseSign qs` sign application is multiplication by ±1 -/
theorem applySign_eq_mul (v qs : Int) (h : -9223372036854775807 ≤ v ∧ v < 9223372036854775808) :
    ApplySign v (BitwiseSign qs) = (if qs < 0 then -1 else 1) * v :=
  applySign_bitwiseSign v qs h

/-- context identifiers stay in range: `|qs| ≤ 364` and the table index is in `0..364`
    (the table has 365 entries), for every neighbourhood and every threshold set -/
theorem context_index_in_bounds (g : GradientQuantizer) (a b c d : Int) :
    let q := GradientQuantizer.ComputeContext g a b c d
    let qs := ComputeContextID q.1 q.2.1 q.2.2
    (-364 ≤ qs ∧ qs ≤ 364) ∧
      (0 ≤ ApplySign qs (BitwiseSign qs) ∧ ApplySign qs (BitwiseSign qs) ≤ 364) :=
  context_index_range g a b c d

example : ComputeContextID 4 4 4 = 364 ∧ ApplySign (-364) (BitwiseSign (-364)) = 364 := by decide

/-- regular-mode context update (generated `Context.UpdateContext`, T.87 A.6): `1 ≤ N ≤ RESET` and
    `−128 ≤ C ≤ 127` are preserved and `−N < B ≤ 0` holds after every update (whatever A, B were and
    whatever error value, NEAR) — so the Golomb parameter loop sees N ≥ 1 and the bias stays a byte -/
theorem updateContext_invariants (ctx : Context) (e near reset : Int) (hr : 1 ≤ reset)
    (hN : 1 ≤ ctx.N ∧ ctx.N ≤ reset) (hC : -128 ≤ ctx.C ∧ ctx.C ≤ 127) :
    (1 ≤ (Context.UpdateContext ctx e near reset).N ∧ (Context.UpdateContext ctx e near reset).N ≤ reset) ∧
    (-128 ≤ (Context.UpdateContext ctx e near reset).C ∧ (Context.UpdateContext ctx e near reset).C ≤ 127) ∧
    (-(Context.UpdateContext ctx e near reset).N < (Context.UpdateContext ctx e near reset).B ∧
       (Context.UpdateContext ctx e near reset).B ≤ 0) :=
  JpegLsT87.updateContext_inv ctx e near reset hr hN hC

example : (Context.UpdateContext { A := 9, N := 64, B := -63, C := -128 } (-5) 0 64).N = 33 := by decide

/-! ### bit writer (hand model `Model/Golomb.lean` of golomb.go, tied by `jls-gw`/`jls-emv`/`jls-dv`) -/

/-- byte stuffing, also needed by C16: for EVERY sequence of `WriteBits(value, count)` calls
    (uint32 values, any counts — also counts the callers never use) followed by `Flush()`, the
    bytes written contain no 0xFF followed by a byte ≥ 0x80; the same holds for the bytes written
    at any moment before (`Golomb.Inv` is an invariant). -/
theorem golomb_writer_stuffed (ws : List (Nat × Int)) (hv : ∀ p ∈ ws, p.1 < Golomb.M32) :
    Golomb.Stuffed (Golomb.writeAll Golomb.Writer.new ws).out ∧
    Golomb.Stuffed (Golomb.finish (Golomb.writeAll Golomb.Writer.new ws)).out ∧
    (∀ b ∈ (Golomb.finish (Golomb.writeAll Golomb.Writer.new ws)).out, b < 256) :=
  have h := Golomb.inv_writeAll ws _ Golomb.inv_new hv
  ⟨h.stuffed, (Golomb.inv_finish _ h).stuffed, (Golomb.inv_finish _ h).bytes⟩

example : (Golomb.finish (Golomb.writeAll Golomb.Writer.new [(255, 8), (255, 8), (1, 1)])).out = [255, 127, 192] := by
  decide

/-- the byte-stuffing invariant for every sequence of `EncodeMappedValue(k, mapped, limit, qbpp)`
    calls, whatever the arguments, followed by `Flush()` -/
theorem golomb_encode_stuffed (calls : List (Int × Int × Int × Int)) :
    Golomb.Stuffed (Golomb.finish
      (calls.foldl (fun w q => Golomb.encodeMappedValue w q.1 q.2.1 q.2.2.1 q.2.2.2) Golomb.Writer.new)).out :=
  (Golomb.inv_finish _ (Golomb.inv_encodeAll calls _ Golomb.inv_new)).stuffed

example : (Golomb.finish (Golomb.encodeMappedValue Golomb.Writer.new 0 8190 48 12)).out =
    [0, 0, 0, 0, 31, 253] := by decide

/-- the limited-length Golomb code round trip at bit level (value ↦ bits ↦ value): for every
    k ≤ 31, qbpp in 1..16, limit with qbpp+1 < limit ≤ 64 and every mapped value with
    `m − 1 < 2^qbpp`, `DecodeValue` reads back what `EncodeMappedValue` wrote — through the plain
    unary path, the > 31-bit prefix split and the LIMIT escape — and leaves the following bits
    untouched. -/
theorem golomb_code_roundtrip (k m limit qbpp : Int) (rest : List Bool)
    (hk : 0 ≤ k ∧ k ≤ 31) (hq : 1 ≤ qbpp ∧ qbpp ≤ 16) (hl : qbpp + 1 < limit ∧ limit ≤ 64)
    (hm : 0 ≤ m ∧ m - 1 < 2 ^ qbpp.toNat) :
    Golomb.decodeValue k limit qbpp (Golomb.writesBits (Golomb.encodeWrites k m limit qbpp) ++ rest) = some (m, rest) :=
  Golomb.code_roundtrip k m limit qbpp rest hk hq hl hm

example : Golomb.decodeValue 2 32 8 (Golomb.writesBits (Golomb.encodeWrites 2 200 32 8) ++ [true, false]) =
    some (200, [true, false]) := by decide

/-- run-length code (model `JpegLsRun.encodeRunLength` / `decodeRunLength` of
    `RunModeScanner.EncodeRunLength` / `DecodeRunLength`, tied by `jls-runseg-*`): for every RUNindex
    0..31, every line remainder ≥ 1 and every run length 0..remainder, the decoder reads back the same
    run length, ends with the same RUNindex as the encoder and leaves the following bits untouched -/
theorem runlength_roundtrip (idx rl remaining : Int) (rest : List Bool)
    (hidx : 0 ≤ idx ∧ idx ≤ 31) (hrl : 0 ≤ rl ∧ rl ≤ remaining) (hrem : 1 ≤ remaining) :
    ∃ idx' ws, JpegLsRun.encodeRunLength idx rl (rl == remaining) = .ok (idx', ws) ∧ (0 ≤ idx' ∧ idx' ≤ 31) ∧
      JpegLsRun.decodeRunLength (Golomb.writesBits ws ++ rest) idx remaining = .ok (rl, idx', rest) :=
  let ⟨idx', ws, henc, hi, hdec, _⟩ := JpegLsRun.runlength_roundtrip idx rl remaining hidx hrl hrem
  ⟨idx', ws, henc, hi, hdec rest⟩

example : (JpegLsRun.encodeRunLength 3 5 false).toOption = some (6, [(1, 1), (1, 1), (1, 1), (0, 2)]) := by decide

/-- run-interruption sample (`EncodeRunInterruption` / `DecodeRunInterruption`, limit
    `LIMIT − J[RUNindex] − 1`): for every admissible (P, NEAR) — NEAR = 0 is the lossless package —
    every RUNindex, either run-interruption context (any A, N, NN with Golomb parameter ≤ 31) and every
    error value of the modulo range (non-zero for context 1, as the run test guarantees), the
    decoder recovers the error value and reaches the same successor context -/
theorem run_interruption_roundtrip (P : Nat) (N : Int) (h : JpegLsNear.Admissible P N) (idx : Int)
    (ctx : RunModeContext) (e : Int) (rest : List Bool) (hidx : 0 ≤ idx ∧ idx ≤ 31)
    (hk : JpegLsRun.getGolombCode ctx ≤ 31)
    (hrit : ctx.runInterruptionType = 0 ∨ ctx.runInterruptionType = 1)
    (he0 : ctx.runInterruptionType = 1 → e ≠ 0)
    (he : ((JpegLsNear.traits P N).Range + 1) / 2 - (JpegLsNear.traits P N).Range ≤ e ∧
          e < ((JpegLsNear.traits P N).Range + 1) / 2) :
    ∃ ws ctx', JpegLsRun.encodeRunInterruption (JpegLsNear.traits P N) idx ctx e = .ok (ws, ctx') ∧
      JpegLsRun.decodeRunInterruption (JpegLsNear.traits P N) idx ctx (Golomb.writesBits ws ++ rest) = .ok (e, ctx', rest) :=
  have ⟨hq, hl⟩ := JpegLsRun.run_limit_ok P N h idx hidx
  ⟨_, _, JpegLsRun.encodeRunInterruption_ok _ idx ctx e hidx,
    JpegLsRun.decodeRunInterruption_encoded _ idx ctx e hidx hq hl hk hrit he0
      (Int.le_trans (JpegLsLemmas.two_abs_le_range e _ he) (JpegLsNear.traits_range_fits P N h)) rest⟩

example : JpegLsRun.getGolombCode { runInterruptionType := 1, A := 4, N := 1, NN := 0 } = 2 := by decide

/-- run-interruption contexts along a scan: `NewRunModeContext` satisfies, and the generated
    `RunModeContext.UpdateVariables` preserves, `1 ≤ N ≤ RESET`, `0 ≤ NN ≤ N`, `0 ≤ A ≤ 2^17·N`
    (for mapped values up to 2^17); under it `GetGolombCode` (hand-modelled loop) returns at most 31 —
    the hypothesis `hk` of `run_interruption_roundtrip` -/
theorem run_context_invariants (ctx : RunModeContext) (e em reset : Int) (h : JpegLsRun.RunCtxInv ctx reset)
    (hr : 2 ≤ reset ∧ reset ≤ 64) (hem : 0 ≤ em ∧ em ≤ 131072) :
    JpegLsRun.RunCtxInv (RunModeContext.UpdateVariables ctx e em reset) reset ∧
    JpegLsRun.getGolombCode ctx ≤ 31 :=
  ⟨JpegLsRun.updateVariables_inv ctx e em reset h hem, JpegLsRun.getGolombCode_le ctx h⟩

theorem run_context_initial (rit range : Int) (hrit : rit = 0 ∨ rit = 1) (hr : 2 ≤ range ∧ range ≤ 65536) :
    JpegLsRun.RunCtxInv (NewRunModeContext rit range) 64 := JpegLsRun.newRunModeContext_inv rit range hrit hr

example : JpegLsRun.getGolombCode (NewRunModeContext 1 256) = 2 := by decide

/-- well-formed `WriteBits` calls: a uint32 value and a count in 0..32 (every call site of the scans) -/
def WritesOk (ws : List (Nat × Int)) : Prop := ∀ p ∈ ws, p.1 < Golomb.M32 ∧ 0 ≤ p.2 ∧ p.2 ≤ 32

/-- end of scan: for every sequence of well-formed `WriteBits` calls, `Flush()` leaves
    `isFFWritten = false`, i.e. the scan never ends on 0xFF (no `FF FF D9` with the EOI marker);
    and if at least one bit was written the scan is not empty.  (Bookkeeping invariant of
    `Lemmas/GolombExact.lean`: the `freeBitCount` low bits of the buffer are zero, last byte = 0xFF ⇒
    `isFFWritten` ⇒ `freeBitCount ≤ 32` also inside `flush()`, `0 ≤ freeBitCount ≤ 32` between calls.) -/
theorem golomb_scan_end (ws : List (Nat × Int)) (hv : WritesOk ws) :
    (Golomb.finish (Golomb.writeAll Golomb.Writer.new ws)).out.getLast? ≠ some 255 ∧
    ((∃ p ∈ ws, 1 ≤ p.2) → (Golomb.finish (Golomb.writeAll Golomb.Writer.new ws)).out ≠ []) :=
  ⟨Golomb.finish_last_ne _ (Golomb.K_writeAll ws _ Golomb.K_new hv),
   fun h => Golomb.finish_out_ne _ (Golomb.M_writeAll ws _ Golomb.K_new hv (Or.inr h))⟩

example : WritesOk [(255, 8)] ∧ (Golomb.finish (Golomb.writeAll Golomb.Writer.new [(255, 8)])).out = [255, 0] := by
  refine ⟨?_, by decide⟩
  intro p hp; simp at hp; subst hp; decide

theorem stuffed_pairStuffed : ∀ (l : List Nat), Golomb.Stuffed l → JpegC.PairStuffed l
  | [], _ => trivial
  | [_], _ => trivial
  | _ :: b :: rest, h => ⟨h.1, stuffed_pairStuffed (b :: rest) h.2⟩

/-- instantiation of C16's bridge (`JpegC.noMarkerLS_of_pairStuffed`): the bytes the
    `GolombWriter` model emits for ANY well-formed write sequence followed by `Flush()` satisfy the
    strict-parser scan predicate `StrictJpeg.NoMarkerLS` (every 0xFF is followed by a byte < 0x80, the
    scan does not end on 0xFF) — so the JPEG-LS container theorem of C16 has no open scan hypothesis
    beyond "the scan bytes come out of the GolombWriter" (correspondence `jls-gw`, `jls-emv`,
    `jls-runseg-enc`) -/
theorem jpegls_scan_nomarker (ws : List (Nat × Int)) (hv : WritesOk ws) :
    StrictJpeg.NoMarkerLS (Golomb.finish (Golomb.writeAll Golomb.Writer.new ws)).out = true := by
  obtain ⟨-, hs, hb⟩ := golomb_writer_stuffed ws (fun p hp => (hv p hp).1)
  exact JpegC.noMarkerLS_of_pairStuffed _ (stuffed_pairStuffed _ hs) hb (golomb_scan_end ws hv).1

/-- regular-mode sample of the scan model (`Model/JpegLsScan.lean`, tied to the four real
    line walks by `jls-scan-enc` / `jls-scan-dec`): for every admissible (P, NEAR), every context
    table, context id, neighbourhood and source sample in range, the decoder step on the bits the
    encoder step wrote yields the same reconstruction, the same updated context table and leaves the
    following bits — the per-step agreement lock-step needs for regular mode -/
theorem regular_sample_roundtrip (P : Nat) (N : Int) (h : JpegLsNear.Admissible P N) (cs : Array Context)
    (qs a b c xs : Int) (rest : List Bool) (hxs : 0 ≤ xs ∧ xs ≤ (2 : Int) ^ P - 1)
    (ws : List (Nat × Int)) (cs' : Array Context) (rec : Int)
    (henc : JpegLsScan.encRegular (JpegLsNear.traits P N) cs qs a b c xs = .ok (ws, cs', rec)) :
    JpegLsScan.decRegular (JpegLsNear.traits P N) cs qs a b c (Golomb.writesBits ws ++ rest) = .ok (cs', rec, rest) := by
  cases hctx : JpegLsScan.getCtx cs (ApplySign qs (BitwiseSign qs)) with
  | error e => simp [JpegLsScan.encRegular, hctx, bind, Except.bind] at henc
  | ok ctx =>
    obtain ⟨ws0, cs0, rec0, he, _, _, _, _, hd⟩ := JpegLsScan.regular_sample P N h cs qs a b c xs ctx hctx hxs
    rw [he] at henc
    cases henc
    exact hd rest

example : (JpegLsScan.encRegular (JpegLsNear.traits 8 0) #[NewContext 256, NewContext 256] 1 10 20 10 200).toOption.map
    (fun r => (r.1, r.2.2)) = some ([(1, 24), (150, 8)], 200) := by decide

/-- WHOLE IMAGES, bit level.  `JpegLsScanL` is the list-shaped twin of the scan model (tied to the
    real `lossless.Encode/Decode` and `nearlossless.Encode/Decode` by `jls-scanL-enc/dec`): encoder and
    decoder share one state (context table, run contexts, RUNindex, reconstructed previous line and
    reconstructed part of the current line, edge register); one step = one regular pixel or one run
    segment.  For every precision P in 2..16, every width ≥ 0 and height, 1 component (ILV 0) or several
    (ILV 2), and every image whose samples are below 2^P: the scan decoder applied to the bits of all
    `WriteBits` calls of the scan encoder (followed by anything) returns exactly the source image and
    leaves what follows.  Lock-step (`Lockstep.lockstep_var2`) over the per-step facts that
    `runlength_roundtrip`, `run_interruption_roundtrip`, `run_context_invariants`, `regular_sample_roundtrip` state
    (in the forms the composition takes, with `WritesFit`: `JpegLsRun.runlength_roundtrip`,
    `JpegLsScanL.interruption_sample`, `JpegLsScan.regular_sample`) and the per-sample bound
    `JpegLsNear.near_sample_bound` at NEAR = 0. -/
theorem jpegls_lossless_roundtrip (P : Nat) (hP : 2 ≤ P ∧ P ≤ 16) (comps : Nat) (hc : 1 ≤ comps) (w : Nat)
    (lines : List (List JpegLsScanL.Pixel))
    (hl : ∀ l ∈ lines, JpegLsScanL.LineOk comps ((2 : Int) ^ P - 1) w l) :
    ∃ ws, (JpegLsScanL.encodeImage (JpegLsNear.traits P 0) w comps lines).toOption.map (·.1) = some ws ∧
      ∀ rest, JpegLsScanL.decodeImage (JpegLsNear.traits P 0) w lines.length comps (Golomb.writesBits ws ++ rest)
        = .ok (lines, rest) := by
  have hadm := JpegLsNear.admissible_zero P hP
  obtain ⟨ws, recs, he, hcl, _, _, hd⟩ := JpegLsScanL.image_roundtrip P 0 hadm comps hc w lines hl
  have heq := JpegLsScanL.image_close_zero_eq hcl
  subst heq
  exact ⟨ws, by rw [he]; rfl, hd⟩

/-- WHOLE IMAGES, byte level (encoder side): the scan bytes the `GolombWriter` model emits for
    the encoder's `WriteBits` calls followed by `Flush()` — which are the bytes of the real `Encode`'s
    entropy-coded segment by correspondence (`jls-scanL-enc`) — un-stuffed by the T.87 rule (every byte
    8 bits, the byte after 0xFF its low 7: `Golomb.destuff`), decode to exactly the source image; what
    is left over is zero padding only.  Uses the exactness of the writer (`Golomb.writer_destuff`:
    un-stuffed bytes = written bits ++ zeros, through both overflow flushes of `WriteBits`) and the
    well-formedness of every call the scan issues (`WritesFit`). -/
theorem jpegls_lossless_roundtrip_bytes (P : Nat) (hP : 2 ≤ P ∧ P ≤ 16) (comps : Nat) (hc : 1 ≤ comps) (w : Nat)
    (lines : List (List JpegLsScanL.Pixel))
    (hl : ∀ l ∈ lines, JpegLsScanL.LineOk comps ((2 : Int) ^ P - 1) w l) :
    ∃ ws k, (JpegLsScanL.encodeImage (JpegLsNear.traits P 0) w comps lines).toOption.map (·.1) = some ws ∧
      JpegLsScanL.decodeImage (JpegLsNear.traits P 0) w lines.length comps
        (Golomb.destuff (Golomb.finish (Golomb.writeAll Golomb.Writer.new ws)).out false) =
        .ok (lines, List.replicate k false) := by
  have hadm := JpegLsNear.admissible_zero P hP
  obtain ⟨ws, recs, k, he, hcl, _, hd⟩ := JpegLsScanL.image_bytes_roundtrip P 0 hadm comps hc w lines hl
  have heq := JpegLsScanL.image_close_zero_eq hcl
  subst heq
  exact ⟨ws, k, by rw [he]; rfl, hd⟩

/-- exactness of the bit writer on its own: for every well-formed sequence of `WriteBits` calls
    (`count ∈ 0..32`, `value < 2^count`) followed by `Flush()`, the un-stuffed bytes are the written bits
    followed by zero bits -/
theorem golomb_writer_exact (ws : List (Nat × Int)) (hf : Golomb.WritesFit ws) :
    ∃ k, Golomb.destuff (Golomb.finish (Golomb.writeAll Golomb.Writer.new ws)).out false =
      Golomb.writesBits ws ++ List.replicate k false := Golomb.writer_destuff ws hf

example : Golomb.destuff (Golomb.finish (Golomb.writeAll Golomb.Writer.new [(255, 8), (1, 1)])).out false =
    Golomb.writesBits [(255, 8), (1, 1)] ++ List.replicate 6 false := by decide

example : JpegLsScanL.LineOk 1 ((2 : Int) ^ 12 - 1) 4 [[4095], [0], [4095], [0]] := by
  refine ⟨rfl, ?_⟩
  intro p hp
  simp only [List.mem_cons, List.not_mem_nil, or_false] at hp
  rcases hp with rfl | rfl | rfl | rfl <;> exact ⟨rfl, by intro v hv; simp at hv; subst hv; unfold JpegLsScanL.SampOk; decide⟩

/-! ### bit reader (code-shaped model `Model/GolombReader.lean` of `GolombReader`: 64-bit cache,
    `fillReadCache` with its optimistic path and `positionFF`, the bit stuffed after 0xFF; tied by `jls-gr`) -/

/-- `GolombReader.Rep r S` says that the reader state `r` represents the
    remaining bit stream `S` (the cache is a window onto `S`, the unread bytes un-stuff to the rest).
    On well-stuffed scan data `d` (bytes, every 0xFF followed by a byte < 0x80, not ending on 0xFF):
    a fresh reader represents `Golomb.destuff d`; `ReadBit` returns the next bit and fails exactly when
    the stream is exhausted; `ReadBits(n)`, 1 ≤ n ≤ 32, returns the next n bits as a number and fails
    exactly when fewer than n are left — each re-establishing `Rep` for the rest.  So the two
    operations the decoders call deliver exactly the bit sequence `destuff d`, whatever path
    `fillReadCache` takes (optimistic whole-byte reads, slow path, end of data). -/
theorem golomb_reader_exact (d : List Nat) (hd : GolombReader.WellStuffed d) :
    GolombReader.Rep (GolombReader.new d) (Golomb.destuff d false) ∧
    (∀ (r : GolombReader.Reader) (S : List Bool), GolombReader.Rep r S →
      (S = [] ∧ GolombReader.readBit r = .error .err) ∨
      ∃ b S' r', S = b :: S' ∧ GolombReader.readBit r = .ok ((if b then 1 else 0), r') ∧
        GolombReader.Rep r' S' ∧ r'.data = r.data) ∧
    (∀ (r : GolombReader.Reader) (S : List Bool) (n : Nat), GolombReader.Rep r S → 1 ≤ n → n ≤ 32 →
      if S.length < n then GolombReader.readBits r (n : Int) = .error .err
      else ∃ r', GolombReader.readBits r (n : Int) = .ok (Golomb.natOfBits (S.take n), r') ∧
        GolombReader.Rep r' (S.drop n) ∧ r'.data = r.data) :=
  ⟨GolombReader.rep_new d hd, fun r S h => by
      have hs := GolombReader.readBit_spec r S h
      cases S with
      | nil => exact Or.inl ⟨rfl, hs⟩
      | cons b S' => obtain ⟨r', h1, h2, h3⟩ := hs; exact Or.inr ⟨b, S', r', rfl, h1, h2, h3⟩,
   fun r S n h h1 h32 => by
      have hs := GolombReader.readBits_spec r S h n h1 h32
      by_cases hc : S.length < n <;> simp only [Golomb.takeBits, hc, if_true, if_false] at hs ⊢ <;> exact hs⟩

/-- writer and reader together: for every well-formed write sequence, a fresh reader on the
    bytes the writer emits represents exactly the written bits followed by zero padding -/
theorem golomb_reader_on_writer (ws : List (Nat × Int)) (hf : Golomb.WritesFit ws) :
    ∃ k, GolombReader.Rep (GolombReader.new (Golomb.finish (Golomb.writeAll Golomb.Writer.new ws)).out)
      (Golomb.writesBits ws ++ List.replicate k false) := by
  have hok : WritesOk ws := hf.ok  -- `Golomb.WritesOk` has the body of `WritesOk`
  obtain ⟨-, hs, hb⟩ := golomb_writer_stuffed ws (fun p hp => (hok p hp).1)
  have hws := GolombReader.wellStuffed_of _ hb hs (golomb_scan_end ws hok).1
  obtain ⟨k, hk⟩ := Golomb.writer_destuff ws hf
  exact ⟨k, by rw [← hk]; exact GolombReader.rep_new _ hws⟩

example : (GolombReader.readBits (GolombReader.new [255, 127, 192]) 17).toOption.map (·.1) = some 131071 := by decide

/-- what an unreduced error of the finding does to the escape code: mapped value 8190 at
    qbpp = 12 is written as (8190−1) mod 4096 and read back as 4094 — model-level replay of the
    former P = 12 witness (repaired by bb6666a; regression anchor) -/
theorem golomb_escape_truncates :
    Golomb.decodeValue 0 48 12 (Golomb.writesBits (Golomb.encodeWrites 0 8190 48 12)) = some (4094, []) := by
  decide

end C03
