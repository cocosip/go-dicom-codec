import GdcVerif.Model.JpegContainer
import GdcVerif.Spec.StrictJpeg
import GdcVerif.Spec.StrictJ2kTiles
import GdcVerif.Lemmas.JpegFrames
import GdcVerif.Lemmas.J2kContainer
import GdcVerif.Lemmas.C16Compose
import GdcVerif.Lemmas.GolombExact
import GdcVerif.Lemmas.J2kBodies
import GdcVerif.Lemmas.J2kLayerSlices
import GdcVerif.Lemmas.J2kHeaderFields
/-!
  C16 — every encoded frame is one well-formed, self-describing codestream.

  The container model `Model/JpegContainer.lean` is tied to /repo by the correspondence run of this check;
  `Spec/StrictJpeg.lean`, `Spec/StrictJ2kTiles.lean` and `Spec/StrictJ2kHeader.lean` are independent readers
  written from T.81 Annex B / T.87 Annex C / 15444-1 Annex A.

  The entropy-coded bytes are a universally quantified parameter constrained only by the
  "no unescaped marker" predicate (`StrictJpeg.NoMarker` for the Huffman writer — C02's stuffing
  invariant `StuffOk` is the same predicate —, `StrictJpeg.NoMarkerLS` for the Golomb writer — C03),
  so the theorems cover baseline / extended / 12-bit without a model of the DCT path.

  JPEG 2000 and HTJ2K, (10)–(31): tile-part framing (Psot, TLM, EOC, TPsot/TNsot), the SIZ / COD / QCD fields and
  marker-freeness of tile-part bodies are separate theorems about the writer models; framing and fields are read back
  by separate strict readers (`StrictJ2k.tileWalk`, `parseSiz`, `parseCod`, `parseQcd`), there is no reader of a whole
  codestream and no theorem that composes them, and a tile-part body is a concatenation of pieces (packet headers, MQ
  segments or their layer slices) given as parameters.
-/
namespace JpegC
open StrictJpeg

/-- (1) `WriteSegment`: when the payload fits, the two length bytes spell exactly `len(payload) + 2`
    and the segment is marker, length, payload. -/
theorem segment_length_ok (marker : Int) (data : List Nat) (h : data.length + 2 < 65536) :
    writeSegment marker data = writeMarker marker ++ [(data.length + 2) / 256, (data.length + 2) % 256] ++ data ∧
      ((data.length + 2) / 256) * 256 + (data.length + 2) % 256 = data.length + 2 ∧ (data.length + 2) / 256 < 256 := by
  refine ⟨?_, by omega, by omega⟩
  have h2 : (data.length + 2) / 256 % 256 = (data.length + 2) / 256 := by omega
  rw [writeSegment_eq marker data _ rfl h, be16, h2]

/-- (1') the hypothesis of (1) is necessary: a 65534-byte payload gets the length field 0 -/
theorem segment_length_wraps_counterexample (data : List Nat) (h : data.length = 65534) :
    (writeSegment 0xFFE0 data).take 4 = [0xFF, 0xE0, 0, 0] := by
  simp [writeSegment, writeMarker, writeUint16, be16, u16Of, h]

/-- (2) every header payload the models emit fits its 16-bit length field, with the sizes the
    standard prescribes: SOF 6+3·Nf, SOS 4+2·Ns, DQT 65, DHT 17+n ≤ 17+256 -/
theorem header_payload_lengths (p h w near pred : Int) (c i : Nat) (q : List Int) (cls id : Nat) (t : HuffTable)
    (hc : c = 1 ∨ c = 3) (ht : TableOk t) :
    (sof3Payload p h w c).length = 6 + 3 * c ∧ (sofFixed 8 h w c ++ sof0Comps c).length = 6 + 3 * c ∧
    (sofFixedLS p h w c ++ compSpecs c).length = 6 + 3 * c ∧
    (sosLosslessPayload c pred).length = 4 + 2 * c ∧ (sosBaselinePayload c).length = 4 + 2 * c ∧
    (sosLSPayload c near).length = 4 + 2 * c ∧ (dqtPayload i q).length = 65 ∧
    (∃ pl, dhtPayload cls id t = .ok pl ∧ pl.length = 17 + t.values.length ∧ pl.length + 2 < 65536) := by
  have hd : ∃ pl, dhtPayload cls id t = .ok pl ∧ pl.length = 17 + t.values.length ∧ pl.length + 2 < 65536 :=
    ⟨_, dhtPayload_ok cls id t ht, by have := ht.len; simp; omega, dht_len t ht _⟩
  rcases hc with rfl | rfl <;>
    simp [sof3Payload, sofFixed, sofFixedLS, sof0Comps, compSpecs, scanSels, sosLosslessPayload, sosBaselinePayload,
      sosLSPayload, dqtPayload, hd] <;> decide

/-- (3) generic container theorem: SOI, segments accepted by the strict reader, an accepted SOS,
    ANY admissible entropy-coded segment, EOI ⇒ the strict reader accepts, the scan is delimited
    exactly, EOI is the last two bytes.  (`hdri` is not used: `parse_stream` holds with a DRI segment among `segs`.) -/
theorem container_parse (segs : List (Nat × List Nat)) (sos scan : List Nat) (st : St) (sh : ScanHdr) (f : Frame)
    (hsegs : ∀ s ∈ segs, SegOk s) (hfold : foldSteps {} segs = some st)
    (hsosl : sos.length + 2 < 65536) (hsos : parseSos st sos = some sh)
    (hf : st.frame = some f) (hdri : st.dri = 0) (hscan : ScanOk f.sof scan) (hne : scan ≠ []) :
    parse ([0xFF, 0xD8] ++ encSegs segs ++ encSeg 0xDA sos ++ scan ++ [0xFF, 0xD9]) =
      some { frame := f, scan := sh, dqt := st.dqt, dht := st.dht,
             hdrEnd := 2 + segsLen segs + 4 + sos.length,
             scanEnd := 2 + segsLen segs + 4 + sos.length + scan.length } :=
  parse_stream segs sos scan st sh f hsegs hfold hsosl hsos hf hscan hne

/-- (4) JPEG Lossless (process 14, predictors 1–7): for every geometry that fits the 16-bit fields, every
    precision 2..16, 1 or 3 components, any valid Huffman table and ANY scan without an unescaped
    marker, the frame parses strictly and declares exactly the arguments; nothing follows EOI. -/
theorem lossless_header_fields_roundtrip (w h p pred : Int) (c : Nat) (t : HuffTable) (scan : List Nat)
    (hw : 0 < w ∧ w ≤ 65535) (hh : 0 < h ∧ h ≤ 65535) (hc : c = 1 ∨ c = 3) (hp : 2 ≤ p ∧ p ≤ 16)
    (hpred : 1 ≤ pred ∧ pred ≤ 7) (ht : TableOk t) (hs : NoMarker scan = true) (hne : scan ≠ []) :
    ∃ bytes r, withScan (losslessHeader w h c p pred t) scan = .ok bytes ∧ StrictJpeg.parse bytes = some r ∧
      r.frame = { sof := 0xC3, p := p.toNat, y := h.toNat, x := w.toNat, comps := comps111 c } ∧
      r.scan = { sels := (List.range c).map (fun i => ⟨i + 1, 0, 0⟩), ss := pred.toNat, se := 0, ah := 0, al := 0 } ∧
      r.dqt = [] ∧ r.dht = [{ tc := 0, th := 0, bits := t.bits.map byteOf, vals := t.values }] ∧
      r.scanEnd + 2 = bytes.length ∧ r.hdrEnd + scan.length = r.scanEnd ∧ bytes.drop r.scanEnd = [0xFF, 0xD9] :=
  lossless_frame w h p pred c t scan hw hh hc hp hpred ht hs hne

/-- (5) JPEG Lossless SV1: the same with selection value 1 -/
theorem sv1_header_fields_roundtrip (w h p : Int) (c : Nat) (t : HuffTable) (scan : List Nat)
    (hw : 0 < w ∧ w ≤ 65535) (hh : 0 < h ∧ h ≤ 65535) (hc : c = 1 ∨ c = 3) (hp : 2 ≤ p ∧ p ≤ 16)
    (ht : TableOk t) (hs : NoMarker scan = true) (hne : scan ≠ []) :
    ∃ bytes r, withScan (sv1Header w h c p t) scan = .ok bytes ∧ StrictJpeg.parse bytes = some r ∧
      r.frame = { sof := 0xC3, p := p.toNat, y := h.toNat, x := w.toNat, comps := comps111 c } ∧
      r.scan.ss = 1 ∧ r.scan.al = 0 ∧
      r.scanEnd + 2 = bytes.length ∧ r.hdrEnd + scan.length = r.scanEnd ∧ bytes.drop r.scanEnd = [0xFF, 0xD9] := by
  obtain ⟨b, r, h1, h2, h3, h4, _, _, h7, h8, h9⟩ :=
    lossless_frame w h p 1 c t scan hw hh hc hp (by omega) ht hs hne
  exact ⟨b, r, h1, h2, h3, by simp [h4], by simp [h4], h7, h8, h9⟩

/-- (6) JPEG-LS (lossless: `near = 0`; near-lossless: `near ≤ min(255, MAXVAL/2)`), with the JPEG-LS
    escape predicate on the scan -/
theorem jpegls_header_fields_roundtrip (w h p near : Int) (c : Nat) (scan : List Nat)
    (hw : 0 < w ∧ w ≤ 65535) (hh : 0 < h ∧ h ≤ 65535) (hc : c = 1 ∨ c = 3) (hp : 2 ≤ p ∧ p ≤ 16)
    (hnear : 0 ≤ near ∧ near.toNat ≤ min 255 ((2 ^ p.toNat - 1) / 2))
    (hs : NoMarkerLS scan = true) (hne : scan ≠ []) :
    ∃ bytes r, withScan (jpeglsHeader w h c p near) scan = .ok bytes ∧ StrictJpeg.parse bytes = some r ∧
      r.frame = { sof := 0xF7, p := p.toNat, y := h.toNat, x := w.toNat, comps := comps111 c } ∧
      r.scan = { sels := (List.range c).map (fun i => ⟨i + 1, 0, 0⟩), ss := near.toNat,
                 se := if c = 1 then 0 else 2, ah := 0, al := 0 } ∧
      r.dqt = [] ∧ r.dht = [] ∧
      r.scanEnd + 2 = bytes.length ∧ r.hdrEnd + scan.length = r.scanEnd ∧ bytes.drop r.scanEnd = [0xFF, 0xD9] := by
  have hN : near.toNat ≤ 255 := by have := hnear.2; omega
  have g1 : ¬ (w ≤ 0 ∨ h ≤ 0 ∨ w > 65535 ∨ h > 65535) := by omega
  have g2 : ¬ (c ≠ 1 ∧ c ≠ 3) := fun g => hc.elim g.1 g.2
  have g3 : ¬ (p < 2 ∨ p > 16) := by omega
  have g4 : ¬ (near < 0 ∨ near > 255) := by omega
  obtain ⟨hcb, hco⟩ := comps111_ok c hc 0xF7 (Or.inr rfl)
  have hsos : sosLSPayload c near = c :: (scanSels c ++ [near.toNat, if c = 1 then 0 else 2, 0]) := by
    rw [sosLSPayload, byteOf_toNat hnear.1 (by omega), byteOf_natCast, Nat.mod_eq_of_lt (by omega)]
    rcases hc with rfl | rfl <;> rfl
  refine frame_roundtrip _ _ _ (sosLSPayload c near) scan _ _ _ ?_
    (Prefix.soi.sof 0xFFF7 0xF7 mSOF55 p h w c _ (compSpecs c) hh hw hcb hco (by simp [precisionOk]; omega)
      ⟨by omega, by omega⟩ (by omega))
    (by rw [hsos]; simp only [List.length_append, List.length_cons, List.length_nil, scanSels_length]; omega) ?_ rfl
    (by simp [ScanOk, hs]) hne
  · simp only [jpeglsHeader, if_neg g1, if_neg g2, if_neg g3, if_neg g4,
      sofFixedLS_eq p c (Int.le_of_lt hh.1) (Int.le_of_lt hw.1)]
  · rw [hsos]
    refine parseSos_sels111 _ _ c near.toNat _ hc rfl rfl ?_
    have := hnear.2
    rcases hc with rfl | rfl <;> simp [scanOk] <;> omega

/-- (6') plug for C03: `golomb_writer_stuffed` concludes `Golomb.Stuffed out ∧ ∀ b ∈ out, b < 256`, and
    `Golomb.Stuffed` has exactly the shape of `PairStuffed`; together with "the scan does not end on 0xFF"
    (`C03.golomb_scan_end`, from the freeBitCount bookkeeping of `GolombWriter.Flush`) that is the `NoMarkerLS`
    hypothesis of (6). -/
theorem jpegls_scan_predicate_from_pairwise_stuffing (out : List Nat) (hs : PairStuffed out)
    (hb : ∀ b ∈ out, b < 256) (hl : out.getLast? ≠ some 255) : NoMarkerLS out = true :=
  noMarkerLS_of_pairStuffed out hs hb hl

/-- non-vacuity of (6'), and the last hypothesis is necessary: a scan ending on 0xFF is pairwise stuffed
    but would merge with EOI into `FF FF D9` -/
example : PairStuffed [0x12, 0xFF, 0x7F, 0x80] ∧ NoMarkerLS [0x12, 0xFF, 0x7F, 0x80] = true ∧
    PairStuffed [0x12, 0xFF] ∧ NoMarkerLS [0x12, 0xFF] = false := by
  refine ⟨by simp [PairStuffed], by decide, by simp [PairStuffed], by decide⟩

/-- (7) baseline (and 8-bit "extended", which is written by the baseline encoder) with the scan abstracted -/
theorem baseline_header_fields_roundtrip (w h : Int) (c : Nat) (t : BaseTables) (scan : List Nat)
    (hw : 0 < w ∧ w ≤ 65535) (hh : 0 < h ∧ h ≤ 65535) (hc : c = 1 ∨ c = 3) (ht : BaseOk c t)
    (hs : NoMarker scan = true) (hne : scan ≠ []) :
    ∃ bytes r, withScan (baselineHeader w h c t) scan = .ok bytes ∧ StrictJpeg.parse bytes = some r ∧
      r.frame.sof = 0xC0 ∧ r.frame.p = 8 ∧ r.frame.y = h.toNat ∧ r.frame.x = w.toNat ∧ r.frame.comps.length = c ∧
      (∀ k ∈ r.frame.comps, k.h = 1 ∧ k.v = 1) ∧
      r.scan.ss = 0 ∧ r.scan.se = 63 ∧ r.scan.ah = 0 ∧ r.scan.al = 0 ∧
      r.dqt.length = (if c = 1 then 1 else 2) ∧ r.dht.length = (if c = 1 then 2 else 4) ∧
      r.scanEnd + 2 = bytes.length ∧ r.hdrEnd + scan.length = r.scanEnd ∧ bytes.drop r.scanEnd = [0xFF, 0xD9] := by
  have g1 : ¬ (w ≤ 0 ∨ h ≤ 0 ∨ w > 65535 ∨ h > 65535) := by omega
  have g2 : ¬ (c ≠ 1 ∧ c ≠ 3) := fun g => hc.elim g.1 g.2
  rcases hc with rfl | rfl
  · obtain ⟨bytes, r, h1, h2, h3, h4, h5, h6, h7, h8, h9⟩ := frame_roundtrip (baselineHeader w h 1 t) _ _
      (sosBaselinePayload 1) scan _ { sels := [⟨0, 0, 0⟩], ss := 0, se := 63, ah := 0, al := 0 } _
      (by simp only [baselineHeader, if_neg g1, if_neg g2, dhtSegment_ok _ _ _ ht.dc0, dhtSegment_ok _ _ _ ht.ac0,
            Outcome.map, Outcome.bind, Nat.reduceEqDiff, if_false, List.append_nil])
      ((((Prefix.soi.dqt 0 0 t.q0 ht.q0).sof Gen.C16Jpeg.MarkerSOF0 0xC0 mSOF0 8 h w 1 [⟨0, 1, 1, 0⟩] (sof0Comps 1)
        hh hw (by decide) (by decide) (by decide)).dht 0 0 t.dc0 ht.dc0).dht 1 0 t.ac0 ht.ac0)
      (by decide) (by simp [sosBaselinePayload, byteOf_1, parseSos, parseSels, scanOk, hasDht, findDqt, dhtOf]) rfl
      (by simp [ScanOk, hs]) hne
    refine ⟨bytes, r, h1, h2, ?_⟩
    simp [h3, h4, h5, h6, h7, h8, h9]
  · have hq1 := ht.q1 rfl
    have hd1 := ht.dc1 rfl
    have ha1 := ht.ac1 rfl
    obtain ⟨bytes, r, h1, h2, h3, h4, h5, h6, h7, h8, h9⟩ := frame_roundtrip (baselineHeader w h 3 t) _ _
      (sosBaselinePayload 3) scan _
      { sels := [⟨1, 0, 0⟩, ⟨2, 1, 1⟩, ⟨3, 1, 1⟩], ss := 0, se := 63, ah := 0, al := 0 } _
      (by simp only [baselineHeader, if_neg g1, if_neg g2, dhtSegment_ok _ _ _ ht.dc0, dhtSegment_ok _ _ _ ht.ac0,
            dhtSegment_ok _ _ _ hd1, dhtSegment_ok _ _ _ ha1, Outcome.map, Outcome.bind, if_true, List.append_assoc])
      (((((((Prefix.soi.dqt 0 0 t.q0 ht.q0).dqt 1 1 t.q1 hq1).sof Gen.C16Jpeg.MarkerSOF0 0xC0 mSOF0 8 h w 3
        [⟨1, 1, 1, 0⟩, ⟨2, 1, 1, 1⟩, ⟨3, 1, 1, 1⟩] (sof0Comps 3) hh hw (by decide) (by decide) (by decide)).dht
        0 0 t.dc0 ht.dc0).dht 1 0 t.ac0 ht.ac0).dht 0 1 t.dc1 hd1).dht 1 1 t.ac1 ha1)
      (by decide) (by simp [sosBaselinePayload, byteOf_3, parseSos, parseSels, scanOk, hasDht, findDqt, dhtOf]) rfl
      (by simp [ScanOk, hs]) hne
    refine ⟨bytes, r, h1, h2, ?_⟩
    simp [h3, h4, h5, h6, h7, h8, h9]

/-- (8) 12-bit extended sequential (SOF1) with the scan abstracted -/
theorem ext12_header_fields_roundtrip (w h : Int) (q : List Int) (dc ac : HuffTable) (scan : List Nat)
    (hw : 0 < w ∧ w ≤ 65535) (hh : 0 < h ∧ h ≤ 65535) (hq : QOk q) (hdc : TableOk dc) (hac : TableOk ac)
    (hs : NoMarker scan = true) (hne : scan ≠ []) :
    ∃ bytes r, withScan (ext12Header w h q dc ac) scan = .ok bytes ∧ StrictJpeg.parse bytes = some r ∧
      r.frame = { sof := 0xC1, p := 12, y := h.toNat, x := w.toNat, comps := [⟨1, 1, 1, 0⟩] } ∧
      r.scan = { sels := [⟨1, 0, 0⟩], ss := 0, se := 63, ah := 0, al := 0 } ∧
      r.dqt = [{ pq := 0, tq := 0, q := zq q }] ∧ r.dht = [dhtOf 0 0 dc, dhtOf 1 0 ac] ∧
      r.scanEnd + 2 = bytes.length ∧ r.hdrEnd + scan.length = r.scanEnd ∧ bytes.drop r.scanEnd = [0xFF, 0xD9] := by
  have g1 : ¬ (w ≤ 0 ∨ h ≤ 0 ∨ w > 65535 ∨ h > 65535) := by omega
  refine frame_roundtrip (ext12Header w h q dc ac) _ _ [1, 1, 0, 0, 63, 0] scan _ _ _ ?_
    ((((Prefix.soi.app0.dqt 0 0 q hq).sof Gen.C16Jpeg.MarkerSOF1 0xC1 mSOF1 12 h w 1 [⟨1, 1, 1, 0⟩] [1, 0x11, 0]
      hh hw (by decide) (by decide) (by decide)).dht 0 0 dc hdc).dht 1 0 ac hac)
    (by decide) (by simp [parseSos, parseSels, scanOk, hasDht, findDqt, dhtOf]) rfl (by simp [ScanOk, hs]) hne
  simp only [ext12Header, if_neg g1, dhtSegment_ok _ _ _ hdc, dhtSegment_ok _ _ _ hac, Outcome.map, Outcome.bind]
  rfl

/-- the table used by the non-vacuity examples: one code of length 1 for category 0 -/
def exTable : HuffTable := { bits := [1, 0, 0, 0, 0, 0, 0, 0, 0, 0, 0, 0, 0, 0, 0, 0], values := [0] }

theorem exTable_ok : TableOk exTable := by
  constructor <;> decide

/-- non-vacuity of (4)–(6): the hypotheses hold for a 65535×300 16-bit RGB frame with predictor 7 and a
    scan that contains a stuffed 0xFF, and the conclusion computes on a concrete instance -/
example : (0 < (65535 : Int) ∧ (65535 : Int) ≤ 65535) ∧ TableOk exTable ∧ NoMarker [0x7F, 0xFF, 0x00, 0x3F] = true ∧
    NoMarkerLS [0x7F, 0xFF, 0x7F, 0x3F] = true ∧ (200 : Int).toNat ≤ min 255 ((2 ^ (16 : Int).toNat - 1) / 2) ∧
    ((withScan (losslessHeader 65535 300 3 16 7 exTable) [0x7F, 0xFF, 0x00, 0x3F]).bind fun b =>
      match parse b with
      | some r => .ok (r.frame.x, r.frame.y, r.frame.p, r.frame.comps.length, r.scan.ss)
      | none => .err) = .ok (65535, 300, 16, 3, 7) := by
  refine ⟨by decide, exTable_ok, by decide, by decide, by decide, by decide⟩

/-- (9) REPAIRED (commits c081061 / 47d622b): every JPEG-family header model — like the encoders at HEAD — rejects a
    width or height above 65535, so "the header is emitted" already implies that the sizes fit their 16-bit fields -/
theorem headers_reject_over_65535 (w h p pred near : Int) (c : Nat) (t : HuffTable) (bt : BaseTables) (q : List Int)
    (hbig : w > 65535 ∨ h > 65535) :
    losslessHeader w h c p pred t = .err ∧ sv1Header w h c p t = .err ∧ baselineHeader w h c bt = .err ∧
    ext12Header w h q t t = .err ∧ jpeglsHeader w h c p near = .err := by
  have g : w ≤ 0 ∨ h ≤ 0 ∨ w > 65535 ∨ h > 65535 := by omega
  simp [losslessHeader, sv1Header, baselineHeader, ext12Header, jpeglsHeader, g]

/-- regression anchor: the old witness (width 65536 was accepted and declared as 0) is now an error -/
example : losslessHeader 65536 1 1 8 1 exTable = .err ∧ jpeglsHeader 1 65536 3 8 0 = .err := by decide

/-- (9a) JPEG Lossless and SV1, end to end at model level: header model + C02's scan model `encodeScan`.
    Only the arguments' own validity is assumed (`hok`: the header was emitted, i.e. the encoder's guards passed;
    C02's table/plane hypotheses; `TableOk` for the DHT). The strict reader accepts, returns the arguments, delimits
    exactly the scan bytes, and C02's decoder model maps those bytes back to the source planes. -/
theorem lossless_stream_wf_composed (sv1 : Bool) (P predictor w h nc : Nat) (bits : List Nat) (values : Array Nat)
    (t : JLL.Table) (s : JLL.Planes) (hdr : List Nat)
    (hP : 2 ≤ P ∧ P ≤ 16)
    (hv : JLL.ValidTable bits values = true) (ht : JLL.Table.build bits values = .ok t)
    (hcat : ∀ k ∈ JLL.emittedCats sv1 P predictor w h nc s, k ∈ values.toList)
    (hsz : JLL.Sized w h nc s) (hrng : JLL.InRange P s)
    (htab : TableOk (tableOf bits values))
    (hpred : 1 ≤ (if sv1 then 1 else predictor))
    (hok : losslessHeader w h nc P ((if sv1 then 1 else predictor : Nat) : Int) (tableOf bits values) = .ok hdr) :
    ∃ scan r, JLL.encodeScan sv1 P predictor w h nc (JLL.buildHuffmanCodes bits values) s = .ok scan ∧
      StrictJpeg.parse (hdr ++ scan ++ [0xFF, 0xD9]) = some r ∧
      r.frame = { sof := 0xC3, p := P, y := h, x := w, comps := comps111 nc } ∧
      r.scan.ss = (if sv1 then 1 else predictor) ∧ r.scan.se = 0 ∧ r.scan.ah = 0 ∧ r.scan.al = 0 ∧
      r.dht = [{ tc := 0, th := 0, bits := bits, vals := values.toList }] ∧
      (hdr ++ scan ++ [0xFF, 0xD9]).drop r.scanEnd = [0xFF, 0xD9] ∧
      ((hdr ++ scan ++ [0xFF, 0xD9]).drop r.hdrEnd).take (r.scanEnd - r.hdrEnd) = scan ∧
      JLL.decodeScan sv1 P predictor w h nc t scan = .ok s := by
  obtain ⟨hw, hh, hc, hp, hpr⟩ := losslessHeader_ok_args hok
  obtain ⟨henc, hpk, hm⟩ := JLL.encodeScan_packs sv1 P predictor w h nc bits values s hv hsz hcat
  have hne := JLL.scan_ne_nil hv hcat (show 0 < w by omega) (show 0 < h by omega) (show 0 < nc by omega)
  generalize JLL.writeAll {} _ = scan at henc hpk hne
  have hdec := JLL.decScan_of_packs sv1 P predictor w h nc _ _ (fun _ => t) (fun _ _ => ⟨hv, ht⟩) s hsz hrng hP hm hpk
  have hnm := (stuffOk_eq_noMarker _).symm.trans hpk.stuffOk
  obtain ⟨bytes, r, h1, h2, h3, h4, _, h6, h7, h8, h9⟩ :=
    lossless_frame w h P ((if sv1 then 1 else predictor : Nat) : Int) nc (tableOf bits values) scan
      hw hh hc hp ⟨by omega, hpr.2⟩ htab hnm hne
  obtain ⟨rfl, hl, hse⟩ := withScan_ends hok h1 h7 h8
  have hbits : (tableOf bits values).bits.map byteOf = bits :=
    htab.bits_byteOf.trans (by simp [tableOf, Function.comp_def])
  refine ⟨scan, r, henc, h2, ?_, ?_, ?_, ?_, ?_, ?_, h9, ?_, hdec⟩
  · simpa using h3
  · simp [h4]
  · simp [h4]
  · simp [h4]
  · simp [h4]
  · rw [h6, hbits]; rfl
  · rw [hl, hse, Nat.add_sub_cancel_left, List.append_assoc, List.drop_left, List.take_left]

/-- (9b) lossless / SV1 for ANY sequence of `HuffmanEncoder.WriteBits` calls (widths ≤ 16, at least one bit) + `Flush` -/
theorem lossless_stream_wf_any_writes (w h p pred : Int) (c : Nat) (t : HuffTable) (ws : List (Nat × Nat)) (hdr : List Nat)
    (hok : losslessHeader w h c p pred t = .ok hdr) (hpred : 1 ≤ pred) (ht : TableOk t) (hws : WritesOk ws) :
    ∃ r, StrictJpeg.parse (hdr ++ JLL.writeAll {} ws ++ [0xFF, 0xD9]) = some r ∧
      r.frame = { sof := 0xC3, p := p.toNat, y := h.toNat, x := w.toNat, comps := comps111 c } ∧
      r.scan.ss = pred.toNat ∧ r.scan.se = 0 ∧ r.scan.ah = 0 ∧ r.scan.al = 0 ∧
      r.hdrEnd = hdr.length ∧ r.scanEnd = hdr.length + (JLL.writeAll {} ws).length ∧
      (hdr ++ JLL.writeAll {} ws ++ [0xFF, 0xD9]).drop r.scanEnd = [0xFF, 0xD9] := by
  obtain ⟨hw, hh, hc, hp, hpr⟩ := losslessHeader_ok_args hok
  obtain ⟨hnm, hne⟩ := huffman_scan_ok ws hws
  obtain ⟨bytes, r, h1, h2, h3, h4, _, _, h7, h8, h9⟩ :=
    lossless_frame w h p pred c t (JLL.writeAll {} ws) hw hh hc hp ⟨hpred, hpr.2⟩ ht hnm hne
  obtain ⟨rfl, hl, hse⟩ := withScan_ends hok h1 h7 h8
  exact ⟨r, h2, h3, by simp [h4], by simp [h4], by simp [h4], by simp [h4], hl, hse, h9⟩

/-- (9c) baseline / 8-bit extended for ANY sequence of Huffman writes: covers the DCT path without modelling it
    (GIVEN that the scan is emitted only through `standard.HuffmanEncoder`; `Gen/Facts.lean` holds no fact about it) -/
theorem baseline_stream_wf_any_writes (w h : Int) (c : Nat) (t : BaseTables) (ws : List (Nat × Nat)) (hdr : List Nat)
    (hok : baselineHeader w h c t = .ok hdr) (ht : BaseOk c t) (hws : WritesOk ws) :
    ∃ r, StrictJpeg.parse (hdr ++ JLL.writeAll {} ws ++ [0xFF, 0xD9]) = some r ∧
      r.frame.sof = 0xC0 ∧ r.frame.p = 8 ∧ r.frame.y = h.toNat ∧ r.frame.x = w.toNat ∧ r.frame.comps.length = c ∧
      (∀ k ∈ r.frame.comps, k.h = 1 ∧ k.v = 1) ∧
      r.scan.ss = 0 ∧ r.scan.se = 63 ∧ r.scan.ah = 0 ∧ r.scan.al = 0 ∧
      r.hdrEnd = hdr.length ∧ r.scanEnd = hdr.length + (JLL.writeAll {} ws).length ∧
      (hdr ++ JLL.writeAll {} ws ++ [0xFF, 0xD9]).drop r.scanEnd = [0xFF, 0xD9] := by
  obtain ⟨hw, hh, hc⟩ := baselineHeader_ok_args hok
  obtain ⟨hnm, hne⟩ := huffman_scan_ok ws hws
  obtain ⟨bytes, r, h1, h2, a1, a2, a3, a4, a5, a6, a7, a8, a9, a10, _, _, h7, h8, h9⟩ :=
    baseline_header_fields_roundtrip w h c t (JLL.writeAll {} ws) hw hh hc ht hnm hne
  obtain ⟨rfl, hl, hse⟩ := withScan_ends hok h1 h7 h8
  exact ⟨r, h2, a1, a2, a3, a4, a5, a6, a7, a8, a9, a10, hl, hse, h9⟩

/-- (9d) 12-bit extended sequential for ANY sequence of Huffman writes -/
theorem ext12_stream_wf_any_writes (w h : Int) (q : List Int) (dc ac : HuffTable) (ws : List (Nat × Nat)) (hdr : List Nat)
    (hok : ext12Header w h q dc ac = .ok hdr) (hq : QOk q) (hdc : TableOk dc) (hac : TableOk ac) (hws : WritesOk ws) :
    ∃ r, StrictJpeg.parse (hdr ++ JLL.writeAll {} ws ++ [0xFF, 0xD9]) = some r ∧
      r.frame = { sof := 0xC1, p := 12, y := h.toNat, x := w.toNat, comps := [⟨1, 1, 1, 0⟩] } ∧
      r.scan = { sels := [⟨1, 0, 0⟩], ss := 0, se := 63, ah := 0, al := 0 } ∧
      r.hdrEnd = hdr.length ∧ r.scanEnd = hdr.length + (JLL.writeAll {} ws).length ∧
      (hdr ++ JLL.writeAll {} ws ++ [0xFF, 0xD9]).drop r.scanEnd = [0xFF, 0xD9] := by
  obtain ⟨hw, hh⟩ := ext12Header_ok_args hok
  obtain ⟨hnm, hne⟩ := huffman_scan_ok ws hws
  obtain ⟨bytes, r, h1, h2, h3, h4, _, _, h7, h8, h9⟩ :=
    ext12_header_fields_roundtrip w h q dc ac (JLL.writeAll {} ws) hw hh hq hdc hac hnm hne
  obtain ⟨rfl, hl, hse⟩ := withScan_ends hok h1 h7 h8
  exact ⟨r, h2, h3, h4, hl, hse, h9⟩

/-- (9e) JPEG-LS (lossless and near) for ANY sequence of `GolombWriter.WriteBits` calls + `Flush`: the pairwise
    stuffing is C03's proved invariant; the ONLY open input is `GolombScanEnd_pending_C03` (scan does not end on 0xFF and
    is not empty) — the conclusion of `C03.golomb_scan_end` for a write list with at least one bit; (9e′) discharges
    it.  `hnear` is T.87's bound; the encoder itself still accepts any NEAR ≤ 255 (known finding
    `jpegls-near-exceeds-maxval-half`, C17). -/
theorem jpegls_stream_wf_golomb_writes_partial (w h p near : Int) (c : Nat) (ws : List (Nat × Int)) (hdr : List Nat)
    (hok : jpeglsHeader w h c p near = .ok hdr)
    (hnear : near.toNat ≤ min 255 ((2 ^ p.toNat - 1) / 2))
    (hv : ∀ q ∈ ws, q.1 < Golomb.M32) (hend : GolombScanEnd_pending_C03 ws) :
    ∃ r, StrictJpeg.parse (hdr ++ (Golomb.finish (Golomb.writeAll Golomb.Writer.new ws)).out ++ [0xFF, 0xD9]) = some r ∧
      r.frame = { sof := 0xF7, p := p.toNat, y := h.toNat, x := w.toNat, comps := comps111 c } ∧
      r.scan.ss = near.toNat ∧ r.scan.se = (if c = 1 then 0 else 2) ∧ r.scan.ah = 0 ∧ r.scan.al = 0 ∧
      r.hdrEnd = hdr.length ∧
      (hdr ++ (Golomb.finish (Golomb.writeAll Golomb.Writer.new ws)).out ++ [0xFF, 0xD9]).drop r.scanEnd = [0xFF, 0xD9] := by
  obtain ⟨hw, hh, hc, hp, hn⟩ := jpeglsHeader_ok_args hok
  have hst := Golomb.inv_finish _ (Golomb.inv_writeAll ws _ Golomb.inv_new hv)
  have hnm := noMarkerLS_of_pairStuffed _ (golombStuffed_pairStuffed _ hst.stuffed) hst.bytes hend.1
  obtain ⟨bytes, r, h1, h2, h3, h4, _, _, h7, h8, h9⟩ :=
    jpegls_header_fields_roundtrip w h p near c _ hw hh hc hp ⟨hn.1, hnear⟩ hnm hend.2
  obtain ⟨rfl, hl, -⟩ := withScan_ends hok h1 h7 h8
  exact ⟨r, h2, h3, by simp [h4], by simp [h4], by simp [h4], by simp [h4], hl, h9⟩

/-- (9e′) JPEG-LS with NO open scan hypothesis: the end-of-scan facts (`Flush` never leaves a trailing 0xFF; a
    write list with at least one bit gives a non-empty scan) are `Lemmas/GolombExact.lean`'s bookkeeping invariant
    (the same lemmas behind `C03.golomb_scan_end`).  Every well-formed `WriteBits` sequence (32-bit value, count
    0..32, at least one bit written) followed by `Flush`, framed by the header model and EOI, is accepted by the
    strict reader, which returns exactly the arguments and delimits exactly the scan. -/
theorem jpegls_stream_wf_golomb_writes (w h p near : Int) (c : Nat) (ws : List (Nat × Int)) (hdr : List Nat)
    (hok : jpeglsHeader w h c p near = .ok hdr)
    (hnear : near.toNat ≤ min 255 ((2 ^ p.toNat - 1) / 2))
    (hv : ∀ q ∈ ws, q.1 < Golomb.M32 ∧ 0 ≤ q.2 ∧ q.2 ≤ 32) (hbit : ∃ q ∈ ws, 1 ≤ q.2) :
    ∃ r, StrictJpeg.parse (hdr ++ (Golomb.finish (Golomb.writeAll Golomb.Writer.new ws)).out ++ [0xFF, 0xD9]) = some r ∧
      r.frame = { sof := 0xF7, p := p.toNat, y := h.toNat, x := w.toNat, comps := comps111 c } ∧
      r.scan.ss = near.toNat ∧ r.scan.se = (if c = 1 then 0 else 2) ∧ r.scan.ah = 0 ∧ r.scan.al = 0 ∧
      r.hdrEnd = hdr.length ∧
      (hdr ++ (Golomb.finish (Golomb.writeAll Golomb.Writer.new ws)).out ++ [0xFF, 0xD9]).drop r.scanEnd = [0xFF, 0xD9] :=
  jpegls_stream_wf_golomb_writes_partial w h p near c ws hdr hok hnear (fun q hq => (hv q hq).1)
    ⟨Golomb.finish_last_ne _ (Golomb.K_writeAll ws _ Golomb.K_new hv),
     Golomb.finish_out_ne _ (Golomb.M_writeAll ws _ Golomb.K_new hv (Or.inr hbit))⟩

example : ∃ hdr, jpeglsHeader 300 2 1 12 3 = .ok hdr ∧
    (∀ q ∈ [((255 : Nat), (8 : Int)), (1, 3)], q.1 < Golomb.M32 ∧ 0 ≤ q.2 ∧ q.2 ≤ 32) := by
  refine ⟨_, rfl, ?_⟩
  intro q hq; simp at hq; rcases hq with rfl | rfl <;> decide

/-- (9e′) without `hnear`.  FALSE at HEAD: `jpeglsHeader 4 4 1 2 200` is accepted (NEAR = 200 at P = 2) and the strict
    reader rejects the frame for the write list `[(0, 8)]`, whose scan is the `[0x00]` of (9f). -/
def jpegls_stream_wf_FullStatement : Prop :=
  ∀ (w h p near : Int) (c : Nat) (ws : List (Nat × Int)) (hdr : List Nat),
    jpeglsHeader w h c p near = .ok hdr → (∀ q ∈ ws, q.1 < Golomb.M32 ∧ 0 ≤ q.2 ∧ q.2 ≤ 32) → (∃ q ∈ ws, 1 ≤ q.2) →
    ∃ r, StrictJpeg.parse (hdr ++ (Golomb.finish (Golomb.writeAll Golomb.Writer.new ws)).out ++ [0xFF, 0xD9]) = some r

/-- (9f) still violated at HEAD (C17 class `jpegls-near-exceeds-maxval-half`): NEAR = 200 at P = 2 is accepted by the
    header model exactly as by `nearlossless.Encode`, and the strict reader rejects the frame (T.87 C.2.3) -/
theorem jpegls_near_over_bound_counterexample :
    (withScan (jpeglsHeader 4 4 1 2 200) [0x00]).bind (fun b => .ok (parse b)) = .ok none := by
  decide

/-- non-vacuity of (9b)–(9d): a write list with a stuffed 0xFF -/
example : WritesOk [(0xFF, 8), (1, 3)] ∧ NoMarker [0xFF, 0x00, 0x3F] = true := by
  refine ⟨⟨by decide, ⟨(0xFF, 8), by simp, by decide⟩⟩, by decide⟩

/-- (10) every tile-part is exactly `Psot` bytes: 12 (SOT) + header + 2 (SOD) + data -/
theorem tilepart_length_is_psot (t : TilePart) :
    (writeTilePart t).length = t.psot ∧ t.psot = 14 + t.header.length + t.body.length := by
  refine ⟨writeTilePart_length t, ?_⟩
  simp [TilePart.psot]; omega

/-- (11) Σ Psot + main header + EOC = total length, EOC last (classic code-blocks: no TLM) -/
theorem j2k_psot_sum (p : J2kParams) (info : QcdInfo) (ts : List TilePart) (hht : p.htj2k = false) :
    ∃ bytes, j2kStream p info ts = .ok bytes ∧
      bytes.length = (j2kMainHeader p info).length + (ts.map TilePart.psot).sum + 2 ∧
      bytes.drop (bytes.length - 2) = [0xFF, 0xD9] :=
  j2k_total_length p info ts hht

/-- (12) the scan loop of `writeTLM` walks the tile-part writer's output exactly: every `offset += Psot`
    lands on an SOT, the buffer is consumed exactly, and the collected entries are `(Isot, Psot)` of
    every tile-part in order — for any number of tile-parts and any bodies. -/
theorem tlm_loop_walks_tileparts (ts : List TilePart) (hfit : ∀ t ∈ ts, t.Fits) :
    tlmScan (writeTileParts ts).length (writeTileParts ts) 0 = some (ts.map fun t => (t.isot.toNat, t.psot)) :=
  tlmScan_writeTileParts ts hfit

/-- (13) HTJ2K, for n ≥ 1 tile-parts whose Isot and Psot fit their fields and `Ltlm < 65536`: the stream is main header, ONE TLM segment (`Ltlm = 4 + 6n`, `Ztlm = 0`, `Stlm = 0x60`) whose n
    entries are exactly the tile indices and lengths of the n tile-parts that follow, the tile-parts, EOC;
    total length = main header + TLM + Σ Psot + 2. -/
theorem htj2k_tlm_entries_are_tilepart_lengths (p : J2kParams) (info : QcdInfo) (ts : List TilePart) (hht : p.htj2k = true)
    (hne : ts ≠ []) (hfit : ∀ t ∈ ts, t.Fits) (hn : 4 + ts.length * 6 < 65536) :
    ∃ bytes, j2kStream p info ts = .ok bytes ∧
      bytes = j2kMainHeader p info ++ ([0xFF, 0x55] ++ be16 (4 + ts.length * 6) ++ [0, 0x60] ++
        ts.flatMap fun t => be16 t.isot.toNat ++ be32 t.psot) ++ writeTileParts ts ++ [0xFF, 0xD9] ∧
      bytes.length = (j2kMainHeader p info).length + (6 + 6 * ts.length) + (ts.map TilePart.psot).sum + 2 := by
  refine ⟨_, ?_, rfl, ?_⟩
  · simp [j2kStream, j2kTail, hht, writeTLM_parts ts hne hfit hn, Outcome.map, mEOC]
  · simp only [List.length_append, writeTileParts_length, List.length_cons, List.length_nil]
    have : (ts.flatMap fun t => be16 t.isot.toNat ++ be32 t.psot).length = 6 * ts.length :=
      List.flatMap_length_const _ 6 (fun _ => rfl) ts
    rw [this]
    simp only [be16, List.length_cons, List.length_nil]

/-- (14) the independent A.4.2 walker accepts the tile-part chain + EOC and reads back Isot, Psot, TPsot, TNsot
    of every tile-part; in particular nothing follows EOC and every Psot lands on the next SOT / EOC. -/
theorem tile_chain_strict_walk (ts : List TilePart) (hfit : ∀ t ∈ ts, t.Fits) :
    StrictJ2k.tileWalk (ts.length + 1) (writeTileParts ts ++ [0xFF, 0xD9]) = some (ts.map sotOf) :=
  tileWalk_parts ts (ts.length + 1) hfit (by omega)

/-- (15) `TPsot`/`TNsot` of the two writers are consistent per tile (A.4.2) — classic: one part `0/1` per tile;
    HTJ2K: `NumLevels + 1` parts `k/(NumLevels+1)` per tile — checked here on one instance, 3 tiles × 4
    resolutions; the statements for any tile count and level count are (22) and (23). -/
theorem tpsot_tnsot_consistent_instance :
    StrictJ2k.partsConsistent 3 (((List.range 3).map fun i => classicTilePart i [] [0]).map sotOf) = true ∧
    StrictJ2k.partsConsistent 3 (((List.range 3).flatMap fun i => htTileParts i 3 [] [[1], [2], [3], [4]]).map sotOf) = true := by
  decide

/-- (16) SIZ: the segment length is 38 + 3·Csiz and Xsiz, Ysiz, Csiz and, of the first component, Ssiz (depth − 1,
    bit 7 = signed), XRsiz = YRsiz = 1 are exactly the arguments, whenever they fit the fields of Table A.9
    (every component: (18)) -/
theorem siz_fields_roundtrip (p : J2kParams) (hp : p.Fits) :
    ∃ comps, writeSIZ p = [0xFF, 0x51] ++ be16 (38 + 3 * p.components.toNat) ++ be16 (if p.htj2k then 0x4000 else 0) ++
      be32 p.width.toNat ++ be32 p.height.toNat ++ be32 0 ++ be32 0 ++
      be32 (u32Of (if p.tileWidth = 0 then p.width else p.tileWidth)) ++
      be32 (u32Of (if p.tileHeight = 0 then p.height else p.tileHeight)) ++ be32 0 ++ be32 0 ++
      be16 p.components.toNat ++ comps ∧
      comps.length = 3 * p.components.toNat ∧
      comps.take 3 = [(p.bitDepth - 1).toNat ||| (if p.isSigned then 0x80 else 0), 1, 1] := by
  refine ⟨_, writeSIZ_layout p hp, ?_, ?_⟩
  · rw [replicate_flatten_len]
    exact Nat.mul_comm _ _
  · have hd := hp.d
    obtain ⟨k, hk⟩ : ∃ k, p.components.toNat = k + 1 := ⟨p.components.toNat - 1, by have := hp.c; omega⟩
    rw [hk, List.replicate_succ, byteOf_toNat (by omega) (by omega)]
    cases p.isSigned <;> simp

/-- (17) COD declares the transform that was asked for: SPcod transformation byte = 1 (5-3 reversible) iff lossless -/
theorem cod_transform_byte (p : J2kParams) :
    (writeCOD p).getD 13 0 = (if p.lossless then 1 else 0) ∧ (writeCOD p).take 2 = [0xFF, 0x52] := by
  cases hl : p.lossless <;> simp [writeCOD, j2kSegment, be16, hl] <;> decide

/-- non-vacuity of (11)–(14): two tile-parts with different bodies -/
example : (∀ t ∈ [classicTilePart 0 [] [1, 2, 3], classicTilePart 1 [] [4]], t.Fits) ∧
    tlmScan 33 (writeTileParts [classicTilePart 0 [] [1, 2, 3], classicTilePart 1 [] [4]]) 0 = some [(0, 17), (1, 15)] := by
  refine ⟨by intro t ht; simp at ht; rcases ht with rfl | rfl <;> decide, by decide⟩

/-- (18) SIZ through the strict A.5.1 reader: size, offsets, tile size, component count and, per component, precision,
    SIGNEDNESS and sub-sampling equal the parameters — for every component count -/
theorem siz_all_fields_roundtrip (p : J2kParams) (hp : p.SizOk) :
    StrictJ2k.parseSiz (writeSIZ p) = some
      { rsiz := if p.htj2k then 0x4000 else 0, xsiz := p.width.toNat, ysiz := p.height.toNat, xosiz := 0, yosiz := 0,
        xtsiz := (if p.tileWidth = 0 then p.width else p.tileWidth).toNat,
        ytsiz := (if p.tileHeight = 0 then p.height else p.tileHeight).toNat, xtosiz := 0, ytosiz := 0,
        comps := List.replicate p.components.toNat
          { depthM1 := (p.bitDepth - 1).toNat, signed := p.isSigned, xr := 1, yr := 1 } } := by
  obtain ⟨hw, hh, hc, hd, htw, hth⟩ := hp
  have hD : (p.bitDepth - 1).toNat < 38 := by omega
  have hss := ssiz_fields _ hD p.isSigned
  rw [writeSIZ_layout p ⟨hw, hh, hc, hd⟩,
    byteOf_toNat (x := p.bitDepth - 1) (by omega) (by omega),
    u32Of_toNat (x := if p.tileWidth = 0 then p.width else p.tileWidth) (by split <;> omega) (by split <;> omega),
    u32Of_toNat (x := if p.tileHeight = 0 then p.height else p.tileHeight) (by split <;> omega) (by split <;> omega),
    parseSiz_bytes _ _ _ _ _ _ _ (by split <;> omega) (by omega) (by omega) (by split <;> omega) (by split <;> omega)
    (by omega) (by omega), hss.1, hss.2]

/-- (19) COD through the strict A.6.1 reader: progression, layers, MCT flag, levels, code-block exponents, HT bit and
    the TRANSFORM TYPE equal the parameters (default precincts) -/
theorem cod_all_fields_roundtrip (p : J2kParams) (kx ky : Nat) (hp : p.CodOk kx ky) :
    StrictJ2k.parseCod (writeCOD p) = some
      { scod := 0, prog := p.prog.toNat, layers := p.numLayers.toNat,
        mct := if usesColorTransform p then 1 else 0, levels := p.numLevels.toNat,
        xcb := kx - 2, ycb := ky - 2, style := if p.htj2k then 0x40 else 0,
        transform := if p.lossless then 1 else 0, precincts := [] } := by
  have hm : (if usesColorTransform p = true then (1 : Nat) else 0) ≤ 1 := by split <;> omega
  have hst : (if p.htj2k = true then (64 : Nat) else 0) < 128 := by split <;> omega
  have htr : (if p.lossless = true then (1 : Nat) else 0) ≤ 1 := by split <;> omega
  have hk := hp.k
  have hlay := hp.layers
  rw [writeCOD_layout p kx ky hp]
  exact parseCod_bytes _ _ _ _ _ _ _ _ (by have := hp.prog; omega) (by omega) hm (by have := hp.levels; omega) (by omega) hst htr

/-- (20) QCD through the strict A.6.4 reader, reversible path: style 0, the guard bits, one exponent per sub-band, and
    their number is the 3·levels + 1 that COD's level count demands; instantiated with the encoder's own
    `quantizationInfo` for the classic reversible path -/
theorem qcd_lossless_roundtrip (p : J2kParams) (L : Nat) (hl : p.lossless = true) (hL : p.numLevels = L) (hL32 : L ≤ 32)
    (hd : 1 ≤ p.bitDepth ∧ p.bitDepth ≤ 29) :
    StrictJ2k.parseQcd L (writeQCD p (losslessQcdInfo p)) =
      some { style := 0, guard := 2, vals := (losslessQcdInfo p).expn.map Int.toNat } := by
  have hn := losslessQcdInfo_len p L hL
  rw [writeQCD_lossless_layout p _ hl (by simp [losslessQcdInfo]) (losslessQcdInfo_expn_range p hd) (by omega), hn]
  exact parseQcd_exponents L 2 _ (by rw [List.length_map, hn]) hL32

/-- (21) QCD, irreversible path (scalar expounded): guard bits and every 16-bit step word, 3·levels + 1 of them -/
theorem qcd_lossy_roundtrip (p : J2kParams) (info : QcdInfo) (L : Nat) (hl : p.lossless = false)
    (hs : info.style = 2) (hg : 0 ≤ info.guardBits ∧ info.guardBits ≤ 7) (he : ∀ s ∈ info.steps, 0 ≤ s ∧ s < 65536)
    (hn : info.steps.length = 3 * L + 1) (hL : L ≤ 32) :
    StrictJ2k.parseQcd L (writeQCD p info) = some { style := 2, guard := info.guardBits.toNat, vals := info.steps.map Int.toNat } := by
  rw [writeQCD_lossy_layout p info hl hs hg he (by omega), hn, show 2 * (3 * L + 1) + 3 = 6 * L + 5 by omega]
  refine parseQcd_words L _ _ (fun s hm => ?_) (by rw [List.length_map, hn]) hL
  obtain ⟨x, hx, rfl⟩ := List.mem_map.mp hm
  have := he x hx
  omega

/-- a signed 12-bit RGB 65535×300 image, 64×32 tiles, 5 levels, 64×64 code-blocks, RPCL, 3 layers -/
def exParams : J2kParams :=
  { width := 65535, height := 300, components := 3, bitDepth := 12, isSigned := true, tileWidth := 64,
    tileHeight := 32, numLevels := 5, lossless := true, cbw := 64, cbh := 64, precW := 0, precH := 0, prog := 2,
    numLayers := 3, enableMCT := true, htj2k := false }

/-- non-vacuity of (18)–(20) -/
example : exParams.SizOk ∧ exParams.CodOk 6 6 ∧ StrictJ2k.parseCod (writeCOD exParams) =
      some { scod := 0, prog := 2, layers := 3, mct := 1, levels := 5, xcb := 4, ycb := 4, style := 0, transform := 1, precincts := [] } := by
  refine ⟨by constructor <;> decide, by constructor <;> decide, by decide⟩

/-- (23) TPsot / TNsot, GENERAL: for any tile count, any level count ≤ 254 and any bodies the HTJ2K writer's
    `NumLevels + 1` parts per tile, numbered `k / (NumLevels + 1)`, pass the A.4.2 consistency check -/
theorem tpsot_tnsot_consistent_htj2k (n L : Nat) (hL : L + 1 ≤ 255) (bodies : Nat → List (List Nat))
    (hb : ∀ i, (bodies i).length = L + 1) :
    StrictJ2k.partsConsistent n ((List.range n).flatMap fun i => (htTileParts i (L : Int) [] (bodies i)).map sotOf) = true := by
  apply partsConsistent_blocks
  · intro i s hs
    simp only [htTileParts, List.mem_map, List.mem_mapIdx] at hs
    obtain ⟨t, ⟨k, hk, rfl⟩, rfl⟩ := hs
    simp [sotOf]
  · intro i _ h
    have := congrArg List.length h
    simp [htTileParts, hb] at this
  · intro i _ k s hk
    simp only [htTileParts, List.getElem?_map, List.getElem?_mapIdx] at hk
    cases hh : (bodies i)[k]? with
    | none => simp [hh] at hk
    | some b =>
      have hlen : k < L + 1 := hb i ▸ (List.getElem?_eq_some_iff.1 hh).1
      simp only [hh, Option.map_some, Option.some.injEq] at hk
      subst hk
      simp only [sotOf, htTileParts, List.length_map, List.length_mapIdx, hb]
      refine ⟨?_, ?_⟩
      · rw [byteOf_natCast]; omega
      · have : ((L : Int) + 1) = ((L + 1 : Nat) : Int) := by omega
        rw [this, byteOf_natCast]; omega

/-- (22) … and so do the classic writers' tile-part headers, for any number of tiles and any bodies: one part `0/1` per
    tile is what the HTJ2K writer emits for no levels -/
theorem tpsot_tnsot_consistent_classic (n : Nat) (body : Nat → List Nat) :
    StrictJ2k.partsConsistent n ((List.range n).flatMap fun i => [sotOf (classicTilePart i [] (body i))]) = true := by
  have h := tpsot_tnsot_consistent_htj2k n 0 (by decide) (fun i => [body i]) (fun _ => rfl)
  simpa [htTileParts, classicTilePart] using h

/-- (24) packet headers: whatever bits the header coder writes, the flushed bytes of `bioWriter` have every 0xFF
    followed by a byte < 0x80 and do not end on 0xFF (stream-level invariant of C04's `BioW` model, proved here) -/
theorem bio_header_marker_free (bits : List Bool) :
    StrictJ2k.PairBelow 128 (J2k.BioW.new.writeBitsList bits).flush ∧
    (J2k.BioW.new.writeBitsList bits).flush.getLast? ≠ some 255 :=
  ⟨bio_header_pairBelow bits, J2k.flush_last_not_FF _⟩

/-- (25) code-block segments: every byte string `MQEncoder.Flush` returns is marker free in the same sense (C20) -/
theorem mq_segment_marker_free (n : Nat) (ds : List (Nat × Nat)) (hds : ∀ d ∈ ds, d.2 < n) :
    ∃ bytes, Mqc.encodeBytes n ds = some bytes ∧ StrictJ2k.BodyOk bytes :=
  mq_segment_bodyOk n ds hds

/-- (26) CONCATENATION: pieces that are each marker free and do not end on 0xFF concatenate to a marker-free body
    that does not end on 0xFF — no marker straddles a boundary -/
theorem body_concatenation (pieces : List (List Nat)) (h : ∀ p ∈ pieces, StrictJ2k.BodyOk p) :
    StrictJ2k.BodyOk pieces.flatten :=
  StrictJ2k.bodyOk_flatten pieces h

/-- (27) J2K BODIES MARKER FREE: a tile-part body that is a concatenation, in any order and number, of packet headers
    (any header bits through `bioWriter`, flushed) and MQ segments (any decisions through `MQEncoder`, flushed) contains
    no byte pair FF90..FFFF and does not end on 0xFF.  The abstraction "body = concatenation of such pieces" is tied to
    the code by the `c16-j2k-pieces` correspondence op (pieces cut from `t2.Packet.Header` / `CodeBlockIncl.Data`). -/
theorem j2k_bodies_marker_free (ps : List Piece) (h : ∀ p ∈ ps, p.Wf) :
    StrictJ2k.BodyOk (ps.map Piece.bytes).flatten :=
  StrictJ2k.bodyOk_flatten _ (List.forall_mem_map.mpr fun p hp => piece_bodyOk p (h p hp))

/-- non-vacuity of (27): a header whose first byte is 0xFF, followed by an MQ segment -/
example : (∀ p ∈ [Piece.header (List.replicate 9 true), Piece.mqSegment 2 [(1, 0), (0, 1), (1, 1)]], p.Wf) ∧
    (Piece.header (List.replicate 9 true)).bytes = [255, 64] := by
  refine ⟨by intro p hp; simp at hp; rcases hp with rfl | rfl <;> simp [Piece.Wf], by decide⟩

/-- (28) NORMALISED PASS RATES ARE GOOD CUTS (t1/encoder_layered.go `normalizePassRates`, model `T1.normalizeRates` of C20):
    for ANY raw per-pass rates and any byte string without two consecutive 0xFF bytes, every cumulative rate the
    normaliser returns lies inside the stream, is not immediately after an 0xFF byte, and the rates ascend -/
theorem normalized_rates_not_after_ff (data rates : List Nat) (hd : NoDoubleFF data) :
    (∀ r ∈ T1.normalizeRates rates data, StrictJ2k.CutOk data r) ∧ (T1.normalizeRates rates data).Pairwise (· ≤ ·) :=
  normalizeRates_ok data hd rates

/-- … and MQ output never has two consecutive 0xFF bytes (from C20's stream invariant) -/
theorem mq_stream_no_double_ff (n : Nat) (ds : List (Nat × Nat)) (hds : ∀ d ∈ ds, d.2 < n) :
    ∃ bytes, Mqc.encodeBytes n ds = some bytes ∧ NoDoubleFF bytes := by
  obtain ⟨bytes, h1, h2⟩ := Mqc.encoder_stream n ds hds
  exact ⟨bytes, h1, streamOk_noDoubleFF bytes h2⟩

/-- (29) J2K LAYER SLICES: for the byte string of ANY MQ run, ANY raw pass rates,
    every slice `data[a:b]` whose end point is 0, the stream length or a normalised rate — every slice `finalizeBlock` /
    `allocateRDLayerData` can form — contains no FF90..FFFF pair and does not end on 0xFF -/
theorem j2k_layer_slices (n : Nat) (ds : List (Nat × Nat)) (hds : ∀ d ∈ ds, d.2 < n) (rates : List Nat) :
    ∃ bytes, Mqc.encodeBytes n ds = some bytes ∧
      ∀ a b, b ∈ 0 :: bytes.length :: T1.normalizeRates rates bytes → StrictJ2k.BodyOk ((bytes.take b).drop a) :=
  layer_slice_bodyOk n ds hds rates

/-- (30) MULTI-LAYER BODIES MARKER FREE: a tile-part body that is any concatenation of packet headers (bioWriter) and
    layer slices of MQ streams cut at normalised rates contains no FF90..FFFF pair and does not end on 0xFF -/
theorem j2k_multilayer_bodies_marker_free (ps : List LPiece) (h : ∀ p ∈ ps, p.Wf) :
    StrictJ2k.BodyOk (ps.map LPiece.bytes).flatten :=
  StrictJ2k.bodyOk_flatten _ (List.forall_mem_map.mpr fun p hp => lpiece_bodyOk p (h p hp))

/-- (31) HTJ2K tile-part partition (first loop of `writeHTJ2KTileParts`, model `htPartition`, tied by `c16-ht-partition`):
    `NumLevels + 1` parts come out, and every part is a concatenation of packet headers and bodies of its resolution, hence
    marker free as soon as the packets' headers and bodies are -/
theorem htj2k_partition_parts_marker_free (numLevels : Int) (packets : List (Int × List Nat × List Nat)) (parts : List (List Nat))
    (h : htPartition numLevels packets = .ok parts)
    (hp : ∀ p ∈ packets, StrictJ2k.BodyOk p.2.1 ∧ StrictJ2k.BodyOk p.2.2) :
    parts.length = (numLevels + 1).toNat ∧ ∀ part ∈ parts, StrictJ2k.BodyOk part := by
  simp only [htPartition] at h
  split at h
  · cases h
  · cases Outcome.ok.inj h
    refine ⟨by simp, fun part hpart => ?_⟩
    obtain ⟨r, _, rfl⟩ := List.mem_map.mp hpart
    rw [List.flatMap_def]
    refine StrictJ2k.bodyOk_flatten _ (List.forall_mem_map.mpr fun p hpm => ?_)
    have hq := hp p (List.mem_filter.mp hpm).1
    exact hq.1.append hq.2

example : htPartition 1 [(0, [1], [2, 3]), (1, [4], []), (0, [5], [6])] = .ok [[1, 2, 3, 5, 6], [4]] ∧
    htPartition 1 [(2, [1], [])] = .err := by decide

/-- the unrestricted version of (29) is FALSE, which is why the normaliser is needed (and what seeded change C16-m4
    removes): a cut immediately after an 0xFF byte gives a slice that ends on 0xFF -/
theorem layer_slice_arbitrary_cut_counterexample :
    StrictJ2k.PairBelow 0x90 [0x12, 0xFF, 0x7F, 0x80] ∧ ¬ StrictJ2k.BodyOk (([0x12, 0xFF, 0x7F, 0x80].take 2).drop 0) ∧
    T1.normalizeRates [2, 4] [0x12, 0xFF, 0x7F, 0x80] = [1, 4] := by
  refine ⟨by decide, by decide, by decide⟩

/-- FULL STATEMENT over C20's code-shaped model of `EncodeLayered` (all 64 code-block styles, incl. the raw LAZY
    segments and TERMALL / RESET / PTERM / SEGSYM; not proved): every slice of the block's bytes that ends at 0, at the end or
    at a returned cumulative rate is marker free and does not end on 0xFF.  (28)–(30) prove it for the bytes of one MQ
    run cut at normalised rates (style 0, the layered default); for the other styles the missing input is "the byte string
    has no FF followed by ≥ 0x90 and no two consecutive 0xFF" for streams with restarts / raw segments, and for HTJ2K
    the HT block coder's segments have no model here.  Searched: strict walker on every real stream, every piece of the
    `c16-j2k-pieces` lines, and real layered blocks of styles 0/1/2/4/5/8/32 on the `c16-layer-cuts` lines. -/
def j2k_layered_blocks_all_styles_FullStatement : Prop :=
  ∀ (w h orient style : Nat) (coeffs : List Int) (numPasses : Nat) (rates : List Nat) (mb : Int) (bytes : List Nat),
    T1.encodeLayered w h orient style coeffs numPasses = .ok (rates, mb, bytes) →
    ∀ a b, b ∈ 0 :: bytes.length :: rates → StrictJ2k.BodyOk ((bytes.take b).drop a)

end JpegC
