import GdcVerif.Gen.JpegLs
import GdcVerif.Spec.T87
import GdcVerif.Lemmas.JpegLsT87
import GdcVerif.Lemmas.JpegLsT87Ctx
import GdcVerif.Lemmas.JpegLsT87Golomb
/-!
  C14 — JPEG-LS conforms to ITU-T T.87: parameters and per-sample procedures.

  Left-hand sides are the GENERATED kernels (`Gen/JpegLs.lean`, from /repo/jpegls/lossless) — except the Golomb
  parameter loops and the run-interruption encoder, which are hand models (`JpegLsScan.golombParam`, `JpegLsRun.*`);
  right-hand sides are `Spec/T87.lean`, an independent transcription of the standard.
  `traits P N = NewTraits (2^P−1) N 64` is the parameter object encoder and decoder build.

  Two deviations of the library from T.87 were found and repaired (each is stated as a
  `…_FullStatement`, which holds at full strength on the repaired kernels):
  * default thresholds: until fix 8bdee4d the code's `clamp` returned MAXVAL where T.87 Figure C.3
    `CLAMP` returns the lower bound when the Table C.3 expression exceeds MAXVAL (e.g. MAXVAL = 255,
    NEAR ≥ 34);
  * lossless package vs near-lossless package at NEAR = 0: until fix bb6666a `Encoder.computeErrorValue`
    narrowed to int8/int16 instead of reducing modulo RANGE (P ∉ {8,16}) — same root cause as C03.
  The stream-level statements (bytes of the two encoders, cross decoding, independent decoder,
  Annex H.3 vector) are evaluated on the real code by the harness (c14.go, c14_t87.go).
-/
namespace C14
open Gen.JpegLs JpegLsNear JpegLsT87

/-! ### default parameters (T.87 A.2.1, C.2.4.1.1) -/

def default_params_eq_T87_FullStatement : Prop :=
  ∀ (P : Nat) (N : Int), Admissible P N →
    (T87.defaults ((2 : Int) ^ P - 1) N).RANGE = (traits P N).Range ∧
    (T87.defaults ((2 : Int) ^ P - 1) N).qbpp = (traits P N).Qbpp ∧
    (T87.defaults ((2 : Int) ^ P - 1) N).LIMIT = (traits P N).Limit ∧
    (T87.defaults ((2 : Int) ^ P - 1) N).RESET = (traits P N).Reset ∧
    (T87.defaults ((2 : Int) ^ P - 1) N).T1 = (traits P N).T1 ∧
    (T87.defaults ((2 : Int) ^ P - 1) N).T2 = (traits P N).T2 ∧
    (T87.defaults ((2 : Int) ^ P - 1) N).T3 = (traits P N).T3

/-- RANGE, qbpp (`bitsLen` = ⌈log2⌉), LIMIT (from bpp) and RESET equal the standard's formulas
    for every admissible (P, NEAR) -/
theorem default_range_qbpp_limit_eq_T87 (P : Nat) (N : Int) (h : Admissible P N) :
    (T87.defaults ((2 : Int) ^ P - 1) N).RANGE = (traits P N).Range ∧
    (T87.defaults ((2 : Int) ^ P - 1) N).qbpp = (traits P N).Qbpp ∧
    (T87.defaults ((2 : Int) ^ P - 1) N).LIMIT = (traits P N).Limit ∧
    (T87.defaults ((2 : Int) ^ P - 1) N).RESET = (traits P N).Reset := range_qbpp_limit_eq P N h

example : Admissible 16 255 ∧ (T87.defaults 65535 255).RANGE = 130 ∧ (T87.defaults 65535 255).qbpp = 8 ∧
    (T87.defaults 65535 255).LIMIT = 64 := by decide

example : Admissible 8 3 ∧ (T87.rawT 255 3).1 ≤ 255 ∧ (T87.rawT 255 3).2.1 ≤ 255 ∧ (T87.rawT 255 3).2.2 ≤ 255 ∧
    (T87.defaults 255 3).T1 = 12 ∧ (T87.defaults 255 3).T2 = 22 ∧ (T87.defaults 255 3).T3 = 42 := by decide

/-- all default parameters, thresholds included, at full strength on the repaired kernel: `clamp` IS Figure C.3 `CLAMP` -/
theorem default_params_eq_T87 : default_params_eq_T87_FullStatement := by
  intro P N h
  obtain ⟨hR, hq, hL, hRe⟩ := default_range_qbpp_limit_eq_T87 P N h
  exact ⟨hR, hq, hL, hRe, thresholds_eq P N⟩

example : (T87.defaults 255 34).T3 = 177 ∧ (traits 8 34).T3 = 177 := by decide

/-- MED prediction = A.4.1 -/
theorem predict_eq_T87 (a b c : Int) : Predict a b c = T87.med a b c := predict_eq a b c

/-- gradient quantisation = A.3.3 (both copies in the code: `Traits.QuantizeGradient` and
    `GradientQuantizer.quantizeGradient`, which the scans use) -/
theorem quantizeGradient_eq_T87 (t : Traits) (d : Int) :
    Traits.QuantizeGradient t d = T87.quantizeGradient (specOf t) d ∧
    GradientQuantizer.quantizeGradient { T1 := t.T1, T2 := t.T2, T3 := t.T3, Near := t.Near } d =
      T87.quantizeGradient (specOf t) d := ⟨quantizeGradient_eq t d, gq_quantizeGradient_eq t d⟩

/-- reconstruction = A.4.4/A.4.5 for every admissible (P, NEAR), every prediction in range and
    every decodable error value (|e| ≤ RANGE), including the `& MaxVal` shortcut for NEAR = 0 -/
theorem reconstruct_eq_T87 (P : Nat) (N : Int) (h : Admissible P N) (Px e : Int)
    (hPx : 0 ≤ Px ∧ Px ≤ (2 : Int) ^ P - 1) (he : -(traits P N).Range ≤ e ∧ e ≤ (traits P N).Range) :
    Traits.ComputeReconstructedSample (traits P N) Px e = T87.reconstruct (specOf (traits P N)) Px e :=
  reconstruct_eq (traits_wf P N h) Px e hPx he

example : Traits.ComputeReconstructedSample (traits 8 0) 250 10 = 4 ∧ T87.reconstruct (specOf (traits 8 0)) 250 10 = 4 := by
  decide

/-- error un-mapping with the k = 0 correction = A.5.2 read backwards -/
theorem unmap_eq_T87 (ctx : Context) (k near m : Int) (hm : 0 ≤ m ∧ m < 4294967296) :
    Go.xor (UnmapErrorValue m) (Context.GetErrorCorrection ctx k near) =
      T87.unmapErrval (decide (near = 0 ∧ k = 0 ∧ 2 * ctx.B ≤ -ctx.N)) m := unmap_eq ctx k near m hm

example : Go.xor (UnmapErrorValue 5) (Context.GetErrorCorrection { A := 4, N := 2, B := -1, C := 0 } 0 0) = 2 := by decide

/-- modulo reduction of the near-lossless path = A.4.4 -/
theorem moduloRange_eq_T87 (P : Nat) (N : Int) (h : Admissible P N) (e : Int) :
    Traits.ModuloRange (traits P N) e = T87.moduloReduce (specOf (traits P N)) e :=
  moduloRange_eq _ e (by
    have hr : 2 ≤ (traits P N).Range := (traits_range P N h).1
    omega)

/-! ### context update (T.87 A.6, code segments A.12 / A.13) and run-interruption state (A.7.2) -/

/-- `Context.UpdateContext` IS code segments A.12 + A.13 whenever the CharLS-style overflow
    guard of the code (A or |B| reaching 2^24, not in the standard) does not fire.  `B >> 1` of a
    negative `B` is the standard's `-((1 - B) >> 1)`; the order of the `C` step and the `B` clamp in
    A.13 is immaterial. -/
theorem contextUpdate_eq_T87 (c : Context) (e near reset : Int) (p : T87.Params)
    (hN : p.NEAR = near) (hR : p.RESET = reset)
    (hA : c.A + Go.abs e < 16777216)
    (hB : -16777216 < c.B + e * (2 * near + 1) ∧ c.B + e * (2 * near + 1) < 16777216) :
    ctxSpec (Context.UpdateContext c e near reset) = T87.contextUpdate p (ctxSpec c) e :=
  updateContext_eq c e near reset p hN hR hA hB

/-- the hypotheses `hA`, `hB` of `contextUpdate_eq_T87` (the guard does not fire) are met by every
    state a scan reaches: with `A ≤ 64·2^16` (the bound the RESET halving maintains for
    |Errval| ≤ 2^16), `−N < B ≤ 0`, `N ≤ 64` (both from `JpegLsT87.updateContext_inv`) and
    `|Errval·(2·NEAR+1)| ≤ 2^17` they hold -/
theorem contextUpdate_guard_reachable (c : Context) (e near : Int)
    (hA : 0 ≤ c.A ∧ c.A ≤ 64 * 65536) (hBN : -c.N < c.B ∧ c.B ≤ 0) (hNr : 1 ≤ c.N ∧ c.N ≤ 64)
    (he : -65536 ≤ e ∧ e ≤ 65536) (hm : -131072 ≤ e * (2 * near + 1) ∧ e * (2 * near + 1) ≤ 131072) :
    c.A + Go.abs e < 16777216 ∧
    (-16777216 < c.B + e * (2 * near + 1) ∧ c.B + e * (2 * near + 1) < 16777216) := by
  generalize e * (2 * near + 1) = m at *
  unfold Go.abs; split <;> omega

example : ctxSpec (Context.UpdateContext { A := 9, N := 64, B := -5, C := 3 } (-70) 0 64) =
      T87.contextUpdate (T87.defaults 255 0) { A := 9, B := -5, C := 3, N := 64 } (-70) ∧
    T87.contextUpdate (T87.defaults 255 0) { A := 9, B := -5, C := 3, N := 64 } (-70) =
      { A := 39, B := -5, C := 2, N := 33 } := by decide

/-- FULL for the states a scan reaches: starting from the initial context of any RANGE in 2..65536
    (`NewContext`, regenerated), after ANY sequence of error values with |Errval| ≤ 2^16 and
    |Errval·(2·NEAR+1)| ≤ 2^17 (RESET = 64) the code's context is the standard's (A.12 + A.13 iterated)
    — the 2^24 overflow guard of the code is unreachable (`CtxReach`: 0 ≤ A ≤ N·2^16, 1 ≤ N ≤ 64,
    −N < B ≤ 0, −128 ≤ C ≤ 127 is an inductive invariant) -/
theorem contextRun_eq_T87 (range near : Int) (p : T87.Params) (hN : p.NEAR = near) (hR : p.RESET = 64)
    (hr : 2 ≤ range ∧ range ≤ 65536) (es : List Int)
    (hes : ∀ e ∈ es, (-65536 ≤ e ∧ e ≤ 65536) ∧ (-131072 ≤ e * (2 * near + 1) ∧ e * (2 * near + 1) ≤ 131072)) :
    ctxSpec (es.foldl (fun c e => Context.UpdateContext c e near 64) (NewContext range)) =
      es.foldl (fun q e => T87.contextUpdate p q e) (ctxSpec (NewContext range)) ∧
    CtxReach (es.foldl (fun c e => Context.UpdateContext c e near 64) (NewContext range)) :=
  ctxReach_run near p hN hR es _ (ctxReach_init range hr) hes

example : ctxSpec ([3, -200, 7].foldl (fun c e => Context.UpdateContext c e 0 64) (NewContext 256)) =
    { A := 214, B := 0, C := 1, N := 4 } := by decide

/-- run-interruption contexts: `RunModeContext.UpdateVariables` = code segment A.23 and
    `RunModeContext.ComputeMap` = code segment A.21, for all inputs -/
theorem runInterruption_eq_T87 (c : RunModeContext) (e em k reset : Int) (p : T87.Params) (hR : p.RESET = reset) :
    riSpec (RunModeContext.UpdateVariables c e em reset) = T87.riUpdate p (riSpec c) e em ∧
    RunModeContext.ComputeMap c e k = T87.riMap (riSpec c) k e :=
  ⟨riUpdate_eq c e em reset p hR, riMap_eq c e k⟩

example : riSpec (RunModeContext.UpdateVariables { runInterruptionType := 1, A := 5, N := 64, NN := 3 } (-2) 3 64) =
    { RItype := 1, A := 3, N := 33, Nn := 2 } := by decide

/-- Golomb coding parameter: the regular-mode loop (`Context.ComputeGolombParameter`, model
    `JpegLsScan.golombParam` with the fuel the scan model uses) yields T.87 A.10's `k` — the least `k`
    with `N·2^k ≥ A` — whenever `A ≤ N·2^16` (beyond that the code's cap `k < 16` stops the loop, the
    standard has no cap); the run-interruption loop (`RunModeContext.GetGolombCode`) yields A.20's `k`
    for `TEMP = A + (N>>1)·RItype` whenever `TEMP ≤ N·2^32` -/
theorem golombParameter_eq_T87 :
    (∀ ctx : Context, ctx.A ≤ ctx.N * 2 ^ 16 →
      ∃ k : Nat, JpegLsScan.golombParam ctx 17 0 = (k : Int) ∧ T87.IsGolombK ctx.N ctx.A k) ∧
    (∀ c : RunModeContext, (c.runInterruptionType = 0 ∨ c.runInterruptionType = 1) →
      c.A + c.N / 2 * c.runInterruptionType ≤ c.N * 2 ^ 32 →
      ∃ k : Nat, JpegLsRun.getGolombCode c = (k : Int) ∧
        T87.IsGolombK c.N (if c.runInterruptionType = 1 then c.A + c.N / 2 else c.A) k) :=
  ⟨fun ctx h => golombParam_eq ctx h, fun c h1 h2 => getGolombCode_eq c h1 h2⟩

example : JpegLsScan.golombParam { A := 37, N := 5, B := 0, C := 0 } 17 0 = 3 ∧ T87.IsGolombK 5 37 3 := by
  refine ⟨by decide, by decide, ?_⟩
  intro j hj
  have : j = 0 ∨ j = 1 ∨ j = 2 := by omega
  rcases this with h | h | h <;> subst h <;> decide

/-- run-interruption sample, encoder side (`RunModeScanner.EncodeRunInterruption`, model
    `JpegLsRun.encodeRunInterruption`): the Golomb parameter is A.20's `k`, the value written is
    A.22's `EMErrval = 2·|Errval| − RItype − map` with A.21's `map`, coded with the limit
    `LIMIT − J[RUNindex] − 1` (A.7.2), and the state afterwards is A.23's — for every run index inside
    the J table and every context whose `TEMP ≤ N·2^32` -/
theorem runInterruptionEncode_eq_T87 (t : Traits) (idx : Int) (c : RunModeContext) (e : Int)
    (hidx : 0 ≤ idx ∧ idx ≤ 31)
    (hrit : c.runInterruptionType = 0 ∨ c.runInterruptionType = 1)
    (hA : c.A + c.N / 2 * c.runInterruptionType ≤ c.N * 2 ^ 32) :
    ∃ (k : Nat) (j : Int),
      T87.IsGolombK c.N (if c.runInterruptionType = 1 then c.A + c.N / 2 else c.A) k ∧
      JpegLsRun.J? idx = .ok j ∧
      JpegLsRun.encodeRunInterruption t idx c e =
        .ok (Golomb.encodeWrites k (T87.riEMErrval (riSpec c) k e) (t.Limit - j - 1) t.Qbpp,
             RunModeContext.UpdateVariables c e (T87.riEMErrval (riSpec c) k e) t.Reset) ∧
      riSpec (RunModeContext.UpdateVariables c e (T87.riEMErrval (riSpec c) k e) t.Reset) =
        T87.riUpdate (specOf t) (riSpec c) e (T87.riEMErrval (riSpec c) k e) :=
  encodeRunInterruption_eq t idx c e hidx hrit hA

/-- the lossless encoder's error reduction agrees with the near-lossless path at NEAR = 0 -/
def lossless_eq_near0_FullStatement : Prop :=
  ∀ (P : Nat) (enc : Encoder), 2 ≤ P ∧ P ≤ 16 → enc.bitDepth = P → enc.traits = traits P 0 →
    ∀ d : Int, -((2 : Int) ^ P) < d ∧ d < 2 ^ P →
      Encoder.computeErrorValue enc d = Traits.ComputeErrorValue (traits P 0) d

/-- full strength on the repaired kernel: the lossless `Encoder.computeErrorValue` is the near-lossless
    `Traits.ComputeErrorValue` at NEAR = 0 for every P in 2..16.  Since the fix both are `Traits.ModuloRange`, so
    only `enc.traits = traits P 0` is used; the bounds on P, `bitDepth` and d are what the pre-fix kernel needed. -/
theorem lossless_eq_near0 : lossless_eq_near0_FullStatement := by
  intro P enc _ _ ht d _
  rw [JpegLsLemmas.computeErrorValue_near0 _ rfl]
  unfold Encoder.computeErrorValue
  rw [ht]

end C14
