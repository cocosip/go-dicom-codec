import GdcVerif.Model.Adapters
import GdcVerif.Model.Frames
import GdcVerif.Props.C17
import GdcVerif.Lemmas.C10Adapters
/-!
  C10 / C17 at the DICOM adapter level (`*/codec.go`) — theorems about the hand model
  `Model/Adapters.lean` (tied to the Go adapters by the `adapter-*`, `adapter-loop`, `params-*`
  correspondence lines of the C17 check) and, where a low-level encoder is involved, about the
  go2lean-GENERATED validation prefixes: what each adapter passes down, the frame loop, and the
  codec.Parameters extraction of the JPEG-family adapters.
-/
namespace C10Adapters
open Adapters

/-- geometry and component count are handed down unchanged by every adapter -/
theorem adapter_geometry_passed (k : Codec) (fi : FI) (e : Int) (p : Passed) (h : passDown k fi e = some p) :
    p.w = fi.W ∧ p.h = fi.H ∧ p.c = fi.SPP :=
  have e := (passDown_spec h).2.2
  ⟨congrArg Passed.w e, congrArg Passed.h e, congrArg Passed.c e⟩

/-- signedness reaches only the JPEG 2000 family (the JPEG / JPEG-LS / RLE low-level APIs have no such argument) -/
theorem adapter_signed_passed (k : Codec) (fi : FI) (e : Int) (p : Passed) (h : passDown k fi e = some p) :
    p.signed = (match k with
      | .j2kLossless | .j2kLossy | .htj2k => fi.PR != 0
      | _ => false) := by
  have e := congrArg Passed.signed (passDown_spec h).2.2
  cases k <;> exact e

/-- the encoder reads as many bytes per sample as the native frame has -/
def DepthMatches (k : Codec) (fi : FI) (e : Int := 12) : Prop :=
  ∀ p, passDown k fi e = some p → bytesRead k p.depth = containerBytes fi

/-- after the container guard: for every adapter and every in-scope FrameInfo, whenever the adapter
    goes on to call the low-level encoder, the encoder reads exactly ⌈BitsAllocated/8⌉ bytes per sample -/
theorem adapter_depth_matches_container (k : Codec) (fi : FI) (hs : fi.InScope) (e : Int) (_he : e = 8 ∨ e = 12) :
    DepthMatches k fi e :=
  fun _ => bytesRead_passDown fun _ => by obtain ⟨h | h, -⟩ := hs <;> omega

/-- regression anchor (was the finding family `c10-declen-*-ba16-bs-le8` / `adapter-depth-container-mismatch`):
    BitsAllocated 16 with BitsStored 8 is now REJECTED by the eight BitsStored-passing adapters -/
example :
    let fi : FI := ⟨2, 2, 16, 8, 1, 0⟩
    fi.InScope ∧ passDown .baseline fi = none ∧ passDown .extended fi = none ∧ passDown .lossless fi = none ∧
    passDown .sv1 fi = none ∧ passDown .jls fi = none ∧ passDown .jlsNear fi = none ∧
    passDown .j2kLossless fi = none ∧ passDown .j2kLossy fi = none ∧
    (passDown .htj2k fi).isSome ∧ (passDown .rle fi).isSome ∧
    (passDown .lossless ⟨2, 2, 16, 12, 1, 0⟩).isSome ∧ (passDown .baseline ⟨2, 2, 8, 8, 1, 0⟩).isSome := by decide

/-- RLE and HTJ2K size the samples from BitsAllocated: always right -/
theorem adapter_depth_matches_container_rle_htj2k (fi : FI) (hs : fi.InScope) :
    DepthMatches .rle fi ∧ DepthMatches .htj2k fi :=
  ⟨adapter_depth_matches_container .rle fi hs 12 (Or.inr rfl),
    adapter_depth_matches_container .htj2k fi hs 12 (Or.inr rfl)⟩

example : (⟨16, 12, 16, 12, 1, 0⟩ : FI).InScope ∧ (⟨16, 12, 16, 8, 1, 0⟩ : FI).InScope ∧
    Codec.usesBitsStored .sv1 = true := by decide

/-- (guard added after finding `adapter-zero-bit-depth-accepted`) the two adapters that do not hand
    BitsStored itself down — baseline always declares 8 bit, extended 8 or 12 — refuse a FrameInfo that declares
    0-bit samples: whenever they go on to the low-level encoder, 1 ≤ BitsStored ≤ the depth they declare.
    (The other BitsStored-passing adapters hand 0 down and the GENERATED prefixes reject it: depth ≥ 1 resp. ≥ 2.) -/
theorem adapter_zero_depth_rejected (k : Codec) (hk : k = .baseline ∨ k = .extended) (fi : FI) (e : Int) (p : Passed)
    (h : passDown k fi e = some p) : 1 ≤ fi.BS ∧ (fi.BS : Int) ≤ p.depth := by
  obtain ⟨-, hr, rfl⟩ := passDown_spec h
  rcases hk with rfl | rfl <;>
    simp only [] at hr ⊢ <;>
    omega

/-- the finding's witness (BitsAllocated = BitsStored = 0, 4×4) is refused whatever the parameter depth; 1-bit data still passes -/
example : passDown .baseline ⟨4, 4, 0, 0, 1, 0⟩ = none ∧ passDown .extended ⟨4, 4, 0, 0, 1, 0⟩ 12 = none ∧
    passDown .extended ⟨4, 4, 0, 0, 1, 0⟩ 8 = none ∧ (passDown .baseline ⟨4, 4, 8, 1, 1, 0⟩).isSome := by decide

/-- success: every frame was non-empty and encoded, and the destination holds exactly the image of
    the frame list under the per-frame function, in order (appended to what was there) -/
theorem loopFrom_ok {Out : Type} (work : List Nat → Option Out) :
    ∀ (frames : List (List Nat)) (i : Nat) (dst out : List Out),
      loopFrom work frames i dst = .ok out →
        out.map some = dst.map some ++ frames.map work ∧ ∀ f ∈ frames, f ≠ [] := by
  intro frames i dst out h
  obtain ⟨pre, post, outs, rfl, hw, hpre, -, hl⟩ := loopFrom_spec work frames i dst
  rw [hl] at h
  cases post with
  | cons g tl => cases h
  | nil =>
    cases h
    rw [List.append_nil, List.map_append, hw]
    exact ⟨rfl, hpre⟩

/-- failure: the error names the FIRST frame that is empty or fails; the frames before it were
    encoded and stay added to the destination (what the code does: no rollback) -/
theorem loopFrom_err {Out : Type} (work : List Nat → Option Out) :
    ∀ (frames : List (List Nat)) (i : Nat) (dst out : List Out) (j : Nat),
      loopFrom work frames i dst = .err out j →
        i ≤ j ∧ j - i < frames.length ∧
        out.map some = dst.map some ++ (frames.take (j - i)).map work ∧
        (∀ f ∈ frames.take (j - i), f ≠ [] ∧ (work f).isSome) ∧
        (∀ f, frames[j - i]? = some f → f = [] ∨ work f = none) := by
  intro frames i dst out j h
  obtain ⟨pre, post, outs, rfl, hw, hpre, hpost, hl⟩ := loopFrom_spec work frames i dst
  rw [hl] at h
  cases post with
  | nil => cases h
  | cons g tl =>
    cases h
    rw [Nat.add_sub_cancel_left, List.take_left' rfl, List.map_append, hw, List.length_append, List.length_cons,
      List.getElem?_append_right (Nat.le_refl _), Nat.sub_self]
    refine ⟨Nat.le_add_right _ _, by omega, rfl, fun f hf => ⟨hpre f hf, ?_⟩, hpost⟩
    obtain ⟨o, -, ho⟩ := List.mem_map.mp (hw ▸ List.mem_map_of_mem (f := work) hf)
    rw [← ho]
    rfl

/-- `Codec.Encode` / `Codec.Decode` of every adapter: on success the output frame list is the map of
    the input frame list (1:1, same order), and it is non-empty when the adapter has the zero-frame check -/
theorem encodeAll_ok {Out : Type} (zeroCheck : Bool) (work : List Nat → Option Out) (frames : List (List Nat))
    (out : List Out) (h : encodeAll zeroCheck work frames = .ok out) :
    out.map some = frames.map work ∧ out.length = frames.length ∧ (zeroCheck = true → frames ≠ []) := by
  unfold encodeAll at h
  split at h
  · cases h
  · rename_i hz
    have h1 := (loopFrom_ok work frames 0 [] out h).1
    rw [List.map_nil, List.nil_append] at h1
    refine ⟨h1, ?_, fun hc hf => hz ?_⟩
    · rw [← List.length_map (f := some), h1, List.length_map]
    · rw [hc, hf]
      rfl

/-- on an error the destination holds the outputs of the frames BEFORE the failing one (prefix, in order) -/
theorem encodeAll_err {Out : Type} (zeroCheck : Bool) (work : List Nat → Option Out) (frames : List (List Nat))
    (out : List Out) (j : Nat) (h : encodeAll zeroCheck work frames = .err out j) :
    out.map some = (frames.take j).map work ∧ out.length = min j frames.length := by
  unfold encodeAll at h
  split at h
  · cases h
    exact ⟨by rw [List.take_zero]; rfl, (Nat.zero_min _).symm⟩
  · have h3 := (loopFrom_err work frames 0 [] out j h).2.2.1
    rw [List.map_nil, List.nil_append, Nat.sub_zero] at h3
    refine ⟨h3, ?_⟩
    rw [← List.length_map (f := some), h3, List.length_map, List.length_take]

/-- the successful loop is the run of a state machine without state (`Frames.Machine`), hence a `map`:
    the C10 consequences (`Frames.map_getElem`, `map_perm`, `map_sublist`, `map_replicate`) apply -/
theorem encodeAll_ok_is_machine_run {Out : Type} [Inhabited Out] (zeroCheck : Bool) (work : List Nat → Option Out)
    (frames : List (List Nat)) (out : List Out) (h : encodeAll zeroCheck work frames = .ok out) :
    out = (Frames.Machine.run ⟨fun (_ : Unit) f => ((), (work f).getD default)⟩ () frames) := by
  rw [Frames.Machine.run_eq_map_of_inv (St := Unit) ⟨fun _ f => ((), (work f).getD default)⟩
    (fun _ => True) () (fun _ _ _ => trivial) (fun _ _ _ => rfl) () trivial frames]
  have h1 := congrArg (List.map (Option.getD · default)) (encodeAll_ok zeroCheck work frames out h).1
  rw [List.map_map, List.map_map] at h1
  exact (List.map_id' out).symm.trans h1

example : encodeAll true (fun f => if f.length < 3 then none else some f.length) [[1, 2, 3], [4, 5, 6, 7]] = .ok [3, 4] ∧
    encodeAll true (fun f => if f.length < 3 then none else some f.length) [[1, 2, 3], [], [4, 5, 6]] = .err [3] 1 ∧
    encodeAll true (fun f => if f.length < 3 then none else some f.length) [[1, 2, 3], [9], [4, 5, 6]] = .err [3] 1 ∧
    encodeAll true (fun f => some f.length) [] = .err [] 0 ∧
    encodeAll false (fun f => some f.length) [] = .ok [] := by decide

/-! codec.Parameters extraction (JPEG family), C17: whatever the caller passes, the low-level encoder
    receives a parameter it accepts -/

/-- jpeg/baseline: for EVERY parameters argument (nil, typed nil, typed with any quality, any foreign
    implementation returning anything) and any constructor argument, the quality handed down is 1..100 -/
theorem baseline_params_sound (ctorQuality : Int) (src : PSrc Gen.ValidateJpegBaseline.JPEGBaselineParameters) :
    let q := baselineQuality (newBaselineCodecQuality ctorQuality) src
    1 ≤ q ∧ q ≤ 100 := by
  have hv := C17.baseline_validate_quality
  simp only []
  unfold baselineQuality
  exact ⟨(hv _).1, (hv _).2.1⟩

/-- … and a legal typed quality is used as is; a legal foreign `int` quality too -/
theorem baseline_params_faithful (cq q : Int) (hq : 1 ≤ q ∧ q ≤ 100) :
    baselineQuality cq (.typed { Quality := q }) = q ∧
    baselineQuality cq (.foreign fun key => if key = "quality" then .int q else .absent) = q := by
  have hv := C17.baseline_validate_quality
  unfold baselineQuality
  refine ⟨(hv _).2.2 hq, ?_⟩
  have : (q ≥ 1 && q ≤ 100) = true := by simp; omega
  simp only [if_pos, this]
  exact (hv _).2.2 hq

theorem extended_params_sound (cd cq : Int) (src : PSrc Gen.ValidateJpegExtended.JPEGExtendedParameters) :
    let r := extendedParams (newExtendedCodec cd cq).1 (newExtendedCodec cd cq).2 src
    (1 ≤ r.Quality ∧ r.Quality ≤ 100) ∧ (r.BitDepth = 8 ∨ r.BitDepth = 12) := by
  simp only []
  unfold extendedParams
  exact C17.extended_validate _

theorem lossless_params_sound (cp : Int) (ts57 : Bool) (src : PSrc Gen.ValidateJpegLossless.JPEGLosslessParameters) :
    let r := losslessPredictor cp ts57 src
    1 ≤ r ∧ r ≤ 7 ∧ (ts57 = true → r = 1) := by
  have hv := C17.lossless_validate_predictor (losslessSrcParams cp src)
  simp only [] at hv ⊢
  unfold losslessPredictor
  simp only []
  split
  · simp
  · rename_i h
    simp at h
    refine ⟨by omega, by omega, ?_⟩
    intro ht; simp [ht] at h

theorem near_params_sound (ctorNear : Int) (src : PSrc Gen.ValidateJpegLsNear.JPEGLSNearLosslessParameters) :
    let r := nearNear (newNearCodecNear ctorNear) src
    0 ≤ r ∧ r ≤ 255 := by
  simp only []
  unfold nearNear
  exact C17.jpeglsNear_validate_near _

/-- the NEAR bound of T.87 is NOT established by the adapter either (known finding
    `jpegls-near-exceeds-maxval-half`): a typed NEAR = 200 reaches `Encode` at any depth -/
theorem near_params_keep_200 (cn : Int) : nearNear cn (.typed { NEAR := 200 }) = 200 := by
  unfold nearNear; simp only []; decide

end C10Adapters
