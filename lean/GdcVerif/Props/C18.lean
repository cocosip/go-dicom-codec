import GdcVerif.Model.NonInt
import GdcVerif.Gen.Facts
/-!
  C18 — registered codecs are safe for concurrent use.

  * the abstract non-interference theorem (`Model/NonInt.lean`): locations written by one thread are touched
    by no other ⇒ (i) no two steps of different threads conflict (`Race`, the hypothesis restated), (ii) every
    thread computes, under every interleaving, exactly what it computes alone (induction on the schedule);
  * the facts that are read as its hypothesis `Isolated` for the library — no `Prog` of the library is defined, so
    this is not an instance in Lean —, each discharged by `decide` over `Gen.Facts` (regenerated from the Go source on
    every run): package-level variables are written only during initialisation (named exceptions), no method of a
    codec.Codec implementation stores through its receiver, the library starts no goroutine and uses no
    sync/atomic/unsafe, nothing is unclassified;
  * `validate_noop_on_valid_*`: over the generated store conditions of each `Validate` method, no store
    executes on an already-valid parameters object — for all seven parameter types (htj2k since fix 870ac76);
  * `no_direct_store_into_parameters_outside_validate`, `codec_parameters_deep_entries`: stores through the
    `parameters` argument of the codec methods.

  What no theorem here exhibits: the Go memory model and the race detector's view of the execution; the step
  from "no store in the typed AST" to "no data race" is the trusted reading of the facts.
-/
namespace C18
open NonInt

/-- (i) no two steps of different threads conflict.  `Race` is a predicate of the program text (no schedule occurs in
    it) and is `¬ Isolated` spelt out, so this restates the hypothesis; what isolation buys for schedules is (ii) -/
theorem no_race {L Val : Type} [DecidableEq L] [Inhabited Val] (prog : Prog L Val) (h : Isolated prog) :
    ¬ Race prog := no_race_of_isolated prog h

/-- (ii) for every schedule, on everything thread `t` reads or writes the interleaved run agrees with `t`
    running alone for the same number of steps from the same initial store -/
theorem thread_computes_as_alone {L Val : Type} [DecidableEq L] [Inhabited Val] (prog : Prog L Val)
    (h : Isolated prog) (t : Nat) (c : Conf L Val) (sched : List Nat) :
    (∀ l, l ∈ accesses (prog t) → (run prog c sched).store l = (solo prog t c (sched.count t)).store l) ∧
      (run prog c sched).pc t = (solo prog t c (sched.count t)).pc t :=
  ⟨noninterference prog h t c sched, noninterference_pc prog h t c sched⟩

/-- the transition of a step depends on its read set only and changes its write set only — a fact about the
    model's definition of a step, not a hypothesis -/
theorem step_wellformed {L Val : Type} [DecidableEq L] [Inhabited Val] (st : Step L Val) (s s' : L → Val) :
    (∀ l, l ∉ st.writes → st.tr s l = s l) ∧
      ((∀ l, l ∈ st.reads → s l = s' l) → ∀ l, l ∈ st.writes → st.tr s l = st.tr s' l) :=
  ⟨fun l h => tr_frame st s l h, fun h l hl => tr_dep st s s' h l hl⟩

/-- non-vacuity, the shape of the codecs: location 0 is a shared table that nobody writes, threads 0 and 1
    read it and write their private locations 1 and 2; both hypotheses hold and the run is computed -/
def exProg : Prog Nat Nat := fun t =>
  if t = 0 then [⟨[0], [1], fun s _ => s 0 + 1⟩, ⟨[0, 1], [1], fun s _ => s 0 + s 1⟩]
  else if t = 1 then [⟨[0], [2], fun s _ => s 0 * 2⟩] else []

theorem exProg_isolated : Isolated exProg := by
  intro u v huv l hl
  unfold exProg at *
  by_cases hu0 : u = 0 <;> by_cases hu1 : u = 1 <;> by_cases hv0 : v = 0 <;> by_cases hv1 : v = 1 <;>
    simp_all [writesOf, accesses] <;> omega

example : (run exProg ⟨fun l => if l = 0 then 5 else 0, fun _ => 0⟩ [1, 0, 1, 0, 0]).store 1 = 11 ∧
    (solo exProg 0 ⟨fun l => if l = 0 then 5 else 0, fun _ => 0⟩ 2).store 1 = 11 := by decide

/-- a racy program violates the hypothesis and the conclusion: thread 1 writes what thread 0 reads -/
example : ∃ prog : Prog Nat Nat, Race prog ∧
    (run prog ⟨fun _ => 0, fun _ => 0⟩ [1, 0]).store 1 ≠ (solo prog 0 ⟨fun _ => 0, fun _ => 0⟩ 1).store 1 :=
  ⟨fun t => if t = 0 then [⟨[0], [1], fun s _ => s 0⟩] else if t = 1 then [⟨[], [0], fun _ _ => 7⟩] else [],
    ⟨1, 0, by decide, ⟨[], [0], fun _ _ => 7⟩, by simp, ⟨[0], [1], fun s _ => s 0⟩, by simp, 0, by simp, Or.inl (by simp)⟩,
    by decide⟩

/-- F1: every store rooted in a library package-level variable happens in `init`, in a function reachable
    only from `init`, or in an exported table builder that only `init` calls — except the named ones:
    `htj2k.GenerateVLCTables` is also reachable at run time, through `NewVLCDecoderOptimized`'s lazy guard
    `VLCDecodeTbl0[0].CwdLen == 0` (false once init has run; checked dynamically by the harness) -/
theorem package_variables_written_only_during_init :
    ((Gen.Facts.pkgVarWrites.filter (fun w => w.2.2.2.2 &&
        !(w.2.2.2.1 == "init" || w.2.2.2.1 == "init-only" || w.2.2.2.1 == "init-exported"))).map
        (fun w => (w.1, w.2.1))) =
      [("jpeg2000/htj2k.VLCDecodeTbl0", "jpeg2000/htj2k.GenerateVLCTables"),
       ("jpeg2000/htj2k.VLCDecodeTbl1", "jpeg2000/htj2k.GenerateVLCTables")] := by decide +kernel

/-- the exported table builders that only `init` calls (a client calling them later is outside the property) -/
theorem exported_init_only_table_builders :
    ((Gen.Facts.pkgVarWrites.filter (fun w => w.2.2.2.1 == "init-exported")).map (·.2.1)).eraseDups =
      ["jpeg2000/htj2k.InitVLCTables"] := by decide +kernel

/-- F2: no method of any of the ten codec.Codec implementations stores through its receiver -/
theorem no_codec_method_stores_through_receiver :
    Gen.Facts.codecRecvStores = [] ∧ Gen.Facts.codecTypes.length = 10 ∧ 60 ≤ Gen.Facts.codecMethods.length := by
  decide +kernel

/-- F5: the library packages start no goroutine, use no sync / sync/atomic, import no unsafe -/
theorem no_concurrency_primitives_in_library :
    Gen.Facts.goStmts.filter (·.2.2) = [] ∧ Gen.Facts.syncUses.filter (·.2.2) = [] ∧
      Gen.Facts.unsafeImports = [] := by decide +kernel

/-- nothing in the library is unclassified by the analysis -/
theorem no_unknown_in_library : Gen.Facts.unknowns.filter (fun u => u.2.2.2) = [] := by decide +kernel

/-- the analysis looked at something: package variables exist and are written in init -/
example : 40 ≤ (Gen.Facts.pkgVars.filter (·.2.2.2)).length ∧
    2 ≤ (Gen.Facts.pkgVarWrites.filter (fun w => w.2.2.2.1 == "init")).length := by decide

open Gen.Facts

def noStore (cs : List (String × Bool)) : Bool := cs.all (fun c => !c.2)

theorem validate_noop_on_valid_baseline (p : V_jpeg_baseline_JPEGBaselineParameters)
    (h : 1 ≤ p.Quality ∧ p.Quality ≤ 100) : noStore p.storeConds = true := by
  simp [noStore, V_jpeg_baseline_JPEGBaselineParameters.storeConds]
  omega

theorem validate_noop_on_valid_extended (p : V_jpeg_extended_JPEGExtendedParameters)
    (h : 1 ≤ p.Quality ∧ p.Quality ≤ 100 ∧ (p.BitDepth = 8 ∨ p.BitDepth = 12)) : noStore p.storeConds = true := by
  simp [noStore, V_jpeg_extended_JPEGExtendedParameters.storeConds]
  omega

theorem validate_noop_on_valid_jpeg_lossless (p : V_jpeg_lossless_JPEGLosslessParameters)
    (h : 0 ≤ p.Predictor ∧ p.Predictor ≤ 7) : noStore p.storeConds = true := by
  simp [noStore, V_jpeg_lossless_JPEGLosslessParameters.storeConds]
  omega

theorem validate_noop_on_valid_jpegls_near (p : V_jpegls_nearlossless_JPEGLSNearLosslessParameters)
    (h : 0 ≤ p.NEAR ∧ p.NEAR ≤ 255) : noStore p.storeConds = true := by
  simp [noStore, V_jpegls_nearlossless_JPEGLSNearLosslessParameters.storeConds]
  omega

theorem validate_noop_on_valid_j2k_lossless (p : V_jpeg2000_lossless_JPEG2000LosslessParameters)
    (h : 0 ≤ p.NumLevels ∧ p.NumLevels ≤ 6 ∧ 1 ≤ p.NumLayers ∧ 0 ≤ p.Rate ∧ (0 < p.Rate → p.len_RateLevels ≠ 0) ∧
      p.ProgressionOrder ≤ 4 ∧ 0 ≤ p.TargetRatio ∧
      ¬ (p.AppendLosslessLayer = true ∧ p.NumLayers < 2 ∧ 0 < p.TargetRatio)) :
    noStore p.storeConds = true := by
  cases ha : p.AppendLosslessLayer <;>
    simp [noStore, V_jpeg2000_lossless_JPEG2000LosslessParameters.storeConds, ha] at h ⊢ <;> omega

theorem validate_noop_on_valid_j2k_lossy (p : V_jpeg2000_lossy_JPEG2000LossyParameters)
    (h : 0 < p.Rate ∧ p.len_RateLevels ≠ 0 ∧ 0 ≤ p.NumLevels ∧ p.NumLevels ≤ 6 ∧ 1 ≤ p.NumLayers ∧
      0 < p.QuantStepScale) : noStore p.storeConds = true := by
  simp [noStore, V_jpeg2000_lossy_JPEG2000LossyParameters.storeConds]
  omega

/-- htj2k.Parameters (after fix 870ac76): the block sizes are stored only when rounding changes them.
    `nearestPowerOf2_BlockWidth` is the value of the helper `nearestPowerOf2(p.BlockWidth)`; an object is
    valid when it is in range and its block sizes already are what the helper returns -/
theorem validate_noop_on_valid_htj2k (p : V_jpeg2000_htj2k_Parameters)
    (h : 1 ≤ p.Quality ∧ p.Quality ≤ 100 ∧ 4 ≤ p.BlockWidth ∧ p.BlockWidth ≤ 1024 ∧ 4 ≤ p.BlockHeight ∧
      p.BlockHeight ≤ 1024 ∧ 0 ≤ p.NumLevels ∧ p.NumLevels ≤ 6 ∧
      p.nearestPowerOf2_BlockWidth = p.BlockWidth ∧ p.nearestPowerOf2_BlockHeight = p.BlockHeight) :
    noStore p.storeConds = true := by
  obtain ⟨h1, h2, h3, h4, h5, h6, h7, h8, h9, h10⟩ := h
  simp [noStore, V_jpeg2000_htj2k_Parameters.storeConds, h9, h10]
  omega

/-- regression anchor for finding `c18-race-jpeg2000/htj2k.(*Parameters).Validate` (fixed by 870ac76): on
    the object GetDefaultParameters() returns (quality 80, 64×64 blocks, 5 levels) no store executes any more -/
example :
    ((V_jpeg2000_htj2k_Parameters.mk 64 64 5 80 64 64).storeConds.filter (·.2)).map (·.1) = [] := by decide

/-- F2b, the static form of "a shared already-valid parameters object is only read": no codec method — nor
    anything it calls with the pointer — stores INTO the parameters object it was handed (the typed pointer
    obtained from the `parameters` argument by type assertion, or anything derived from it without a copy),
    except through the object's own `Validate` (store-free on valid objects, above).  A store that is undone
    before the call returns is still a store and would be listed (seeded change C18-m1: `p.NumLevels = clamped`
    with a deferred restore in lossy encodeFrameOnce appears as a `direct` entry, with the precise store in
    `typedParameterDirectStores`) -/
theorem no_direct_store_into_parameters_outside_validate :
    Gen.Facts.codecParameterStores.filter (fun s => s.2.2.2 == "direct" && s.2.2.1 != "Validate") = [] := by
  decide +kernel

/-- what remains is over-approximation: three JPEG 2000 Encode paths whose per-call encoder captured the MCT
    arrays of a generic parameters object — stores somewhere in memory REACHABLE from the argument (the arrays
    are only read; the shared objects are hashed before, during and after the concurrent workload by the
    harness).  Decode takes a parameters object only in htj2k (Validate) -/
theorem codec_parameters_deep_entries :
    (Gen.Facts.codecParameterStores.filter (fun s => s.2.2.1 != "Validate")).map (fun s => (s.1, s.2.1, s.2.2.1)) =
      [("jpeg2000/lossless.Codec", "Encode", "call:jpeg2000/lossless.(*Codec).encodeLosslessAllFrames"),
       ("jpeg2000/lossy.Codec", "Encode", "call:jpeg2000/lossy.(*Codec).encodeFrameOnce"),
       ("jpeg2000/lossy.Codec", "Encode", "call:jpeg2000/lossy.(*Codec).encodeFrameWithTargetRatio")] ∧
    ((Gen.Facts.codecParameterStores.filter (fun s => s.2.1 == "Decode")).map (·.1)).eraseDups = ["jpeg2000/htj2k.Codec"] := by
  decide +kernel

/-- helpers that store into a typed parameters object they receive only ever get a freshly created one: the
    only such helper fills the object `extractLosslessParameters` has just allocated -/
theorem typed_parameter_helpers :
    (Gen.Facts.typedParameterDirectStores.map (·.1)).eraseDups =
      ["jpeg2000/lossless.(*Codec).extractBasicLosslessParams"] := by decide +kernel

/-- every parameter type with a Validate method is covered above -/
theorem validate_types_covered :
    Gen.Facts.validateTypes =
      ["V_jpeg_baseline_JPEGBaselineParameters", "V_jpeg_extended_JPEGExtendedParameters",
       "V_jpeg_lossless_JPEGLosslessParameters", "V_jpeg2000_htj2k_Parameters",
       "V_jpeg2000_lossless_JPEG2000LosslessParameters", "V_jpeg2000_lossy_JPEG2000LossyParameters",
       "V_jpegls_nearlossless_JPEGLSNearLosslessParameters"] := rfl

end C18
