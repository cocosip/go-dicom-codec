import GdcVerif.Model.Dct
import GdcVerif.Lemmas.Dct
import GdcVerif.Lemmas.DctDqt
import GdcVerif.Lemmas.DctDetect
import GdcVerif.Lemmas.DctHuff
import GdcVerif.Lemmas.DctColour
import GdcVerif.Lemmas.DctPass
import GdcVerif.Lemmas.DctBlock
import GdcVerif.Lemmas.DctRgb
import GdcVerif.Spec.T81ZigZag
/-!
  C11 — JPEG DCT codecs (Baseline / Extended): loss bounded by the declared quantisation.  PARTIAL.

  Proved (logical layers; `Gen.*` definitions are regenerated from /repo on every run): the range and formula of
  `ScaleQuantTable`'s entries (at quality 0, which every Encode rejects, Go's `5000 / quality` panics and the
  kernel reads `Int.tdiv 5000 0 = 0`), `ZigZag` against T.81 Figure A.6 (independent spec), the quantiser contract,
  the edge replication index, DQT bytes emitted = table used (model; the model is tied to the real streams by
  `jpg-dqt`), detectBitDepth (fix 12cadee; old witness kept), Huffman category coding, the colour matrices, the
  fixed-point DCT pair;
  * `c11_bound_block`, `c11_bound_grey8`: THE BOUND ITSELF for the 8-bit greyscale path — every block, every table,
    every image size, every quality: |decoded − source| ≤ (1/8)·Σ C(u)C(v)·Q[u,v] + 2 (exact integer form), on the
    model built from the generated passes.
  * `c11_bound_rgb`: the RGB bound through the colour matrix, with an allowance < 7 (the property says 5).
  NOT proved: the RGB allowance 5, the bound for 12-bit (float IDCT), and anything about the stream as a whole — the
  bounds are about the DCT/quantiser chain, so "identical geometry" and "the matching decoder accepts the stream"
  have no theorem here;
  `c11_bound_FullStatement` (all codecs, real functions) stays a `def` and is searched.
-/
namespace Dct
open Gen.JpegStd Gen.JpegBaseline Gen.JpegExtended

/-- (1) every entry ScaleQuantTable can produce is a valid 8-bit DQT entry — for every quality and base value -/
theorem c11_scale_entry_in_1_255 (quality i b r : Int) :
    1 ≤ ScaleQuantTable.entry quality i b r ∧ ScaleQuantTable.entry quality i b r ≤ 255 :=
  scale_entry_range quality i b r
/-- (1') in the accepted quality range nothing wraps and the entry is the IJG formula -/
theorem c11_scale_entry_formula (quality i b r : Int) (hq : 1 ≤ quality ∧ quality ≤ 100) (hb : 0 ≤ b ∧ b ≤ 255) :
    let scale := if quality < 50 then 5000 / quality else 200 - 2 * quality
    0 ≤ scale ∧ scale ≤ 5000 ∧ Go.wrap32 scale = scale ∧ b * scale + 50 < 2147483648 ∧
    ScaleQuantTable.entry quality i b r = max 1 (min 255 ((b * scale + 50) / 100)) := by
  intro scale
  have hs : 0 ≤ scale ∧ scale ≤ 5000 := by
    simp only [scale]; split
    · constructor
      · exact Int.ediv_nonneg (by omega) (by omega)
      · exact Int.ediv_le_self quality (by omega : (0:Int) ≤ 5000)
    · omega
  have hw : Go.wrap32 scale = scale := by simp only [Go.wrap32]; omega
  have hprod : 0 ≤ b * scale ∧ b * scale ≤ 255 * 5000 := by
    constructor
    · exact Int.mul_nonneg hb.1 hs.1
    · exact Int.mul_le_mul hb.2 hs.2 hs.1 (by omega)
  refine ⟨hs.1, hs.2, hw, by omega, ?_⟩
  have e5 : Int.tdiv 5000 quality = 5000 / quality := Int.tdiv_eq_ediv_of_nonneg (by omega)
  have esc : (if quality < 50 then Int.tdiv 5000 quality else 200 - quality * 2) = scale := by
    simp only [scale, e5]; split <;> omega
  rw [scale_entry_eq, esc, hw, Int.tdiv_eq_ediv_of_nonneg (by omega)]
  omega
/-- (1'') hence every table the encoders can use has the base table's size (64) and entries in 1..255 -/
theorem c11_scaled_table_valid (base : Array Int) (quality : Int) :
    (scaleQuantTable base quality).size = base.size ∧
    ∀ v ∈ (scaleQuantTable base quality).toList, 1 ≤ v ∧ v ≤ 255 := by
  refine ⟨by simp [scaleQuantTable], ?_⟩
  intro v hv
  simp only [scaleQuantTable, Array.toList_mapIdx, List.mem_mapIdx] at hv
  obtain ⟨i, _, rfl⟩ := hv
  exact scale_entry_range _ _ _ _
example : scaleQuantTable DefaultLuminanceQuantTable 1 = Array.replicate 64 255 ∧
    (scaleQuantTable DefaultLuminanceQuantTable 100).toList.all (· == 1) = true ∧
    (scaleQuantTable DefaultChrominanceQuantTable 50) = DefaultChrominanceQuantTable := by
  -- evaluated as lists: to the kernel an array is a list, and `mapIdx` and `==` on arrays walk it again for every index
  simp only [scaleQuantTable, ← Array.toList_inj, Array.toList_mapIdx]
  decide +kernel

/-- (2) the zig-zag table of the code is T.81 Figure A.6 -/
theorem c11_zigzag_is_figure_A6 : ZigZag.toList = T81.zigzag.map Int.ofNat := by decide
/-- (2') it is a permutation of 0..63 -/
theorem c11_zigzag_perm : ZigZag.size = 64 ∧ (List.range 64).all (fun n => ZigZag.toList.contains (n : Int)) = true := by
  refine ⟨rfl, List.all_eq_true.2 fun n hn => ?_⟩
  obtain ⟨j, hj, rfl⟩ := zz_surj n (List.mem_range.1 hn)
  have := (zz_get j hj).1
  rw [getI_nat] at this
  simpa using Array.mem_of_getElem? this
/-- (2'') `init()` succeeds (no index out of range) and Unzig∘ZigZag = id, ZigZag∘Unzig = id -/
theorem c11_unzig_inverse : ∃ u, unzigInit = some u ∧ u.size = 64 ∧
    (List.range 64).all (fun i => (getI ZigZag i).bind (getI u) == some (i : Int)) = true ∧
    (List.range 64).all (fun n => (getI u n).bind (getI ZigZag) == some (n : Int)) = true := by
  obtain ⟨u, hu, hs, h⟩ := zz_unz
  exact ⟨u, hu, hs, List.all_eq_true.2 fun i hi => beq_iff_eq.2 (h i (List.mem_range.1 hi)).1,
    List.all_eq_true.2 fun i hi => beq_iff_eq.2 (h i (List.mem_range.1 hi)).2⟩

/-- (3) quantiser contract, 8-bit path (generated loop body of Encoder.quantizeBlock): with divisor d = 8·Q,
    Q ≥ 1, the quantised coefficient k satisfies |c − d·k| ≤ d/2 — for every coefficient c -/
theorem c11_quantiser_8bit (enc : Encoder) (bx bY s t i q c : Int) (hq : 1 ≤ q) :
    let k := quantizeBlock.entry enc bx bY s t i q c
    2 * (c - (q * 8) * k) ≤ q * 8 ∧ -(q * 8) ≤ 2 * (c - (q * 8) * k) := by
  intro k; simp only [k, quant8_is_symQuant]; exact symQuant_bound c (q * 8) (by omega)
/-- (3') 12-bit path: `sequential12Quantize` (generated) for every divisor d ≥ 1 -/
theorem c11_quantiser_12bit (c d : Int) (hd : 1 ≤ d) :
    2 * (c - d * sequential12Quantize c d) ≤ d ∧ -d ≤ 2 * (c - d * sequential12Quantize c d) := by
  rw [seq12_is_symQuant]; exact symQuant_bound c d (by omega)
/-- (3'') and the loop body that calls it with `qtable[i] << 3` -/
theorem c11_quantiser_12bit_entry (bx bY i c q r : Int) (hq : 1 ≤ q) :
    let k := quantizeBlock12.entry bx bY i c q r
    2 * (c - (q * 8) * k) ≤ q * 8 ∧ -(q * 8) ≤ 2 * (c - (q * 8) * k) := by
  intro k; simp only [k, quant12_entry]; exact symQuant_bound c (q * 8) (by omega)
example : quantizeBlock.entry default 0 0 0 0 0 3 (-37) = -2 ∧ sequential12Quantize 12 24 = 1 ∧ sequential12Quantize 11 24 = 0 := by decide

/-- (4) edge replication index -/
theorem c11_edge_index (b x w : Int) (hb : 0 ≤ b) (hx : 0 ≤ x) (hw : 1 ≤ w) :
    0 ≤ edgeIdx b x w ∧ edgeIdx b x w < w ∧ (b * 8 + x < w → edgeIdx b x w = b * 8 + x) := edge_idx b x w hb hx hw
example : edgeIdx 2 5 17 = 16 ∧ edgeIdx 1 3 17 = 11 := by decide

/-- (5) DQT index map: writing a table whose n-th entry is n and parsing it back gives the same table — the
    composition of writeDQT's gather and parseDQT's scatter is the identity on positions 0..63 -/
theorem c11_dqt_index_roundtrip :
    (dqtPayload 0 (Array.ofFn (n := 64) (fun i => (i.val : Int)))).bind (fun p => parseDQT8 p.tail)
      = some (Array.ofFn (n := 64) (fun i => (i.val : Int))) :=
  dqt_roundtrip_general 0 _ Array.size_ofFn (fun n h => by
    have := Array.size_ofFn ▸ h
    rw [Array.getElem_ofFn]
    omega)
/-- (5') DQT bytes emitted = table used, in general: for EVERY 64-entry base table and EVERY quality the payload
    writeDQT emits (byte(id), then byte(q[ZigZag[j]])) is parsed by parseDQT's 8-bit branch back to exactly the
    table `quantizeBlock` divides by.  (General proof: entries are in 1..255 by (1), ZigZag is a bijection of 0..63.) -/
theorem c11_dqt_roundtrip_all (base : Array Int) (hb : base.size = 64) (quality id : Int) :
    (dqtPayload id (scaleQuantTable base quality)).bind (fun p => parseDQT8 p.tail)
      = some (scaleQuantTable base quality) := by
  have hv := c11_scaled_table_valid base quality
  apply dqt_roundtrip_general id _ (by rw [hv.1, hb])
  intro n h
  have := hv.2 _ (Array.getElem_mem_toList h)
  omega
example : (dqtPayload 0 (scaleQuantTable DefaultLuminanceQuantTable 9)).map (fun p => (p[22]?, p[23]?)) = some (some 255, some 194) := by
  decide +kernel

/-- (6) extended.detectBitDepth (since fix 12cadee) reads the precision from the first SOF0..3 header whatever the
    payloads of the preceding segments contain: for any list of length-carrying segments (DQT, DHT, APPn, COM, …)
    followed by a frame header with precision byte `prec`, the result is 12 iff `prec = 12` -/
theorem c11_detect_skips_payloads (segs : List (Nat × List Nat)) (sofm l1 l2 prec : Nat) (tail : List Nat)
    (hs : ∀ s ∈ segs, plainMarker s.1 = true ∧ s.2.length + 2 < 65536) (hm : 192 ≤ sofm ∧ sofm ≤ 195) :
    detectBitDepth (0xFF :: 0xD8 :: (segsBytes segs ++ 0xFF :: sofm :: l1 :: l2 :: prec :: tail))
      = if prec = 12 then 12 else 8 := by
  simp only [detectBitDepth]
  apply detect_segments segs _ sofm l1 l2 prec tail (fun s h => (hs s h).1) hm
  simp; omega
/-- regression anchor of finding c11-ext12-bitdepth-sniff-dqt (fixed by 12cadee): at quality 9 the luminance DQT
    contains FF C2; the pre-fix raw scan answered 8 for the encoder's own 12-bit header, the current code answers 12 -/
example : (seq12Header 9 1 1).map detectBitDepthOld = some 8 ∧ (seq12Header 9 1 1).map detectBitDepth = some 12 ∧
    (seq12Header 50 33 7).map detectBitDepth = some 12 := by decide +kernel

/-- (7) Huffman category coding of coefficients round-trips: for every non-zero value (|v| < 2^62) EncodeCategory
    gives a category ≥ 1 and `cat` amplitude bits 0 ≤ bits < 2^cat (so WriteBits' mask keeps them), and the
    decoder's EXTEND returns v.  (Baseline uses categories ≤ 11 for DC and ≤ 10 for AC, 12-bit ≤ 15/14.) -/
theorem c11_category_roundtrip (v : Int) (hv : v ≠ 0) (hb : v.natAbs < 2 ^ 62) :
    1 ≤ (encodeCategory v).1 ∧ 0 ≤ (encodeCategory v).2 ∧ (encodeCategory v).2 < (2 : Int) ^ (encodeCategory v).1 ∧
    extend (encodeCategory v).1 (encodeCategory v).2 = v := category_roundtrip v hv hb
example : encodeCategory (-37) = (6, 26) ∧ extend 6 26 = -37 ∧ encodeCategory 1023 = (10, 1023) ∧ encodeCategory 0 = (0, 0) := by
  decide

/-- (8) RGB→YCbCr (GENERATED loop body of Encoder.rgbToYCbCr): for 8-bit r, g, b the three stored bytes are in 0..255
    and equal the clamp of the fixed-point values; the unclamped values range over Y 0..255, Cb 1..256, Cr 1..256 -/
theorem c11_colour_forward_range (enc : Encoder) (row col sr st a1 a2 a3 r g b : Int)
    (hr : 0 ≤ r ∧ r ≤ 255) (hg : 0 ≤ g ∧ g ≤ 255) (hb : 0 ≤ b ∧ b ≤ 255) :
    rgbToYCbCr.entry enc row col sr st r g b a1 a2 a3 =
      (fwdY r g b, min 255 (fwdCb r g b), min 255 (fwdCr r g b)) ∧
    0 ≤ fwdY r g b ∧ fwdY r g b ≤ 255 ∧ 1 ≤ fwdCb r g b ∧ fwdCb r g b ≤ 256 ∧ 1 ≤ fwdCr r g b ∧ fwdCr r g b ≤ 256 :=
  ⟨fwd_entry_clamped enc row col sr st a1 a2 a3 r g b hr hg hb, fwd_ranges r g b hr hg hb⟩
/-- (8') the clamp is NEEDED: pure blue gives Cb = 256 and pure red gives Cr = 256 before clamping, which `byte()` alone
    would wrap to 0 (a full-range chroma error); with the clamp the stored byte is 255 -/
theorem c11_colour_clamp_needed :
    fwdCb 0 0 255 = 256 ∧ fwdCr 255 0 0 = 256 ∧ Go.uwrap8 256 = 0 ∧
    Go.uwrap8 (Gen.JpegStd.Clamp (fwdCb 0 0 255) 0 255) = 255 ∧ Go.uwrap8 (Gen.JpegStd.Clamp (fwdCr 255 0 0) 0 255) = 255 := by decide
/-- (8'') round trip through the two GENERATED fixed-point matrices (rgbToYCbCr loop body, ycbcrToRGB): every channel of
    every 8-bit RGB triple comes back within 2 (the bound is attained, e.g. (2,0,68)) -/
theorem c11_colour_roundtrip (enc : Encoder) (row col sr st a1 a2 a3 r g b : Int)
    (hr : 0 ≤ r ∧ r ≤ 255) (hg : 0 ≤ g ∧ g ≤ 255) (hb : 0 ≤ b ∧ b ≤ 255) :
    let f := rgbToYCbCr.entry enc row col sr st r g b a1 a2 a3
    let i := ycbcrToRGB f.1 f.2.fst f.2.snd
    (-2 : Int) ≤ i.1 - r ∧ i.1 - r ≤ 2 ∧ -2 ≤ i.2.fst - g ∧ i.2.fst - g ≤ 2 ∧ -2 ≤ i.2.snd - b ∧ i.2.snd - b ≤ 2 := by
  intro f i
  have z : ∀ x : Int, near 0 x x := fun x => by unfold near; omega
  have := rgb_near r g b _ _ _ 0 0 0 hr hg hb (z _) (z _) (z _)
  simp only [near, i, f, fwd_entry_clamped enc row col sr st a1 a2 a3 r g b hr hg hb] at *
  omega
example : let e : Encoder := { width := 1, height := 1, components := 3, quality := 90 }
    rgbToYCbCr.entry e 0 0 0 8 0 0 255 0 0 0 = (29, 255, 107) ∧ ycbcrToRGB 29 255 107 = (0, 1, 254) ∧
    rgbToYCbCr.entry e 0 0 0 8 2 0 68 0 0 0 = (8, 162, 123) ∧ ycbcrToRGB 8 162 123 = (0, 0, 68) := by decide

/-- (9) fixed-point DCT pair, per-pass analysis (GENERATED 1-D passes of DCTISlow/IDCTISlow).  Every pass is an integer
    linear form of its inputs with literal 13-bit-constant coefficients followed by one rounding `descale`:
    |2^s·out − form| ≤ 2^(s−1) for ALL inputs — forward rows (s = 11; outputs 0 and 4 exact), forward columns
    (s = 15; outputs 0, 4: s = 2), inverse columns incl. dequantisation (s = 11), inverse rows (s = 18, then +128, clamp,
    byte).  The four statements with their coefficient rows are `fdct_row_pass`, `fdct_col_pass`, `idct_col_pass`,
    `idct_row_pass` in Lemmas/DctPass.lean; this theorem states outputs 0 (exact) and 2 of the forward row pass as the
    representative. -/
theorem c11_dct_row_pass_bound (y d0 d1 d2 d3 d4 d5 d6 d7 : Int) :
    let r := DCTISlow.row 8 y d0 d7 d1 d6 d2 d5 d3 d4
    r.1 = 4 * (d0 + d1 + d2 + d3 + d4 + d5 + d6 + d7) ∧
    (-1024 ≤ 2048 * r.2.snd.fst - (10703 * d0 + 4433 * d1 - 4433 * d2 - 10703 * d3 - 10703 * d4 - 4433 * d5 + 4433 * d6 + 10703 * d7) ∧
      2048 * r.2.snd.fst - (10703 * d0 + 4433 * d1 - 4433 * d2 - 10703 * d3 - 10703 * d4 - 4433 * d5 + 4433 * d6 + 10703 * d7) ≤ 1024) := by
  have h := fdct_row_pass y d0 d1 d2 d3 d4 d5 d6 d7
  intro r
  refine ⟨by have := h.1; simp only [r] at this ⊢; omega, ?_⟩
  have := h.2.2.1
  simp only [r] at this ⊢
  omega
/-- (9') the forward and inverse 13-bit constant matrices (the coefficient rows of the pass theorems) are mutually
    consistent: invMatrix·fwdMatrix = 2^29·I + E with |E_ij| ≤ 31601, i.e. relative 5.9e-5 -/
theorem c11_dct_constants_consistent :
    ((matMul invMatrix fwdMatrix).zipIdx.all fun (row, i) => row.zipIdx.all fun (v, j) =>
      let e := v - (if i = j then 536870912 else 0)
      decide (-31601 ≤ e ∧ e ≤ 31601)) = true := by decide +kernel

theorem tableF_ge_one (base : Array Int) (quality : Int) (v k : Nat) : 1 ≤ tableF (scaleQuantTable base quality) v k := by
  simp only [tableF, scaleQuantTable, Array.getElem?_mapIdx]
  cases base[v * 8 + k]? with
  | none => exact Int.le_refl 1
  | some b => exact (scale_entry_range quality (v * 8 + k : Nat) b 0).1

/-- (10) C11, BLOCK LEVEL, 8-bit greyscale path — the end-to-end numeric theorem for one block.  Model: level shift, the
    GENERATED forward row/column passes, the GENERATED quantiser loop body, the GENERATED inverse column/row passes
    (dequantisation, +128, clamp, byte) composed by the functional 2-D glue `blockF` (tied to standard.DCTISlow /
    IDCTISlow and to the real block round trip by `jpg-fdct`, `jpg-idct`, `jpg-blockbound`).
    For EVERY 8×8 block of bytes and EVERY quantisation table with entries ≥ 1, every reconstructed sample satisfies
        8·(|decoded − source| − 2) ≤ Σ_{u,v} C(u)C(v)·Q[u,v]      (C(0) = 1/√2, C(u≥1) = 1)
    stated exactly in integers (`withinF`: X ≤ 0 ∨ X² ≤ 2M²).  Ingredients: the four per-pass bounds (9), the defect of
    invMatrix·fwdMatrix from 2^29·I (the fact of (9'), evaluated inside `Acon_spec` / `Ccon_spec`), the quantiser contract (3), M1 = `vbound`/`block_int` (propagation through the composite integer
    map with the absolute row sums of the inverse matrix; total rounding budget ≤ 1.44 < 2), M2 = `rowS`/`S_le`/
    `sq_le_two` (|inv[i][0]| = 2^13, |inv[i][j]| ≤ 11363 and 11363² ≤ 2·8192², i.e. ≤ 2^13·√2·C(j) — by squaring, no
    reals), M3 = `clamp_bound`. -/
theorem c11_bound_block (blk q : Blk) (hb : ∀ y j, 0 ≤ blk y j ∧ blk y j ≤ 255) (hq : ∀ v k, 1 ≤ q v k)
    (y x : Nat) (hy : y < 8) (hx : x < 8) :
    withinF (blockF blk q y x - blk y x) q := block_bound blk q hb hq y x hy hx

/-- (10') C11 for 8-bit greyscale images at every quality and every size: for every w × h image of bytes, every
    quality (the table is `ScaleQuantTable(base, quality)`, any 64-entry base table — entries are in 1..255 by (1), and
    they are the DQT bytes by (5')), every pixel (X, Y) inside the image — partial edge blocks included, through the
    edge-replication index map (4) — the decoded sample is within (1/8)·Σ C(u)C(v)·Q[u,v] + 2 of the source sample.
    At quality 100 (all entries 1) this gives |decoded − source| ≤ 9 < 10.
    Scope: the DCT / quantisation / dequantisation / IDCT / clamp chain on the model above.  The entropy-coding layer is
    covered separately (c15_ac_runlength_roundtrip, c11_category_roundtrip: the decoder gets the quantised coefficients
    back) and so is the pixel→block addressing (c15_addressing); Huffman table construction and the marker container
    are not composed into this statement. -/
theorem c11_bound_grey8 (img : Blk) (w h : Nat) (base : Array Int) (quality : Int)
    (hb : ∀ y j, 0 ≤ img y j ∧ img y j ≤ 255) (X Y : Nat) (hX : X < w) (hY : Y < h) :
    withinF (decodedPixel img w h (tableF (scaleQuantTable base quality)) X Y - img Y X)
      (tableF (scaleQuantTable base quality)) :=
  image_bound img _ w h hb (tableF_ge_one base quality) X Y hX hY
example : withinF 9 (tableF (scaleQuantTable DefaultLuminanceQuantTable 100)) ∧
    ¬ withinF 10 (tableF (scaleQuantTable DefaultLuminanceQuantTable 100)) := by decide +kernel

/-- (11) C11 for 8-bit RGB (baseline 4:4:4) on the model: planes by the GENERATED rgbToYCbCr body (with edge
    replication), each plane block by block through `blockF` with its own table (Y: qY, Cb/Cr: qC), the GENERATED
    ycbcrToRGB per pixel (tied end to end to baseline.Encode/Decode by `jpg-rgbimage`).  For every image size, every pair of
    tables with entries ≥ 1 (in particular ScaleQuantTable of any quality), every pixel inside the image, with
    B(q) = LinB q / 2^30 ≤ (1/8)·Σ C(u)C(v)·q[u,v]:
        |R' − r| ≤ B(qY) + 1.402·B(qC) + 5.75      (= 1.44·2.402 + 2.289)
        |G' − g| ≤ B(qY) + 1.058·B(qC) + 5.96      (= 1.44·2.058 + 3)
        |B' − b| ≤ B(qY) + 1.772·B(qC) + 6.59      (= 1.44·2.772 + 2.594)
    stated exactly in integers (units 2^-58/65536).  The table part is the property's bound propagated through the colour
    matrix; the ALLOWANCE obtained by composition is below 7, NOT the property's 5: the per-component rounding budget 1.44
    enters 2.4–2.8 times, and the colour round trip (2) and the floors of ycbcrToRGB (≤ 1) add on top.  The property's
    allowance 5 is not provable by this composition; it is what the search observes. -/
theorem c11_bound_rgb (img : Rgb) (w h : Nat) (qY qC : Blk)
    (himg : ∀ y x, (0 ≤ (img y x).1 ∧ (img y x).1 ≤ 255) ∧ (0 ≤ (img y x).2.fst ∧ (img y x).2.fst ≤ 255) ∧ (0 ≤ (img y x).2.snd ∧ (img y x).2.snd ≤ 255))
    (hqY : ∀ v k, 1 ≤ qY v k) (hqC : ∀ v k, 1 ≤ qC v k) (X Y : Nat) (hX : X < w) (hY : Y < h) :
    let o := decodedRgb img w h qY qC X Y
    let K : Int := 415051741658464912
    let s : Int := 288230376151711744
    (-(65536 * (K + 268435456 * LinB qY) + 91881 * (K + 268435456 * LinB qC) + 150000 * s) ≤ s * (65536 * (o.1 - (img Y X).1)) ∧
      s * (65536 * (o.1 - (img Y X).1)) ≤ 65536 * (K + 268435456 * LinB qY) + 91881 * (K + 268435456 * LinB qC) + 150000 * s) ∧
    (-(65536 * (K + 268435456 * LinB qY) + (22554 + 46802) * (K + 268435456 * LinB qC) + 196608 * s) ≤ s * (65536 * (o.2.fst - (img Y X).2.fst)) ∧
      s * (65536 * (o.2.fst - (img Y X).2.fst)) ≤ 65536 * (K + 268435456 * LinB qY) + (22554 + 46802) * (K + 268435456 * LinB qC) + 196608 * s) ∧
    (-(65536 * (K + 268435456 * LinB qY) + 116130 * (K + 268435456 * LinB qC) + 170000 * s) ≤ s * (65536 * (o.2.snd - (img Y X).2.snd)) ∧
      s * (65536 * (o.2.snd - (img Y X).2.snd)) ≤ 65536 * (K + 268435456 * LinB qY) + 116130 * (K + 268435456 * LinB qC) + 170000 * s) := by
  intro o K s
  obtain ⟨dy, hdy, hBy⟩ := decodedPlane_dev (planeOf img w h 0) qY (planeOf_byte img w h 0) hqY X Y
  obtain ⟨dcb, hdcb, hBcb⟩ := decodedPlane_dev (planeOf img w h 1) qC (planeOf_byte img w h 1) hqC X Y
  obtain ⟨dcr, hdcr, hBcr⟩ := decodedPlane_dev (planeOf img w h 2) qC (planeOf_byte img w h 2) hqC X Y
  rw [planeOf_inside img w h _ X Y hX hY] at hdy hdcb hdcr
  obtain ⟨hr, hg, hb⟩ := himg Y X
  simp only [fwd_entry_clamped _ _ _ _ _ _ _ _ _ _ _ hr hg hb] at hdy hdcb hdcr
  obtain ⟨hR, hG, hB⟩ := rgb_near _ _ _ _ _ _ dy dcb dcr hr hg hb hdy hdcb hdcr
  simp only [o, decodedRgb, K, s]
  generalize ycbcrToRGB _ _ _ = O at hR hG hB ⊢
  generalize LinB qY = LY at *
  generalize LinB qC = LC at *
  unfold near at hR hG hB
  -- per channel: `rgb_near` times 2^58 with the deviations replaced by their plane bounds; 150000, 196608, 170000 round
  -- its constants 145535, 135535, 160535 up
  exact ⟨by omega, by omega, by omega⟩
example : LinB (tableF (scaleQuantTable DefaultLuminanceQuantTable 100)) = 67108864 + 93085696 * 14 + 129117769 * 49 := by decide +kernel

/-- The full property for ALL codecs of C11, over the (unmodelled as a whole) real encoder/decoder pairs: `enc`/`dec`
    stand for baseline/extended Encode/Decode, `bound s i` for the numerator (over `den`) of the DQT bound of sample i of
    stream s (through the colour matrix for RGB), `allow` = 2 (5 RGB).  PROVED INSTANCES: 8-bit greyscale on the model with the property's allowance 2
    (`c11_bound_grey8`); 8-bit RGB with an allowance below 7 instead of 5 (`c11_bound_rgb`).  NOT proved: the RGB allowance 5, 12-bit (float IDCT of
    decodeSequential12 has no model), and the composition with Huffman table construction and the container. -/
def c11_bound_FullStatement (enc : List Int → Option (List Nat)) (dec : List Nat → Option (List Int))
    (bound : List Nat → Nat → Int) (den allow : Int) : Prop :=
  ∀ img : List Int, ∃ s, enc img = some s ∧ ∃ out, dec s = some out ∧ out.length = img.length ∧
    ∀ i (h : i < img.length) (h' : i < out.length), den * ((out[i] - img[i]).natAbs : Int) ≤ bound s i + den * allow

end Dct
