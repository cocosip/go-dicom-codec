import GdcVerif.Model.J2kTiles
import GdcVerif.Lemmas.J2kTiles
import GdcVerif.Lemmas.J2kAssemble
import GdcVerif.Lemmas.J2kResDims
import GdcVerif.Lemmas.J2kTileRect
import GdcVerif.Lemmas.J2kProgression
/-!
  C19 — JPEG 2000 tiled images: exact reversible reconstruction for every tile grid.

  Property theorems only.  `Gen.J2kTiles.*` / `Gen.J2kT2.*` are regenerated from
  jpeg2000/encoder.go, jpeg2000/tile_assembler.go and jpeg2000/t2/geometry.go on every run; the glue
  (`J2k.*`, Model/J2kTiles.lean) is hand-written and tied by the C19 correspondence run.
  T1/MQ/DWT and the packet contents are NOT modelled here (C20 / C04; the packet ORDER is (8)–(10) below);
  see `tiled_roundtrip_partial`.
-/
namespace J2k
open Gen.J2kTiles

/-- (1) encoder `tileBounds` and decoder `TileLayout.GetTileBounds` (generated) return the same rectangle
    for every tile index of the grid -/
theorem tileBounds_enc_eq_dec (W H TW TH idx : Int) (hW : 1 ≤ W) (hH : 1 ≤ H) (hTW : 1 ≤ TW) (hTH : 1 ≤ TH)
    (hidx : 0 ≤ idx) (hlt : idx < encNumTiles W TW * encNumTiles H TH) :
    encTileBounds W H TW TH idx = decTileBounds W H TW TH idx :=
  enc_eq_dec W H TW TH idx hW hH hTW hTH hidx hlt

example : encTileBounds 12 12 5 5 4 = (5, 5, 10, 10) ∧ decTileBounds 12 12 5 5 4 = (5, 5, 10, 10) ∧
    encTileBounds 12 12 5 5 8 = (10, 10, 12, 12) := by decide

/-- (2a) every tile of the grid is a non-empty rectangle inside the image (so the slice bounds of the
    row copies in transformTile / AssembleTile are in range) -/
theorem tile_rect_in_image (W H TW TH idx : Int) (hW : 1 ≤ W) (hH : 1 ≤ H) (hTW : 1 ≤ TW) (hTH : 1 ≤ TH)
    (hidx : 0 ≤ idx) (hlt : idx < encNumTiles W TW * encNumTiles H TH) :
    let r := encTileBounds W H TW TH idx
    0 ≤ r.1 ∧ r.1 < r.2.2.1 ∧ r.2.2.1 ≤ W ∧ 0 ≤ r.2.1 ∧ r.2.1 < r.2.2.2 ∧ r.2.2.2 ≤ H :=
  enc_in_image W H TW TH idx hW (by omega) hTW hTH hidx hlt

/-- (2b) the rectangles COVER the image: every pixel lies in a tile of the grid (the proof takes index
    ⌊y/TH⌋·nx + ⌊x/TW⌋; the statement names none, and by (2c) there is one only) -/
theorem tile_rects_cover (W H TW TH x y : Int) (hW : 1 ≤ W) (hTW : 1 ≤ TW) (hTH : 1 ≤ TH)
    (hx0 : 0 ≤ x) (hx : x < W) (hy0 : 0 ≤ y) (hy : y < H) :
    ∃ idx, 0 ≤ idx ∧ idx < encNumTiles W TW * encNumTiles H TH ∧ inRect (encTileBounds W H TW TH idx) x y :=
  enc_cover W H TW TH x y hTW hTH hx0 hx hy0 hy

/-- (2c) the rectangles are pairwise DISJOINT: a pixel determines its tile index -/
theorem tile_rects_disjoint (W H TW TH x y i j : Int) (hW : 1 ≤ W) (hTW : 1 ≤ TW) (hTH : 1 ≤ TH)
    (hi : 0 ≤ i) (hj : 0 ≤ j)
    (hin : inRect (encTileBounds W H TW TH i) x y) (hjn : inRect (encTileBounds W H TW TH j) x y) : i = j :=
  (enc_unique W H TW TH x y i hW hTW hTH hi hin).trans (enc_unique W H TW TH x y j hW hTW hTH hj hjn).symm

example : inRect (encTileBounds 12 12 5 5 5) 11 7 ∧ ¬ inRect (encTileBounds 12 12 5 5 4) 11 7 := by
  unfold inRect; decide

/-- (3) split/assemble identity: cutting every tile out of a component plane (encoder.go transformTile) and
    copying each one back at its rectangle (tile_assembler.go AssembleTile), for all tiles of the grid, gives
    back the plane on all W·H samples — whatever the output buffer held before -/
theorem split_assemble_identity (src out : Plane) (W H TW TH : Nat) (hW : 1 ≤ W) (hH : 1 ≤ H)
    (hTW : 1 ≤ TW) (hTH : 1 ≤ TH) (i : Nat) (hi : i < W * H) :
    splitAssemble src W H TW TH (numTilesNat W H TW TH) out i = src i :=
  sa_covered src out W H TW TH hW hTW hTH _ (Nat.le_refl _) i (tile_cover W H TW TH hW hTW hTH i hi)

example : numTilesNat 12 12 5 5 = 9 ∧
    (List.range 6).map (splitAssemble (fun i => (i : Int) + 100) 3 2 2 1 (numTilesNat 3 2 2 1) (fun _ => 0))
      = [100, 101, 102, 103, 104, 105] := by decide

/-- (4a) the decoder's copies of the split kernels (t2/geometry.go) are the encoder's (encoder.go), so
    `resolutionDimsWithOrigin` computes the same thing on both sides -/
theorem resolution_dims_enc_eq_dec (len x0 : Int) (n : Nat) : resDimsT2 len x0 n = resDims len x0 n :=
  resDimsT2_eq len x0 n

/-- (4b) closed form of resolutionDimsWithOrigin for every origin and level count: the canvas interval
    [⌈x0/2ⁿ⌉, ⌈(x0+len)/2ⁿ⌉) of ISO/IEC 15444-1 B.5 -/
theorem resolution_dims_closed_form (len x0 : Int) (n : Nat) (hl : 0 ≤ len) :
    resDims len x0 n =
      ((x0 + len + 2 ^ n - 1) / 2 ^ n - (x0 + 2 ^ n - 1) / 2 ^ n, (x0 + 2 ^ n - 1) / 2 ^ n) :=
  resDims_closed len x0 n hl

/-- (4c) tile-origin agreement inside the encoder, FULL (since fix 104b234): for every tile origin, size and
    level count the sub-band extents the encoder cuts out of the transformed tile (getSubbandsForResolution) are
    the extents of the decoder (t2/geometry.go), namely the canvas interval lengths ⌈(x0+len)/2ⁿ⌉ − ⌈x0/2ⁿ⌉.
    The wavelet (ForwardMultilevelWithParity with the tile origin) splits by its own copies of the kernels
    (`Gen.J2kWavelet.splitLengths` / `nextCoord`, C20), which today are the same text; no theorem ties them to `resDims`. -/
theorem subband_split_agreement (len x0 : Int) (n : Nat) (hl : 0 ≤ len) :
    encLowLen len x0 n = (resDimsT2 len x0 n).1 ∧
    encLowLen len x0 n = (x0 + len + 2 ^ n - 1) / 2 ^ n - (x0 + 2 ^ n - 1) / 2 ^ n := by
  unfold encLowLen
  rw [resDimsT2_eq, resDims_closed len x0 n hl]
  exact ⟨rfl, rfl⟩

example : encLowLen 5 5 1 = 2 ∧ encLowLen 5 8 3 = 1 ∧ encLowLen 37 0 3 = 5 := by decide

/-- regression anchor (old defect `j2k-tiled-subband-split-ignores-origin-parity`): 12×12 image, 5×5 tiles, tile 1
    has x0 = 5, width 5; one level: wavelet and decoder have 2 low-pass samples; the old encoder (ceil split of the
    tile width) cut 3, the repaired one 2.  The old shape agreed only for origins aligned to 2ⁿ. -/
example : (resDims 5 5 1).1 = 2 ∧ encLowLenOld 5 1 = 3 ∧ encLowLen 5 5 1 = 2 := by decide

theorem subband_split_old_shape_aligned (len x0 : Int) (n : Nat) (hl : 0 ≤ len) (hal : x0 % 2 ^ n = 0) :
    (resDims len x0 n).1 = encLowLenOld len n := aligned_agree len x0 n hl hal

/-- (5) code-block index agreement, FULL (since fixes 104b234 and 3981d09): encoder (buildTilePacketEncoder) and
    decoder (collectCodeBlockEntries) give the same (precinct column, grid index) to the code-block at band offset
    cbX0, for every canvas origin of the tile-component at that resolution, precinct and code-block width -/
theorem codeblock_index_agreement (resX0 cbX0 pw cbw : Int) (h0 : 0 ≤ resX0) (hpw : 1 ≤ pw) :
    decCbIndex resX0 cbX0 pw cbw = encCbIndex resX0 cbX0 pw cbw := by
  unfold decCbIndex encCbIndex Gen.J2kT2.floorDiv
  have c1 : ¬ pw ≤ 0 := by omega
  simp only [c1, decide_false, Bool.false_eq_true, if_false, ge_iff_le, h0, decide_true, if_true]

/-- (5b) no empty leading columns (the repair of the quadratic grid, fix 3981d09): in the first precinct column the
    k-th code-block of the band has grid index exactly k, whatever the origin of the tile-component — so the tag
    trees and state tables of a precinct are as wide as the number of code-blocks the band has in it -/
theorem codeblock_index_first_precinct (resX0 k pw cbw : Int) (h0 : 0 ≤ resX0) (hk : 0 ≤ k) (hpw : 1 ≤ pw) (hcb : 1 ≤ cbw)
    (hin : resX0 % pw + k * cbw < pw) : decCbIndex resX0 (k * cbw) pw cbw = (0, k) := by
  rw [codeblock_index_agreement resX0 (k * cbw) pw cbw h0 hpw]
  unfold encCbIndex
  have hm0 := Int.emod_nonneg resX0 (by omega : pw ≠ 0)
  have hkc : 0 ≤ k * cbw := Int.mul_nonneg hk (by omega)
  -- with m = resX0 % pw the block starts m + k·cbw after the precinct edge: column 0, and ⌊(m + k·cbw)/cbw⌋ − ⌊m/cbw⌋ = k
  have hs : Int.tdiv resX0 pw * pw = resX0 - resX0 % pw := by
    rw [Int.tdiv_eq_ediv_of_nonneg h0, Int.emod_def, Int.mul_comm]; omega
  have e1 : resX0 + k * cbw - (resX0 - resX0 % pw) = resX0 % pw + k * cbw := by omega
  have e2 : resX0 - (resX0 - resX0 % pw) = resX0 % pw := by omega
  have hpx : Int.tdiv (resX0 % pw + k * cbw) pw = 0 := by
    rw [Int.tdiv_eq_ediv_of_nonneg (by omega)]; exact Int.ediv_eq_zero_of_lt (by omega) hin
  simp only [hs, e1, e2, hpx, Int.zero_mul, Int.add_zero, BEq.rfl, if_true]
  rw [Int.tdiv_eq_ediv_of_nonneg (by omega), Int.tdiv_eq_ediv_of_nonneg hm0, Int.add_mul_ediv_right _ _ (by omega : cbw ≠ 0)]
  congr 1
  omega

example : decCbIndex 16 0 32768 16 = (0, 0) ∧ encCbIndex 16 0 32768 16 = (0, 0) ∧
    decCbIndex 2048 128 32768 64 = (0, 2) ∧ decCbIndex 70 40 64 16 = (0, 2) ∧ decCbIndex 70 60 64 16 = (1, 0) := by decide

/-- regression anchors: (a) old defect `j2k-tiled-codeblock-index-canvas-vs-local` (17×8 image, 8×8 tiles, 16×16
    code-blocks: tile 2 has resX0 = 16): the decoder of that time gave grid index 1, the tile-local encoder 0;
    (b) old defect `c09-j2k-grid-offset` / `j2k-image-offset-cbgrid`: an 8×8 image at offset 2048 — the old decoder
    numbered its single 64-wide code-block column 32 (33-wide tag trees, squared over both axes), now 0 -/
example : decCbIndexOld 16 0 32768 16 = (0, 1) ∧ encCbIndexOld 0 32768 16 = (0, 0) ∧
    decCbIndexOld 2048 0 32768 64 = (0, 32) ∧ decCbIndex 2048 0 32768 64 = (0, 0) := by decide

/-- (6) tiled pipeline, partial: IF the per-tile codec (`codec k`: DWT with origin parity → T1 → T2 →
    packets → T2⁻¹ → T1⁻¹ → IDWT of tile k; unmodelled here) is the identity on every tile, THEN the tiled
    encode/decode of a component plane is the identity on all W·H samples: tile geometry, cut-out and placement
    are the theorems above.
    Named hypothesis `htile`: per-tile codec exact (its layers are theorems — C20: RCT, DWT with origin parity, MQ,
    T1; C04: the T2 primitives and their composition for a single tile at origin 0; packet order: (8)–(10) below —
    but they are not composed for a tile at an arbitrary origin).  Since fix 104b234 the search finds no tiling that refutes `htile` (before it, theorems
    4c and 5 failed for tiles whose origin is not aligned). -/
theorem tiled_roundtrip_partial (codec : Nat → Plane → Plane) (htile : ∀ k t, codec k t = t)
    (src out : Plane) (W H TW TH : Nat) (hW : 1 ≤ W) (hH : 1 ≤ H) (hTW : 1 ≤ TW) (hTH : 1 ≤ TH)
    (i : Nat) (hi : i < W * H) :
    splitAssembleWith codec src W H TW TH (numTilesNat W H TW TH) out i = src i := by
  have e : ∀ k o, splitAssembleWith codec src W H TW TH k o = splitAssemble src W H TW TH k o := by
    intro k
    induction k with
    | zero => intro o; rfl
    | succ k ih => intro o; unfold splitAssembleWith splitAssemble; simp only [ih, htile]
  rw [e]; exact split_assemble_identity src out W H TW TH hW hH hTW hTH i hi

example : (fun (_ : Nat) (t : Plane) => t) 0 (fun _ => 7) 3 = 7 := rfl

/-- (7) the decoder's tile rectangle (generated kernel of t2.NewTileDecoder, `Gen.J2kTileClamp`) is the T.800 B.3
    rectangle — the tile's grid cell CLIPPED to the image area [XOsiz, Xsiz) × [YOsiz, Ysiz) — for every SIZ that
    T.800 allows (0 ≤ XTOsiz ≤ XOsiz < Xsiz, XTsiz ≥ 1, same in y) and every tile index; and the assembler's
    generated TileLayout.GetTileBounds places the tile at that rectangle in image-local coordinates.
    (A clamp against XTOsiz instead of XOsiz breaks this theorem at regeneration.) -/
theorem tile_rect_clipped_to_image (siz : Gen.J2kTileClamp.SIZSegment) (t : Int) (ht : Bool) (hok : SizOk siz)
    (h0 : 0 ≤ t) (hlt : t < b3NumX siz * b3NumY siz) :
    let td := Gen.J2kTileClamp.NewTileDecoder ⟨t⟩ siz ht
    (td.tileX0, td.tileY0, td.tileX1, td.tileY1) = b3Rect siz t ∧
    Gen.J2kTiles.TileLayout.GetTileBounds (layoutOf siz) t =
      (td.tileX0 - siz.XOsiz, td.tileY0 - siz.YOsiz, td.tileX1 - siz.XOsiz, td.tileY1 - siz.YOsiz) :=
  ⟨tileDecoder_rect_eq_b3 siz t ht hok h0, tileDecoder_rect_eq_assembler siz t ht hok h0 hlt⟩

/-- the seeded shape: XOsiz = 2^22, Xsiz = XTsiz = 2^22 + 16, XTOsiz = 0: one tile, clipped to 16 columns -/
example :
    let siz : Gen.J2kTileClamp.SIZSegment := ⟨0, 4194320, 64, 4194304, 0, 4194320, 64, 0, 0, 1⟩
    SizOk siz ∧ b3NumX siz * b3NumY siz = 1 ∧ b3Rect siz 0 = (4194304, 0, 4194320, 64) ∧
    Gen.J2kTiles.TileLayout.GetTileBounds (layoutOf siz) 0 = (0, 0, 16, 64) := by
  unfold SizOk; decide

end J2k

namespace J2kProg
open J2k

/-- (8) packet sequencing: the five progression loops of packet_encoder.go and packet_decoder.go generate the same
    packet sequence from the same position maps (both sides build the maps with the one shared buildPositionMaps).
    The encoder's skip `if len(precincts) == 0 { continue }` is the parameter `has`, fixed here (and in `encSequence`)
    to "never taken": the indices the encoder walks are the keys of its precinct map, filled by AddCodeBlock. -/
theorem progression_loops_agree (nL nR nC : Nat) (idx : Nat → Nat → List Nat) (m : PosMaps) :
    encLRCP nL nR nC idx (fun _ _ _ => true) = decLRCP nL nR nC idx ∧
    encRLCP nL nR nC idx (fun _ _ _ => true) = decRLCP nL nR nC idx ∧
    encRPCL nL nR nC m (fun _ _ _ => true) = decRPCL nL nR nC m ∧
    encPCRL nL nR nC m (fun _ _ _ => true) = decPCRL nL nR nC m ∧
    encCPRL nL nR nC m (fun _ _ _ => true) = decCPRL nL nR nC m := loops_agree nL nR nC idx m

/-- (9) … and its INPUTS are equal for every tile of every grid (this is where fix 746634b was): the component
    bounds the encoder hands to its PacketEncoder are the tile's canvas rectangle, which is what TileDecoder.Decode
    derives from the SIZ segment the encoder wrote; sampling is (1, 1) on both sides; the precinct sizes are
    getPrecinctSize on the encoder and `1 << PPx` of the written COD (or the default 2^15) on the decoder.
    Hence buildPositionMaps returns the same maps and, by (8), the packet order is the same for all five progressions
    — given equal precinct index sets (C04 `precinct_count_agreement`, C19 (5)). -/
theorem progression_inputs_agree (e : Gen.J2kTiles.Encoder) (nC : Nat) (W H TW TH t : Int) (idx : Nat → Nat → List Nat)
    (hW : 1 ≤ W) (hH : 1 ≤ H) (hTW : 1 ≤ TW) (hTH : 1 ≤ TH) (h0 : 0 ≤ t)
    (hlt : t < encNumTiles W TW * encNumTiles H TH)
    (hp0 : 0 ≤ e.params.PrecinctWidth) (hp1 : 0 ≤ e.params.PrecinctHeight) :
    encInputs e nC (encTileBounds W H TW TH t) idx =
      decInputs e nC (Gen.J2kTileClamp.NewTileDecoder ⟨t⟩ (sizOf W H TW TH nC) false) idx := by
  obtain ⟨hrect, hx0, hy0, hx1, hy1⟩ := decoder_rect_eq_enc W H TW TH nC t hW hH hTW hTH h0 hlt
  unfold encInputs decInputs
  rw [hrect]
  simp only []
  rw [ceilDiv_one _ hx0, ceilDiv_one _ hy0, ceilDiv_one _ hx1, ceilDiv_one _ hy1]
  congr 1
  funext r
  by_cases hc : e.params.PrecinctWidth > 0 ∨ e.params.PrecinctHeight > 0
  · simp only [hc, if_true]
    unfold Gen.J2kTiles.Encoder.getPrecinctSize
    rfl
  · simp only [hc, if_false]
    exact default_precinct e r hc hp0 hp1

/-- (10) composition of (8) and (9): for every tile of every grid and each of the five progression orders, the
    packet sequence the encoder writes (its loops over buildPositionMaps of ITS inputs) is the sequence the decoder
    reads (its loops over buildPositionMaps of the inputs TileDecoder.Decode derives from the written SIZ/COD);
    precinctPositionKey inside buildPositionMaps is the generated kernel `Gen.J2kPosKey.precinctPositionKey` -/
theorem packet_sequence_agreement (e : Gen.J2kTiles.Encoder) (prog nL nC : Nat) (W H TW TH t : Int) (idx : Nat → Nat → List Nat)
    (hW : 1 ≤ W) (hH : 1 ≤ H) (hTW : 1 ≤ TW) (hTH : 1 ≤ TH) (h0 : 0 ≤ t)
    (hlt : t < encNumTiles W TW * encNumTiles H TH)
    (hp0 : 0 ≤ e.params.PrecinctWidth) (hp1 : 0 ≤ e.params.PrecinctHeight) :
    encSequence prog nL (encInputs e nC (encTileBounds W H TW TH t) idx) =
      decSequence prog nL (decInputs e nC (Gen.J2kTileClamp.NewTileDecoder ⟨t⟩ (sizOf W H TW TH nC) false) idx) := by
  rw [← progression_inputs_agree e nC W H TW TH t idx hW hH hTW hTH h0 hlt hp0 hp1]
  exact sequence_same_inputs prog nL _

/-- (10b) buildPositionMaps loses and invents no position: the sorted list for a resolution has exactly the
    positions of that resolution's entries -/
theorem position_maps_complete (i : Inputs) (r : Nat) (x : Pos) :
    x ∈ (buildMaps i).byRes r ↔ x ∈ ((entries i).filter fun e => e.2.1 == r).map fun e => e.2.2.1 :=
  mem_sortedPositions x _

/-- a concrete map: tile (0,24)-(27,33) of the regression below, 1 component, 2 resolutions, 8×8 precincts at both:
    resolution 1 (rows 24..33 → precinct rows 24, 32; 4 columns) in raster order of positions -/
example :
    let i : Inputs := { numComponents := 1, numResolutions := 2, bounds := fun _ => (0, 24, 27, 33), sampling := fun _ => (1, 1), precinctSize := fun _ => (8, 8), indices := fun _ r => if r = 0 then [0, 1] else [0, 1, 2, 3, 4, 5, 6, 7] }
    (buildMaps i).byRes 1 = [(0, 24), (8, 24), (16, 24), (24, 24), (0, 32), (8, 32), (16, 32), (24, 32)] ∧
    (buildMaps i).byRes 0 = [(0, 16), (16, 16)] ∧ (buildMaps i).lookup 0 1 (8, 32) = some 5 ∧
    (decSequence 2 1 i).length = 10 ∧ encSequence 3 1 i = decSequence 3 1 i := by decide

/-- regression anchor (old defect `j2k-tiled-precincts-position-progression`): 27×33 image, 40×24 tiles, tile 1 is
    rows 24..33; 32×32 precincts: with the canvas bounds (both sides now) precinct 0 of resolution 0 sits at y = 0,
    with the tile-local bounds the old encoder used it sat at y = 0 of a DIFFERENT rectangle — position keys differ -/
example : positionKey (0, 24, 27, 33) 1 1 0 0 32 32 0 = some (0, 0) ∧ positionKey (0, 24, 27, 33) 1 1 0 0 32 32 1 = some (0, 32) ∧
    positionKey (0, 0, 27, 9) 1 1 0 0 32 32 1 = none := by decide

end J2kProg
