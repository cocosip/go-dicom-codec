import GdcVerif.Model.Rct
import GdcVerif.Model.Dwt53
import GdcVerif.Model.Mqc
import GdcVerif.Lemmas.Rct
import GdcVerif.Lemmas.Dwt53
import GdcVerif.Lemmas.Dwt53Levels
import GdcVerif.Lemmas.Dwt53Int32
import GdcVerif.Lemmas.Mqc
import GdcVerif.Lemmas.MqcDec
import GdcVerif.Lemmas.MqcExact
import GdcVerif.Lemmas.MqcIdeal
import GdcVerif.Lemmas.MqcRoundtrip2
import GdcVerif.Lemmas.T1Tables
import GdcVerif.Lemmas.T1Model
import GdcVerif.Lemmas.T1Lock
import GdcVerif.Lemmas.T1LockStyles
import GdcVerif.Lemmas.T1Termall
import GdcVerif.Lemmas.T1BlockLock
import GdcVerif.Lemmas.T1EncTotal
import GdcVerif.Lemmas.T1DecTotal
import GdcVerif.Lemmas.T1ZeroBlock
import GdcVerif.Lemmas.T1LayeredFinal
import GdcVerif.Lemmas.T1PipeFinal
import GdcVerif.Lemmas.MqcLen
/-!
  C20 — JPEG 2000 building blocks are exact inverses: RCT, 5/3 DWT, MQ coder, EBCOT T1.

  Property theorems only; the lemmas live in the `Lemmas/` modules imported above (`Rct`, `Dwt53*`, `Mqc*`, `T1*`).
  * RCT: theorems over the *generated* kernels `Gen.J2kColor.RCTForward/RCTInverse`.
  * DWT: theorems over the code-shaped model `Model/Dwt53.lean` (tied by correspondence), whose
    window sequence uses the generated `Gen.J2kWavelet.nextLowpassWindow`.
  * MQ: invariants of the code-shaped model `Model/Mqc.lean` over the generated tables, and the
    byte-level round trip `mq_roundtrip`.
  * T1: facts about the regenerated tables and pass predicates; the code-shaped model `Model/T1.lean` of
    `Encode` / `DecodeWithBitplane` for the code-block styles without LAZY (tied by `t1-enc` / `t1-dec`
    correspondence): every context label is in range, neither direction can index-panic (encoder: all 32
    styles, `t1_encode_no_panic_mq`), and the block round trip is proved for style 0 (`t1_roundtrip`), every
    RESET / VSC / SEGSYM combination (`t1_roundtrip_styles`) and with PTERM (`t1_roundtrip_pterm`).  The layered API
    (`EncodeLayered` / `DecodeLayeredWithMode`, `Model/T1Layered.lean`, tied by `t1-lenc` / `t1-ldec` correspondence)
    round-trips for ALL 64 styles with the reported pass lengths (`t1_layered_roundtrip`).
-/
namespace C20
open Gen.J2kColor

/-! ## RCT -/

/-- the inverse RCT undoes the forward RCT for all integers (Go `>>` = floor division) -/
theorem rct_inverse (r g b : Int) :
    RCTInverse (RCTForward r g b).1 (RCTForward r g b).2.1 (RCTForward r g b).2.2 = (r, g, b) :=
  Rct.inverse_forward r g b

/-- int32 reading, forward: for `|r|,|g|,|b| ≤ 2^28` no int32 operation wraps, i.e. the literal
int32 semantics of `RCTForward` equals the generated `Int` kernel … -/
theorem rct_forward_int32 (r g b : Int) (hr : -268435456 ≤ r ∧ r ≤ 268435456)
    (hg : -268435456 ≤ g ∧ g ≤ 268435456) (hb : -268435456 ≤ b ∧ b ≤ 268435456) :
    Rct.forward32 r g b = RCTForward r g b := Rct.forward32_eq hr hg hb

/-- … and the int32 code itself round-trips on that domain -/
theorem rct_inverse_int32 (r g b : Int) (hr : -268435456 ≤ r ∧ r ≤ 268435456)
    (hg : -268435456 ≤ g ∧ g ≤ 268435456) (hb : -268435456 ≤ b ∧ b ≤ 268435456) :
    Rct.inverse32 (Rct.forward32 r g b).1 (Rct.forward32 r g b).2.1 (Rct.forward32 r g b).2.2 = (r, g, b) :=
  Rct.inverse32_forward32 hr hg hb

/-- `ApplyInverseRCTToComponents (ApplyRCTToComponents r g b)` returns the input, sample by sample -/
theorem rct_components_inverse (r g b : List Int) (hg : g.length = r.length) (hb : b.length = r.length) :
    (Rct.applyForward r g b).bind (fun t => Rct.applyInverse (t.map (·.1)) (t.map (·.2.1)) (t.map (·.2.2)))
      = some (r.zip (g.zip b)) := Rct.apply_roundtrip r g b hg hb

/-- non-vacuity: the bounds admit the extreme triple, on which the transform is not the identity -/
example : (-268435456 ≤ (268435456 : Int) ∧ (268435456 : Int) ≤ 268435456) ∧
    RCTForward 268435456 (-268435456) 268435456 = (0, 536870912, 536870912) := by decide

/-! ## 5/3 DWT -/
open Dwt53

/-- 1D: `Inverse53_1DWithParity(Forward53_1DWithParity(x, even), even) = x` for every length and both
parities (integer reading; the Go functions panic exactly on the empty slice with `even == false`) -/
theorem inverse53_forward53_1d {w : Nat} (x : Vector Int w) (even : Bool) :
    (forward53_1d id x even).bind (fun y => inverse53_1d id y even) =
      if w ≠ 0 ∨ even = true then some x else none := Dwt53.inverse53_forward53_1d x even

/-- 1D, int32 reading, forward: for `|x[k]| ≤ M ≤ 2^29 - 1` no int32 operation of the forward transform
wraps (the `Go.wrap32` model equals the integer model) and the coefficients are bounded by `2M+1` -/
theorem forward53_1d_int32 {w : Nat} (x : Vector Int w) (even : Bool) (hok : w ≠ 0 ∨ even = true)
    {M : Int} (hM0 : 0 ≤ M) (hM : M ≤ 536870911) (hb : ∀ k (h : k < w), -M ≤ x[k] ∧ x[k] ≤ M) :
    forward53_1d' Go.wrap32 x even hok = forward53_1d' id x even hok ∧
    Bnd (2 * M + 1) (toFn (forward53_1d' id x even hok)) := Dwt53.forward53_1d_int32 x even hok hM0 hM hb

/-- 1D, int32 reading: the int32 code round-trips for `|x[k]| ≤ 2^28 - 1` -/
theorem inverse53_forward53_1d_int32 {w : Nat} (x : Vector Int w) (even : Bool) (hok : w ≠ 0 ∨ even = true)
    (hb : ∀ k (h : k < w), -268435455 ≤ x[k] ∧ x[k] ≤ 268435455) :
    inverse53_1d' Go.wrap32 (forward53_1d' Go.wrap32 x even hok) even hok = x :=
  Dwt53.inverse53_forward53_1d_int32 x even hok hb

/-- 2D with stride: `Inverse53_2DWithParity ∘ Forward53_2DWithParity = id` on every window no wider than
the stride, both parities per axis; a window of at most one sample is returned untouched, otherwise the pair
panics iff the window does not fit into the buffer -/
theorem inverse53_forward53_2d {n : Nat} (data : Vector Int n) (width height stride : Nat) (evenRow evenCol : Bool)
    (hws : width ≤ stride) :
    (forward53_2d id data width height stride evenRow evenCol).bind
        (fun d => inverse53_2d id d width height stride evenRow evenCol) =
      if (width ≤ 1 ∧ height ≤ 1) ∨ fits n width height stride then some data else none :=
  Dwt53.inverse53_forward53_2d data width height stride evenRow evenCol hws

/-- multilevel: `InverseMultilevelWithParity(ForwardMultilevelWithParity(data, w, h, levels, x0, y0), …) = data`
for every width, height, level count and origin `(x0, y0)`, on any buffer holding the `height × width` samples
(window sequence = generated `nextLowpassWindow`) -/
theorem inverse53_forward53_multilevel {n : Nat} (data : Vector Int n) (width height levels : Nat) (x0 y0 : Int)
    (hn : height * width ≤ n) :
    (forwardMultilevel id data width height levels x0 y0).bind
        (fun d => inverseMultilevel id d width height levels x0 y0) = some data :=
  Dwt53.inverse53_forward53_multilevel data width height levels x0 y0 hn

/-- multilevel, int32 reading: for `|data[k]| ≤ M` with `bndL levels M ≤ 2^29 - 1` (`bndL` iterates
`M ↦ 4M+3`, i.e. `4^levels·(M+1) ≤ 2^29`) the transform computed in Go's int32 arithmetic (`Go.wrap32`)
round-trips, on any buffer holding the `height × width` samples -/
theorem inverse53_forward53_multilevel_int32 {n : Nat} (data : Vector Int n) (width height levels : Nat)
    (x0 y0 : Int) (hn : height * width ≤ n) {M : Int} (hM0 : 0 ≤ M) (hML : bndL levels M ≤ 536870911)
    (hd : Bnd M (toFn data)) :
    (forwardMultilevel Go.wrap32 data width height levels x0 y0).bind
        (fun d => inverseMultilevel Go.wrap32 d width height levels x0 y0) = some data :=
  Dwt53.inverse53_forward53_multilevel_int32 data width height levels x0 y0 hn hM0 hML hd

/-- the magnitude hypothesis holds for the sample ranges the codec feeds the transform: 16-bit signed
samples up to 6 levels, 12-bit up to 8 levels, 16-bit unsigned (after RCT: 17 bits) up to 5 levels -/
theorem dwt_magnitude_bound_examples :
    bndL 6 32768 ≤ 536870911 ∧ bndL 8 2048 ≤ 536870911 ∧ bndL 5 65535 ≤ 536870911 := Dwt53.bndL_examples

/-- non-vacuity: the hypotheses are satisfiable by non-degenerate instances — a 5×3 window in a
15-sample buffer with stride 5, any origin; a signal at the magnitude bound -/
example : (3 * 5 ≤ 15) ∧ (5 ≤ 5) ∧ fits 15 5 3 5 ∧
    (let x : Vector Int 3 := #v[268435455, -268435455, 7]
     ∀ k (h : k < 3), (-268435455 : Int) ≤ x[k] ∧ x[k] ≤ (268435455 : Int)) := by
  refine ⟨by decide, by decide, by decide, ?_⟩
  intro x k h
  have : k = 0 ∨ k = 1 ∨ k = 2 := by omega
  rcases this with rfl | rfl | rfl <;> simp [x]

/-! ## MQ coder: invariants, then the round trip `mq_roundtrip` -/
open Mqc

/-- the generated tables `qeTable / nmpsTable / nlpsTable / switchTable` are well-formed: 47 entries each;
every state `< 47` has `1 ≤ Qe ≤ 0x5601`, `NMPS, NLPS < 47`, `SWITCH ∈ {0,1}` (so no table index of the
coder can leave the tables, and `a - Qe` cannot underflow from a renormalised `a ≥ 0x8000`) -/
theorem mq_tables_wf :
    (Gen.J2kMqc.qeTable.size = 47 ∧ Gen.J2kMqc.nmpsTable.size = 47 ∧ Gen.J2kMqc.nlpsTable.size = 47 ∧
      Gen.J2kMqc.switchTable.size = 47) ∧
    ∀ s, s < 47 →
      (tab Gen.J2kMqc.qeTable s).isSome ∧ 1 ≤ (tab Gen.J2kMqc.qeTable s).getD 0 ∧
        (tab Gen.J2kMqc.qeTable s).getD 0 ≤ 0x5601 ∧
      (tab Gen.J2kMqc.nmpsTable s).isSome ∧ (tab Gen.J2kMqc.nmpsTable s).getD 0 < 47 ∧
      (tab Gen.J2kMqc.nlpsTable s).isSome ∧ (tab Gen.J2kMqc.nlpsTable s).getD 0 < 47 ∧
      (tab Gen.J2kMqc.switchTable s).isSome ∧ (tab Gen.J2kMqc.switchTable s).getD 0 ≤ 1 :=
  ⟨Mqc.tables_size, Mqc.tables_wf⟩

/-- … and every table entry is a non-negative literal (the model reads them through `Int.toNat`) -/
theorem mq_tables_nonneg : ∀ s, s < 47 →
    0 ≤ (Gen.J2kMqc.qeTable[s]?).getD (-1) ∧ 0 ≤ (Gen.J2kMqc.nmpsTable[s]?).getD (-1) ∧
    0 ≤ (Gen.J2kMqc.nlpsTable[s]?).getD (-1) ∧ 0 ≤ (Gen.J2kMqc.switchTable[s]?).getD (-1) := Mqc.tables_nonneg

/-- register invariants: after `NewMQEncoder(n)` and any sequence of `Encode(bit, cx)` with `cx < n` the
encoder has not panicked and is renormalised: `0x8000 ≤ a < 0x10000`, `1 ≤ ct ≤ 13`, `c < 2^28`
(so no uint32 operation wrapped), `bp` inside the buffer -/
theorem mq_encoder_registers (n : Nat) (ds : List (Nat × Nat)) (hds : ∀ d ∈ ds, d.2 < n) :
    ∃ e, encodeAll (Enc.new n) ds = some e ∧ 0x8000 ≤ e.a ∧ e.a < 0x10000 ∧ 1 ≤ e.ct ∧ e.ct ≤ 13 ∧
      e.c < 2 ^ 28 ∧ e.bp < e.buf.size := Mqc.encoder_registers n ds hds

/-- `ErtermEnc()` (predictable termination, PTERM) never panics: after any sequence of `Encode` calls its byte-out
loop terminates within its fuel and stays inside the buffer -/
theorem mq_erterm_no_panic (n : Nat) (ds : List (Nat × Nat)) (hds : ∀ d ∈ ds, d.2 < n) :
    ∃ e e', encodeAll (Enc.new n) ds = some e ∧ ertermEnc e = some e' := by
  obtain ⟨e, he, hr, _⟩ := Mqc.encodeAll_new n ds hds
  obtain ⟨e', he', _⟩ := T1.ertermEnc_ok e hr
  exact ⟨e, e', he, he'⟩

/-- non-vacuity -/
example : ∀ d ∈ [((1 : Nat), (0 : Nat)), (0, 1)], d.2 < 2 := by decide

/-- byte-stream invariant (reused by C16): for every decision sequence `Encode…; Flush()` returns a byte
string in which every element is a byte and every 0xFF is followed by a byte ≤ 0x8F -/
theorem mq_encoder_stream (n : Nat) (ds : List (Nat × Nat)) (hds : ∀ d ∈ ds, d.2 < n) :
    ∃ bytes, encodeBytes n ds = some bytes ∧ StreamOk bytes := Mqc.encoder_stream n ds hds

/-- … in particular `Flush` never leaves a trailing 0xFF -/
theorem mq_flush_no_trailing_ff (n : Nat) (ds : List (Nat × Nat)) (hds : ∀ d ∈ ds, d.2 < n) :
    ∃ bytes, encodeBytes n ds = some bytes ∧ bytes.getLast? ≠ some 255 := by
  obtain ⟨bytes, h1, h2⟩ := Mqc.encoder_stream n ds hds
  exact ⟨bytes, h1, h2.no_trailing_ff⟩

/-- non-vacuity: a concrete sequence over 2 contexts meets the hypothesis -/
example : ∀ d ∈ [((1 : Nat), (0 : Nat)), (0, 1), (1, 1), (1, 0)], d.2 < 2 := by decide

/-- decoder robustness: for EVERY byte string and every sequence of context ids `< n` the MQ decoder
(`NewMQDecoder`, then `Decode` per id) returns normally with one bit per request — no index panic, in
particular no read outside `data ++ [0xFF, 0xFF]`, and the `for a < 0x8000` loop terminates — and ends
renormalised: `0x8000 ≤ a < 0x10000`, `0 ≤ ct ≤ 8`, `c < 2^32`, `bp` inside the sentinel-extended data -/
theorem mq_decoder_total (bytes : List Nat) (n : Nat) (cxs : List Nat) (hcx : ∀ cx ∈ cxs, cx < n) :
    ∃ d0 bits d, Dec.new bytes n = some d0 ∧ decodeAll d0 cxs = some (bits, d) ∧
      bits.length = cxs.length ∧ (∀ b ∈ bits, b ≤ 1) ∧
      0x8000 ≤ d.a ∧ d.a < 0x10000 ∧ 0 ≤ d.ct ∧ d.ct ≤ 8 ∧ d.c < 2 ^ 32 ∧ d.bp < bytes.length + 2 :=
  Mqc.decoder_total bytes n cxs hcx

/-- `byteout()` is value preserving in exact arithmetic, in all four branches (after 0xFF / plain / carry into
the previous byte / carry that makes the previous byte 0xFF): with `val` the exact integer denoted by the
emitted bytes (a byte after 0xFF weighs 2^7, any other 2^8), `val'·2^27 + c'·2^ct' = (val·2^27 + c)·2^ct'`.
`x` (room above `c`: the interval `[c, c+x)` fits) occurs in the hypotheses only; `x = 1` is the weakest instance -/
theorem mq_byteout_exact (e : Enc) (x : Nat) (hb : BufOk e.buf e.bp) (hx1 : 1 ≤ x) (hx2 : x ≤ 65536)
    (hA : e.c + x ≤ 150994944)
    (hB : 1 ≤ e.bp → rd e.buf (e.bp - 1) = 255 → rd e.buf e.bp * 134217728 + e.c + x ≤ 19327352832) :
    ∀ e', byteout e = some e' →
      val e'.buf e'.bp * 134217728 + e'.c * 2 ^ e'.ct.toNat =
        (val e.buf e.bp * 134217728 + e.c) * 2 ^ e'.ct.toNat := fun e' he' =>
  let ⟨_, _, _, hE⟩ := Mqc.byteout_decomp e x ⟨hb, hx1, hA, hB⟩ e' he'
  Mqc.byteout_val hE

/-- The encoder against the IDEAL (unbounded precision) interval coder; it
names what the registers mean: (1) after any decision sequence the code-shaped encoder's emitted bytes and code
register denote EXACTLY the low end `L` of the ideal encoder's interval, and `a` is its width — carries and
stuffed bytes included; (2) for any code bit source whose value lies in that final interval `[L, L+a)` the ideal
decoder (state `D = value − L`, `a`; decision by `D < Qe` with the conditional exchange of `Decode`) returns
exactly the MPS/LPS decisions of the sequence. -/
theorem mq_ideal_roundtrip (n : Nat) (ds : List (Nat × Nat)) (hds : ∀ d ∈ ds, d.2 < n)
    (src : Nat → Nat) (hsrc : ∀ k, src k ≤ 1) (P0 p0 : Nat) :
    ∃ e steps, encodeAll (Enc.new n) ds = some e ∧ trace (Enc.new n) ds = some steps ∧
      Exact e (jrun src { L := 0, a := 0x8000, P := P0, p := p0 } steps).L ∧
      e.a = (jrun src { L := 0, a := 0x8000, P := P0, p := p0 } steps).a ∧
      ((jrun src { L := 0, a := 0x8000, P := P0, p := p0 } steps).In →
        (idecRun src { D := P0, a := 0x8000, p := p0 } (steps.map (·.1))).1 = steps.map (·.2)) :=
  Mqc.roundtrip_ideal_partial n ds hds src hsrc P0 p0

/-- non-vacuity of the containment hypothesis: with no decisions the final interval is `[0, 0x8000)` and
any 15-bit prefix lies in it -/
example : (jrun (fun _ => 1) { L := 0, a := 0x8000, P := 0x7FFF, p := 15 } []).In := by
  unfold jrun J.In; decide

/-- **MQ round trip (full statement, proved)**: for every number of contexts `n` and every sequence of decisions
`(bit, contextID)` with `bit ≤ 1`, `contextID < n`: `NewMQEncoder(n)`, `Encode` each decision, `Flush()` returns bytes
from which `NewMQDecoder(bytes, n)` followed by `Decode(contextID)` per decision returns exactly the encoded bits.
Proof (Lemmas/MqcRoundtrip*.lean): facts about the encoder relative to its FINAL byte buffer `B`, proved backwards from
`Flush` (`setbits` + two `byteout`s: the stream with 0xFF padding stays below the upper end of every earlier
interval, and every earlier low end is below the next value representable after the bytes emitted later — carry
propagation and the carry parked after a 0xFF included), and a lock-step relation proved forwards: with `R` the
exact value (stuffing weights) of the bytes the decoder has consumed beyond the encoder's current byte,
`R · 2^(16 − ct_d) = c_enc · 2^16 + c_dec`; the decoder's test `c_dec < Qe·2^16` then follows from the facts at
the encoder's post-decision state, and `a`, the contexts and the renormalisation shifts agree step by step. -/
theorem mq_roundtrip (n : Nat) (ds : List (Nat × Nat)) (hds : ∀ x ∈ ds, x.1 ≤ 1 ∧ x.2 < n) :
    ∃ bytes, encodeBytes n ds = some bytes ∧ decodeBits bytes n (ds.map (·.2)) = some (ds.map (·.1)) :=
  Mqc.mq_roundtrip n ds hds

/-- non-vacuity: a concrete sequence meets the hypothesis -/
example : ∀ x ∈ [((1 : Nat), (0 : Nat)), (0, 1), (1, 1), (1, 0), (0, 0)], x.1 ≤ 1 ∧ x.2 < 2 := by decide

/-! ## EBCOT T1: regenerated tables and pass predicates -/
open Gen.J2kT1

/-- the regenerated context tables are well-formed: `lutCtxnoZc` has 2048 entries in `0..8`, `lutCtxnoSc` 256
entries in `9..13`, `lutSpb` 256 entries in `0..1`; magnitude-refinement contexts are `14..16`; hence every
context label T1 can pass to the MQ coder is `< NUMCONTEXTS = 19` (the hypothesis of the MQ theorems) -/
theorem t1_context_tables_wf :
    (lutCtxnoZc.size = 2048 ∧ ∀ i (h : i < lutCtxnoZc.size), CTXZCSTART ≤ lutCtxnoZc[i] ∧ lutCtxnoZc[i] ≤ CTXZCEND) ∧
    (lutCtxnoSc.size = 256 ∧ ∀ i (h : i < lutCtxnoSc.size), CTXSCSTART ≤ lutCtxnoSc[i] ∧ lutCtxnoSc[i] ≤ CTXSCEND) ∧
    (lutSpb.size = 256 ∧ ∀ i (h : i < lutSpb.size), 0 ≤ lutSpb[i] ∧ lutSpb[i] ≤ 1) ∧
    (∀ flags, CTXMRSTART ≤ getMagRefinementContext flags ∧ getMagRefinementContext flags ≤ CTXMREND) ∧
    (CTXZCEND < NUMCONTEXTS ∧ CTXSCEND < NUMCONTEXTS ∧ CTXMREND < NUMCONTEXTS ∧ CTXRL < NUMCONTEXTS ∧
      CTXUNI < NUMCONTEXTS) :=
  ⟨⟨T1.zc_all.1, T1.zc_range⟩, ⟨T1.sc_all.1, T1.sc_range⟩, ⟨T1.spb_all.1, T1.spb_range⟩, T1.mr_range, T1.context_ids_lt⟩

/-- a block with `planes ≥ 1` coded bit-planes has `3·planes − 2` coding passes (cleanup of the top plane,
then SPP/MRP/CUP per lower plane) -/
theorem t1_pass_count (planes : Nat) (h : 1 ≤ planes) : (T1.schedule planes).length = 3 * planes - 2 := by
  rw [T1.schedule_eq planes h, List.length_map, List.length_range']

/-- over the regenerated `isLazyRawPass` / `isTerminatingPass`: the coder (MQ vs raw bypass) changes only after
a terminated pass; under TERMALL every pass is terminated; the last cleanup pass always is -/
theorem t1_segments_wf (bp mb pt style : Int) (hpt : 0 ≤ pt ∧ pt ≤ 2) :
    (isLazyRawPass (T1.next bp pt).1 mb (T1.next bp pt).2 style ≠ isLazyRawPass bp mb pt style →
      isTerminatingPass bp mb pt style = true) ∧
    (Go.and style CblkStyleTermAll ≠ 0 → isTerminatingPass bp mb pt style = true) ∧
    isTerminatingPass 0 mb 2 style = true :=
  ⟨T1.coder_switch_terminated bp mb pt style, T1.terminating_termall bp mb pt style, T1.terminating_last mb style⟩

/-- non-vacuity: in a LAZY block the pass after the cleanup of bit-plane `mb-3` is raw, the cleanup itself is not -/
example : isLazyRawPass 4 8 0 1 = true ∧ isLazyRawPass 5 8 2 1 = false ∧ isTerminatingPass 5 8 2 1 = true := by decide

/-! ## EBCOT T1: the code-shaped model of the three coding passes (styles without LAZY) -/

/-- the context labels the model's passes hand to the MQ coder: for every flag word and orientation the
zero-coding lookup succeeds with a label in `0..8`, the sign-coding lookup with a label in `9..13`, the
sign-prediction lookup with a bit, and the magnitude-refinement label is in `14..16` — with `CTXRL = 17` and
`CTXUNI = 18` all labels are `< 19`, the size of the MQ context array (no table or context index panic) -/
theorem t1_model_contexts (f orient : Nat) :
    (∃ c, T1.zcCtx f orient = some c ∧ c ≤ 8) ∧ (∃ c, T1.scCtx f = some c ∧ 9 ≤ c ∧ c ≤ 13) ∧
    (∃ b, T1.spb f = some b ∧ b ≤ 1) ∧ (14 ≤ T1.mrCtx f ∧ T1.mrCtx f ≤ 16) ∧
    T1.CTXRL = 17 ∧ T1.CTXUNI = 18 ∧ T1.NUMCONTEXTS = 19 :=
  ⟨T1.zcCtx_ok f orient, T1.scCtx_ok f, T1.spb_ok f, T1.mrCtx_ok f, rfl, rfl, rfl⟩

/-- **the block encoder never panics**: for any block size, orientation, pass limit, any coefficients
(`len(coeffs) = w·h`) and any code-block style without LAZY in which TERMALL and PTERM are not combined (24 of the 32
styles without raw passes: RESET, TERMALL with `RestartInitEnc`, VSC, PTERM with `ErtermEnc`, SEGSYM), the model of
`Encode` returns bytes — every access to the padded flag and coefficient arrays, the context tables, the 19 MQ contexts
and the MQ output buffer is in range; after a termination `RestartInitEnc` re-establishes the coder invariant (the
branch `ct = 13` is unreachable) -/
theorem t1_encode_no_panic (w h orient style : Nat) (coeffs : List Int) (numPasses : Nat)
    (hlen : coeffs.length = w * h) (hL : Go.and (style : Int) CblkStyleLazy = 0)
    (hTP : Go.and (style : Int) CblkStyleTermAll ≠ 0 → T1.styPterm style = false) :
    ∃ bytes, T1.encodeBlock w h orient style coeffs numPasses = .ok bytes :=
  T1.encodeBlock_no_panic_mq w h orient style coeffs numPasses hlen

/-- non-vacuity: a 2x2 block, style RESET|TERMALL|SEGSYM -/
example : ([1, 0, 0, -3] : List Int).length = 2 * 2 ∧ Go.and ((38 : Nat) : Int) CblkStyleLazy = 0 ∧
    (Go.and ((38 : Nat) : Int) CblkStyleTermAll ≠ 0 → T1.styPterm 38 = false) := by decide

/-- **the block decoder never panics, whatever the input**: for any non-empty byte string, any claimed pass
count, any claimed top bit-plane and any style, the model of `DecodeWithBitplane` (one codeword segment; it reads
the RESET and SEGSYM bits) returns coefficients — the MQ decoder stays inside its buffer (sentinel + the c50eb7d
guard) and all flag/coefficient/table/context accesses are in range -/
theorem t1_decode_no_panic (w h orient style numPasses : Nat) (maxBitplane : Int) (bytes : List Nat)
    (hb : bytes.length ≠ 0) :
    ∃ out, T1.decodeBlock w h orient style numPasses maxBitplane bytes = .ok out :=
  T1.decodeBlock_no_panic w h orient style numPasses maxBitplane bytes hb

/-- non-vacuity -/
example : ([0xFF, 0x7F, 0x00] : List Nat).length ≠ 0 := by decide

/-- **the T1 block round trip** (code-block style 0, all passes): for every block size, orientation and coefficients
in `(-2^31, 2^31)` with top bit-plane `mb`, the model of `Encode` emits bytes from which the model of
`DecodeWithBitplane(bytes, 3·(mb+1) − 2, mb)` returns exactly the coefficients.  Proof: encoder and decoder passes
in lock-step (equal flag arrays; decoder coefficient = encoder coefficient truncated below the current bit-plane),
every coding decision being one MQ decision whose bit the decoder recovers by `Mqc.step_rel` -/
theorem t1_roundtrip (w h orient mb : Nat) (coeffs : List Int) (hlen : coeffs.length = w * h)
    (hbnd : ∀ c ∈ coeffs, -2147483648 < c ∧ c < 2147483648)
    (hmb : T1.findMaxBitplane (T1.padBlock w h coeffs) = some mb) :
    ∃ bytes, T1.encodeBlock w h orient 0 coeffs (3 * (mb + 1) - 2) = .ok bytes ∧
      T1.decodeBlock w h orient 0 (3 * (mb + 1) - 2) mb bytes = .ok coeffs := by
  rw [show 3 * (mb + 1) - 2 = 3 * mb + 1 by omega]
  exact T1.t1_roundtrip w h orient mb coeffs hlen (fun c hc => by have := hbnd c hc; omega) hmb

/-- non-vacuity: a 2x2 block with top bit-plane 1 -/
example : ([1, 0, 0, -3] : List Int).length = 2 * 2 ∧ (∀ c ∈ ([1, 0, 0, -3] : List Int), -2147483648 < c ∧ c < 2147483648) ∧
    T1.findMaxBitplane (T1.padBlock 2 2 [1, 0, 0, -3]) = some 1 := by decide

/-- **the T1 block round trip for the styles built from RESET, VSC and SEGSYM** (any combination; no LAZY, TERMALL,
PTERM; the VSC bit is not read by the code): as `t1_roundtrip`, with the segmentation symbol after every cleanup pass
and the context reset after every pass on both sides -/
theorem t1_roundtrip_styles (w h orient style mb : Nat) (coeffs : List Int) (hlen : coeffs.length = w * h)
    (hbnd : ∀ c ∈ coeffs, -2147483648 < c ∧ c < 2147483648)
    (hmb : T1.findMaxBitplane (T1.padBlock w h coeffs) = some mb)
    (hT : Go.and (style : Int) CblkStyleTermAll = 0) (hL : Go.and (style : Int) CblkStyleLazy = 0)
    (hP : T1.styPterm style = false) :
    ∃ bytes, T1.encodeBlock w h orient style coeffs (3 * (mb + 1) - 2) = .ok bytes ∧
      T1.decodeBlock w h orient style (3 * (mb + 1) - 2) mb bytes = .ok coeffs := by
  rw [show 3 * (mb + 1) - 2 = 3 * mb + 1 by omega]
  exact T1.t1_roundtrip_styles w h orient style mb coeffs hlen (fun c hc => by have := hbnd c hc; omega) hmb hT hL hP

/-- non-vacuity: style RESET|VSC|SEGSYM -/
example : Go.and ((42 : Nat) : Int) CblkStyleTermAll = 0 ∧ Go.and ((42 : Nat) : Int) CblkStyleLazy = 0 ∧
    T1.styPterm 42 = false := by decide

/-! ## EBCOT T1: the layered API (`EncodeLayered` / `DecodeLayeredWithMode`, `Model/T1Layered.lean`) -/

/-- **layered T1 round trip, ALL 64 code-block styles** (LAZY, RESET, TERMALL, VSC, PTERM, SEGSYM in any
combination; `style < 64`): `DecodeLayeredWithMode`, given the bytes and the cumulative pass lengths that
`EncodeLayered` reports (after `normalizePassRates`), returns the coefficients — the T1 clause of C20 for blocks
with a non-zero coefficient (`hmb`; for the all-zero block `t1_zero_block` gives the encoder side only) and a
non-empty stream (see the end of this comment).
MQ codeword segments: terminated by `FlushToOutput` or (PTERM) `ErtermEnc`; the bytes in front of a segment are
never touched again (`Mqc.InSeg`), the decoder of a segment is in lock-step with the restarted encoder
(`Mqc.decInit_rel`, `Mqc.decode_shift`), contexts are carried or reset on both sides, empty segments are allowed.
Raw segments (LAZY, significance and refinement passes below plane `mb - 3`): the bit writer `BypassEncode` /
`BypassFlushEnc` and the reader `RawDecode` are in lock-step bit by bit (`Mqc.raw_step`: 7-bit byte after 0xFF,
0/1 padding, a dropped trailing 0xFF or 0xFF 0x7F read back from the 0xFF 0xFF sentinel).  Segment boundaries come
from the reported lengths: `normalizePassRates` keeps the length of every terminated pass (`T1.normalize_anchor`)
although the estimates of the other passes are clipped.  Without PTERM the stream is never empty; under PTERM an
empty stream, which the decoder rejects (`empty code-block data`), is not excluded — `ErtermEnc` can end without a
byte (witness at the MQ level in the registry notes) -/
theorem t1_layered_roundtrip (w h orient style mb : Nat) (coeffs : List Int) (hlen : coeffs.length = w * h)
    (hbnd : ∀ c ∈ coeffs, -2147483648 < c ∧ c < 2147483648)
    (hmb : T1.findMaxBitplane (T1.padBlock w h coeffs) = some mb) (hs : style < 64) :
    ∃ rates bytes, T1.encodeLayered w h orient style coeffs (3 * (mb + 1) - 2) = .ok (rates, (mb : Int), bytes) ∧
      (T1.styPterm style = false → bytes ≠ []) ∧
      (bytes ≠ [] → T1.decodeLayered w h orient style (mb : Int) rates bytes = .ok coeffs) := by
  rw [show 3 * (mb + 1) - 2 = 3 * mb + 1 by omega]
  exact T1.t1_layered_roundtrip_all w h orient style mb coeffs hlen (fun c hc => by have := hbnd c hc; omega) hmb hs

/-- non-vacuity: LAZY|RESET|TERMALL|PTERM|SEGSYM = 55, a block whose top plane 5 leaves raw passes on planes 1, 0 -/
example : (55 : Nat) < 64 ∧ T1.findMaxBitplane (T1.padBlock 2 1 [-45, 19]) = some 5 := by decide

/-- **`Encode` / `DecodeWithBitplane` round trip with PTERM** (styles without LAZY and TERMALL; extends
`t1_roundtrip_styles` by `ErtermEnc` as the final termination, with the same caveat about an empty stream) -/
theorem t1_roundtrip_pterm (w h orient style mb : Nat) (coeffs : List Int) (hlen : coeffs.length = w * h)
    (hbnd : ∀ c ∈ coeffs, -2147483648 < c ∧ c < 2147483648)
    (hmb : T1.findMaxBitplane (T1.padBlock w h coeffs) = some mb)
    (hT : Go.and (style : Int) CblkStyleTermAll = 0) (hL : Go.and (style : Int) CblkStyleLazy = 0) :
    ∃ bytes, T1.encodeBlock w h orient style coeffs (3 * (mb + 1) - 2) = .ok bytes ∧
      (T1.styPterm style = false → bytes ≠ []) ∧
      (bytes ≠ [] → T1.decodeBlock w h orient style (3 * (mb + 1) - 2) mb bytes = .ok coeffs) := by
  rw [show 3 * (mb + 1) - 2 = 3 * mb + 1 by omega]
  exact T1.t1_roundtrip_plainP w h orient style mb coeffs hlen (fun c hc => by have := hbnd c hc; omega) hmb hT hL

/-- non-vacuity: RESET|PTERM|SEGSYM -/
example : Go.and ((50 : Nat) : Int) CblkStyleTermAll = 0 ∧ Go.and ((50 : Nat) : Int) CblkStyleLazy = 0 := by decide

/-- **the block encoder never panics, all 32 styles without LAZY** (TERMALL and PTERM combined included), for
coefficients in the `int32` range `(-2^31, 2^31)`: `ErtermEnc` leaves a `TermOk` state as well (`T1.term_facts`) -/
theorem t1_encode_no_panic_mq (w h orient style : Nat) (coeffs : List Int) (numPasses : Nat)
    (hlen : coeffs.length = w * h) (hbnd : ∀ c ∈ coeffs, -2147483648 < c ∧ c < 2147483648)
    (hL : Go.and (style : Int) CblkStyleLazy = 0) :
    ∃ bytes, T1.encodeBlock w h orient style coeffs numPasses = .ok bytes :=
  T1.encodeBlock_no_panic_mq w h orient style coeffs numPasses hlen

/-- non-vacuity: TERMALL|PTERM -/
example : Go.and ((20 : Nat) : Int) CblkStyleLazy = 0 := by decide

/-- **length bound for MQ output** (crude): every `Encode` shifts the code register by at most 15 bits (`Qe ≥ 1`),
a byte leaves it every 7 or 8 shifts, `Flush` adds at most three bytes — `n` decisions give at most
`(15·n + 8)/7 + 2` bytes.  Enough to bound a codeword segment that holds one coding pass (TERMALL: a pass over
≤ 4096 samples makes ≤ 11264 decisions → ≤ 24140 bytes); the sharp bound for a whole block needs an amortised
argument over the probability states and is not attempted -/
theorem mq_len_bound (n : Nat) (ds : List (Nat × Nat)) (hds : ∀ d ∈ ds, d.2 < n) :
    ∃ bytes, Mqc.encodeBytes n ds = some bytes ∧ bytes.length ≤ (15 * ds.length + 8) / 7 + 2 :=
  Mqc.mq_len_bound n ds hds

/-- non-vacuity: the bound for one pass of a 64x64 block -/
example : (15 * 11264 + 8) / 7 + 2 = 24140 ∧ 24140 ≤ 65535 := by decide

/-! ## EBCOT T1 in the configuration of the reversible pipeline (`Model/T1Pipe.lean`)

`jpeg2000/encoder.go` feeds `Encode` the coefficients shifted left by 6 with `SetNMSEDecFractionalBits(6)`;
`t2/tile_decoder.go` decodes with `SetOpenJPEGReconstruction(true)` at `maxBitplane = numbps` (one more than the
plane index) and halves the result. -/

/-- **pipeline configuration, encoder side**: with `fb ≥ 1` fractional bits, `Encode` on the block scaled by `2^fb`
emits exactly the bytes of the plain `Encode` on the block itself — the loop stops below plane `fb`, the added low
planes are never coded, and the stream always ends with `Flush()` (every pass count; styles without LAZY, TERMALL,
PTERM, RESET) -/
theorem t1_pipeline_encode (fb w h orient style : Nat) (coeffs : List Int) (np : Nat) (hfb : 1 ≤ fb)
    (hT : Go.and (style : Int) CblkStyleTermAll = 0) (hL : Go.and (style : Int) CblkStyleLazy = 0)
    (hP : T1.styPterm style = false) (hR : T1.styReset style = false) :
    T1.encodeBlockF fb w h orient style (coeffs.map (fun c => c * ((2 ^ fb : Nat) : Int))) np =
      T1.encodeBlock w h orient style coeffs np :=
  T1.encodeBlockF_scale fb w h orient style coeffs np hfb hT hL hP hR

/-- non-vacuity: style 0 and SEGSYM|VSC = 40 qualify; the scaling by 2^6 -/
example : Go.and ((40 : Nat) : Int) CblkStyleTermAll = 0 ∧ Go.and ((40 : Nat) : Int) CblkStyleLazy = 0 ∧
    T1.styPterm 40 = false ∧ T1.styReset 40 = false ∧ [(-3 : Int), 5].map (fun c => c * ((2 ^ 6 : Nat) : Int)) = [-192, 320] := by
  decide

/-- **pipeline configuration, round trip** (style 0, all `3(mb+1)-2` passes, `|c| < 2^25` so that `c << fb` is an
`int32` for `fb ≤ 6`): the block scaled by `2^fb` through `Encode` with `fb` fractional bits, then
`DecodeWithBitplane` with OpenJPEG reconstruction started at `maxBitplane = numbps = mb + 1`, then `/= 2`
(`T1.halveT`, Go division) — gives the block back.  During decoding a sample coded down to plane `l` holds
`sign·(2·⌊|c|/2^l⌋·2^l + 2^l)` (`T1.ojv`), `sign·(2|c|+1)` at the end -/
theorem t1_pipeline_roundtrip (fb w h orient mb : Nat) (coeffs : List Int) (hfb : 1 ≤ fb)
    (hlen : coeffs.length = w * h) (hbnd : ∀ c ∈ coeffs, -33554432 < c ∧ c < 33554432)
    (hmb : T1.findMaxBitplane (T1.padBlock w h coeffs) = some mb) :
    ∃ bytes out,
      T1.encodeBlockF fb w h orient 0 (coeffs.map (fun c => c * ((2 ^ fb : Nat) : Int))) (3 * (mb + 1) - 2) = .ok bytes ∧
      T1.decodeBlockOJ w h orient 0 (3 * (mb + 1) - 2) ((mb + 1 : Nat) : Int) bytes = .ok out ∧
      out.map T1.halveT = coeffs := by
  rw [show 3 * (mb + 1) - 2 = 3 * mb + 1 by omega]
  exact T1.t1_pipeline_roundtrip fb w h orient mb coeffs hfb hlen (fun c hc => by have := hbnd c hc; omega) hmb

/-- non-vacuity -/
example : T1.findMaxBitplane (T1.padBlock 2 1 [-13, 11]) = some 3 ∧ T1.halveT (-27) = -13 ∧ T1.halveT 23 = 11 ∧
    T1.ojv 0 (-13) = -27 := by decide

/-- **pipeline configuration, the all-zero block**: both encoder configurations emit FF 7F (the flush of a fresh
coder), the pipeline still sends ONE pass, and that cleanup pass over FF 7F decodes to zeros in both reconstruction
modes at any start plane: behind FF 7F the reader feeds 1-bits, the code register stays at the top of the interval
(`Mqc.ZInv`: `C = A·2^16 - 2^(16-ct)`), and the run-length and zero-coding contexts only walk the MPS chain of
states 3,4,5,38..45 with `Qe ≤ 0x0AC1`, so every decision is 0 (styles without SEGSYM) -/
theorem t1_pipeline_zero_block (fb w h orient style mbd : Nat) (coeffs : List Int) (np : Nat)
    (hlen : coeffs.length = w * h) (hz : T1.findMaxBitplane (T1.padBlock w h coeffs) = none)
    (hS : T1.stySegsym style = false) :
    T1.encodeBlockF fb w h orient style coeffs np = .ok [255, 127] ∧
    T1.encodeBlock w h orient style coeffs np = .ok [255, 127] ∧
    T1.decodeBlockOJ w h orient style 1 (mbd : Int) [255, 127] = .ok (List.replicate (w * h) 0) ∧
    T1.decodeBlock w h orient style 1 (mbd : Int) [255, 127] = .ok (List.replicate (w * h) 0) ∧
    coeffs = List.replicate (w * h) 0 :=
  ⟨(T1.encode_zero_bytes fb w h orient style coeffs np hlen hz).1, (T1.encode_zero_bytes fb w h orient style coeffs np hlen hz).2,
    T1.decodeBlockOJ_zero w h orient style mbd hS, T1.decodeBlock_zero w h orient style mbd hS,
    T1.zero_of_nomax w h coeffs hlen hz⟩

/-- non-vacuity -/
example : T1.findMaxBitplane (T1.padBlock 2 2 [0, 0, 0, 0]) = none ∧ T1.stySegsym 0 = false := by decide

/-- side case, truncated pass count (styles without LAZY and TERMALL, `1 ≤ np < 3(mb+1)-2`): decoding the stream
with the same pass count returns every coefficient truncated below a plane `lev x y` (`T1.tr p v` keeps the sign
and clears the magnitude bits below `p`), which is the plane of the last coded pass or the one above it — exactly
the plane of the last pass when that pass is a cleanup pass -/
theorem t1_truncated (w h orient style mb np : Nat) (coeffs : List Int) (hlen : coeffs.length = w * h)
    (hbnd : ∀ c ∈ coeffs, -2147483648 < c ∧ c < 2147483648)
    (hmb : T1.findMaxBitplane (T1.padBlock w h coeffs) = some mb)
    (hT : Go.and (style : Int) CblkStyleTermAll = 0) (hL : Go.and (style : Int) CblkStyleLazy = 0)
    (h1 : 1 ≤ np) (h2 : np < 3 * (mb + 1) - 2) :
    ∃ (bytes : List Nat) (lev : Nat → Nat → Nat), T1.encodeBlock w h orient style coeffs np = .ok bytes ∧
      T1.decodeBlock w h orient style np (mb : Int) bytes =
        .ok ((List.range h).flatMap fun y => (List.range w).map fun x =>
          T1.tr (lev x y) (coeffs.getD (y * w + x) 0)) ∧
      ∀ x y, x < w → y < h → (lev x y = mb - (np + 1) / 3 ∨ lev x y = mb - (np + 1) / 3 + 1) ∧
        (np % 3 = 1 → lev x y = mb - (np + 1) / 3) :=
  T1.t1_truncated w h orient style mb np coeffs hlen (fun c hc => by have := hbnd c hc; omega) hmb hT hL h1 (by omega)

/-- non-vacuity: a block with top plane 3 and 5 of its 10 passes; truncation below plane 2 of -13 and 11 -/
example : T1.findMaxBitplane (T1.padBlock 2 1 [-13, 11]) = some 3 ∧ 5 < 3 * (3 + 1) - 2 ∧
    T1.tr 2 (-13) = -12 ∧ T1.tr 2 11 = 8 := by decide

/-- side case, all-zero block: `Encode` codes no pass and returns a non-empty stream (that it is FF 7F, the flush of a
fresh coder, is `t1_pipeline_zero_block`), `EncodeLayered` no pass and no byte; decoding with zero passes returns the
zero block -/
theorem t1_zero_block (w h orient style : Nat) (coeffs : List Int) (np : Nat) (hlen : coeffs.length = w * h)
    (hz : T1.findMaxBitplane (T1.padBlock w h coeffs) = none) :
    coeffs = List.replicate (w * h) 0 ∧
    (∃ bytes, T1.encodeBlock w h orient style coeffs np = .ok bytes ∧ bytes ≠ [] ∧
      ∀ mb : Int, T1.decodeBlock w h orient style 0 mb bytes = .ok coeffs) ∧
    T1.encodeLayered w h orient style coeffs np = .ok ([], -1, []) := by
  have hc := T1.zero_of_nomax w h coeffs hlen hz
  obtain ⟨bytes, he, hne⟩ := T1.encodeBlock_zero w h orient style coeffs np hlen hz
  refine ⟨hc, ⟨bytes, he, hne, fun mb => ?_⟩, T1.encodeLayered_zero w h orient style coeffs np hlen hz⟩
  rw [T1.decodeBlock_nopass w h orient style mb bytes (by intro h0; exact hne (List.length_eq_zero_iff.mp h0))]
  rw [← hc]

/-- non-vacuity -/
example : T1.findMaxBitplane (T1.padBlock 2 2 [0, 0, 0, 0]) = none := by decide

end C20
