import GdcVerif.Model.J2kSample
import GdcVerif.Model.J2kTiles
import GdcVerif.Lemmas.J2kSample
import GdcVerif.Lemmas.J2kHeaderCodes
import GdcVerif.Lemmas.J2kResDims
import GdcVerif.Lemmas.J2kTagTree
import GdcVerif.Lemmas.J2kBio
import GdcVerif.Lemmas.J2kBandState
import GdcVerif.Lemmas.J2kPacketHeader
import GdcVerif.Lemmas.J2kGlueImage
import GdcVerif.Lemmas.J2kGlueFrame
import GdcVerif.Lemmas.J2kContainer
/-!
  C04 — JPEG 2000 reversible path, single tile: exact reconstruction for every configuration.

  Property theorems only.  Proved layers: sample (de)serialisation + DC level shift (full), code-block pass layout
  (generated kernel) and its reading by the decoder, single-tile sub-band split agreement (x0 = 0 instance of
  C19's theorems), packet-header codes (pass count, comma code, fixed-width fields) on bit lists, the bit
  writer's 0xFF invariants, and the composition of abstract layers.  MQ coder and EBCOT T1 are C20, the packet order
  of packet_encoder.go / packet_decoder.go is C19; namespace `J2kGlue` below composes them with these layers for a
  single tile and a single quality layer.

  Not composed, so without an end-to-end theorem: several quality layers, precinct sizes other than the default,
  TERMALL / LAZY segments, precisions 13 and 14 with 6 levels and 15 and 16 with 5 or 6 (hypothesis `hL` of (G6)), and
  the width, height, component count, precision and signedness the decoder reports (the decoder of (G6) is handed the
  encoder's configuration; the SIZ/COD/QCD field round trips are C16).
-/
namespace J2k
open Gen.J2kTiles

/-- sample layer, as the property reads the container: for every precision 1..16, signed or unsigned, every
    sample that fits: container → convertPixelData → DC shift → (exact core) → inverse DC shift → GetPixelData
    gives the container bytes back.  (Full strength since fix 81cd602; before it the 8-bit branch took the sign
    from bit 7.) -/
theorem sample_roundtrip (P : Int) (signed : Bool) (s : Int) (hP1 : 1 ≤ P) (hP2 : P ≤ 16)
    (hr : inRange P signed s) :
    sampleRoundTrip P signed s = container P s := sample_roundtrip' P signed s hP1 hP2 hr

example : inRange 12 true (-2048) ∧ inRange 8 true (-128) ∧ inRange 1 false 1 ∧ inRange 7 true 63 ∧
    sampleRoundTrip 12 true (-2048) = (0, 8) ∧ sampleRoundTrip 8 true (-128) = (128, 0) := by
  unfold inRange; decide

/-- regression anchor (old defect `j2k-signed-p-lt8-container`): P = 4, signed, sample −3 in container byte 0x0D
    is read as −3 (was +13) and comes back as 0x0D (was 0x07); a sign-extended container byte 0xFD reads the same -/
example : inRange 4 true (-3) ∧ container 4 (-3) = (13, 0) ∧ readSample 4 true 13 0 = -3 ∧
    readSample 4 true 0xFD 0 = -3 ∧ sampleRoundTrip 4 true (-3) = (13, 0) := by
  unfold inRange; decide

/-- code-block pass layout (generated from encoder.go codeBlockPassLayout), classic EBCOT mode:
    for 1 ≤ bps ≤ min(band's bit planes, 55):
    numPasses = 3·bps − 2, the missing MSB planes add up to the band's bit planes, the count fits the
    pass-count code (≤ 164), and the decoder's two readings (from the pass count, tile_decoder.go
    estimateMaxBitplane `(totalPasses+2)/3`, and from QCD `bandNumbps − zbp`) both return bps -/
theorem passLayout_facts (e : Encoder) (hht : e.params.HTJ2KMode = false) (cblk band : Int)
    (h1 : 1 ≤ cblk) (h2 : cblk ≤ band) (h3 : cblk ≤ 55) :
    let r := Encoder.codeBlockPassLayout e cblk band
    r.1 = 3 * cblk - 2 ∧ r.2 + cblk = band ∧ 1 ≤ r.1 ∧ r.1 ≤ 164 ∧
    Int.tdiv (r.1 + 2) 3 = cblk ∧ band - r.2 = cblk := by
  unfold Encoder.codeBlockPassLayout
  have c1 : cblk > 0 := by omega
  have c2 : ¬ (band - cblk < 0) := by omega
  simp only [hht, c1, c2, decide_true, decide_false, if_true, Bool.false_eq_true, if_false]
  refine ⟨by omega, by omega, by omega, by omega, ?_, by omega⟩
  rw [Int.tdiv_eq_ediv_of_nonneg (by omega)]; omega

example : Encoder.codeBlockPassLayout (encOf 8 8) 9 10 = (25, 1) := by decide

/-- an all-zero code-block (bps = 0) is given one pass and all planes missing -/
theorem passLayout_zero (e : Encoder) (hht : e.params.HTJ2KMode = false) (band : Int) (hb : 0 ≤ band) :
    Encoder.codeBlockPassLayout e 0 band = (1, band) := by
  unfold Encoder.codeBlockPassLayout
  simp [hht]; omega

/-- single tile (origin 0): the encoder's sub-band extents are the ones the wavelet and the decoder use, and they
    are the ceil splits ⌈len/2ⁿ⌉, for every size and level count — the x0 = 0 instance of C19 (4c) -/
theorem single_tile_subband_split_agrees (len : Int) (n : Nat) (hl : 0 ≤ len) :
    encLowLen len 0 n = (resDimsT2 len 0 n).1 ∧ encLowLen len 0 n = ceilDivPow2 len n := by
  refine ⟨by unfold encLowLen; rw [resDimsT2_eq], ?_⟩
  unfold encLowLen; exact aligned_agree len 0 n hl (by simp)

example : (resDims 37 0 3).1 = 5 ∧ encLowLen 37 0 3 = 5 := by decide

/-- code-block partition of a sub-band: encoder (partitionIntoCodeBlocks) and decoder (buildAndDecodeCodeBlocks)
    cut the SAME rectangle for every grid position, each is non-empty and inside the band, every coefficient of
    the band lies in the block (⌊x/cbw⌋, ⌊y/cbh⌋) of the grid, and in no other — for every band and block size ≥ 1 -/
theorem codeblocks_partition_subband (bw bh cbw cbh : Int) (hbw : 1 ≤ bw) (hbh : 1 ≤ bh) (hcw : 1 ≤ cbw) (hch : 1 ≤ cbh) :
    (∀ cbx cby, encCbRect bw bh cbw cbh cbx cby = decCbRect bw bh cbw cbh cbx cby) ∧
    (∀ cbx cby, 0 ≤ cbx → cbx < numCb bw cbw → 0 ≤ cby → cby < numCb bh cbh →
      let r := encCbRect bw bh cbw cbh cbx cby
      0 ≤ r.1 ∧ r.1 < r.2.2.1 ∧ r.2.2.1 ≤ bw ∧ 0 ≤ r.2.1 ∧ r.2.1 < r.2.2.2 ∧ r.2.2.2 ≤ bh) ∧
    (∀ x y, 0 ≤ x → x < bw → 0 ≤ y → y < bh →
      0 ≤ x / cbw ∧ x / cbw < numCb bw cbw ∧ 0 ≤ y / cbh ∧ y / cbh < numCb bh cbh ∧
      inRect (encCbRect bw bh cbw cbh (x / cbw) (y / cbh)) x y) ∧
    (∀ x y cbx cby, inRect (encCbRect bw bh cbw cbh cbx cby) x y → cbx = x / cbw ∧ cby = y / cbh) := by
  have hn1 : numCb bw cbw = (bw + cbw - 1) / cbw := by unfold numCb; exact Int.tdiv_eq_ediv_of_nonneg (by omega)
  have hn2 : numCb bh cbh = (bh + cbh - 1) / cbh := by unfold numCb; exact Int.tdiv_eq_ediv_of_nonneg (by omega)
  refine ⟨fun _ _ => rfl, ?_, ?_, ?_⟩
  · intro cbx cby h1 h2 h3 h4
    rw [hn1] at h2; rw [hn2] at h4
    obtain ⟨x1, x2, x3⟩ := cell_bounds (n := bw) (by omega : 0 < cbw) h1 h2
    obtain ⟨y1, y2, y3⟩ := cell_bounds (n := bh) (by omega : 0 < cbh) h3 h4
    exact ⟨x1, x2, x3, y1, y2, y3⟩
  · intro x y hx0 hx hy0 hy
    rw [hn1, hn2]
    exact ⟨Int.ediv_nonneg hx0 (by omega), Int.div_lt_ceilDiv (by omega) hx, Int.ediv_nonneg hy0 (by omega),
      Int.div_lt_ceilDiv (by omega) hy, (cell_mem x bw (by omega) hx).1, (cell_mem x bw (by omega) hx).2,
      (cell_mem y bh (by omega) hy).1, (cell_mem y bh (by omega) hy).2⟩
  · intro x y cbx cby hin
    exact ⟨(cell_unique (by omega) hin.1 hin.2.1).symm, (cell_unique (by omega) hin.2.2.1 hin.2.2.2).symm⟩

example : encCbRect 37 5 16 4 2 1 = (32, 4, 37, 5) ∧ numCb 37 16 = 3 ∧ numCb 5 4 = 2 := by decide

/-- precinct partition, LIVE code: the encoder (buildTilePacketEncoder, inline since 104b234) and the decoder
    (buildResolutionPrecinctOrder) count the same number of precinct columns — and, the code being the same in y,
    rows — for every canvas origin, resolution extent and precinct size; with `codeblock_index_agreement` (C19)
    every code-block lands in the same precinct with the same grid index on both sides -/
theorem precinct_count_agreement (x0 resW pw : Int) (h0 : 0 ≤ x0) (hw : 0 ≤ resW) (hpw : 1 ≤ pw) :
    encNumPrecinct x0 resW pw = decNumPrecinct x0 resW pw := by
  unfold encNumPrecinct decNumPrecinct Gen.J2kT2.floorDiv Gen.J2kT2.ceilDiv
  have c1 : ¬ pw ≤ 0 := by omega
  have c2 : x0 + resW ≥ 0 := by omega
  simp only [c1, decide_false, Bool.false_eq_true, if_false, ge_iff_le, h0, decide_true, if_true, c2]

example : encNumPrecinct 0 17 16 = 2 ∧ decNumPrecinct 0 17 16 = 2 ∧ encNumPrecinct 5 12 8 = 3 ∧ decNumPrecinct 40 1 32768 = 1 := by
  decide

/-- precinct partition, GENERATED kernels Encoder.getResolutionDimensions / getPrecinctSize / calculatePrecinctIndex
    (no caller on the current tree — kept under proof so that an edit shows): for every image size ≥ 1, level count,
    resolution 0..levels and precinct configuration, the resolution extents are the decoder's (origin 0:
    ⌈W/2^(L−r)⌉ × ⌈H/2^(L−r)⌉), hence the number of precinct columns and rows are the decoder's, and the precinct
    index is `row·columns + column` with the decoder's column count -/
theorem precinct_grid_agreement_generated (e : Encoder) (r : Int)
    (hW : 1 ≤ e.params.Width) (hH : 1 ≤ e.params.Height) (hr0 : 0 ≤ r) (hr : r ≤ e.params.NumLevels) :
    let n := (e.params.NumLevels - r).toNat
    let dims := Encoder.getResolutionDimensions e r
    let ps := Encoder.getPrecinctSize e r
    dims.1 = (resDimsT2 e.params.Width 0 n).1 ∧ dims.2 = (resDimsT2 e.params.Height 0 n).1 ∧
    1 ≤ ps.1 ∧ 1 ≤ ps.2 ∧
    Int.tdiv (dims.1 + ps.1 - 1) ps.1 = decNumPrecinct 0 (resDimsT2 e.params.Width 0 n).1 ps.1 ∧
    Int.tdiv (dims.2 + ps.2 - 1) ps.2 = decNumPrecinct 0 (resDimsT2 e.params.Height 0 n).1 ps.2 ∧
    ∀ cbX0 cbY0, Encoder.calculatePrecinctIndex e cbX0 cbY0 r =
      Int.tdiv cbY0 ps.2 * decNumPrecinct 0 (resDimsT2 e.params.Width 0 n).1 ps.1 + Int.tdiv cbX0 ps.1 := by
  intro n dims ps
  have hn : ((n : Nat) : Int) = e.params.NumLevels - r := by
    show (((e.params.NumLevels - r).toNat : Nat) : Int) = _; omega
  have hps : ps = (2 ^ (Encoder.getPrecinctSizeExponents e r).1.toNat, 2 ^ (Encoder.getPrecinctSizeExponents e r).2.toNat) := by
    show Encoder.getPrecinctSize e r = _
    unfold Encoder.getPrecinctSize Go.shl
    simp
  have hp1 : 1 ≤ ps.1 := by rw [hps]; exact Int.pow_pos (by decide)
  have hp2 : 1 ≤ ps.2 := by rw [hps]; exact Int.pow_pos (by decide)
  obtain ⟨hw1, hw2, hcx⟩ := precinct_axis e.params.Width ps.1 _ n hn hW hp1
  obtain ⟨hh1, hh2, hcy⟩ := precinct_axis e.params.Height ps.2 _ n hn hH hp2
  have hd : dims = (ceilDivPow2 e.params.Width (e.params.NumLevels - r), ceilDivPow2 e.params.Height (e.params.NumLevels - r)) := by
    show Encoder.getResolutionDimensions e r = _
    unfold Encoder.getResolutionDimensions
    have c1 : ¬ (e.params.NumLevels - r < 0) := by omega
    have c2 : ¬ (ceilDivPow2 e.params.Width (e.params.NumLevels - r) < 1) := by omega
    have c3 : ¬ (ceilDivPow2 e.params.Height (e.params.NumLevels - r) < 1) := by omega
    simp only [c1, c2, c3, decide_false, Bool.false_eq_true, if_false]
  rw [hd]
  refine ⟨hw1, hh1, hp1, hp2, hcx, hcy, fun cbX0 cbY0 => ?_⟩
  unfold Encoder.calculatePrecinctIndex
  show Int.tdiv cbY0 ps.2 * Int.tdiv (dims.1 + ps.1 - 1) ps.1 + Int.tdiv cbX0 ps.1 = _
  rw [hd, hcx]

/-- the sizes of the seeded case: 33×33, 1 level, 32×32 precincts: resolution 1 is 33 wide → 2 precinct columns
    (a floor shift would still give 33 here; at resolution 0 it is ⌈33/2⌉ = 17 with 16-wide precincts → 2 columns,
    where a floor shift gives 16 → 1 column) -/
example :
    let e : Encoder := { (encOf 33 33) with params := { (encOf 33 33).params with NumLevels := 1, PrecinctWidth := 32, PrecinctHeight := 32 } }
    Encoder.getResolutionDimensions e 0 = (17, 17) ∧ Encoder.getPrecinctSize e 0 = (16, 16) ∧
    Encoder.calculatePrecinctIndex e 16 16 0 = 3 ∧ Encoder.getPrecinctSize e 1 = (32, 32) ∧
    Encoder.calculatePrecinctIndex e 32 32 1 = 3 := by decide

/-- pass-count code: every count 1..164 decodes to itself and consumes exactly its code word -/
theorem numPasses_roundtrip (n : Nat) (h1 : 1 ≤ n) (h2 : n ≤ 164) (rest : List Bool) :
    ∃ code, encNumPasses n = some code ∧ decNumPasses (code ++ rest) = some (n, rest) :=
  numPasses_roundtrip' n h1 h2 rest

example : encNumPasses 37 = some (writeBitsL 0xff80 16) ∧ encNumPasses 165 = none := by decide

/-- comma code (Lblock increment): unbounded -/
theorem comma_roundtrip (n : Nat) (rest : List Bool) : decComma (encComma n ++ rest) = some (n, rest) :=
  comma_roundtrip' n rest

/-- fixed-width field writeBits(v, n) / readBits(n): every value that fits comes back -/
theorem bits_roundtrip (n v : Nat) (hv : v < 2 ^ n) (rest : List Bool) :
    readBitsL n 0 (writeBitsL v n ++ rest) = some (v, rest) := bits_roundtrip' n v hv rest

example : (5 : Nat) < 2 ^ 3 ∧ writeBitsL 5 3 = [true, false, true] := by decide

/-- Lblock length coding (encodeCodeBlockLengths with one codeword segment / decodeDataLengthWithReader without
    TERMALL): for every Lblock state, data length and pass count the increment rule makes the field wide enough
    (`len < 2^(Lblock + ⌊log2 passes⌋)`), and the decoder gets back the same length AND the same new Lblock,
    consuming exactly the code.  Hypothesis: the field is at most 32 bits wide (bioReader.readBits' limit; lengths
    below 2^24 with ≤ 164 passes satisfy it from Lblock ≤ 25 and keep Lblock ≤ 25: `J2kPH.encLen_bounds`).  Not covered: contributions with a pass terminated
    before the last (TERMALL / LAZY: several length fields; the decoder reads them only in TERMALL mode). -/
theorem lblock_roundtrip (numLenBits dataLen newPasses : Nat) (rest : List Bool)
    (hw : (encLen numLenBits dataLen newPasses).1 + floorLog2 newPasses ≤ 32) :
    decLen numLenBits newPasses ((encLen numLenBits dataLen newPasses).2 ++ rest) =
      some (dataLen, (encLen numLenBits dataLen newPasses).1, rest) ∧
    dataLen < 2 ^ ((encLen numLenBits dataLen newPasses).1 + floorLog2 newPasses) :=
  lblock_roundtrip' numLenBits dataLen newPasses rest hw

example : encLen 0 512 34 = (5, [true, true, false] ++ writeBitsL 512 10) ∧ (encLen 0 512 34).1 + floorLog2 34 ≤ 32 ∧
    floorLog2 34 = 5 ∧ floorLog2 0 = 0 ∧ floorLog2 1 = 0 := by decide

/-- bioWriter: after emitting 0xFF the next byte has 7 usable bits, otherwise 8 (bit stuffing) -/
theorem bio_byteOut_ct (w : BioW) :
    (w.byteOut.ct = 7 ↔ w.byteOut.buf.getLast? = some 255) ∧ (w.byteOut.ct = 7 ∨ w.byteOut.ct = 8) := by
  unfold BioW.byteOut
  simp only [List.getLast?_append, List.getLast?_singleton, Option.some_or]
  by_cases h : (w.out * 256) % 65536 = 0xff00
  · simp [h]
  · have : ¬ ((w.out * 256) % 65536 / 256 % 256 = 255) := by omega
    simp [h, this]

/-- bioWriter.flush never ends a packet header on 0xFF and always emits at least one byte (C16 reuses this) -/
theorem bio_flush_last_not_FF (w : BioW) : w.flush.getLast? ≠ some 255 ∧ w.flush ≠ [] :=
  ⟨flush_last_not_FF w, flush_nonempty w⟩

example : (BioW.new.writeBitsList (List.replicate 8 true)).flush = [255, 0] ∧
    (BioW.new.writeBitsList (List.replicate 9 true)).flush = [255, 64] := by decide

/-- packet-header bit I/O, byte level, FULL: every non-empty header bit string (a header has at least its
    packet-present bit) written by bioWriter and flushed is read back by bioReader bit for bit from
    `stream ++ rest` — 0xFF stuffing included — and `alignToByte` leaves the reader exactly at `rest`, the first
    byte after the header (full strength since fix aaeb057) -/
theorem bio_roundtrip (bits : List Bool) (rest : List Nat) (hne : bits ≠ []) :
    headerRoundTrip BioR.alignToByte bits rest = some (bits, rest) := by
  obtain ⟨r1, r2, hr1, hr2, hd⟩ := bio_read_align bits rest hne
  unfold headerRoundTrip
  simp only [hr1, hr2, hd]

example : headerRoundTrip BioR.alignToByte [true, false, true, true, true, true, true, true, true, true, true] [0xA5] =
    some ([true, false, true, true, true, true, true, true, true, true, true], [0xA5]) := by decide

/-- regression anchor (old defect `j2k-packet-header-full-0xFF-align`, root cause of the rare ≈1/3000 failures):
    a header whose bits end exactly on a byte 0xFF — eight 1-bits — is flushed as FF 00; the old alignToByte
    (early return when ct = 0) left the stuffing byte 00 unread, the repaired one consumes it -/
example : (BioW.new.writeBitsList (List.replicate 8 true)).flush = [255, 0] ∧
    headerRoundTrip BioR.alignToByteOld (List.replicate 8 true) [0x80] = some (List.replicate 8 true, [0, 0x80]) ∧
    headerRoundTrip BioR.alignToByte (List.replicate 8 true) [0x80] = some (List.replicate 8 true, [0x80]) := by
  decide

/-- composition of abstract layers: if every layer inverts on its domain and hands its successor an
    admissible input, the pipeline is the identity -/
theorem pipeline_identity {α β γ : Type} (l1 : Layer α β) (l2 : Layer β γ)
    (h : ∀ x, l1.ok x → l2.ok (l1.enc x)) (x : α) (hx : l1.ok x) :
    (l1.comp l2 h).dec ((l1.comp l2 h).enc x) = x := (l1.comp l2 h).contract x hx

/-- the end-to-end statement, partial: container bytes → samples (`front`, `sample_roundtrip`) →
    RCT (`rct`, C20) → 5/3 DWT (`dwt`, C20) → code-block partition + T1 (`t1`, C20) → T2 packets and
    codestream (`t2`, primitives proved above) is how the five type variables are meant to be read: the statement is
    about any five `Layer`s and names no codec definition, and no such five layers are built — the concrete composition,
    `reversible_single_tile_roundtrip` below, is proved directly and not as an instance of this.  Named hypotheses: the five layer
    contracts (fields `contract`) and the four hand-over conditions h12…h45.  Conclusion: decode ∘ encode = id. -/
theorem reversible_roundtrip_partial {A B C D E F : Type}
    (front : Layer A B) (rct : Layer B C) (dwt : Layer C D) (t1 : Layer D E) (t2 : Layer E F)
    (h12 : ∀ x, front.ok x → rct.ok (front.enc x)) (h23 : ∀ x, rct.ok x → dwt.ok (rct.enc x))
    (h34 : ∀ x, dwt.ok x → t1.ok (dwt.enc x)) (h45 : ∀ x, t1.ok x → t2.ok (t1.enc x))
    (x : A) (hx : front.ok x) :
    front.dec (rct.dec (dwt.dec (t1.dec (t2.dec (t2.enc (t1.enc (dwt.enc (rct.enc (front.enc x))))))))) = x := by
  have a := h12 x hx
  have b := h23 _ a
  have c := h34 _ b
  have d := h45 _ c
  rw [t2.contract _ d, t1.contract _ c, dwt.contract _ b, rct.contract _ a, front.contract _ hx]

/-- non-vacuity of the layer structure: the sample layer is an instance for unsigned 8-bit samples -/
example : ∃ l : Layer Int (Int × Int), l.ok 200 ∧ l.enc 200 = (200, 0) :=
  ⟨{ enc := container 8, dec := fun c => dcUnshift 8 false (dcShift 8 false (readSample 8 false c.1 c.2)),
     ok := fun s => s = 200, contract := by intro x hx; subst hx; decide }, rfl, by decide⟩

end J2k

/-! ## Tag trees (jpeg2000/t2/tagtree.go) — used by every packet header (inclusion and zero-bit-plane trees) -/
namespace J2kTT

/-- the queries of a header sequence: leaf (x, y) with threshold t, as root→leaf paths of a w×h tree -/
def queries (w h : Nat) (qs : List (Nat × Nat × Nat)) : List (List Node × Nat) :=
  qs.map fun q => (ttPath w h q.1 q.2.1, q.2.2)

/-- tag-tree round trip, every w×h, every sequence of (leaf, threshold) queries, from ANY pair of encoder /
    decoder tree states in lock step (`Inv`; in particular two fresh trees): the decoder, fed the encoder's bits
    followed by anything, consumes exactly those bits, ends in lock step again, and answers each query with the
    leaf's value when it is below the threshold (or was already known) and with the sentinel 999 plus the fact
    `threshold ≤ value` otherwise.  Hypotheses: thresholds ≤ 999 (the Go sentinel) and the heap property of the
    encoder's node values, which `tagtree_setValue` shows SetValue maintains. -/
theorem tagtree_roundtrip (w h : Nat) (qs : List (Nat × Nat × Nat)) (se : TTEnc) (sd : TTDec) (rest : List Bool)
    (hinv : Inv se sd) (hheap : GlobalHeap se.val (ttNumLevels w h)) (ht : ∀ q ∈ qs, q.2.2 ≤ sentinel) :
    ∃ sd' rs, sd.decodeAll (queries w h qs) ((se.encodeAll (queries w h qs)).2 ++ rest) = some (sd', rs, rest) ∧
      Inv (se.encodeAll (queries w h qs)).1 sd' ∧ (se.encodeAll (queries w h qs)).1.val = se.val ∧
      AnswersAll se.val (queries w h qs) rs := by
  obtain ⟨sd', rs, hd, hinv', hans⟩ := all_sync (queries w h qs) se sd rest hinv fun q hq => by
    unfold queries at hq
    obtain ⟨q0, hq0, rfl⟩ := List.mem_map.mp hq
    exact ⟨ht q0 hq0, heapPath_ttPath se.val w h q0.1 q0.2.1 hheap⟩
  exact ⟨sd', rs, hd, hinv', encodeAll_val _ se, hans⟩

/-- SetValue (minimum propagation with early break) keeps the heap property, and — when the value set is not
    below anything already signalled — the encoder/decoder lock step; fresh trees satisfy both -/
theorem tagtree_setValue (w h x y v : Nat) (se : TTEnc) (sd : TTDec) (hinv : Inv se sd)
    (hheap : GlobalHeap se.val (ttNumLevels w h)) (hlow : ∀ n, se.low n ≤ v) (hv : v ≤ sentinel) :
    Inv (se.setValue w h x y v) sd ∧ GlobalHeap (se.setValue w h x y v).val (ttNumLevels w h) ∧
    Inv TTEnc.init TTDec.init ∧ GlobalHeap TTEnc.init.val (ttNumLevels w h) :=
  ⟨setValue_inv se sd w h x y v hinv hheap hlow hv, setValue_globalHeap se w h x y v hheap,
    inv_init, globalHeap_init _⟩

/-- Go's flat node index `py*levelWidths[level] + px` neither aliases two nodes of a level nor leaves the
    allocated `levelWidths·levelHeights` array -/
theorem tagtree_index_sound (lw lh : Nat) (a b : Node) (ha : a.2.1 < lw) (hb : b.2.1 < lw) (hl : a.1 = b.1)
    (hy : a.2.2 < lh) : (flatten lw a = flatten lw b → a = b) ∧ flatten lw a < lw * lh :=
  ⟨flatten_inj lw a b ha hb hl, flatten_in_range lw lh a ha hy⟩

/-- non-vacuity: a 3×2 inclusion-style tree, leaves set to layers 0/2, queried with growing thresholds -/
example :
    let se := ((TTEnc.init.setValue 3 2 0 0 0).setValue 3 2 2 1 2)
    let qs := queries 3 2 [(0, 0, 1), (2, 1, 1), (1, 0, 1), (2, 1, 3)]
    ttNumLevels 3 2 = 3 ∧ ttPath 3 2 2 1 = [(2, 0, 0), (1, 1, 0), (0, 2, 1)] ∧
    (se.encodeAll qs).2 = [true, true, true, false, false, false, true, true] ∧
    (TTDec.init.decodeAll qs ((se.encodeAll qs).2 ++ [true, false])).map (fun r => (r.2.1, r.2.2)) =
      some ([0, 999, 999, 2], [true, false]) := by decide

end J2kTT

/-! ## decodePacket: per-band header state across the packets of a precinct (t2/packet_decoder.go) -/
namespace J2kBand

def iter {S : Type} (p : S → S) : Nat → S → S
  | 0, x => x
  | n + 1, x => p (iter p n x)

/-- the packets of one precinct, layer after layer -/
def packets {S : Type} (nonEmpty : Nat → Bool) (fresh : S) (p : S → S) (bands : List Nat) : Nat → Ctx S → Ctx S
  | 0, c => c
  | n + 1, c => packetStep nonEmpty fresh p bands (packets nonEmpty fresh p bands n c)

/-- invariant of the repaired bookkeeping (fix 120e6ac): after every packet "the state written back for band b
    is the state read for band b, updated by the header parser": each band that has code-blocks carries the
    parser's update of ITS OWN previous state, bands without code-blocks never get a context, nothing else moves.
    `p` is an arbitrary header-parser effect; bands are distinct; contexts start absent. -/
theorem band_state_writeback {S : Type} (nonEmpty : Nat → Bool) (fresh : S) (p : S → S) (bands : List Nat)
    (hnd : bands.Nodup) (n : Nat) :
    ∀ b, packets nonEmpty fresh p bands n (fun _ => none) b =
      if b ∈ bands ∧ nonEmpty b = true ∧ 0 < n then some (iter p n fresh) else none := by
  induction n with
  | zero => intro b; simp [packets]
  | succ n ih =>
    intro b
    unfold packets
    rw [packetStep_eq nonEmpty fresh p bands _ hnd ?_ b]
    · rw [ih b]
      by_cases hb : b ∈ bands ∧ nonEmpty b = true
      · cases n <;> simp [hb, iter]
      · have h2 : ¬ (b ∈ bands ∧ nonEmpty b = true ∧ 0 < n) := fun h => hb ⟨h.1, h.2.1⟩
        simp [hb, h2]
    · intro b hb hne
      rw [ih b]; simp [hne]

/-- regression anchor (old defect `j2k-multilayer-empty-band-decoder-state`): resolution of width 1 — only LH
    (band 2) has code-blocks. Old shape: the state of band 2 is never written back (i = 1 ≥ len(bandStates) = 1),
    so the second layer starts from a fresh state again; repaired shape: the counter increments survive.
    States are counters, the parser effect is +1. -/
example :
    let ne : Nat → Bool := fun b => b == 2
    (packetStepOld ne 0 (· + 1) [1, 2, 3] (packetStepOld ne 0 (· + 1) [1, 2, 3] (fun _ => none))) 2 = some 0 ∧
    (packetStep ne 0 (· + 1) [1, 2, 3] (packetStep ne 0 (· + 1) [1, 2, 3] (fun _ => none))) 2 = some 2 ∧
    -- old shape, bands 2 and 3 non-empty: band 2 receives band 3's state
    (packetStepOld (fun b => b != 1) 0 (· + 1) [1, 2, 3]
      (fun b => if b == 2 then some 10 else if b == 3 then some 20 else none)) 2 = some 21 := by decide

end J2kBand
/-! ## One packet header: encodePacketHeaderWithTagTreeMulti against parsePacketHeaderMulti -/
namespace J2kPH
open J2k J2kTT

/-- for ONE packet of a precinct (any number of bands, any grid, any layer ≤ 998), from
    any pair of encoder/decoder states in lock step (`BandsInv`: what the previous packets of the precinct leave
    behind — first inclusion pending for some code-blocks, Lblock counters and tag-tree state for the others), and
    any admissible contributions (per code-block: not included, or 1..164 passes and < 2^24 bytes in one codeword
    segment; fewer than 32 missing bit planes): the decoder, fed the encoder's header bits followed by anything,
    (a) consumes exactly the header, (b) reports for every band and code-block exactly what was encoded —
    inclusion, number of passes, data length, and the zero-bit-plane count (on first inclusion from the tag tree,
    later from its state) — or "empty packet" when no band has a code-block, (c) ends in lock step for the next
    layer, and (d) the header has at least one bit, so `bio_roundtrip` carries it over the byte level:
    written by bioWriter, flushed, read back by bioReader, aligned — the reader stands at the packet body. -/
theorem packet_header_roundtrip (layer : Nat) (hlayer : layer + 1 ≤ sentinel) (bes : List BandE) (bds : List BandD)
    (css : List (List Contrib)) (rest : List Bool) (body : List Nat)
    (hinv : BandsInv layer bes bds) (hok : CsOk bes css) :
    (∃ bds', decHeader layer bds ((encHeader layer bes css).2 ++ rest) =
        some (bds', (if bes.all (fun b => b.cbs.isEmpty) then none else some (expBands bes css)), rest) ∧
      BandsInv (layer + 1) (encHeader layer bes css).1 bds') ∧
    headerRoundTrip BioR.alignToByte (encHeader layer bes css).2 body = some ((encHeader layer bes css).2, body) :=
  ⟨header_sync layer hlayer bes bds css rest hinv hok, bio_roundtrip _ body (encHeader_ne_nil layer bes css)⟩

/-- the state threading over layers: starting from fresh states (PacketEncoder.ResetState; a decoder that has not
    seen the precinct) — which are in lock step for every grid with distinct positions and < 32 missing bit planes —
    every packet of the precinct, layer after layer (first inclusion in whatever layer, later contributions, layers
    without contribution), is decoded to what was encoded, whatever follows each header -/
theorem packet_headers_roundtrip_layers (spec : List (Nat × Nat × List (Nat × Nat × Nat)))
    (hspec : ∀ b ∈ spec, (b.2.2.map fun c => (c.1, c.2.1)).Nodup ∧ ∀ c ∈ b.2.2, c.2.2 < 32)
    (lss : List (List (List Contrib))) (tail : List Bool)
    (hok : ∀ css ∈ lss, CsOk (spec.map fun b => BandE.fresh b.1 b.2.1 b.2.2) css) (hlen : lss.length ≤ sentinel) :
    decLayers tail 0 (spec.map fun b => BandD.fresh b.1 b.2.1 b.2.2)
      (encLayers 0 (spec.map fun b => BandE.fresh b.1 b.2.1 b.2.2) lss) =
      some (expLayers 0 (spec.map fun b => BandE.fresh b.1 b.2.1 b.2.2) lss) := by
  exact layers_sync tail lss 0 _ _
    (all2_map_map _ _ spec fun b hb => bandInv_fresh b.1 b.2.1 b.2.2 (hspec b hb).1 (hspec b hb).2) hok (by omega)

/-- non-vacuity: a resolution with three bands (HL 2×1 grid, LH empty, HH 1×1), three layers: first inclusions in
    layers 0, 1 and 2, a later contribution, a layer without contribution -/
example :
    let spec : List (Nat × Nat × List (Nat × Nat × Nat)) := [(2, 1, [(0, 0, 3), (1, 0, 1)]), (1, 1, []), (1, 1, [(0, 0, 7)])]
    let lss : List (List (List Contrib)) :=
      [[[some (4, 20), none], [], [none]], [[none, some (7, 300)], [], [none]], [[some (1, 5), some (1, 2)], [], [some (37, 70000)]]]
    (∀ css ∈ lss, CsOk (spec.map fun b => BandE.fresh b.1 b.2.1 b.2.2) css) ∧
    decLayers [true, false] 0 (spec.map fun b => BandD.fresh b.1 b.2.1 b.2.2)
      (encLayers 0 (spec.map fun b => BandE.fresh b.1 b.2.1 b.2.2) lss) =
      some [some [[⟨true, 4, 20, 3⟩, ⟨false, 0, 0, 0⟩], [], [⟨false, 0, 0, 0⟩]],
            some [[⟨false, 0, 0, 0⟩, ⟨true, 7, 300, 1⟩], [], [⟨false, 0, 0, 0⟩]],
            some [[⟨true, 1, 5, 3⟩, ⟨true, 1, 2, 1⟩], [], [⟨true, 37, 70000, 7⟩]]] := by
  refine ⟨?_, by decide⟩
  intro css hcss
  simp only [List.mem_cons, List.not_mem_nil, or_false] at hcss
  rcases hcss with rfl | rfl | rfl <;> (simp [CsOk, COk, BandE.fresh]; try omega)

end J2kPH

/-! ## The composition: glue model of Encoder.Encode → Decoder.Decode, single tile, single layer, one
    codeword segment per block (Model/J2kGlue*.lean; tied to the real encoder and decoder by whole-codestream
    correspondence `j2k-glue-img-enc/dec` and piecewise `j2k-glue-enc/dec/t1enc/t1dec`) -/
namespace J2kGlue
open J2k J2kPH Dwt53

/-- (G1) THE TILE-PART BODY, T2 only: packets back to back, each = header bits through bioWriter/flush ++ the included
    blocks' bytes; the decoder — given only the band geometry of each precinct — parses every header from the
    reader's bit supply, aligns, cuts the bodies by the decoded lengths, and ends exactly where the encoder stopped.
    Composes `packet_header_roundtrip` (tag trees, pass/length codes), `bio_roundtrip` (stuffing, alignment) and the
    body concatenation, for any packet sequence. -/
theorem tile_body_roundtrip (ps : List Packet) (tail : List Nat) (h : ∀ p ∈ ps, PacketOk p) :
    decTile (ps.map fun p => p.map Band.spec) (encTile ps ++ tail) = some (ps.map fun p => some (Packet.expected p), tail) :=
  decTile_encTile ps tail h

/-- (G2) ONE CODE-BLOCK AROUND T1, in the pipeline's own configuration — encodeCodeBlock shifts the coefficients left
    by 6 and runs T1 with 6 fractional bits; its layout (numPasses = 3·numbps − 2, zero bit-planes = bandNumbps −
    numbps, 1 pass for an all-zero block) travels through the packet header; estimateMaxBitplane rebuilds
    `maxBitplane = numbps` from pass count and zero bit-planes; DecodeWithBitplane with OpenJPEG reconstruction and
    the halving give the coefficients back (`C20.t1_pipeline_roundtrip`, `C20.t1_pipeline_encode`; all-zero blocks:
    `C20.t1_pipeline_zero_block`).
    The block's bytes are non-empty, its fields admissible for the packet header (1..164 passes, < 32 zero bit-planes). -/
theorem codeblock_t1_handover (b : Blk) (hok : BlkOk b) :
    ∃ np zbp data, t1Encode b = some (np, zbp, data) ∧ data ≠ [] ∧ 1 ≤ np ∧ np ≤ 164 ∧ zbp < 32 ∧
      data.length ≤ 65535 ∧ t1Decode b.w b.h b.orient b.nb ⟨true, np, data.length, zbp⟩ data = some b.coeffs :=
  blk_roundtrip b hok

/-- (G3) T2 + T1 FOR A TILE: the coefficients of every code-block entering T1 on the encoder are the coefficients
    leaving T1 on the decoder, for every packet sequence both sides agree on (C19 `packet_sequence_agreement`). -/
theorem tile_codeblocks_roundtrip (ps : List PPacket) (tail : List Nat) (hok : ∀ p ∈ ps, PPacketOk p) :
    ∃ bytes, encodeTileBody ps = some bytes ∧
      decodeTileBody (ps.map fun p => p.map PBand.geo) (bytes ++ tail) =
        some (ps.map fun p => p.map fun b => b.blks.map fun pb => pb.blk.coeffs) :=
  let ⟨bytes, henc, hdec⟩ := tile_blocks_roundtrip ps hok
  ⟨bytes, henc, hdec tail⟩

/-- (G4) SUB-BAND CUT + CODE-BLOCK PARTITION + PLACEMENT: the bands of all resolutions cover the Mallat layout, the
    `cbw × cbh` grid covers every band, and the decoder's block-by-block copy restores every sample of every
    component plane the encoder cut the blocks from (default precincts, tile at the canvas origin) -/
theorem cut_paste_identity (c : TCfg) (nC prog : Nat) (planes : Nat → Plane) (hw : 0 < c.cbw) (hh : 0 < c.cbh)
    (k x y : Nat) (hk : k < nC) (hx : x < c.W) (hy : y < c.H) :
    pasteTile c nC prog ((tilePackets c nC prog planes).map coeffsOf) k x y = planes k x y :=
  pasteTile_tilePackets c nC prog planes hw hh k x y hk hx hy

/-- (G5) the magnitude side conditions are met by the codec's sample ranges: `bndL L (2^P) < 2^25` gives both
    "no int32 operation of the 5/3 transform wraps" (C20 needs ≤ 2^29 − 1) and "every coefficient fits `coeff << 6`
    in int32" — 8-bit up to 8 levels, 12-bit up to 6, 16-bit up to 4.  (Inside the property's range the bound fails for
    13- and 14-bit with 6 levels and for 15- and 16-bit with 5 or 6: the crude bound `M ↦ 4M + 3` per level is too
    weak there; the int32 side still holds — C20 `dwt_magnitude_bound_examples`.) -/
theorem dwt_coefficient_bound_examples :
    bndL 8 (2 ^ 8) < 2 ^ 25 ∧ bndL 6 (2 ^ 12) < 2 ^ 25 ∧ bndL 4 (2 ^ 16) < 2 ^ 25 := by decide

/-- encoder: container samples → convertPixelData → DC shift → RCT → 5/3 → cut → T1 → packets → codestream -/
def encodeImage (c : ICfg) (samp : Nat → Nat → Nat → Int) : Option (List Nat) :=
  (encodeBody c fun k x y => frontSample c.P c.signed (samp k x y)).bind (frame c)

/-- decoder: `unframe` stands for the codestream parser's result (the tile-part data of tile 0; the coding parameters
    it reads from SIZ/COD/QCD are `c`), then packets → T1 → paste → inverse 5/3 → inverse RCT → inverse DC shift →
    GetPixelData's container bytes -/
def decodeImage (c : ICfg) (unframe : List Nat → Option (List Nat)) (stream : List Nat) : Option (Nat → Nat → Nat → Int × Int) :=
  ((unframe stream).bind (decodeBody c)).map fun v k x y => writeSample c.P c.signed (dcUnshift c.P c.signed (v k x y))

/-- (G6) `reversible_single_tile_roundtrip` — THE COMPOSITION.  For a single-tile, single-layer image of 1..16-bit
    samples (signed or not), any component count (RCT for three with MCT on), any progression order, positive
    code-block size, `L` levels with `bndL L (2^P) < 2^25`: Decode(Encode(container)) = container, sample for sample.

    Instantiated with the ACTUAL theorems: `sample_roundtrip` (container ↔ DC-shifted sample), C20 `rct_inverse`,
    C20 `inverse53_forward53_multilevel_int32` (with the coefficient bound of `Dwt53.levels_bnd`), (G4), (G2) over C20
    `t1_pipeline_roundtrip`, (G1) over
    `packet_header_roundtrip` / `bio_roundtrip`, `frame_eq` (the codestream exists and ends in EOC).

    NAMED HYPOTHESES — what is still unproved:
    * `hs : SegmentLenHyp`   — T1 output of a block ≤ 65535 bytes (decodePacket truncates longer segments; only the crude
                               bound `C20.mq_len_bound` exists).  As defined it ranges over blocks of every size and is
                               refutable (see its docstring); the proof needs only `SegmentLenFor c.cbw c.cbh`, under
                               which `image_roundtrip` states the same conclusion;
    * `hframe`               — the parser hands TileDecoder the tile-part body the encoder framed; discharged in (G9).
    The T1 configuration is the pipeline's own (shift by 6 / 6 fractional bits / OpenJPEG reconstruction / halving), and
    the all-zero block (sent with one pass over FF 7F) is a theorem of C20. -/
theorem reversible_single_tile_roundtrip (c : ICfg) (samp : Nat → Nat → Nat → Int)
    (hw : 0 < c.cbw) (hh : 0 < c.cbh) (hP1 : 1 ≤ c.P) (hP2 : c.P ≤ 16) (hL : bndL c.L (2 ^ c.P) < 2 ^ 25)
    (hr : ∀ k x y, inRange c.P c.signed (samp k x y))
    (hs : SegmentLenHyp)
    (unframe : List Nat → Option (List Nat))
    (hframe : ∀ body stream, frame c body = some stream → ∃ tail, unframe stream = some (body ++ tail)) :
    ∃ stream, encodeImage c samp = some stream ∧ ∃ out, decodeImage c unframe stream = some out ∧
      ∀ k x y, k < c.C → x < c.W → y < c.H → out k x y = container c.P (samp k x y) :=
  image_roundtrip c samp hw hh hP1 hP2 hL hr (hs.for _ _) unframe fun body _ =>
    let ⟨tail, hun⟩ := hframe body _ (frame_eq c body)
    ⟨_, tail, frame_eq c body, hun⟩

/-- (G7) where the body sits: the codestream is main header ++ 12 bytes SOT ++ SOD ++ body ++ EOC (C16 model of
    buildCodestream / writeTile), so the framing hypothesis `hframe` of (G6) is satisfiable — by the reader that skips
    `|main header| + 14` bytes — with `tail = FF D9`; the core theorem holds for every tail -/
theorem frame_layout (c : ICfg) (body : List Nat) :
    ∃ pre, pre.length = (JpegC.j2kMainHeader c.params (JpegC.losslessQcdInfo c.params)).length + 14 ∧
      frame c body = some (pre ++ (body ++ [0xFF, 0xD9])) := by
  refine ⟨JpegC.j2kMainHeader c.params (JpegC.losslessQcdInfo c.params) ++
    (0xFF :: 0x90 :: 0 :: 10 :: 0 :: 0 :: (JpegC.be32 (JpegC.u32Of ((body.length + 14 : Nat) : Int)) ++ [0, 1, 0xFF, 0x93])), ?_, ?_⟩
  · simp [JpegC.be32]
  · rw [frame_eq, tilePart_eq]
    simp

/-- (G8) THE PARSER SIDE OF THE FRAMING: `unframe` — codestream/parser.go on a one-tile-part stream: SOC, marker
    segments stepped over by their length words up to SOT, Lsot = 10, tile-part header up to SOD,
    readTileDataWithLength(tileStart, Psot) — applied to the encoder's codestream returns exactly the tile-part body
    (EOC stays unread), whenever the header fields fit their length words (≤ 16384 components, ≤ 32 levels,
    body + 14 < 2^32).  Tied to the real parser by the correspondence line `j2k-unframe`. -/
theorem parser_walk_returns_body (c : ICfg) (body : List Nat) (hok : FrameOk c body) :
    ∃ stream, frame c body = some stream ∧ unframe stream = some body :=
  unframe_frame c body hok

/-- (G9) (G6) with the framing hypothesis DISCHARGED by (G8): Decode(Encode(container)) = container with the decoder
    reading the tile-part body through the parser walk `unframe`.  Remaining named hypothesis: `SegmentLenHyp`
    (plus the preconditions of (G8): `hC`, `hL32` and the size bound `hbody`); the coding parameters the decoder uses are the encoder's (SIZ/COD/QCD field
    round trips: C16). -/
theorem reversible_single_tile_roundtrip_framed (c : ICfg) (samp : Nat → Nat → Nat → Int)
    (hw : 0 < c.cbw) (hh : 0 < c.cbh) (hP1 : 1 ≤ c.P) (hP2 : c.P ≤ 16) (hL : bndL c.L (2 ^ c.P) < 2 ^ 25)
    (hC : c.C ≤ 16384) (hL32 : c.L ≤ 32)
    (hr : ∀ k x y, inRange c.P c.signed (samp k x y))
    (hs : SegmentLenHyp)
    (hbody : ∀ body, (encodeBody c fun k x y => frontSample c.P c.signed (samp k x y)) = some body → body.length + 14 < 4294967296) :
    ∃ stream, encodeImage c samp = some stream ∧ ∃ out, decodeImage c unframe stream = some out ∧
      ∀ k x y, k < c.C → x < c.W → y < c.H → out k x y = container c.P (samp k x y) :=
  image_roundtrip c samp hw hh hP1 hP2 hL hr (hs.for _ _) unframe fun body henc =>
    let ⟨stream, hfr, hun⟩ := unframe_frame c body ⟨hC, hL32, hbody body henc⟩
    ⟨stream, [], hfr, by rw [List.append_nil]; exact hun⟩

/-- non-vacuity of (G1): the hypothesis is satisfiable — a resolution with two live bands (HL with a 2×1 grid, HH 1×1),
    one block's data ending in 0xFF -/
example : PacketOk [⟨2, 1, [⟨0, 0, 3, 4, [0x12, 0xFF]⟩, ⟨1, 0, 1, 7, [0x80]⟩]⟩, ⟨1, 1, [⟨0, 0, 7, 1, [1, 2, 3]⟩]⟩] := by
  unfold PacketOk; decide

/-- non-vacuity of (G2), the hand-over arithmetic by evaluation: a 2×2 block with top bit-plane 1 (7 after the shift by
    6) in a band of 9 bit-planes: numbps 2, 4 passes, 7 zero bit-planes, and the decoder's estimate of `maxBitplane`
    (a count) from either source; an all-zero block: 1 pass, all 9 planes missing, estimate 1; halving of the
    OpenJPEG-reconstructed values -/
example :
    shift6 [1, 0, 0, -3] = [64, 0, 0, -192] ∧ cblkNumbps ⟨2, 2, 1, 9, [1, 0, 0, -3]⟩ = 2 ∧ passLayout 2 9 = (4, 7) ∧
    estimateMaxBitplane 4 7 9 = 2 ∧ cblkNumbps ⟨2, 2, 0, 9, [0, 0, 0, 0]⟩ = 0 ∧ passLayout 0 9 = (1, 9) ∧
    estimateMaxBitplane 1 9 9 = 1 ∧ estimateMaxBitplane 13 0 3 = 5 ∧ T1.halveT 3 = 1 ∧ T1.halveT (-7) = -3 := by decide

/-- non-vacuity of (G4)/(G6): the geometry of a 5×3 tile-component, 1 level, 4×4 code-blocks: LL 3×2, HL 2×2, LH 3×1,
    HH 2×1, one block each; packet sequence for 3 components, resolution-major and component-major -/
example :
    bandRects 5 3 1 0 = [⟨0, 0, 0, 3, 2⟩] ∧ bandRects 5 3 1 1 = [⟨1, 3, 0, 2, 2⟩, ⟨2, 0, 2, 3, 1⟩, ⟨3, 3, 2, 2, 1⟩] ∧
    blkRects 4 4 ⟨1, 3, 0, 2, 2⟩ = [⟨0, 0, 3, 0, 2, 2⟩] ∧
    packetSeq ⟨5, 3, 1, 4, 4, fun _ _ => 9⟩ 3 0 = [(0, 0), (0, 1), (0, 2), (1, 0), (1, 1), (1, 2)] ∧
    packetSeq ⟨5, 3, 1, 4, 4, fun _ _ => 9⟩ 3 4 = [(0, 0), (1, 0), (0, 1), (1, 1), (0, 2), (1, 2)] ∧
    packetSeq ⟨1, 1, 2, 4, 4, fun _ _ => 9⟩ 1 0 = [(0, 0)] := by decide

end J2kGlue
