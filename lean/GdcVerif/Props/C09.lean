import GdcVerif.Lemmas.RleTotal
import GdcVerif.Lemmas.ParsersTotal
import GdcVerif.Model.J2kParse
import GdcVerif.Lemmas.J2kGluePasses
import GdcVerif.Lemmas.J2kProgressionExit
import GdcVerif.Lemmas.JpegAlloc
import GdcVerif.Lemmas.J2kTileClamp
import GdcVerif.Lemmas.J2kPacketBodyAlloc
import GdcVerif.Lemmas.C09MakeSites
/-!
  C09 — decoding ends within time/memory bounded by input length and declared image size.

  Wall-clock and heap numbers are runtime facts (searched by the harness in child processes with a
  watchdog, RLIMIT_AS and allocation accounting).  The logic behind them is proved on the models:
  * TIME of the header walks: every modelled decoder loop is `PC.run step`, a well-founded
    recursion on the number of unread bytes (no fuel); a continuing turn leaves strictly fewer
    unread bytes (`*_lt`), so the number of turns is at most len(input) + 1 (`turns_le`);
  * MEMORY: the models carry the list of allocation sizes; RLE: every allocation ≤ 15·S + 1;
    JPEG 2000 parser: the SUM of all allocations ≤ 2·len(input) + 196605.
  No model, hence no theorem: the termination measures of the entropy decoders (DecodeValue, DecodeRunLength, MQ
  sentinel), the scan / tile / packet / code-block decoding loops as loops, tile_assembler's allocations, the
  whole jpeg/extended decoder.
-/

namespace JM
open PC

/-- (1) `Reader.ReadMarker`: the fill-byte loop and the call as a whole consume ≥ 2 bytes -/
theorem c09_readMarker_progress (bs : Bytes) (m : Nat) (rest : Bytes) (h : readMarker bs = some (m, rest)) :
    rest.length + 2 ≤ bs.length := readMarker_progress h

/-- (2) `Reader.ReadSegment` consumes at least the two length bytes (length = 2 included; lengths 0
    and 1 are errors), and its payload buffer is cut from the input -/
theorem c09_readSegment_progress (bs pl rest : Bytes) (h : readSegment bs = some (pl, rest)) :
    rest.length + 2 ≤ bs.length ∧ pl.length + 2 ≤ bs.length := readSegment_progress h

/-- (3) the payload buffer ReadSegment allocates (before it knows the data is there) is below 64 KiB -/
theorem c09_readSegment_alloc (bs : Bytes) (hb : ∀ b ∈ bs, b < 256) : readSegmentAlloc bs ≤ 65533 :=
  readSegmentAlloc_le hb

/-- (4) the marker loops of the three modelled JPEG decoders and the two JPEG-LS decoders: a turn that
    continues leaves strictly fewer unread bytes -/
theorem c09_sv1_turn (st st' : Sv1) (bs r : Bytes) (h : sv1Step st bs = .more st' r) : r.length < bs.length := sv1Step_lt h
theorem c09_jll_turn (st st' : Jll) (bs r : Bytes) (h : jllStep st bs = .more st' r) : r.length < bs.length := jllStep_lt h
theorem c09_baseline_turn (st st' : Bl) (bs r : Bytes) (h : blStep st bs = .more st' r) : r.length < bs.length := blStep_lt h
theorem c09_jls_turn (st st' : JlsH.St) (bs r : Bytes) (h : JlsH.step st bs = .more st' r) : r.length < bs.length := JlsH.step_lt h
theorem c09_jlsnear_turn (st st' : JlsH.St) (bs r : Bytes) (h : JlsH.nstep st bs = .more st' r) : r.length < bs.length := JlsH.nstep_lt h

/-- (5) … hence at most len + 1 turns (`PC.turns_le` holds for every step function with that property;
    here the instances for lossless14sv1 and baseline, for JPEG 2000 `c09_j2k_turns` below) -/
theorem c09_sv1_turns (st : Sv1) (bs : Bytes) : turns sv1Step sv1Step_lt st bs ≤ bs.length + 1 := turns_le _ _ st bs
theorem c09_baseline_turns (st : Bl) (bs : Bytes) : turns blStep blStep_lt st bs ≤ bs.length + 1 := turns_le _ _ st bs

example : readMarker [0xFF, 0xFF, 0xFF, 0xC3, 7] = some (0xFFC3, [7]) := by decide

/-- (5') MEMORY, jpeg/lossless: every allocation up to the first Huffman symbol (segment payloads,
    Huffman values, scan byte buffer, sample planes, output buffer) is at most len(input), or 65533
    (a ReadSegment that fails after allocating), or 8·w·h for the frame header in force at the scan —
    i.e. ≤ c₁·len + 8·S -/
theorem c09_jll_allocs (bs : Bytes) (hb : IsBytes bs) :
    ∀ a ∈ (jllDecode bs).1.allocs, a ≤ bs.length ∨ a ≤ 65533 ∨
      a ≤ 8 * ((jllDecode bs).1.width * (jllDecode bs).1.height) :=
  soi_run_post (Inv := JllGood bs.length) (P := JllFinal bs.length) rfl AllBnd.nil (fun _ _ => jllStep_allocs)
    fun _ hm => .init hb hm

/-- (5'') MEMORY, JPEG-LS lossless: likewise, with the sample buffer 8·w·h·comps -/
theorem c09_jls_allocs (bs : Bytes) (hb : IsBytes bs) :
    ∀ a ∈ (JlsH.header bs).1.allocs, a ≤ bs.length ∨ a ≤ 65533 ∨
      a ≤ 8 * ((JlsH.header bs).1.width * (JlsH.header bs).1.height * (JlsH.header bs).1.comps) :=
  soi_run_post (Inv := JlsH.Good bs.length) (P := JlsH.Final bs.length) rfl AllBnd.nil (fun _ _ => JlsH.step_allocs)
    fun _ hm => .init hb hm

/-- (5c) MEMORY, lossless14sv1: with the second frame header rejected (commit 7825a71) every
    allocation up to the first Huffman symbol (segment payloads, Huffman values, the component planes
    allocated by parseSOF3, also by a frame header that is rejected after its extent was read, scan
    buffer, output buffer) is at most len(input), or 65533, or 8·w·h of the decoder's frame header -/
theorem c09_sv1_allocs (bs : Bytes) (hb : IsBytes bs) :
    ∀ a ∈ (sv1Decode bs).1.allocs, a ≤ bs.length ∨ a ≤ 65533 ∨
      a ≤ 8 * ((sv1Decode bs).1.width * (sv1Decode bs).1.height) :=
  soi_run_post (Inv := Sv1Good bs.length) (P := Sv1Final bs.length) rfl AllBnd.nil (fun _ _ => sv1Step_allocs)
    fun _ hm => .init hb hm

/-- (5d) MEMORY, baseline: likewise with 64·w·h (component planes are whole 8×8 blocks of the MCU
    grid: ⌈w·H/(8·Hmax)⌉·⌈h·V/(8·Vmax)⌉·64 ≤ 64·w·h) -/
theorem c09_baseline_allocs (bs : Bytes) (hb : IsBytes bs) :
    ∀ a ∈ (blDecode bs).1.allocs, a ≤ bs.length ∨ a ≤ 65533 ∨
      a ≤ 64 * ((blDecode bs).1.width * (blDecode bs).1.height) :=
  soi_run_post (Inv := BlGood bs.length) (P := BlFinal bs.length) rfl AllBnd.nil (fun _ _ => blStep_allocs)
    fun _ hm => .init hb hm

/-- (5e) MEMORY, JPEG-LS near-lossless: the context table and the sample buffer are allocated at SOS,
    once NEAR is known — same bound as the lossless decoder -/
theorem c09_jlsnear_allocs (bs : Bytes) (hb : IsBytes bs) :
    ∀ a ∈ (JlsH.nheader bs).1.allocs, a ≤ bs.length ∨ a ≤ 65533 ∨
      a ≤ 8 * ((JlsH.nheader bs).1.width * (JlsH.nheader bs).1.height * (JlsH.nheader bs).1.comps) :=
  soi_run_post (Inv := JlsH.Good bs.length) (P := JlsH.Final bs.length) rfl AllBnd.nil (fun _ _ => JlsH.nstep_allocs)
    fun _ hm => .init hb hm

example : IsBytes [0xff, 0xd8, 0xff, 0xc3] := by unfold IsBytes; decide

end JM

namespace J2kH
open PC

/-- (6) one turn of consumeMainHeader / parseTileHeader / the tile loop leaves strictly fewer unread
    bytes — also for skipSegment with the length fields 0 and 1, which move the Go offset BACK into
    the length field, and for tile data delimited by Psot or by the marker scan -/
theorem c09_j2k_turn (st st' : St) (bs r : Bytes) (h : step st bs = .more st' r) : r.length < bs.length := step_lt h

theorem c09_j2k_turns (st : St) (bs : Bytes) : turns step step_lt st bs ≤ bs.length + 1 := turns_le _ _ st bs

/-- (6') the backwards step is real: length field 0 consumes nothing behind the marker -/
theorem c09_skip_backwards : skipSegment [0, 0, 9, 9] = some 0 := by decide

/-- (7) MEMORY: the allocations of the whole header walk (main header and all tile-part headers)
    add up to at most 2·len(input) + 196605 bytes -/
theorem c09_j2k_alloc_sum (bs : Bytes) (hb : IsBytes bs) : (parse bs).1.allocs.sum ≤ 2 * bs.length + 196605 :=
  parse_alloc_sum bs hb

example : IsBytes [0xff, 0x4f, 0xff, 0x51] := by unfold IsBytes; decide

/-- (7') TIME, decomposition levels: every COD segment the parser accepts declares at most 32 decomposition levels
    (guard `numLevels > 32` of parseCodingStyleParams, T.800 Table A.15) — element 4 of the canonical COD content
    `[scod, prog, layers, mct, levels, …]`; so every per-resolution loop of the tile and packet decoders makes at
    most 33 turns per component, whatever the level byte of the stream (it was 0..255: class c09-j2k-levels-over-32) -/
theorem c09_j2k_cod_levels_le_32 (bs : Bytes) (c : List Nat) (k : Nat) (h : parseCOD bs = some (c, k)) :
    ∃ lv, c[4]? = some lv ∧ lv ≤ 32 := by
  obtain ⟨_, _, _, _, ps, kk, hp, rfl, _⟩ := parseCOD_some h
  obtain ⟨_, _, lv, rest, rfl, hle⟩ := codingParams_some hp
  exact ⟨lv, by simp, hle⟩

/-- (7'') the same for every accepted COC segment (content `[scoc, levels, …]`), for every Csiz -/
theorem c09_j2k_coc_levels_le_32 (csiz : Nat) (bs : Bytes) (comp : Nat) (c : List Nat) (k : Nat)
    (h : parseCOC csiz bs = some (comp, c, k)) : ∃ lv, c[1]? = some lv ∧ lv ≤ 32 := by
  obtain ⟨_, ps, kk, hp, rfl, _⟩ := parseCOC_some h
  obtain ⟨_, _, lv, rest, rfl, hle⟩ := codingParams_some hp
  exact ⟨lv, by simp, hle⟩

/-- non-vacuity: a COD with 32 levels is accepted; the former witness's COD (255 levels) and one with 33 are rejected -/
example : parseCOD [0, 12, 0, 2, 0, 1, 0, 32, 4, 4, 0, 1] = some ([0, 2, 1, 0, 32, 4, 4, 0, 1], 12) := by decide
example : parseCOD [0, 12, 0, 2, 0, 1, 0, 255, 4, 4, 0, 1] = none := by decide
example : parseCOD [0, 12, 0, 2, 0, 1, 0, 33, 4, 4, 0, 1] = none := by decide
example : parseCOC 3 [0, 9, 0, 0, 32, 4, 4, 0, 1] = some (0, [0, 32, 4, 4, 0, 1], 9) := by decide
example : parseCOC 3 [0, 9, 0, 0, 40, 4, 4, 0, 1] = none := by decide

end J2kH

namespace Rle

/-- (8) decodeFrame allocates exactly one buffer, the frame, and only for accepted descriptions -/
theorem rle_alloc_is_frame (i : Info) (data : List Byte) :
    ∀ a ∈ (decodeFrameC i data).2, a = i.frameSize ∧ ¬ i.Rejected := by
  rcases decodeFrameC_cases i data with ⟨_, _, h⟩ | ⟨_, _, h | ⟨hg, h⟩⟩
  · rw [h]
    nofun
  · rw [h]
    nofun
  · rw [h]
    exact fun a ha => ⟨List.mem_singleton.mp ha, hg⟩

/-- (9) FULL: every allocation of `Codec.decodeFrame` is at most 15·S + 1 bytes, S = Width·Height·
    SamplesPerPixel as declared by the FrameInfo — for EVERY FrameInfo and byte string (commit
    9650374; before it BitsAllocated = 0 made it 8192·S) -/
theorem rle_alloc_bound (i : Info) (data : List Byte) : ∀ a ∈ (decodeFrameC i data).2, a ≤ 15 * i.samples + 1 := by
  intro a ha
  obtain ⟨h1, h2⟩ := rle_alloc_is_frame i data a ha
  rw [h1]
  exact frameSize_le_samples i h2

/-- regression anchor: the former witness (2048×2048, BitsAllocated 0: 32 GiB) allocates nothing now -/
example : (decodeFrameC { width := 2048, height := 2048, bitsAllocated := 0, spp := 1, planar := 0 } [1]).2 = [] := by
  decide

/-- non-vacuity: an accepted description does allocate its frame -/
example : (decodeFrameC { width := 3, height := 2, bitsAllocated := 16, spp := 1, planar := 0 } [1]).2 = [12] := by
  decide

end Rle

/-! ### JPEG 2000 tile decoder: header-derived buffer sizes (generated kernel of `t2.NewTileDecoder`) -/
namespace TileClamp
open Gen.J2kTileClamp

/-- (10) FULL over the generated kernel: whatever SIZ and tile index, the rectangle `NewTileDecoder` stores
    lies inside the image area [XOsiz, Xsiz) × [YOsiz, Ysiz) and inside one XTsiz × YTsiz cell -/
theorem c09_tile_rect (tile : Tile) (siz : SIZSegment) (ht : Bool) :
    let td := NewTileDecoder tile siz ht
    (siz.XOsiz ≤ td.tileX0 ∧ siz.YOsiz ≤ td.tileY0 ∧ td.tileX1 ≤ siz.Xsiz ∧ td.tileY1 ≤ siz.Ysiz) ∧
    (td.tileX1 - td.tileX0 ≤ siz.XTsiz ∧ td.tileY1 - td.tileY0 ≤ siz.YTsiz) :=
  ⟨tile_inside_image tile siz ht, tile_within_cell tile siz ht⟩

/-- (11) every component buffer of `TileDecoder.Decode` (`comp.width·comp.height` entries) is at most the
    DECLARED image area and at most one tile cell — independent of the position of the image on the
    reference grid; this is what keeps S-bounded memory for images with large XOsiz/YOsiz -/
theorem c09_tile_comp_area (tile : Tile) (siz : SIZSegment) (ht : Bool) (dx dy : Int)
    (hox : 0 ≤ siz.XOsiz) (hoy : 0 ≤ siz.YOsiz) :
    let td := NewTileDecoder tile siz ht
    td.tileX0 ≤ td.tileX1 → td.tileY0 ≤ td.tileY1 →
    compExtent td.tileX0 td.tileX1 dx * compExtent td.tileY0 td.tileY1 dy
        ≤ (siz.Xsiz - siz.XOsiz) * (siz.Ysiz - siz.YOsiz) ∧
    compExtent td.tileX0 td.tileX1 dx * compExtent td.tileY0 td.tileY1 dy ≤ siz.XTsiz * siz.YTsiz :=
  comp_area_le tile siz ht dx dy hox hoy

end TileClamp

/-! ### JPEG 2000 packet bodies: the length hand-over decodePacket → gatherCBData -/
namespace PktBody

/-- (12) every code-block buffer `gatherCBData` allocates for a packet is at most the packet's body, and the
    body is at most the tile data that was left when the packet's header had been read — whatever lengths the
    header declares (up to 2^32−1 per segment), in every mode, also through the end-of-data `break` of
    `decodePacket` that hands the declared lengths over untrimmed -/
theorem c09_cb_buffer_le_tile_data (total : Nat) (mode : Mode) (off : Nat) (cs : List Incl) (r : BodyRes)
    (h : bodyLoop total mode off cs = some r) (hoff : off ≤ total) (ncb : Nat) :
    (∀ a ∈ gatherAllocs r.body ncb 0 0 r.incls, a ≤ r.body) ∧ r.body ≤ total - off ∧
    (gatherAllocs r.body ncb 0 0 r.incls).sum ≤ total - off := by
  have hb := (bodyLoop_body total mode off cs r h).2
  exact ⟨gatherAllocs_le _ _ _ _ _, hb, Nat.le_trans (gatherAllocs_sum r.body ncb 0 0 r.incls) hb⟩

/-- (13) over a whole tile: all code-block buffers together are at most the tile data -/
theorem c09_tile_cb_buffers_le_tile_data (total : Nat) (mode : Mode) (ps : List Pkt) (rs : List PktRes)
    (h : decodeSeq total mode 0 ps = some rs) : (tileAllocs rs).sum ≤ total :=
  decodeSeq_sum total mode 0 ps rs h

/-- the seeded witness's shape: a 5-byte header is all of the tile data and declares 0x22000000 bytes: the walk
    breaks at once, the declared length survives — and nothing is allocated for it -/
example : (bodyLoop 5 .default 5 [{ included := true, len := 0x22000000 }]) =
    some { incls := [{ included := true, len := 0x22000000 }], body := 0, off := 5, partialBuf := true } := by decide
example : gatherAllocs 0 1 0 0 [{ included := true, len := 0x22000000 }] = [] := by decide

/-- non-vacuity: 3 body bytes behind the header, 1000 declared: trimmed to 3, one buffer of 3 bytes -/
example : (bodyLoop 8 .default 5 [{ included := true, len := 1000 }]) =
    some { incls := [{ included := true, len := 3 }], body := 3, off := 8, partialBuf := false } := by decide
example : gatherAllocs 3 1 0 0 [{ included := true, len := 3 }] = [3] := by decide

end PktBody

namespace J2kGlue
open J2k J2kPH

/-- (14) TIME, claimed coding passes: a code-block whose packet headers claim 91 or more coding passes in total —
    whatever QCD, the zero-bit-plane count, the data and the block size — is never handed to the T1 decoder by
    `buildAndDecodeCodeBlocks` (guard `info.maxBitplane >= 31`, repair of class c09-time-j2k-claimed-coding-passes):
    it is left at zero.  Below that the starting bit-plane is at most 30, so T1 runs at most 3·31 passes per block
    (before the repair a 64 KiB stream made it run 2.6 million). -/
theorem c09_claimed_passes_not_decoded (w h orient nb : Nat) (i : Incl) (data : List Nat) (hp : 91 ≤ i.numPasses) :
    t1Decode w h orient nb i data = some (List.replicate (w * h) 0) :=
  t1Decode_corrupt (estimate_ge_of_passes i.numPasses i.zbp nb hp)

/-- the former witness's shape: 2664672 claimed passes for a 64x64 block with QCD 9 bit-planes; and the boundary:
    90 passes give 30 bit-planes (decoded), 91 give 31 (dropped) -/
example : estimateMaxBitplane 2664672 0 9 = 888224 := by decide
example : estimateMaxBitplane 90 0 9 = 30 := by decide
example : estimateMaxBitplane 91 0 9 = 31 := by decide

end J2kGlue

namespace J2kProg

/-- (15) TIME, LRCP without precincts: `decLRCPx` is decodeLRCP WITH the exit `if visited == 0 { return }` at the end
    of a layer (repair of class c09-time-j2k-no-precinct-loop).  SOUND: it generates exactly the packet sequence of
    the loop without the exit, for every precinct table, layer, resolution and component count — what a pass visits
    does not depend on the layer, so the skipped layers contribute nothing. -/
theorem c09_lrcp_exit_sound (nL nR nC : Nat) (idx : Nat → Nat → List Nat) :
    decLRCPx nR nC idx (range nL) = decLRCP nL nR nC idx := decLRCPx_eq_decLRCP nL nR nC idx

/-- (15') the same for decodeRLCP with `if visited == 0 { break }` at the end of a layer of one resolution -/
theorem c09_rlcp_exit_sound (nL nR nC : Nat) (idx : Nat → Nat → List Nat) :
    decRLCPx nL nR nC idx = decRLCP nL nR nC idx := decRLCPx_eq_decRLCP nL nR nC idx

/-- (15'') BOUNDED: with no precinct in any (component, resolution) the repaired LRCP loop generates no packet,
    whatever the declared layer count.  Its first layer pass is then empty, which is where `decLRCPx` leaves by
    definition (before the repair the loop made layers x resolutions x components turns); the statement itself
    is only the empty packet list. -/
theorem c09_lrcp_no_precinct (nR nC : Nat) (idx : Nat → Nat → List Nat) (h : ∀ c r, idx c r = []) (ls : List Nat) :
    decLRCPx nR nC idx ls = [] := decLRCPx_no_precinct nR nC idx h ls

/-- non-vacuity: a table with precincts (2 layers, 2 resolutions, 1 component, precincts 0,1 at resolution 1 only) -/
example : decLRCPx 2 1 (fun _ r => if r = 1 then [0, 1] else []) (range 2) =
    [(0, 1, 0, 0), (0, 1, 0, 1), (1, 1, 0, 0), (1, 1, 0, 1)] := by decide
example : decRLCPx 2 2 1 (fun _ r => if r = 1 then [0, 1] else []) =
    [(0, 1, 0, 0), (0, 1, 0, 1), (1, 1, 0, 0), (1, 1, 0, 1)] := by decide

end J2kProg

/-! ### the sized `make`s of the decode path (generated table `Gen.Facts.decodeMakes`, gofacts/allocs.go) -/
namespace C09Makes

/-- (16) every `make` of the decode path whose size expression is a product of two or more non-constant
    factors (local variables resolved) is one of the reviewed expressions of Lemmas/C09MakeSites.lean —
    each labelled there with what bounds it: the frame dimensions, a block extent or a code-block grid, none a
    product of header-declared counts (that the label fits the expression is the review, the theorem compares
    the tables); regenerated from the source on every run -/
theorem c09_decode_make_products : Gen.Facts.decodeMakeProducts = reviewed.map (fun r => (r.1, r.2.1, r.2.2.1)) ∧
    (∀ r ∈ reviewed, r.2.2.2 = "dims" ∨ r.2.2.2 = "block" ∨ r.2.2.2 = "grid") ∧
    Gen.Facts.decodeMakes.length ≥ 100 ∧ Gen.Facts.decodePathFunctions ≥ 200 :=
  ⟨c09_make_products_reviewed, c09_no_header_count_product, c09_makes_scanned⟩

end C09Makes
