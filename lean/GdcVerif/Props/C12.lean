import GdcVerif.Model.J2kQuant
import GdcVerif.Lemmas.J2kQuant
/-!
  C12 — JPEG 2000 irreversible path: loss bounded by the declared quantisation steps.  PARTIAL.

  Proved here (logical layers, exact integer arithmetic):
  * the 16-bit SPqcd field (exponent, mantissa) packs/unpacks without loss;
  * the mantissa/exponent chosen by `encodeQuantizationStep` (integer part, hand model) reproduce the
    fixed-point step to within one part in 2^11, from below;
  * `encodeQuantizationStep` on float64 inputs (exact dyadic model incl. its float prefix): declared step ≤ requested
    step < declared·(1+2^-11), for requested steps ≥ 1/2 (fixed-point value ≥ 2^12) and an exponent that is not clamped;
  * dead-zone quantiser + mid-point reconstruction: |x − x̂| ≤ Δ/2 outside the dead zone, |x| < Δ inside;
  * `Decoder.GetPixelData`'s clamp (four GENERATED loop bodies) equals the declared-range clamp for every
    int32 input, signed and unsigned, P = 1..16 (8-bit loops: P = 1..8) — unconditional;
  * sub-band numbering: encoder (`subbandIndex`, generated), step-size table (`subbandParams`, generated)
    and decoder (`log2GainForSubband`, hand model) agree on (orientation, level) of every QCD entry.
  NOT proved (searched only, see go/cmd/vharness/c12.go): the float32 9/7 lifting pair, the ICT pair, the
  T1 bit-plane coder and therefore the end-to-end numeric bound.  `c12_bound_FullStatement` stays a `def`.
-/
namespace J2kQuant
open Gen.J2kQuant

/-- (1a) unpack ∘ pack = id on the fields -/
theorem c12_qcd_unpack_pack (e m : Nat) (he : e < 32) (hm : m < 2048) : unpack (pack e m) = (e, m) := by
  simp only [unpack, pack, Prod.mk.injEq]; omega
/-- (1b) pack ∘ unpack = id on every 16-bit word -/
theorem c12_qcd_pack_unpack (w : Nat) (hw : w < 65536) : pack (unpack w).1 (unpack w).2 = w := by
  simp only [unpack, pack]; omega
example : unpack (pack 13 1029) = (13, 1029) ∧ pack (unpack 0xABCD).1 (unpack 0xABCD).2 = 0xABCD := by decide

/-- (2) encode then decode a step: with l = ⌊log2 fixed⌋ (fixed = step·2^13 ≥ 1) and an exponent that is
    not clamped (0 ≤ numbps − (l−13) ≤ 31), the fields survive packing and the exponent field is numbps − (l−13), so
    the word written by `encodeQuantizationStep` decodes (`decodeQuantStep` = stepNum·2^stepExp, gain g; that
    last step is not in the statement) to  (2048+mant)·2^(l−11) · 2^(g + bitDepth − numbps − 13)  with
    (2048+mant)·2^(l−11) ≤ fixed < (2048+mant+1)·2^(l−11): the declared step never exceeds the encoder's
    and is within 2^-11 relative of it.  (For l < 11 the mantissa is exact.) -/
theorem c12_step_encode_decode (fixed : Nat) (numbps : Int) (hf : fixed ≠ 0)
    (hlo : 0 ≤ numbps - ((log2 fixed : Int) - 13)) (hhi : numbps - ((log2 fixed : Int) - 13) ≤ 31) :
    let em := encodeFixed fixed numbps
    unpack (pack em.1 em.2) = em ∧
    (em.1 : Int) = numbps - ((log2 fixed : Int) - 13) ∧
    (11 < log2 fixed →
        stepNum em.2 * 2 ^ (log2 fixed - 11) ≤ fixed ∧ fixed < (stepNum em.2 + 1) * 2 ^ (log2 fixed - 11)) ∧
    (log2 fixed ≤ 11 → stepNum em.2 = fixed * 2 ^ (11 - log2 fixed)) := by
  intro em
  obtain ⟨b1, b2⟩ := log2_bounds fixed hf
  have hm : em.2 < 2048 := by simp only [em, encodeFixed]; exact Nat.mod_lt _ (by decide)
  have he : (em.1 : Int) = numbps - ((log2 fixed : Int) - 13) := by
    simp only [em, encodeFixed]
    split <;> split <;> omega
  refine ⟨c12_qcd_unpack_pack _ _ (by omega) hm, he, ?_, ?_⟩
  · intro hl
    have := mant_trunc fixed (log2 fixed) (by omega) b1 b2
    simp only [em, encodeFixed, stepNum, hl, if_true]
    exact this
  · intro hl
    by_cases h11 : 11 < log2 fixed
    · omega
    · have := mant_small fixed (log2 fixed) hl b1 b2
      simp only [em, encodeFixed, stepNum, h11, if_false]
      exact this
example : encodeFixed 6000 8 = (9, 952) ∧ log2 6000 = 12 ∧ stepNum 952 * 2 = 6000 := by decide

/-- (2'') what "declared step" means relative to the REQUESTED step: `encodeQuantizationStep` on a float64 step
    `m·2^e` (exact dyadic model of its float prefix; here e < −13, step ≥ 2^-13, leading bit of the fixed-point
    value above 2^11, exponent not clamped) writes a word whose decoded value D·2^-13 (D = (2048+mant)·2^(l−11))
    satisfies  D·2^k ≤ m < (D + 2^(l−11))·2^k  with k = −e−13: declared ≤ requested < declared·(1 + 2^-11).
    How the requested step follows from Quality (math.Pow, norm table) is not modelled — it is the float64
    `StepSizes[i]`, fed to the model by the correspondence op `j2k-encstep`. -/
theorem c12_declared_vs_requested (m : Nat) (e numbps : Int) (he : e + 13 < 0)
    (hm : 2 ^ (-(e + 13)).toNat ≤ m)
    (hlo : 0 ≤ numbps - ((log2 (fixedOfDyadic m e) : Int) - 13))
    (hhi : numbps - ((log2 (fixedOfDyadic m e) : Int) - 13) ≤ 31)
    (hl : 11 < log2 (fixedOfDyadic m e)) :
    let fixed := fixedOfDyadic m e
    let em := encodeFixed fixed numbps
    let D := stepNum em.2 * 2 ^ (log2 fixed - 11)
    unpack (encodeStepDyadic m e numbps) = em ∧
    D * 2 ^ (-(e + 13)).toNat ≤ m ∧ m < (D + 2 ^ (log2 fixed - 11)) * 2 ^ (-(e + 13)).toNat := by
  intro fixed em D
  have hp : 0 < 2 ^ (-(e + 13)).toNat := Nat.pow_pos (by decide)
  have hm0 : m ≠ 0 := fun h => by rw [h] at hm; omega
  obtain ⟨h1, _, h3, _⟩ := c12_step_encode_decode fixed numbps (fixedOfDyadic_ne_zero m e) hlo hhi
  obtain ⟨d1, d2⟩ : D ≤ fixed ∧ fixed < (stepNum em.2 + 1) * 2 ^ (log2 fixed - 11) := h3 hl
  obtain ⟨f1, f2⟩ : fixed * 2 ^ (-(e + 13)).toNat ≤ m ∧ m < (fixed + 1) * 2 ^ (-(e + 13)).toNat := fixed_floor m e he hm
  refine ⟨?_, ?_, ?_⟩
  · simp only [encodeStepDyadic, hm0, if_false]; exact h1
  · exact Nat.le_trans (Nat.mul_le_mul_right _ d1) f1
  · have hle : fixed + 1 ≤ D + 2 ^ (log2 fixed - 11) := by
      rw [Nat.add_mul, Nat.one_mul] at d2; omega
    exact Nat.lt_of_lt_of_le f2 (Nat.mul_le_mul_right _ hle)
example : fixedOfDyadic 6000 (-13 - 0) = 6000 ∧ fixedOfDyadic 49155 (-16) = 6144 ∧
    unpack (encodeStepDyadic 49155 (-16) 8) = (9, 1024) := by decide

/-- (2') the encoder's and the decoder's gain conventions differ by exactly the sub-band gain:
    `OpenJPEGRuntimeQuantizationSteps` (encoder) uses 2^g, `log2GainForSubband` (decoder, 9/7) uses 2^0 —
    the factor 2^g is applied by the decoder's synthesis filter (`twoInvK97`, not modelled). -/
theorem c12_gain_convention (e : Nat) (P idx : Int) (h : 1 ≤ idx) :
    decoderLog2Gain 0 idx = 0 ∧
    stepExp e P (encoderLog2Gain (decoderOrient idx)) = stepExp e P (decoderLog2Gain 0 idx) + decoderLog2Gain 1 idx := by
  have h0 : ¬ idx = 0 := by omega
  have hm := Int.tmod_eq_emod_of_nonneg (a := idx - 1) (b := 3) (by omega)
  simp only [decoderLog2Gain, decoderOrient, encoderLog2Gain, stepExp, beq_iff_eq, h0, hm]
  simp
  have : (idx - 1) % 3 = 0 ∨ (idx - 1) % 3 = 1 ∨ (idx - 1) % 3 = 2 := by omega
  rcases this with h|h|h <;> simp [h] <;> omega
example : decoderLog2Gain 0 6 = 0 ∧ decoderLog2Gain 1 6 = 2 ∧ encoderLog2Gain (decoderOrient 6) = 2 := by decide

/-- (3) dead-zone quantiser + mid-point reconstruction (x, Δ integers over a common denominator):
    non-zero index ⇒ |2x − 2x̂| ≤ Δ; zero index ⇒ |x| < Δ.  Hence |x − x̂| < Δ always. -/
theorem c12_deadzone_midpoint (x delta : Int) (hd : 0 < delta) :
    (deadzoneQ x delta ≠ 0 →
      (2 * x - midpoint2 (deadzoneQ x delta) delta ≤ delta ∧ -delta ≤ 2 * x - midpoint2 (deadzoneQ x delta) delta)) ∧
    (deadzoneQ x delta = 0 → (-delta < x ∧ x < delta)) := by
  by_cases hx : 0 ≤ x
  · exact deadzone_midpoint_nonneg x delta hx hd
  · have h := deadzone_midpoint_nonneg (-x) delta (by omega) hd
    rw [deadzoneQ_neg, midpoint2_neg] at h
    omega
example : deadzoneQ (-37) 10 = -3 ∧ midpoint2 (-3) 10 = -70 ∧ deadzoneQ 9 10 = 0 := by decide

/-- (4) GetPixelData, 16-bit grey loop (GENERATED kernel): for every int32 sample the two stored bytes are the
    declared-range clamp in P-bit two's complement — for signed and unsigned data, P = 1..16 -/
theorem c12_clamp_grey16 (d : Decoder) (P : Nat) (hd : d.bitDepth = P) (hP : 1 ≤ P ∧ P ≤ 16)
    (v a b : Int) (hv : -2147483648 ≤ v ∧ v < 2147483648) :
    val16 (clampGrey16 d v a b) = clampSpec P d.isSigned v ∧
    0 ≤ val16 (clampGrey16 d v a b) ∧ val16 (clampGrey16 d v a b) < 2 ^ P := by
  rw [clampGrey16_eq, hd, stored16 P hP]; exact ⟨rfl, clampSpec_range P hP.1 _ v⟩
/-- (4) 16-bit interleaved loop -/
theorem c12_clamp_inter16 (d : Decoder) (P : Nat) (hd : d.bitDepth = P) (hP : 1 ≤ P ∧ P ≤ 16)
    (i c v a b : Int) (hv : -2147483648 ≤ v ∧ v < 2147483648) :
    val16 (clampInter16 d i c v a b) = clampSpec P d.isSigned v ∧
    0 ≤ val16 (clampInter16 d i c v a b) ∧ val16 (clampInter16 d i c v a b) < 2 ^ P := by
  rw [clampInter16_eq, hd, stored16 P hP]; exact ⟨rfl, clampSpec_range P hP.1 _ v⟩
/-- (4) 8-bit grey loop (taken when bitDepth ≤ 8) -/
theorem c12_clamp_grey8 (d : Decoder) (P : Nat) (hd : d.bitDepth = P) (hP : 1 ≤ P ∧ P ≤ 8)
    (v a : Int) (hv : -2147483648 ≤ v ∧ v < 2147483648) :
    clampGrey8 d v a = clampSpec P d.isSigned v ∧ 0 ≤ clampGrey8 d v a ∧ clampGrey8 d v a < 2 ^ P := by
  rw [clampGrey8_eq, hd, stored8 P hP]; exact ⟨rfl, clampSpec_range P hP.1 _ v⟩
/-- (4) 8-bit interleaved loop -/
theorem c12_clamp_inter8 (d : Decoder) (P : Nat) (hd : d.bitDepth = P) (hP : 1 ≤ P ∧ P ≤ 8)
    (v a : Int) (hv : -2147483648 ≤ v ∧ v < 2147483648) :
    clampInter8 d v a = clampSpec P d.isSigned v ∧ 0 ≤ clampInter8 d v a ∧ clampInter8 d v a < 2 ^ P := by
  rw [clampInter8_eq, hd, stored8 P hP]; exact ⟨rfl, clampSpec_range P hP.1 _ v⟩
example : let d : Decoder := { width := 1, height := 1, components := 1, bitDepth := 12, isSigned := true, resilient := false, strict := false }
    val16 (clampGrey16 d 5000 0 0) = 2047 ∧ val16 (clampGrey16 d (-5000) 0 0) = 2048 ∧ val16 (clampGrey16 d (-1) 0 0) = 4095 := by decide

/-- (5) sub-band numbering: the QCD entry the encoder uses for (resolution res, band) — `subbandIndex`,
    generated — is the entry that `subbandParams` (generated; used to compute the step) and the decoder's
    `log2GainForSubband` (hand model) read as orientation `band` at level `numLevels − res`; the index is in
    range and distinct (res, band) get distinct entries. -/
theorem c12_subband_index_agrees (L res band : Int) (hr : 1 ≤ res ∧ res ≤ L) (hb : 1 ≤ band ∧ band ≤ 3) :
    let idx := subbandIndex L res band
    1 ≤ idx ∧ idx ≤ 3 * L ∧ subbandParams idx L = (band, L - res) ∧ decoderOrient idx = band ∧
    losslessLog2Gain res band = decoderLog2Gain 1 idx ∧ idx = 1 + (res - 1) * 3 + (band - 1) := by
  intro idx
  have hi : idx = 1 + (res - 1) * 3 + (band - 1) := subbandIndex_eq L res band hr hb
  have hd := Int.tdiv_eq_ediv_of_nonneg (a := idx - 1) (b := 3) (by omega)
  have hm := Int.tmod_eq_emod_of_nonneg (a := idx - 1) (b := 3) (by omega)
  have h0 : ¬ idx = 0 := by omega
  have hr0 : ¬ res = 0 := by omega
  have e1 : (idx - 1) / 3 = res - 1 := by omega
  have e2 : (idx - 1) % 3 = band - 1 := by omega
  refine ⟨by omega, by omega, ?_, ?_, ?_, hi⟩
  · simp only [subbandParams, beq_iff_eq, h0, hd, hm, e1, e2]
    simp; omega
  · simp only [decoderOrient, beq_iff_eq, h0, hm, e2]; simp
  · simp only [losslessLog2Gain, decoderLog2Gain, beq_iff_eq, h0, hr0, hm, e2]
    simp
example : subbandIndex 5 3 2 = 8 ∧ subbandParams 8 5 = (2, 2) := by decide

/-- (5') the band walks of applyQuantizationBySubbandFloat (encoder) and applyDequantizationBySubbandFloat (decoder): the
    counter update is the GENERATED loop body sliced on `subbandIdx` (go2lean loop mode, `slice`), and it is `+1` for
    every band whatever its size; hence every band — EMPTY OR NOT — is (de)quantised with the QCD entry
    `subbandIndex numLevels res band` (generated), the walk visits 3·numLevels + 1 entries and LL uses entry 0.
    An edit that skips the increment for empty bands (`continue`) or moves it under the emptiness test leaves the
    translated subset or changes the kernel: the generator or this theorem breaks. -/
theorem c12_band_walk_uses_subband_index (L : Nat) :
    (∀ w h x0 y0 i b, Gen.J2kQuant.bandWalkStep w h x0 y0 i b = i + 1) ∧
    (∀ w h nl bd x0 y0 i b, Gen.J2kQuantT2.bandWalkStep w h nl bd x0 y0 i b = i + 1) ∧
    (stepWalk L).length = 3 * L + 1 ∧ (stepWalk L).head? = some (0, 0, 0) ∧ stepWalkDec L = stepWalk L ∧
    ∀ t ∈ (stepWalk L).tail, 1 ≤ t.1 ∧ t.1 ≤ L ∧ 1 ≤ t.2.1 ∧ t.2.1 ≤ 3 ∧ t.2.2 = subbandIndex L t.1 t.2.1 := by
  have e1 : ∀ w h x0 y0 i b, Gen.J2kQuant.bandWalkStep w h x0 y0 i b = i + 1 := by
    intros; simp [Gen.J2kQuant.bandWalkStep]
  have e2 : ∀ w h nl bd x0 y0 i b, Gen.J2kQuantT2.bandWalkStep w h nl bd x0 y0 i b = i + 1 := by
    intros; simp [Gen.J2kQuantT2.bandWalkStep]
  refine ⟨e1, e2, by simp [stepWalk, resLoop_length], rfl, ?_, ?_⟩
  · simp only [stepWalkDec, stepWalk, e1, e2]
  · intro t ht
    exact resLoop_spec _ (fun i => e1 0 0 0 0 i 0) L 1 1 L (by omega) (by omega) (by omega) t (by simpa [stepWalk] using ht)
example : stepWalk 2 = [(0, 0, 0), (1, 1, 1), (1, 2, 2), (1, 3, 3), (2, 1, 4), (2, 2, 5), (2, 3, 6)] := by decide

/-- The full property, as a statement about the (unmodelled) real encoder/decoder pair: `enc`/`dec` stand for
    `Encoder.Encode` / `Decoder.Decode+GetPixelData`, `bound s i` for the rational bound (numerator over a
    common denominator `den`) obtained from the stream's QCD through the inverse 9/7 and inverse ICT.
    It is NOT proved: the float32 9/7 lifting, the ICT, T1 and T2 have no model.  The harness searches it. -/
def c12_bound_FullStatement (enc : List Int → Option (List Nat)) (dec : List Nat → Option (List Int))
    (bound : List Nat → Nat → Int) (den allowance : Int) : Prop :=
  ∀ img : List Int, ∃ s, enc img = some s ∧ ∃ out, dec s = some out ∧ out.length = img.length ∧
    ∀ i (h : i < img.length) (h' : i < out.length), den * ((out[i] - img[i]).natAbs : Int) ≤ bound s i + den * allowance

end J2kQuant
