import GdcVerif.Model.Frames
import GdcVerif.Model.Skeleton
import GdcVerif.Gen.Facts
import GdcVerif.Lemmas.C10
/-!
  C10 — DICOM codec contract: frames map 1:1, in order, independently, deterministically; inputs
  unmodified; decoded frame length.

  The refinement theorems are stated over the field language of `Model/Frames.lean`, whose read / write / kill
  sets are computed from the step and proved sound there — they are not hypotheses.  Neither skeleton that
  `gofacts` regenerates from the Go source (jpeg2000.Encoder.Encode, jpeg2000.Decoder.Decode) satisfies `Refines`
  — the decoder's has the leaky fields `roiConfig`, `roiShifts`, `roiSrgn`, the encoder's `params` and the qcd*
  memo — so the seven `frames_*` theorems do not apply to them.  On the skeletons the file proves which fields
  are leaky (the `*_fields*`, `*_classified`, `*_killed` theorems, by evaluation of the verified analysis) and
  the two conditional theorems `decoder_run_eq_map` and `encoder_run_eq_map_given_stationary_memo`, whose
  stationarity hypothesis stands for the leaky fields.  "Inputs unmodified" is a theorem for the Encode
  functions only (`encode_inputs_unmodified`); for Decode the static facts over-approximate and the check is
  dynamic.  The decoded-frame-length theorems are about the code-shaped adapter model (tied to the real
  adapters by the `c10-declen` correspondence lines).
-/
namespace C10
open Frames Frames.Cmd

/-- a step whose every exposed read is of a never-written field maps frames one by one -/
theorem frames_run_eq_map {F V Fr : Type} [DecidableEq F] (c : Cmd F V Fr) (h : Refines c)
    (s0 : F → V) (fs : List Fr) : runFrames c s0 fs = fs.map (frameFn c s0) := run_eq_map c h s0 fs

/-- exactly one output per input frame -/
theorem frames_one_output_per_input {F V Fr : Type} [DecidableEq F] (c : Cmd F V Fr) (h : Refines c)
    (s0 : F → V) (fs : List Fr) : (runFrames c s0 fs).length = fs.length := by
  rw [run_eq_map c h]
  exact List.length_map ..

/-- same order, and output i depends only on frame i (and the configuration `s0`) -/
theorem frames_output_depends_only_on_own_frame {F V Fr : Type} [DecidableEq F] (c : Cmd F V Fr)
    (h : Refines c) (s0 : F → V) (fs : List Fr) (i : Nat) (hi : i < fs.length) :
    (runFrames c s0 fs)[i]? = some (frameFn c s0 fs[i]) := by
  rw [run_eq_map c h, List.getElem?_map, List.getElem?_eq_getElem hi]
  rfl

/-- the outputs do not depend on earlier calls made on the same object: any two states that agree on the
    configuration (the never-written fields) — e.g. a fresh object and one that has already processed any
    history — produce the same outputs -/
theorem frames_history_independent {F V Fr : Type} [DecidableEq F] (c : Cmd F V Fr) (h : Refines c)
    (s1 s2 : F → V) (hc : ∀ f, f ∉ c.writes → s1 f = s2 f) (fs : List Fr) :
    runFrames c s1 fs = runFrames c s2 fs := by
  rw [run_eq_map_aux c h s2 s1 hc, run_eq_map c h s2]

/-- permutations, sub-sequences and repetitions of the frames commute with the codec -/
theorem frames_permutation {F V Fr : Type} [DecidableEq F] (c : Cmd F V Fr) (h : Refines c)
    (s0 : F → V) {fs gs : List Fr} (hp : fs.Perm gs) : (runFrames c s0 fs).Perm (runFrames c s0 gs) := by
  rw [run_eq_map c h, run_eq_map c h]
  exact hp.map _

theorem frames_subsequence {F V Fr : Type} [DecidableEq F] (c : Cmd F V Fr) (h : Refines c)
    (s0 : F → V) {fs gs : List Fr} (hp : fs.Sublist gs) : (runFrames c s0 fs).Sublist (runFrames c s0 gs) := by
  rw [run_eq_map c h, run_eq_map c h]
  exact hp.map _

theorem frames_repetition {F V Fr : Type} [DecidableEq F] (c : Cmd F V Fr) (h : Refines c)
    (s0 : F → V) (n : Nat) (fr : Fr) :
    runFrames c s0 (List.replicate n fr) = List.replicate n (frameFn c s0 fr) := by
  rw [run_eq_map c h]
  exact List.map_replicate

/-- semantic form for caches: an invariant that is preserved and under which the output does not
    depend on the state gives the same conclusion (the shape of the encoder's qcd* memo; instantiated on the
    abstract memo encoder in the `example` after `encoder_run_eq_map_given_stationary_memo`) -/
theorem frames_memo_invariant {St Fr Out : Type} (m : Machine St Fr Out) (Good : St → Prop) (s0 : St)
    (h0 : Good s0) (hpres : ∀ s fr, Good s → Good (m.step s fr).1)
    (hout : ∀ s fr, Good s → (m.step s fr).2 = (m.step s0 fr).2) (fs : List Fr) :
    m.run s0 fs = fs.map (fun fr => (m.step s0 fr).2) :=
  Machine.run_eq_map_of_inv m Good s0 hpres hout s0 h0 fs

/-! `Gen.Facts.decoderSkeleton` / `encoderSkeleton` are regenerated by gofacts on every run: the entry method with
every reachable callee inlined in statement order, reduced to which fields of the object each statement reads
and writes.  `Skeleton.entryCmd` turns a skeleton into a command of the verified field language, so the
write / kill / exposed-read sets below are computed by the analysis proved sound in `Model/Frames.lean`. -/
open Skeleton Gen.Facts

/-- two independent kill analyses agree: the class of every Decoder field computed here from the skeleton
    equals the class gofacts computed on the Go AST with its own interprocedural summaries -/
theorem decoder_skeleton_classes_match_gofacts :
    decoderFieldClass.map (fun p => (p.1, classOf (entryCmd true decoderSkeleton) p.1)) = decoderFieldClass :=
  decoder_analysis.1

theorem encoder_skeleton_classes_match_gofacts :
    encoderFieldClass.map (fun p => (p.1, classOf (entryCmd true encoderSkeleton) p.1)) = encoderFieldClass :=
  encoder_analysis.1

/-- Decoder (after fix 4483a93): the only fields whose value can survive into the next Decode and be read
    there are `roiShifts`/`roiSrgn` — solely through the nil guard `if d.cs == nil || d.cs.SIZ == nil
    { return }` at the top of captureROIShifts — and `roiConfig`, the caller's ROI configuration, which
    ROIConfig.Validate normalises in place (`roi.Rect = rect`, idempotent) -/
theorem decoder_leaky_fields :
    ∀ f ∈ leakyFields true decoderSkeleton, f ∈ ["roiConfig", "roiShifts", "roiSrgn"] :=
  decoder_analysis.2

/-- reading the nil guards with a bare `return` (`guardCount` of them) as never firing — `d.cs` and
    `d.cs.SIZ` are non-nil once Parse and extractImageParameters have succeeded — leaves `roiConfig` alone -/
theorem decoder_leaky_fields_when_nil_guards_dead :
    (∀ f ∈ leakyFields false decoderSkeleton, f = "roiConfig") ∧ guardCount decoderSkeleton = 3 := by
  decide +kernel

/-- robust form: every field of the Decoder (whatever fields a later change adds) is configuration, write-only,
    killed before read, or one of the three named exceptions -/
theorem decoder_every_field_classified :
    decoderFields.all (fun p =>
      let c := classOf (entryCmd true decoderSkeleton) p.1
      c == "config" || c == "killed" || c == "writeonly" ||
        ["roiConfig", "roiShifts", "roiSrgn"].contains p.1) = true :=
  all_classified decoder_skeleton_classes_match_gofacts
    (fun c f => c == "config" || c == "killed" || c == "writeonly" || ["roiConfig", "roiShifts", "roiSrgn"].contains f)
    _ (by decide +kernel)

/-- every field that leaked before the repair is now killed before it is read, on every path from Decode
    (checked per field on this run's skeleton); `roiConfig` is no longer assigned by Decode -/
theorem decoder_repaired_fields_killed :
    ["bindings", "mctInverse", "mctOffsets", "roiMasks", "streamROIConfig", "RoiRects", "data", "cs", "width",
      "height", "components", "bitDepth", "isSigned"].all (fun f =>
        f ∈ (entryCmd true decoderSkeleton).writes && !(f ∈ (entryCmd true decoderSkeleton).exposed)) = true :=
  all_killed decoder_skeleton_classes_match_gofacts _ (by decide +kernel)

/-- Decoder refinement: from any state in which the caller's ROI configuration is already normalised
    (stationary), with the nil guards read as dead, every frame sequence decodes frame by frame — one output
    per input, in order, independent of what the object decoded before -/
theorem decoder_run_eq_map (s0 : String → V)
    (hroi : ∀ s fr, (∀ f, (f ∉ (entryCmd false decoderSkeleton).writes ∨ f ∈ leaky (entryCmd false decoderSkeleton)) →
        s f = s0 f) → ((entryCmd false decoderSkeleton).exec s fr).1 "roiConfig" = s0 "roiConfig")
    (fs : List Fr) :
    runFrames (entryCmd false decoderSkeleton) s0 fs = fs.map (frameFn (entryCmd false decoderSkeleton) s0) := by
  apply run_eq_map_of_stationary
  intro s fr hs f hf
  have hl : f ∈ leakyFields false decoderSkeleton := by
    unfold leakyFields
    exact List.mem_eraseDups.mpr hf
  have : f = "roiConfig" := decoder_leaky_fields_when_nil_guards_dead.1 f hl
  subst this
  exact hroi s fr hs

/-- regression anchor for finding `c10-decoder-reuse-after-mct-bindings` (fixed by 4483a93): the old shape
    `bindings = append(bindings, b)` without a reset leaks, the repaired shape does not -/
example :
    let old : Cmd String V Fr := .seq (.set "bindings" (.app mix (.fld "bindings") (.frm id))) (.out (.fld "bindings"))
    let fixed : Cmd String V Fr := .seq (.set "bindings" (.cst [])) old
    runFrames old (fun _ => []) [[7], [9]] = [[[7]], [[7, 9]]] ∧
      runFrames fixed (fun _ => []) [[7], [9]] = [[[7]], [[9]]] ∧ Refines fixed ∧ ¬ Refines old := by decide

/-- the fields of the Encoder that may carry a value from one Encode into the next: the parameters object and
    the quantisation memo -/
def encoderMemoFields : List String := ["params", "qcdReady", "qcdExpn", "qcdGuard", "qcdSteps", "qcdStyle"]

/-- Encoder: apart from `params` and the qcd* memo no field is read before it is written -/
theorem encoder_leaky_fields : ∀ f ∈ leakyFields true encoderSkeleton, f ∈ encoderMemoFields :=
  encoder_analysis.2

/-- robust form, "killed before read" as a checked fact for EVERY field (whatever fields a later change adds —
    e.g. the per-tile scratch `curTileX0/curTileY0` of 104b234): each field of the Encoder is configuration,
    write-only, killed before read on every path from Encode, or one of the named memo fields -/
theorem encoder_every_field_config_killed_or_memo :
    encoderFields.all (fun p =>
      let c := classOf (entryCmd true encoderSkeleton) p.1
      c == "config" || c == "killed" || c == "writeonly" || encoderMemoFields.contains p.1) = true :=
  all_classified encoder_skeleton_classes_match_gofacts
    (fun c f => c == "config" || c == "killed" || c == "writeonly" || encoderMemoFields.contains f) _ (by decide +kernel)

/-- the per-image and per-tile scratch fields named in the property are written, and never exposed, by one
    Encode call (loops: a write at the top of a tile iteration protects the reads of the same iteration) -/
theorem encoder_scratch_fields_killed :
    ["data", "irreversibleMCTData", "roiShifts", "RoiRects", "roiStyles", "roiMasks",
      "openJPEGMainHeaderBytes", "openJPEGNumTiles", "curTileX0", "curTileY0"].all (fun f =>
        f ∈ (entryCmd true encoderSkeleton).writes && !(f ∈ (entryCmd true encoderSkeleton).exposed)) = true :=
  all_killed encoder_skeleton_classes_match_gofacts _ (by decide +kernel)

/-- the qcd* fields form a memo: `quantizationInfo` is the only writer of the cached values and it reads nothing
    but `params` and the memo itself — so the cached value is a function of the configuration; and the memo's
    validity flag `qcdReady` is, besides, written by `Encode` itself (the repair of the stale-QCD defect; that
    this write comes before every read is `encoder_qcdReady_killed`) -/
theorem encoder_qcd_is_memo_of_params :
    (["qcdStyle", "qcdGuard", "qcdExpn", "qcdSteps"].all (fun f =>
        Gen.Facts.encoderFieldWriters.contains (f, [("(*Encoder).quantizationInfo", "whole")]))) = true ∧
    Gen.Facts.encoderFieldWriters.contains
      ("qcdReady", [("(*Encoder).Encode", "whole"), ("(*Encoder).quantizationInfo", "whole")]) = true ∧
    (Gen.Facts.encoderWriterReads.filter (fun p => p.1 == "(*Encoder).quantizationInfo")).map (·.2) =
      [["params", "qcdExpn", "qcdGuard", "qcdReady", "qcdSteps", "qcdStyle"]] := by decide +kernel

/-- the memo does not outlive a call: on every path from `Encode` the flag `qcdReady` is written (cleared) before
    it is read, and it is not exposed to the next call — the cached description is recomputed from the parameter
    values in force at each call (before the repair the flag was `leaky`: read before any write) -/
theorem encoder_qcdReady_killed :
    classOf (entryCmd true encoderSkeleton) "qcdReady" = "killed" ∧
    "qcdReady" ∉ leakyFields true encoderSkeleton :=
  have h := classOf_of_table encoder_skeleton_classes_match_gofacts (f := "qcdReady") (k := "killed") (by decide +kernel)
  ⟨h, not_mem_leakyFields_of_killed h⟩

/-- the `*params` object is written in exactly these places: a normalisation `NumLayers = 1` that
    `validateParams` makes unreachable, and ROIConfig.Validate / ResolveRectangles normalising
    `params.ROIConfig` in place (idempotent) -/
theorem encoder_params_content_stores :
    (Gen.Facts.encoderContentStores.filter (fun p => p.1 == "params")).map (fun p => (p.2.1, p.2.2.1)) =
      [("NumLayers", "(*Encoder).applyRateDistortionGlobal"), ("ROIConfig", "(*Encoder).resolveROI"),
       ("ROIConfig", "(*Encoder).validateParams")] := by decide +kernel

/-- Encoder refinement on the generated model of Encode's field usage: from a state whose memo is filled and
    whose parameters are normalised (what one Encode call leaves behind), if later calls leave the leaky
    fields (all among `encoderMemoFields`, by `encoder_leaky_fields`) as they are (the memo contract, observed
    on the real object by the `fact-field` lines), every frame sequence encodes frame by frame -/
theorem encoder_run_eq_map_given_stationary_memo (s0 : String → V)
    (hstat : ∀ s fr, (∀ f, (f ∉ (entryCmd true encoderSkeleton).writes ∨ f ∈ leaky (entryCmd true encoderSkeleton)) →
        s f = s0 f) → ∀ f, f ∈ leaky (entryCmd true encoderSkeleton) →
          ((entryCmd true encoderSkeleton).exec s fr).1 f = s0 f)
    (fs : List Fr) :
    runFrames (entryCmd true encoderSkeleton) s0 fs = fs.map (frameFn (entryCmd true encoderSkeleton) s0) :=
  run_eq_map_of_stationary _ s0 hstat fs

/-- abstract encoder with a memo: once `Good` (cache empty or holding the value computed from the
    configuration) the output never depends on the cache -/
example : ∀ (fs : List Nat),
    let m : Machine (Nat × Option Nat) Nat Nat :=
      ⟨fun s fr => let q := s.2.getD (s.1 * 2); ((s.1, some q), fr + q)⟩
    m.run (5, none) fs = fs.map (fun fr => fr + 10) := by
  intro fs m
  have := frames_memo_invariant m (fun s => s.1 = 5 ∧ (s.2 = none ∨ s.2 = some 10)) (5, none)
    ⟨rfl, Or.inl rfl⟩
    (by intro s fr ⟨h1, h2⟩; refine ⟨h1, Or.inr ?_⟩; cases h2 with
        | inl h => simp [m, h, h1]
        | inr h => simp [m, h])
    (by intro s fr ⟨h1, h2⟩; cases h2 with
        | inl h => simp [m, h, h1]
        | inr h => simp [m, h])
    fs
  simpa [m] using this

/-- history independence of the codec objects themselves (the registry hands out ONE object per transfer
    syntax): no method of any of the ten codec.Codec implementations — Encode, Decode, or anything they call
    with the receiver — stores through its receiver, so a codec object is the same after any history of calls
    as before it (seeded change C10-m2: an `enc *rleEncoder` kept on rle.Codec and reused across calls appears
    here as receiver stores of Encode/encodeFrame) -/
theorem codec_objects_hold_no_state :
    Gen.Facts.codecRecvStores = [] ∧ Gen.Facts.codecTypes.length = 10 ∧
      (Gen.Facts.codecMethods.filter (fun m => m.2 == "Encode" || m.2 == "Decode")).length = 20 := by decide +kernel

/-- no Encode* function of the library stores a byte through the caller's pixel data -/
theorem encode_inputs_unmodified :
    Gen.Facts.inputParamStores = [] ∧ 15 ≤ (Gen.Facts.inputParams.filter (fun p => p.2.2.2)).length := by
  decide +kernel

/-- nothing in the library part of the analysis is unclassified -/
theorem facts_no_unknown_in_library : Gen.Facts.unknowns.filter (fun u => u.2.2.2) = [] := by decide +kernel

/-- the length the property requires of a decoded frame: Rows·Columns·Samples·⌈BitsAllocated/8⌉, RLE rounded up
    to even -/
def requiredLen (k : Kind) (i : Info) : Nat :=
  if k = .rle then expectedLen i + expectedLen i % 2 else expectedLen i

/-- since fix ae34483: for every codec kind and every in-scope FrameInfo, whenever the adapter model
    accepts the frame the decoded frame has exactly the required length -/
theorem frame_length (k : Kind) (i : Info) (hs : i.InScope) (n : Nat) (h : decodedLen k i = some n) :
    n = requiredLen k i := by
  obtain ⟨hba, h1, h2, hspp, -⟩ := hs
  unfold requiredLen expectedLen
  unfold decodedLen layoutOK at h
  generalize i.w * i.h = m at h ⊢
  cases k <;> simp only [reduceCtorEq, if_false, if_true] at h ⊢
  case rle =>
    rw [show (i.ba - 1) / 8 + 1 = (i.ba + 7) / 8 by omega] at h
    exact (Option.some.inj h).symm
  case htj2k =>
    rw [show (if i.ba ≤ 8 then 1 else 2) = (i.ba + 7) / 8 by split <;> omega] at h
    exact (Option.some.inj h).symm
  case jpegll =>
    split at h
    · cases h
    · rename_i hl
      cases h
      rw [Decidable.not_not.1 hl]
  case jls | j2k =>
    split at h
    · cases h
    · cases h
      congr 1
      split <;> omega
  case baseline =>
    split at h
    · cases h
    · cases h
      rw [show (i.ba + 7) / 8 = 1 by omega, Nat.mul_one]
  case extended =>
    split at h
    · cases h
    · split at h
      · rw [show (i.ba + 7) / 8 = 1 by omega, Nat.mul_one]
        rcases hspp with hp | hp
        · rw [if_pos hp] at h
          cases h
          rw [hp, Nat.mul_one]
        · rw [if_neg (by omega)] at h
          cases h
          rw [hp]
      · rw [show (i.ba + 7) / 8 = 2 by omega]
        split at h
        · rename_i hp
          cases h
          rw [hp, Nat.mul_one]
        · cases h

/-- the accepted frames are exactly those whose BitsStored and BitsAllocated need the same number of bytes per
    sample, for the two kinds that pass BitsStored down without a range check of their own (baseline, extended
    and JPEG-LS also bound BitsStored; RLE and HTJ2K accept everything in scope) -/
theorem frame_accepted_iff_layout (k : Kind) (hk : k = .jpegll ∨ k = .j2k) (i : Info) :
    (decodedLen k i).isSome ↔ layoutOK i := by
  rcases hk with rfl | rfl <;> unfold decodedLen <;> by_cases h : layoutOK i <;> simp [h]

/-- regression anchor for the classes `c10-declen-*-ba16-bs-le8` (fixed by ae34483): the old witness — a
    16-bit-allocated frame with BitsStored 8, which used to come back half size (192 instead of 384 bytes for
    16×12) — is now rejected by every adapter that passes BitsStored down, and still right for RLE and HTJ2K -/
example :
    let i : Info := ⟨16, 12, 1, 16, 8⟩
    i.InScope ∧ [Kind.baseline, .extended, .jpegll, .jls, .j2k].all (fun k => decodedLen k i == none) = true ∧
      decodedLen .rle i = some 384 ∧ decodedLen .htj2k i = some 384 ∧ expectedLen i = 384 := by decide

/-- regression anchor for `c10-declen-extended-gray8-mcu-padding` (fixed by 5946dc5): 8-bit grayscale JPEG
    Extended used to return the MCU-padded image/jpeg buffer (128 bytes for 9×7); now the tight frame -/
example :
    let i : Info := ⟨9, 7, 1, 8, 8⟩
    i.InScope ∧ decodedLen .extended i = some 63 ∧ expectedLen i = 63 ∧ pad8 9 * pad8 7 = 128 := by decide

/-- non-vacuity of `frame_length`: accepted frames exist for every kind -/
example : [Kind.rle, .baseline, .extended, .jpegll, .jls, .j2k, .htj2k].all
    (fun k => (decodedLen k ⟨16, 12, 1, 8, 8⟩).isSome) = true ∧
    (decodedLen .jpegll ⟨16, 12, 3, 16, 12⟩).isSome = true := by decide

end C10
