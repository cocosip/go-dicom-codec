import GdcVerif.Lemmas.T1Model
import GdcVerif.Lemmas.T1LockStyles
import GdcVerif.Lemmas.MqcTerm
/-!
  The state after `FlushToOutput` / `ErtermEnc` is described by `TermOk` (Lemmas/Mqc.lean), and `RestartInitEnc`
  re-establishes the encoder invariant `Mqc.RegOk` from it (the case `ct = 13` — previous byte 0xFF — is unreachable:
  both terminations leave a non-0xFF byte in front of the next segment).  `EncOkT` is the state of an encoder pass loop
  with or without a pending restart.
-/
namespace T1
open Gen
open Mqc

theorem TermOk.prev_ne {e : Enc} (h : TermOk e) : e.buf[e.bp - 1]? ≠ some 0xFF := by
  rw [rd_some _ _ (by have := h.bp1; have := h.sz; omega)]
  exact fun hh => h.last (Option.some.inj hh)

theorem restart_ok (ef : Enc) (h : TermOk ef) :
    RegOk (restartInitEnc ef) ∧ 0x8000 ≤ (restartInitEnc ef).a ∧ (restartInitEnc ef).ctx = ef.ctx := by
  have hin : ef.bp - 1 < ef.buf.size := by have := h.bp1; have := h.sz; omega
  rw [restartInitEnc_eq ef h.bp1 h.prev_ne]
  refine ⟨⟨⟨hin, h.bytes, fun i hi h255 => h.marker i (by have : i < ef.bp - 1 := hi; omega) h255⟩,
    by show (0 : Nat) < 32768; decide, by show (32768 : Nat) < 65536; decide, by show (1 : Int) ≤ 12; decide,
    by show (12 : Int) ≤ 13; decide, by show (0 + 32768) * 2 ^ (12 : Int).toNat ≤ 150994944; decide, ?_, h.ctx⟩,
    by show (32768 : Nat) ≤ 32768; decide, rfl⟩
  intro h1 h255
  have h1' : 1 ≤ ef.bp - 1 := h1
  have h255' : rd ef.buf (ef.bp - 1 - 1) = 255 := h255
  have hm := h.marker (ef.bp - 1 - 1) (by omega) h255'
  rw [show ef.bp - 1 - 1 + 1 = ef.bp - 1 by omega] at hm
  show rd ef.buf (ef.bp - 1) * 134217728 + (0 + 32768) * 2 ^ (12 : Int).toNat ≤ 19327352832
  have e1 : (0 + 32768) * 2 ^ (12 : Int).toNat = 134217728 := by decide
  rw [e1]
  have : rd ef.buf (ef.bp - 1) * 134217728 ≤ 143 * 134217728 := Nat.mul_le_mul_right _ hm
  exact Nat.le_trans (Nat.add_le_add_right this _) (by decide)

/-- start state of a codeword segment -/
structure StartOk (e : Mqc.Enc) : Prop where
  a : e.a = 0x8000
  c : e.c = 0
  ct : e.ct = 12
  nf : Mqc.rd e.buf e.bp ≠ 255

/-- state of an encoder pass loop, with or without a pending restart: terminated, or inside a codeword segment whose
first byte does not follow a 0xFF -/
def EncOkT (w h : Nat) (V : Array Int) (st : EncSt) (prevT : Bool) : Prop :=
  st.flags.size = (w + 2) * (h + 2) ∧ V.size = (w + 2) * (h + 2) ∧ st.mq.ctx.size = 19 ∧
    (if prevT = true then TermOk st.mq
     else RegOk st.mq ∧ 0x8000 ≤ st.mq.a ∧ ∃ p0 b0, InSeg p0 b0 st.mq ∧ rd b0 p0 ≠ 255)

theorem EncOkT.term {w h : Nat} {V : Array Int} {es : EncSt} (hok : EncOkT w h V es true) : TermOk es.mq := hok.2.2.2

theorem EncOkT.run {w h : Nat} {V : Array Int} {es : EncSt} (hok : EncOkT w h V es false) :
    RegOk es.mq ∧ 0x8000 ≤ es.mq.a ∧ ∃ p0 b0, InSeg p0 b0 es.mq ∧ rd b0 p0 ≠ 255 := hok.2.2.2

theorem EncOkT.ofTerm {w h : Nat} {V : Array Int} {es : EncSt} (hf : es.flags.size = (w + 2) * (h + 2))
    (hd : V.size = (w + 2) * (h + 2)) (hc : es.mq.ctx.size = 19) (ht : TermOk es.mq) : EncOkT w h V es true :=
  ⟨hf, hd, hc, ht⟩

theorem EncOkT.ofRun {w h : Nat} {V : Array Int} {es : EncSt} (hs : EncOk w h V es) {p0 : Nat} {b0 : Array Nat}
    (hseg : InSeg p0 b0 es.mq) (hnf : rd b0 p0 ≠ 255) : EncOkT w h V es false :=
  ⟨hs.fsz, hs.dsz, hs.nctx, hs.reg, hs.norm, p0, b0, hseg, hnf⟩

theorem restartIf_ok (w h : Nat) (V : Array Int) (es : EncSt) (prevT : Bool) (hin : EncOkT w h V es prevT) :
    EncOk w h V (restartIf prevT es) ∧ (restartIf prevT es).flags = es.flags ∧ (restartIf prevT es).mq.ctx = es.mq.ctx ∧
      (restartIf prevT es).mq.buf = es.mq.buf ∧
      (prevT = true → (restartIf prevT es).mq.bp = es.mq.bp - 1 ∧ 1 ≤ es.mq.bp ∧ StartOk (restartIf prevT es).mq) ∧
      (prevT = false → restartIf prevT es = es) := by
  obtain ⟨h1, h2, h3, h4⟩ := hin
  unfold restartIf
  cases prevT with
  | false =>
    simp only [Bool.false_eq_true, if_false] at h4
    simp only [Bool.false_eq_true, if_false, true_and, and_true, forall_const]
    exact ⟨⟨h1, h2, h4.1, h4.2.1, h3⟩, fun hh => absurd hh (by simp)⟩
  | true =>
    simp only [if_true] at h4
    rw [if_pos rfl]
    obtain ⟨hr, hn, hcx⟩ := restart_ok es.mq h4
    rw [restartInitEnc_eq es.mq h4.bp1 h4.prev_ne] at hr hn hcx ⊢
    exact ⟨⟨h1, h2, hr, hn, h3⟩, rfl, rfl, rfl, fun _ => ⟨rfl, h4.bp1, ⟨rfl, rfl, rfl, h4.last⟩⟩, fun hh => absurd hh (by simp)⟩

theorem restartIf_inSeg (w h : Nat) (V : Array Int) (es : EncSt) (prevT : Bool) (hin : EncOkT w h V es prevT) :
    ∃ p0 b0, InSeg p0 b0 (restartIf prevT es).mq ∧ rd b0 p0 ≠ 255 := by
  unfold restartIf
  cases prevT with
  | false => simp only [Bool.false_eq_true, if_false]; exact hin.run.2.2
  | true => exact ⟨_, _, seg_restart es.mq hin.term.bp1 hin.term.prev_ne, hin.term.last⟩

theorem restartT {w h : Nat} {V : Array Int} {es : EncSt} (hok : EncOkT w h V es true) :
    (restartIf true es).mq.bp = es.mq.bp - 1 ∧ 1 ≤ es.mq.bp ∧ StartOk (restartIf true es).mq :=
  (restartIf_ok w h V es true hok).2.2.2.2.1 rfl

end T1
