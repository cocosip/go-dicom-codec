import GdcVerif.Lemmas.T1SegRun
import GdcVerif.Lemmas.T1RawSeg
/-!
  C20 — the pass loops of `EncodeLayered` / `DecodeLayeredWithMode` over a whole block, by pass index: every codeword
  segment is a run of MQ passes, one raw pass, or the raw pair of a plane (`SegAt`); all passes are segments of their own
  under TERMALL, and under LAZY the passes down to the cleanup pass of plane `mb - 3` are one MQ segment.
-/
namespace T1
open Gen

/-- the codeword segment that starts at pass `i`: `n` unterminated MQ passes and a terminated one; one raw pass; or the
raw significance and refinement passes of a plane together -/
def SegAt (style mb : Nat) (u : Bool) (i : Nat) : Prop :=
  (∃ n, i + n < 3 * mb + 1 ∧
    (∀ k, k ≤ n → rawAt style mb (i + k) = false) ∧
    (∀ k, k < n → (u || termAt style mb (i + k)) = false) ∧
    termAt style mb (i + n) = true) ∨
  (0 < i ∧ typeOf i ≤ 1 ∧ rawAt style mb i = true ∧
    termAt style mb i = true) ∨
  (0 < i ∧ typeOf i = 0 ∧ u = false ∧ rawAt style mb i = true ∧ termAt style mb i = false ∧
    rawAt style mb (i + 1) = true ∧ termAt style mb (i + 1) = true)

section Loop
variable (w h : Nat) (V : Array Int) (hV : ∀ j, (gi V j).natAbs < 2147483648)
include hV

theorem lloop_lock (orient style mb np : Nat) (u : Bool) (hsh : ∀ i, i < 3 * mb + 1 → SegAt style mb u i) :
    ∀ (cnt fuel : Nat) (es : EncSt) (prevT : Bool) (i : Nat), i + cnt = 3 * mb + 1 → 0 < cnt →
      EncOkT w h V es prevT → StartOk (restartIf prevT es).mq → (0 < i → prevT = true) → cnt ≤ fuel → i + cnt ≤ np →
      LoopsRun w h V orient style mb np u fuel es prevT i cnt
        (PInv tr w h V (fun _ _ => True) (planeOf mb i) (typeOf i) es) := by
  intro cnt
  induction cnt using Nat.strongRecOn with
  | _ cnt ih =>
    intro fuel es prevT i hcnt hpos hin hst hpr hf hnp
    -- a segment in front of what the induction hypothesis gives for the rest
    have rest : ∀ (f n : Nat) (pre : List PassRec) (es' : EncSt), SegLock w h V orient style mb np u f es prevT i n pre es' →
        n + 1 ≤ cnt → fuel = f + (n + 1) →
        LoopsRun w h V orient style mb np u fuel es prevT i cnt
          (PInv tr w h V (fun _ _ => True) (planeOf mb i) (typeOf i) es) := by
      intro f n pre es' hseg hm hfu
      subst hfu
      by_cases hend : n + 1 = cnt
      · obtain ⟨l1, l2, l3, l4⟩ := idx_last mb
        have e : i + n = 3 * mb := by omega
        exact LoopsRun.cons hseg (fun _ hP => by rw [e, l1, l2] at hP; exact hP.out)
          (LoopsRun.done orient style mb np u f _ hseg.ok (by rw [e]; exact l3) (by rw [e]; exact l4)) (by omega)
      · exact LoopsRun.cons hseg (fun _ hP => post_next (i + n) (by omega) hP)
          (ih (cnt - (n + 1)) (by omega) f es' true (i + n + 1) (by omega) (by omega) hseg.ok
            (restartT hseg.ok).2.2 (fun _ => rfl) (by omega) (by omega)) (by omega)
    rcases hsh i (by omega) with ⟨n, hn, hraw, hmid, hterm⟩ | ⟨hi0, hpt1, hraw, hterm⟩ | ⟨hi0, hpt0, hu, hraw0, hterm0, hraw1, hterm1⟩
    · obtain ⟨es4, pre, hseg⟩ := mseg_lock w h V hV orient style mb np u (fuel - (n + 1)) n es prevT i hin hst hn
        (by omega) hraw hmid hterm
      exact rest _ n pre es4 hseg (by omega) (by omega)
    · obtain rfl := hpr hi0
      obtain ⟨es4, hseg⟩ := rstep1_lock w h V hV orient style mb np u (fuel - 1) es i hin (by omega) hpt1 (by omega) hi0 hraw hterm
      exact rest _ 0 [] es4 hseg (by omega) (by omega)
    · obtain rfl := hpr hi0
      have hcnt2 : 2 ≤ cnt := by unfold typeOf at hpt0; omega
      obtain ⟨r1, es5, hseg⟩ := rstep2_lock w h V hV orient style mb np u (fuel - 2) es i hin (by omega) hpt0 (by omega) hi0
        hraw0 hterm0 hraw1 hterm1 hu
      exact rest _ 1 [(r1, false)] es5 hseg (by omega) (by omega)
end Loop

theorem segAt_termall (style mb : Nat) (u : Bool) (i : Nat) (hi : i < 3 * mb + 1)
    (hT : Go.and (style : Int) J2kT1.CblkStyleTermAll ≠ 0) : SegAt style mb u i := by
  have hterm := terminating_termall (planeOf mb i : Nat) (mb : Int) (typeOf i : Nat) (style : Int) hT
  cases hraw : rawAt style mb i with
  | false => exact Or.inl ⟨0, hi, fun k hk => by rw [show k = 0 by omega]; exact hraw, fun k hk => absurd hk (by omega), hterm⟩
  | true =>
    have h1 := lazyRaw_lt (planeOf mb i) mb (typeOf i) _ hraw
    have h2 := (raw_pass _ _ _ _ hraw).2.2
    exact Or.inr (Or.inl ⟨by unfold planeOf at h2; omega, by omega, hraw, hterm⟩)

theorem segAt_lazy (style mb i : Nat) (hi : i < 3 * mb + 1) (hLz : Go.and (style : Int) J2kT1.CblkStyleLazy ≠ 0)
    (hT : Go.and (style : Int) J2kT1.CblkStyleTermAll = 0) : SegAt style mb false i := by
  have hraw := fun j hj => (lazy_at style mb j hj hLz hT).1
  have hterm := fun j hj => (lazy_at style mb j hj hLz hT).2
  by_cases hA : i < 10
  · -- the first segment: down to the cleanup pass of plane `mb - 3` (pass 9), or to the last pass
    refine Or.inl ⟨min 9 (3 * mb) - i, by omega, fun k hk => ?_, fun k hk => ?_, ?_⟩
    · rw [hraw _ (by omega), decide_eq_false_iff_not]; omega
    · rw [Bool.false_or, hterm _ (by omega), decide_eq_false_iff_not]; omega
    · rw [hterm _ (by omega), decide_eq_true_iff]; omega
  · have ht : typeOf i ≤ 2 := by unfold typeOf; omega
    rcases (show typeOf i = 0 ∨ typeOf i = 1 ∨ typeOf i = 2 by omega) with h0 | h1 | h2
    · have e1 : typeOf (i + 1) = 1 ∧ i + 1 < 3 * mb + 1 := by unfold typeOf at h0 ⊢; omega
      refine Or.inr (Or.inr ⟨by omega, h0, rfl, ?_, ?_, ?_, ?_⟩)
      · rw [hraw i hi, decide_eq_true_iff]; omega
      · rw [hterm i hi, decide_eq_false_iff_not]; omega
      · rw [hraw _ e1.2, decide_eq_true_iff]; omega
      · rw [hterm _ e1.2, decide_eq_true_iff]; omega
    · refine Or.inr (Or.inl ⟨by omega, by omega, ?_, ?_⟩)
      · rw [hraw i hi, decide_eq_true_iff]; omega
      · rw [hterm i hi, decide_eq_true_iff]; omega
    · refine Or.inl ⟨0, hi, fun k hk => ?_, fun k hk => absurd hk (by omega), ?_⟩
      · rw [show k = 0 by omega, Nat.add_zero, hraw i hi, decide_eq_false_iff_not]; omega
      · rw [Nat.add_zero, hterm i hi, decide_eq_true_iff]; omega

end T1
