import GdcVerif.Gen.Facts
/-!
  C09: the sized `make`s of the decode path (Gen.Facts.decodeMakes, regenerated from the source by
  gofacts/allocs.go on every run) — every one whose size has the SHAPE of a product of two or more
  non-constant factors is one of the expressions reviewed here, each with the quantity that bounds it:

    dims   width·height(·components·bytes per sample) of the frame header in force: at most c·S
    block  the extent of one code-block / tile-component / sub-band: at most the tile-component area
           (Lemmas/J2kTileClamp.lean bounds that by the declared image area)
    grid   number of code-blocks (or quads) of one precinct / block: the extent above divided by the
           code-block (quad) size, at least 1 per 4×4 samples

  None is a product of header-declared COUNTS (layers, resolutions, components, precincts, tile-parts,
  table counts …) that is unrelated to the input length and to the declared sample count.  A new
  multiplicative allocation size anywhere in the decode path — also through a local variable
  (`n := a*b; make([]T, n)`) — is not in this list, and `c09_make_products_reviewed` stops proving.
-/
namespace C09Makes

/-- (package, function, size expression, bound) -/
def reviewed : List (String × String × String × String) := [
  ("jpeg/baseline", "(*Decoder).convertToPixels", "((d.width * d.height) * len(d.components))", "dims"),
  ("jpeg/baseline", "(*Decoder).parseSOF", "((comp.width * comp.height) * 64)", "dims"),
  ("jpeg/extended", "(*sequential12Decoder).parseSOF1", "((d.width * d.height) * 2)", "dims"),
  ("jpeg/extended", "DecodeSimple", "((bounds.Dx(…) * bounds.Dy(…)) * 3)", "dims"),
  ("jpeg/extended", "DecodeSimple", "(bounds.Dx(…) * bounds.Dy(…))", "dims"),
  ("jpeg/lossless", "(*Decoder).decodeScan", "(d.width * d.height)", "dims"),
  ("jpeg/lossless", "(*Decoder).samplesToPixels", "(((d.width * d.height) * d.components) * ((d.precision + 7) / 8))", "dims"),
  ("jpeg/lossless14sv1", "(*Decoder).convertToPixels", "(((d.width * d.height) * len(d.components)) * ((d.precision + 7) / 8))", "dims"),
  ("jpeg/lossless14sv1", "(*Decoder).parseSOF3", "(d.width * d.height)", "dims"),
  ("jpeg2000", "(*Decoder).applyDecoderInverseCustomMCT", "(d.width * d.height)", "dims"),
  ("jpeg2000", "(*Decoder).getGrayscalePixelData", "((d.width * d.height) * 2)", "dims"),
  ("jpeg2000", "(*Decoder).getGrayscalePixelData", "(d.width * d.height)", "dims"),
  ("jpeg2000", "(*Decoder).getInterleavedPixelData", "(((d.width * d.height) * d.components) * 2)", "dims"),
  ("jpeg2000", "(*Decoder).getInterleavedPixelData", "((d.width * d.height) * d.components)", "dims"),
  ("jpeg2000", "NewTileAssembler", "(layout.imageWidth * layout.imageHeight)", "dims"),
  ("jpeg2000", "newROIMask", "(width * height)", "dims"),
  ("jpeg2000/htj2k", "(*HTBlockDecoder).DecodeBlock", "(h.numQX * h.numQY)", "grid"),
  ("jpeg2000/htj2k", "(*QuadPairDecoder).DecodeAllQuadPairs", "(((d.QW + 1) / 2) * heightInQuads)", "grid"),
  ("jpeg2000/htj2k", "NewContextComputer", "(((width + 1) / 2) * ((height + 1) / 2))", "block"),
  ("jpeg2000/htj2k", "NewHTDecoder", "(width * height)", "block"),
  ("jpeg2000/htj2k", "decodeOJPHScratchMagSgn", "(width * height)", "block"),
  ("jpeg2000/htj2k", "decodeOpenJPHCleanup", "(((((width + 2) + 7) &^ 7) * (((height + 1) / 2) + 1)) + 8)", "block"),
  ("jpeg2000/htj2k", "decodeOpenJPHCleanup", "(width * height)", "block"),
  ("jpeg2000/t1", "(*Decoder).GetData", "(t1.width * t1.height)", "block"),
  ("jpeg2000/t1", "NewT1Decoder", "((width + 2) * (height + 2))", "block"),
  ("jpeg2000/t2", "(*TileDecoder).assembleSubbands", "(comp.width * comp.height)", "block"),
  ("jpeg2000/t2", "(*TileDecoder).buildAndDecodeCodeBlocks", "(((bandInfo.offsetX + localX1∈{((cbx * cbWidth) + cbWidth) | bandInfo.width}) - (bandInfo.offsetX + (cbx∈{(cbx + 1) | 0} * cbWidth))) * ((bandInfo.offsetY + localY1∈{((cby * cbHeight) + cbHeight) | bandInfo.height}) - (bandInfo.offsetY + (cby∈{(cby + 1) | 0} * cbHeight))))", "block"),
  ("jpeg2000/t2", "(*TileDecoder).decodeCodeBlock", "(actualWidth * actualHeight)", "block"),
  ("jpeg2000/t2", "NewTagTree", "(tt.levelWidths[i] * tt.levelHeights[i])", "grid"),
  ("jpeg2000/t2", "parsePacketHeaderMulti", "(band.numCBX * band.numCBY)", "grid"),
  ("jpegls/lossless", "(*Decoder).decodeScan", "((dec.width * dec.height) * dec.components)", "dims"),
  ("jpegls/nearlossless", "(*Decoder).decodeScan", "((dec.width * dec.height) * dec.components)", "dims"),
  ("rle", "(*Codec).decodeFrame", "frameSize∈{((((((info.BitsAllocated - 1) / 8) + 1) * info.SamplesPerPixel) * info.Width) * info.Height) | (frameSize + 1)}", "dims")]

theorem c09_make_products_reviewed : Gen.Facts.decodeMakeProducts = reviewed.map (fun r => (r.1, r.2.1, r.2.2.1)) := rfl

/-- the full table has at least as many entries of shape `product` as the product table has entries
    (a comparison of counts, not of the entries) -/
theorem c09_make_products_complete :
    (Gen.Facts.decodeMakes.filter fun s => s.2.2.2.2.1 == "product").length ≥ Gen.Facts.decodeMakeProducts.length := by decide

/-- that the bound named is the right
    one for the expression (so that none is a product of header-declared counts) is the review, not this theorem -/
theorem c09_no_header_count_product : ∀ r ∈ reviewed, r.2.2.2 = "dims" ∨ r.2.2.2 = "block" ∨ r.2.2.2 = "grid" := by decide

/-- the scan is not vacuous -/
theorem c09_makes_scanned : Gen.Facts.decodeMakes.length ≥ 100 ∧ Gen.Facts.decodePathFunctions ≥ 200 :=
  ⟨by simp only [Gen.Facts.decodeMakes, List.length_cons, List.length_nil]; omega, by decide⟩

end C09Makes
