import GdcVerif.Model.RleChk
/-! The run pre-checks of rle.go keep every store of the bounds-checked decoder (`Model/RleChk.lean`) in
  range, so it is the decoder of `Model/Rle.lean`; with the FrameInfo guard its one allocation, the frame
  buffer, is bounded. -/
namespace Rle

theorem writeStridedChk_size (buf : Array Byte) (pos stride : Nat) (bs : List Byte) (buf' : Array Byte)
    (h : writeStridedChk buf pos stride bs = some buf') : buf'.size = buf.size := by
  induction bs generalizing buf pos with
  | nil => simp [writeStridedChk] at h; subst h; rfl
  | cons b bs ih =>
    unfold writeStridedChk at h
    split at h
    · have := ih _ _ h; simpa using this
    · cases h

/-- the pre-check of rle.go (`pos + (length-1)*sampleOffset < len(buffer)`) makes every store of
    the run in range — for every stride, including 0 -/
theorem writeStridedChk_ok (buf : Array Byte) (pos stride : Nat) (bs : List Byte)
    (h : bs = [] ∨ pos + (bs.length - 1) * stride < buf.size) :
    writeStridedChk buf pos stride bs = some (writeStrided buf pos stride bs) := by
  induction bs generalizing buf pos with
  | nil => rfl
  | cons b bs ih =>
    have hb : pos + bs.length * stride < buf.size := by
      rcases h with h | h
      · cases h
      · simpa using h
    have hpos : pos < buf.size := Nat.lt_of_le_of_lt (Nat.le_add_right _ _) hb
    unfold writeStridedChk writeStrided
    rw [dif_pos hpos]
    have hset : buf.setIfInBounds pos b = buf.set pos b hpos := by
      simp [Array.setIfInBounds, hpos]
    rw [hset]
    apply ih
    cases bs with
    | nil => exact Or.inl rfl
    | cons c cs =>
      right
      simp only [List.length_cons, Nat.add_sub_cancel, Array.size_set] at hb ⊢
      have : pos + stride + cs.length * stride = pos + (cs.length + 1) * stride := by
        rw [Nat.add_mul]; omega
      omega

def liftErr : Except DecErr (Array Byte) → Except ChkErr (Array Byte)
  | .ok b => .ok b
  | .error e => .error (.err e)

/-- The two loops answer alike guard by guard; at the two stores the run's pre-check is the hypothesis of
    `writeStridedChk_ok`. -/
theorem decodeLoopChk_eq (stride : Nat) : ∀ (buf : Array Byte) (pos : Nat) (rem : List Byte),
    decodeLoopChk stride buf pos rem = liftErr (decodeLoop stride buf pos rem)
  | buf, pos, [] => by rw [decodeLoopChk, decodeLoop]; rfl
  | buf, pos, c :: rest => by
    have tail : ∀ (b : Array Byte) (p : Nat) (r : List Byte), r.length ≤ rest.length →
        (if r.length ≤ 1 then .ok b else decodeLoopChk stride b p r) =
          liftErr (if r.length ≤ 1 then .ok b else decodeLoop stride b p r) := by
      intro b p r h
      split
      · rfl
      · exact decodeLoopChk_eq stride b p r
    rw [decodeLoopChk, decodeLoop]
    by_cases h1 : pos ≥ buf.size
    · rw [if_pos h1, if_pos h1]; rfl
    rw [if_neg h1, if_neg h1]
    by_cases h2 : c < 128
    · rw [if_pos h2, if_pos h2]
      simp only []
      by_cases h3 : rest.length < c + 1
      · rw [if_pos h3, if_pos h3]; rfl
      rw [if_neg h3, if_neg h3]
      by_cases h4 : pos + (c + 1 - 1) * stride ≥ buf.size
      · rw [if_pos h4, if_pos h4]; rfl
      have hlen : (rest.take (c + 1)).length = c + 1 := by rw [List.length_take]; omega
      rw [if_neg h4, if_neg h4, writeStridedChk_ok _ _ _ _ (Or.inr (by rw [hlen]; omega))]
      exact tail _ _ _ (by rw [List.length_drop]; omega)
    · rw [if_neg h2, if_neg h2]
      by_cases h3 : c ≥ 129
      · rw [if_pos h3, if_pos h3]
        simp only []
        by_cases h4 : pos + (257 - c - 1) * stride ≥ buf.size
        · rw [if_pos h4, if_pos h4]; rfl
        rw [if_neg h4, if_neg h4]
        cases rest with
        | nil => rfl
        | cons b rest' =>
          simp only []
          rw [writeStridedChk_ok _ _ _ _ (Or.inr (by rw [List.length_replicate]; omega))]
          exact tail _ _ _ (by rw [List.length_cons]; omega)
      · rw [if_neg h3, if_neg h3]
        exact tail _ _ _ (Nat.le_refl _)
termination_by _ _ rem => rem.length
decreasing_by rw [List.length_cons]; omega

theorem decodeSegmentsChk_eq (i : Info) (data : List Byte) (n : Nat) (offs : List Nat)
    (k s : Nat) (buf : Array Byte) :
    decodeSegmentsChk i data n offs k s buf = liftErr (decodeSegments i data n offs k s buf) := by
  induction k generalizing s buf with
  | zero => simp [decodeSegmentsChk, decodeSegments, liftErr]
  | succ k ih =>
    unfold decodeSegmentsChk decodeSegments
    rw [decodeLoopChk_eq]
    cases decodeLoop i.segStride buf (i.segStart s) (segmentSlice data n offs s) with
    | error e => simp [liftErr]
    | ok b => simp only [liftErr]; exact ih _ _

/-- the FrameInfo guard of commit 9650374 -/
def Info.Rejected (i : Info) : Prop := i.bitsAllocated = 0 ∨ i.numberOfSegments < 1 ∨ i.numberOfSegments > 15

instance (i : Info) : Decidable i.Rejected := by unfold Info.Rejected; infer_instance

def OutcomeC.plain {α} : OutcomeC α → Outcome α
  | .ok a => .ok a
  | .err => .err
  | .panic _ => .panic

/-- Either `make` panics before anything is allocated; or there is no panic at all (the store check never fires:
    `decodeLoopChk_eq`), the outcome is that of the C01 model, and the one allocation is the frame. -/
theorem decodeFrameC_cases (i : Info) (data : List Byte) :
    (¬ i.Rejected ∧ i.frameSize > maxAlloc ∧ decodeFrameC i data = (.panic .makeslice, [])) ∨
    ((∀ s, (decodeFrameC i data).1 ≠ .panic s) ∧ (decodeFrameC i data).1.plain = decodeFrame i data ∧
      ((decodeFrameC i data).2 = [] ∨ ¬ i.Rejected ∧ (decodeFrameC i data).2 = [i.frameSize])) := by
  unfold decodeFrameC decodeFrame Info.Rejected
  by_cases h0 : data.length = 0
  · rw [if_pos h0, if_pos h0]
    exact .inr ⟨fun _ => nofun, rfl, .inl rfl⟩
  rw [if_neg h0, if_neg h0]
  by_cases hg : i.bitsAllocated = 0 ∨ i.numberOfSegments < 1 ∨ i.numberOfSegments > 15
  · rw [if_pos hg, if_pos hg]
    exact .inr ⟨fun _ => nofun, rfl, .inl rfl⟩
  rw [if_neg hg, if_neg hg]
  by_cases hm : i.frameSize > maxAlloc
  · rw [if_pos hm]
    exact .inl ⟨hg, hm, rfl⟩
  rw [if_neg hm]
  refine .inr ?_
  unfold decodeFrameBody
  cases parseHeader data with
  | none => exact ⟨fun _ => nofun, rfl, .inr ⟨hg, rfl⟩⟩
  | some p =>
    obtain ⟨n, offs⟩ := p
    simp only
    by_cases hn : n ≠ i.numberOfSegments
    · rw [if_pos hn, if_pos hn]
      exact ⟨fun _ => nofun, rfl, .inr ⟨hg, rfl⟩⟩
    · rw [if_neg hn, if_neg hn, decodeSegmentsChk_eq]
      cases decodeSegments i data n offs n 0 (Array.replicate i.frameSize 0) with
      | error e => exact ⟨fun _ => nofun, rfl, .inr ⟨hg, rfl⟩⟩
      | ok b => exact ⟨fun _ => nofun, rfl, .inr ⟨hg, rfl⟩⟩

theorem bytesAllocated_le (i : Info) : i.bytesAllocated ≤ 8192 := by
  unfold Info.bytesAllocated; omega

theorem bytesAllocated_pos (i : Info) : 1 ≤ i.bytesAllocated := by
  unfold Info.bytesAllocated; omega

theorem nativeLen_eq (i : Info) : i.nativeLen = i.numberOfSegments * (i.width * i.height) := by
  unfold Info.nativeLen Info.numberOfSegments
  simp only [Nat.mul_assoc]

theorem nativeLen_eq_samples (i : Info) : i.nativeLen = i.bytesAllocated * i.samples := by
  unfold Info.nativeLen Info.samples
  simp only [Nat.mul_assoc, Nat.mul_comm, Nat.mul_left_comm]

theorem frameSize_le_native (i : Info) : i.frameSize ≤ i.nativeLen + 1 := by
  unfold Info.frameSize; simp only; split <;> omega

/-- with the guard, the frame buffer is at most 15 bytes per pixel position (+1 pad): for uint16
    extents that is ≤ 15·65535² + 1 = 64 422 543 376 bytes, far below what `make` refuses -/
theorem frameSize_le_of_not_rejected (i : Info) (hg : ¬ i.Rejected) (hu : i.U16) :
    i.frameSize ≤ 15 * (65535 * 65535) + 1 := by
  unfold Info.Rejected at hg
  have h1 := frameSize_le_native i
  rw [nativeLen_eq] at h1
  have hn : i.numberOfSegments ≤ 15 := by omega
  have hw : i.width ≤ 65535 := by have := hu.1; omega
  have hh : i.height ≤ 65535 := by have := hu.2.1; omega
  have h2 : i.width * i.height ≤ 65535 * 65535 := Nat.mul_le_mul hw hh
  have h3 : i.numberOfSegments * (i.width * i.height) ≤ 15 * (65535 * 65535) := Nat.mul_le_mul hn h2
  omega

theorem frameSize_le_maxAlloc (i : Info) (hg : ¬ i.Rejected) (hu : i.U16) : i.frameSize ≤ maxAlloc := by
  have := frameSize_le_of_not_rejected i hg hu
  unfold maxAlloc
  omega

/-- under the guard (`¬ Rejected`, not `Info.Accepted`) at most 15 bytes per pixel position, and SamplesPerPixel ≥ 1 -/
theorem frameSize_le_samples (i : Info) (hg : ¬ i.Rejected) : i.frameSize ≤ 15 * i.samples + 1 := by
  unfold Info.Rejected at hg
  have h1 := frameSize_le_native i
  rw [nativeLen_eq_samples] at h1
  have hb : i.bytesAllocated ≤ 15 := by
    have hp : 1 ≤ i.spp := by
      rcases Nat.eq_zero_or_pos i.spp with h | h
      · exfalso; unfold Info.numberOfSegments at hg; rw [h] at hg; omega
      · exact h
    have : i.bytesAllocated * 1 ≤ i.bytesAllocated * i.spp := Nat.mul_le_mul_left _ hp
    unfold Info.numberOfSegments at hg
    omega
  have := Nat.mul_le_mul_right i.samples hb
  omega

end Rle
