import GdcVerif.Lemmas.Dwt53Levels
/-!
  int32 reading of the 2D / multilevel 5/3 transform: a magnitude bound that grows by `M ↦ 4M+3` per level
  (two stages of `M ↦ 2M+1`, columns then rows) is an invariant of the level loop under which no int32
  operation wraps: in any arithmetic that is exact on the int32 range (`Exact32`: the integers, and
  `Go.wrap32` = the Go code) the transform round-trips and its coefficients obey the bound.
-/
namespace Dwt53

/-- magnitude bound after `L` levels starting from `M`: `M ↦ 4M+3` per level (`= 4^L·(M+1) - 1`) -/
def bndL : Nat → Int → Int
  | 0, M => M
  | L + 1, M => bndL L (4 * M + 3)

theorem le_bndL : ∀ (L : Nat) (M : Int), 0 ≤ M → M ≤ bndL L M := by
  intro L
  induction L with
  | zero => intro M _; exact Int.le_refl _
  | succ L ih => intro M h; have := ih (4 * M + 3) (by omega); simp only [bndL]; omega

theorem lineOk_bnd {wr : Int → Int} (hwr : Exact32 wr) {B B' : Int} (hB0 : 0 ≤ B) (hB : 2 * B + 1 ≤ B')
    (hB' : B' ≤ 536870911) :
    LineOk (forward53_1d' wr) (inverse53_1d' wr) (fun a => -B ≤ a ∧ a ≤ B) (fun a => -B' ≤ a ∧ a ≤ B') := by
  refine ⟨fun a h => by omega, fun {len} v even h hv => ?_⟩
  have hf := forward53_1d_exact hwr v even h hB0 (by omega) fun k hk => by
    rw [get_eq_toFn]
    exact hv k hk
  rw [hf.1, inverse53_1d_exact hwr _ even h (by omega) hf.2]
  exact ⟨inverse53_forward53_1d' v even h, fun k _ => by have := hf.2 k; omega⟩

theorem level_bnd {wr : Int → Int} (hwr : Exact32 wr) {n : Nat} (data : Vector Int n)
    (width height stride : Nat) (evenRow evenCol : Bool) (hws : width ≤ stride) {M : Int} (hM0 : 0 ≤ M)
    (hM : 4 * M + 3 ≤ 536870911) (hd : Bnd M (toFn data))
    (hok : (width ≤ 1 ∧ height ≤ 1) ∨ fits n width height stride) :
    ∃ d, forward53_2d wr data width height stride evenRow evenCol = some d ∧ Bnd (4 * M + 3) (toFn d) ∧
      inverse53_2d wr d width height stride evenRow evenCol = some data :=
  level_roundtrip wr (lineOk_bnd hwr hM0 (Int.le_refl _) (by omega))
    (lineOk_bnd hwr (B := 2 * M + 1) (by omega) (by omega) hM) data width height stride evenRow evenCol hws hd hok

/-- the level loop.  With `L` levels to go the data are within some `B` that `L` levels take to at most `bndL levels M`
(`bndL L B`, which also bounds `B`, so the next level has room); at the end, `L = 0`, that is the bound claimed. -/
theorem levels_bnd {wr : Int → Int} (hwr : Exact32 wr) {n : Nat} (stride levels : Nat) (win : Window)
    (data : Vector Int n) {M : Int} (hok : WinOk n stride win) (hM0 : 0 ≤ M) (hML : bndL levels M ≤ 536870911)
    (hd : Bnd M (toFn data)) :
    ∃ dF, forwardLevels wr stride levels data win = some dF ∧ Bnd (bndL levels M) (toFn dF) ∧
      inverseLevels wr stride (windows levels win) dF = some data := by
  obtain ⟨dF, h1, ⟨B, -, hB, h2⟩, h3⟩ := levels_roundtrip wr stride
    (fun L d => ∃ B, 0 ≤ B ∧ bndL L B ≤ bndL levels M ∧ Bnd B (toFn d))
    (fun L d ⟨B, h0, hB, hd⟩ => ⟨B, h0, Int.le_trans (le_bndL L B h0) hB, hd⟩)
    (fun L d width height eR eC hws hf ⟨B, h0, hB, hd⟩ => by
      have hB' : bndL L (4 * B + 3) ≤ bndL levels M := hB
      have := le_bndL L (4 * B + 3) (by omega)
      obtain ⟨d', e1, e2, e3⟩ := level_bnd hwr d width height stride eR eC hws h0 (by omega) hd (Or.inr hf)
      exact ⟨d', e1, ⟨4 * B + 3, by omega, hB', e2⟩, e3⟩)
    levels win data hok ⟨M, hM0, Int.le_refl _, hd⟩
  have hB' : B ≤ bndL levels M := hB
  exact ⟨dF, h1, fun p => by have := h2 p; omega, h3⟩

/-- the transform in Go's int32 arithmetic, for `|data| ≤ M` with `bndL levels M ≤ 2^29 - 1` (i.e. `4^levels·(M+1) ≤ 2^29`) -/
theorem inverse53_forward53_multilevel_int32 {n : Nat} (data : Vector Int n) (width height levels : Nat) (x0 y0 : Int)
    (hn : height * width ≤ n) {M : Int} (hM0 : 0 ≤ M) (hML : bndL levels M ≤ 536870911) (hd : Bnd M (toFn data)) :
    (forwardMultilevel Go.wrap32 data width height levels x0 y0).bind
        (fun d => inverseMultilevel Go.wrap32 d width height levels x0 y0) = some data := by
  obtain ⟨dF, h1, -, h2⟩ := levels_bnd exact32_wrap32 width levels (width, height, x0, y0) data
    (winOk_image width height x0 y0 hn) hM0 hML hd
  unfold forwardMultilevel inverseMultilevel
  rw [h1, Option.bind_some, h2]

/-- 16-bit signed samples survive 6 levels, 12-bit ones 8 levels, 17-bit signed ones (`|x| ≤ 65535`) 5 levels,
without int32 overflow -/
theorem bndL_examples : bndL 6 32768 ≤ 536870911 ∧ bndL 8 2048 ≤ 536870911 ∧ bndL 5 65535 ≤ 536870911 := by decide

end Dwt53
