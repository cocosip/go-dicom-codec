import GdcVerif.Model.Htj2kBlock
/-!
  One sample: the sign-magnitude word at the two ends of the cleanup pass, the exponent `sampleEQ` the encoder
  derives from it, the range of U_q, and the sample through MagSgn (`sample_rebuild`, `emb_case`).
-/
namespace Htj2k

theorem mag_shift_lt (kmax : Nat) {n : Nat} (hk : kmax ≤ n) (m : Nat) (hm : m < 2 ^ kmax) : m * 2 ^ (n - kmax) < 2 ^ n := by
  have := Nat.mul_lt_mul_of_pos_right hm (Nat.two_pow_pos (n - kmax))
  rwa [← Nat.pow_add, Nat.add_sub_cancel' hk] at this

/-- the sign bit of a word; a `g ≤ 1` in the lemmas about words -/
def sgnBit (v : Int) : Nat := if v < 0 then 1 else 0

theorem sgnBit_le (v : Int) : sgnBit v ≤ 1 := by unfold sgnBit; split <;> omega

theorem sgnBit_natAbs (v : Int) : (if sgnBit v = 1 then -(v.natAbs : Int) else v.natAbs) = v := by
  unfold sgnBit; by_cases h : v < 0 <;> simp [h] <;> omega

theorem toSignMag_eq (kmax : Nat) (hk : kmax ≤ 31) (v : Int) (hv : v.natAbs < 2 ^ kmax) :
    toSignMag kmax v = sgnBit v * 2 ^ 31 + v.natAbs * 2 ^ (31 - kmax) := by
  have hlt := mag_shift_lt kmax hk _ hv
  unfold toSignMag sgnBit
  simp only [Nat.mod_eq_of_lt (Nat.lt_trans hlt (by decide : 2 ^ 31 < 2 ^ 32))]
  split
  · have := Nat.two_pow_add_eq_or_of_lt hlt 1
    rw [Nat.mul_one] at this
    rw [Nat.one_mul]
    exact this.symm
  · rw [Nat.zero_or, Nat.zero_mul, Nat.zero_add]

theorem fromSignMag_eq (kmax X : Nat) (hX : X < 2 ^ 31) (g : Nat) (hg : g ≤ 1) :
    fromSignMag kmax (g * 2 ^ 31 + X) =
      if g = 1 then -((X / 2 ^ (31 - kmax) : Nat) : Int) else (X / 2 ^ (31 - kmax) : Nat) := by
  unfold fromSignMag
  obtain rfl | rfl : g = 0 ∨ g = 1 := by omega
  · simp only [Nat.zero_mul, Nat.zero_add, Nat.mod_eq_of_lt hX, Nat.div_eq_of_lt hX]
  · simp only [Nat.one_mul, if_true, Nat.add_mod_left, Nat.mod_eq_of_lt hX, Nat.add_div_left _ (Nat.two_pow_pos 31),
      Nat.div_eq_of_lt hX]

theorem signMag_signBit (kmax : Nat) (hk : kmax ≤ 31) (v : Int) (hv : v.natAbs < 2 ^ kmax) :
    toSignMag kmax v / 2 ^ 31 % 2 = sgnBit v := by
  have hlt := mag_shift_lt kmax hk _ hv
  rw [toSignMag_eq kmax hk v hv, sgnBit]
  split
  · rw [Nat.one_mul, Nat.add_div_left _ (Nat.two_pow_pos 31), Nat.div_eq_of_lt hlt]
  · rw [Nat.zero_mul, Nat.zero_add, Nat.div_eq_of_lt hlt]

theorem bitLen_le_iff (x k : Nat) : bitLen x ≤ k ↔ x < 2 ^ k := by
  unfold bitLen
  by_cases hx : x = 0
  · simp [hx, Nat.two_pow_pos]
  · rw [if_neg hx, ← Nat.log2_lt hx]
    omega

theorem bitLen_eq (x k : Nat) (h1 : 2 ^ k ≤ x) (h2 : x < 2 ^ (k + 1)) : bitLen x = k + 1 := by
  have h3 := (bitLen_le_iff x (k + 1)).mpr h2
  have h4 := mt (bitLen_le_iff x k).mp (Nat.not_lt.mpr h1)
  omega

theorem bitLen_ge (x k : Nat) (h : bitLen x = k + 1) : 2 ^ k ≤ x :=
  Nat.not_lt.mp (mt (bitLen_le_iff x k).mpr (by omega))

/-- the cleanup encoder sees twice the magnitude: `((t+t) >> p) &^ 1 = 2·|v|` for a word built with the same Kmax -/
theorem sampleVal_signMag (kmax : Nat) (hk : 1 ≤ kmax ∧ kmax ≤ 30) (v : Int) (hv : v.natAbs < 2 ^ kmax) :
    sampleVal kmax (toSignMag kmax v) = 2 * v.natAbs := by
  have hlt := mag_shift_lt kmax (n := 31) (by omega) _ hv
  have h32 : (2 : Nat) ^ 32 = 2 * 2 ^ 31 := by decide
  have key : 2 * toSignMag kmax v % 2 ^ 32 = 2 * v.natAbs * 2 ^ (31 - kmax) := by
    rw [toSignMag_eq kmax (by omega) v hv, Nat.mul_assoc, sgnBit]
    split <;> omega
  rw [sampleVal, key, Nat.mul_div_cancel _ (Nat.two_pow_pos _)]
  omega

theorem sampleEQ_signMag (kmax : Nat) (hk : 1 ≤ kmax ∧ kmax ≤ 30) (v : Int) (hv : v.natAbs < 2 ^ kmax) :
    sampleEQ kmax (toSignMag kmax v) = if v = 0 then 0 else bitLen (2 * v.natAbs - 1) := by
  rw [sampleEQ, sampleVal_signMag kmax hk v hv]
  by_cases h : v = 0
  · simp [h]
  · rw [if_neg (by omega), if_neg h]

theorem sampleEQ_range (kmax : Nat) (hk : 1 ≤ kmax ∧ kmax ≤ 30) (v : Int) (hv : v.natAbs < 2 ^ kmax) :
    sampleEQ kmax (toSignMag kmax v) ≤ kmax + 1 ∧ (v ≠ 0 → 1 ≤ sampleEQ kmax (toSignMag kmax v)) ∧
    (v = 0 → sampleEQ kmax (toSignMag kmax v) = 0) := by
  rw [sampleEQ_signMag kmax hk v hv]
  refine ⟨?_, fun h => ?_, fun h => if_pos h⟩
  · split
    · omega
    · exact (bitLen_le_iff _ _).mpr (by rw [Nat.pow_succ]; omega)
  · rw [if_neg h, bitLen, if_neg (by omega)]
    omega

theorem sampleEQ_onto (kmax e : Nat) (hk : 2 ≤ kmax ∧ kmax ≤ 30) (he : 1 ≤ e ∧ e ≤ kmax + 1) :
    ∃ v : Int, v.natAbs < 2 ^ kmax ∧ sampleEQ kmax (toSignMag kmax v) = e := by
  have h4 : 2 ^ 2 ≤ 2 ^ kmax := Nat.pow_le_pow_right (by omega) hk.1
  -- `|v| = 1` has exponent 1, and `|v| = 2^j + 1` has `2|v| - 1 = 2^(j+1) + 1`, exponent `j + 2`
  by_cases h1 : e = 1
  · have hv : (1 : Int).natAbs < 2 ^ kmax := by simp at h4 ⊢; omega
    refine ⟨1, hv, ?_⟩
    rw [sampleEQ_signMag kmax ⟨by omega, hk.2⟩ 1 hv, h1]
    decide
  · obtain ⟨j, rfl⟩ : ∃ j, e = j + 2 := ⟨e - 2, by omega⟩
    have hp1 : 2 ^ (j + 1) ≤ 2 ^ kmax := Nat.pow_le_pow_right (by omega) (by omega)
    have hp2 : 2 ^ (j + 1) = 2 * 2 ^ j := by rw [Nat.pow_succ]; omega
    have hjpos : 0 < 2 ^ j := Nat.two_pow_pos j
    have hlt : ((2 ^ j + 1 : Nat) : Int).natAbs < 2 ^ kmax := by
      simp only [Int.natAbs_natCast]
      simp at h4
      omega
    refine ⟨((2 ^ j + 1 : Nat) : Int), hlt, ?_⟩
    rw [sampleEQ_signMag kmax ⟨by omega, hk.2⟩ _ hlt, if_neg (by omega), Int.natAbs_natCast]
    apply bitLen_eq
    · omega
    · rw [Nat.pow_succ, hp2]; omega

theorem uqAccepted_iff (uq : Int) (m : Nat) : uqAccepted uq m = true ↔ uq ≤ (m : Int) + 2 := by
  simp only [uqAccepted, Bool.not_eq_true', decide_eq_false_iff_not]
  omega

theorem uqLater_range (kmax eQMax e0 e1 : Nat) (two : Bool) (hq : eQMax ≤ kmax + 1) (h0 : e0 ≤ kmax + 1) (h1 : e1 ≤ kmax + 1) :
    1 ≤ uqLater eQMax two e0 e1 ∧ uqLater eQMax two e0 e1 ≤ kmax + 1 := by
  unfold uqLater
  cases two <;> simp <;> omega

theorem prepSample_signMag (kmax : Nat) (hk : 1 ≤ kmax ∧ kmax ≤ 30) (v : Int) (hv : v.natAbs < 2 ^ kmax) :
    prepSample kmax (toSignMag kmax v) =
      if v = 0 then (false, 0, 0)
      else (true, bitLen (2 * v.natAbs - 1), 2 * v.natAbs - 2 + sgnBit v) := by
  unfold prepSample
  rw [sampleVal_signMag kmax hk v hv]
  by_cases h0 : v = 0
  · subst h0; simp
  · have hn : v.natAbs ≠ 0 := by omega
    have h2 : 2 * v.natAbs ≠ 0 := by omega
    simp only [h2, h0, if_false]
    rw [signMag_signBit kmax (by omega) v hv]

theorem prepSample_exponent (kmax : Nat) (hk : 1 ≤ kmax ∧ kmax ≤ 30) (v : Int) (hv : v.natAbs < 2 ^ kmax) :
    ((prepSample kmax (toSignMag kmax v)).1 = false → (prepSample kmax (toSignMag kmax v)).2.1 = 0) ∧
    (prepSample kmax (toSignMag kmax v)).2.1 ≤ kmax + 1 := by
  rw [prepSample_signMag kmax hk v hv]
  split
  · simp
  · exact ⟨fun h => Bool.noConfusion h, (bitLen_le_iff _ _).mpr (by rw [Nat.pow_succ]; omega)⟩

/-- MagSgn carries the `mn` low bits of `s = 2|v| - 2 + sign`; with the bit `e1` above them (`s < 2^(mn+1)`) the
    decoder's `v_n` is `2|v| - 1`, and bit 0 is the sign -/
theorem magsgn_low_bits (m g mn e1 : Nat) (hm : 1 ≤ m) (hg : g ≤ 1) (hmn : 1 ≤ mn)
    (he1 : (2 * m - 2 + g) / 2 ^ mn = e1) :
    ((2 * m - 2 + g) % 2 ^ mn % 2 ^ mn + e1 * 2 ^ mn) / 2 * 2 + 1 = 2 * m - 1 ∧ (2 * m - 2 + g) % 2 ^ mn % 2 = g := by
  have h2 : 2 ∣ 2 ^ mn := by
    rw [show mn = (mn - 1) + 1 by omega, Nat.pow_succ]; exact Nat.dvd_mul_left 2 _
  rw [Nat.mod_mod, ← he1, Nat.mod_add_div', Nat.mod_mod_of_dvd _ h2]
  omega

/-- the decoder's word carries a half-LSB reconstruction bit below the magnitude; the final shift drops it -/
theorem fromSignMag_half (kmax : Nat) (hk : kmax ≤ 30) (m : Nat) (hm : m < 2 ^ kmax) (g : Nat) (hg : g ≤ 1) :
    fromSignMag kmax (g * 2 ^ 31 + (2 * m + 1) * 2 ^ (30 - kmax) % 2 ^ 32) = if g = 1 then -(m : Int) else m := by
  have hpow : 2 ^ (31 - kmax) = 2 ^ (30 - kmax) * 2 := by
    rw [show 31 - kmax = (30 - kmax) + 1 by omega, Nat.pow_succ]
  have hq : 0 < 2 ^ (30 - kmax) := Nat.two_pow_pos _
  have hprod : (2 * m + 1) * 2 ^ (30 - kmax) = 2 ^ (30 - kmax) + m * 2 ^ (31 - kmax) := by
    rw [hpow, Nat.add_mul, Nat.one_mul, Nat.add_comm, Nat.mul_comm 2 m, Nat.mul_assoc, Nat.mul_comm 2]
  have hle := mag_shift_lt kmax (n := 31) (by omega) m hm
  have hle' : (m + 1) * 2 ^ (31 - kmax) ≤ 2 ^ 31 := by
    have := Nat.mul_le_mul_right (2 ^ (31 - kmax)) (show m + 1 ≤ 2 ^ kmax from hm)
    rwa [← Nat.pow_add, Nat.add_sub_cancel' (by omega : kmax ≤ 31)] at this
  rw [Nat.add_mul, Nat.one_mul] at hle'
  have hX : 2 ^ (30 - kmax) + m * 2 ^ (31 - kmax) < 2 ^ 31 := by omega
  rw [hprod, Nat.mod_eq_of_lt (Nat.lt_trans hX (by decide)), fromSignMag_eq kmax _ hX g hg,
    Nat.add_mul_div_right _ _ (Nat.two_pow_pos _), Nat.div_eq_of_lt (by omega), Nat.zero_add]

/-- the word `decodeOJPHSampleMS` rebuilds from the `mn` MagSgn bits of `s = 2|v| - 2 + sign`, given that what `s` has
    above them is the bit `e1`: it carries `v` -/
theorem sample_rebuild (kmax : Nat) (hk : 1 ≤ kmax ∧ kmax ≤ 30) (v : Int) (hv : v.natAbs < 2 ^ kmax) (hv0 : v ≠ 0)
    (mn e1 : Nat) (hmn : 1 ≤ mn) (he1 : (2 * v.natAbs - 2 + sgnBit v) / 2 ^ mn = e1) :
    let s := 2 * v.natAbs - 2 + sgnBit v
    let msVal := s % 2 ^ mn
    let vn := (msVal % 2 ^ mn + e1 * 2 ^ mn) / 2 * 2 + 1
    vn = 2 * v.natAbs - 1 ∧
    fromSignMag kmax (msVal % 2 * 2 ^ 31 + (vn + 2) * 2 ^ (30 - kmax) % 2 ^ 32) = v := by
  have hsign := sgnBit_natAbs v
  have hg := sgnBit_le v
  have hn : 1 ≤ v.natAbs := by omega
  generalize sgnBit v = g at *
  generalize v.natAbs = m at *
  obtain ⟨hvn, hbit0⟩ := magsgn_low_bits m g mn e1 hn hg hmn he1
  simp only [hvn, hbit0, true_and]
  rw [show 2 * m - 1 + 2 = 2 * m + 1 by omega, fromSignMag_half kmax hk.2 m hv g hg]
  exact hsign

/-- the exponent-max-bound bits of one significant sample: what `s = 2|v| - 2 + sign` has above its `U_q - e_k`
    MagSgn bits is e_1 -/
theorem emb_case (v : Int) (hv0 : v ≠ 0) (uq ekb e1b : Nat) (hek : ekb ≤ 1)
    (h1 : bitLen (2 * v.natAbs - 1) ≤ uq) (huq : 1 ≤ uq)
    (h2 : ekb = 1 → 2 ≤ uq ∧ (e1b = 1 ↔ bitLen (2 * v.natAbs - 1) = uq) ∧ e1b ≤ 1)
    (h3 : ekb = 0 → e1b = 0) :
    1 ≤ uq - ekb ∧ ∀ g ≤ 1, (2 * v.natAbs - 2 + g) / 2 ^ (uq - ekb) = e1b := by
  have hlt : 2 * v.natAbs - 1 < 2 ^ uq := (bitLen_le_iff _ _).mp h1
  have hn : 1 ≤ v.natAbs := Int.natAbs_pos.mpr hv0
  generalize v.natAbs = m at *
  by_cases hz : ekb = 0
  · subst hz
    refine ⟨huq, fun g hg => ?_⟩
    rw [h3 rfl, Nat.sub_zero]
    exact Nat.div_eq_of_lt (by omega)
  · have he1 : ekb = 1 := by omega
    subst he1
    obtain ⟨hu2, hiff, hle⟩ := h2 rfl
    obtain ⟨j, rfl⟩ : ∃ j, uq = j + 2 := ⟨uq - 2, by omega⟩
    refine ⟨by omega, fun g hg => ?_⟩
    rw [show j + 2 - 1 = j + 1 by omega]
    have hpe : 2 ^ (j + 2) = 2 * 2 ^ (j + 1) := by rw [Nat.pow_succ]; omega
    by_cases hb : e1b = 1
    · -- the exponent is `U_q`: `2|v| - 1 ≥ 2^(U_q - 1)`, the one odd and the other even
      have hge := bitLen_ge _ (j + 1) (hiff.mp hb)
      have hev : 2 ^ (j + 1) = 2 * 2 ^ j := by rw [Nat.pow_succ]; omega
      rw [hb]
      exact Nat.div_eq_of_lt_le (by omega) (by omega)
    · have hne : bitLen (2 * m - 1) ≠ j + 2 := fun h => hb (hiff.mpr h)
      have : 2 * m - 1 < 2 ^ (j + 1) := (bitLen_le_iff _ _).mp (by omega)
      rw [show e1b = 0 by omega]
      exact Nat.div_eq_of_lt (by omega)

end Htj2k
