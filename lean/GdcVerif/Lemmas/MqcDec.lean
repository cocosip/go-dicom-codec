import GdcVerif.Lemmas.Mqc
/-!
  MQ decoder (`Model/Mqc.lean`, `mqc/mqc.go`): robustness invariants that hold for EVERY byte string —
  the decoder never panics, never reads outside `data` (the bytes plus the two sentinel bytes),
  always terminates its renormalisation loop, and keeps `0x8000 ≤ a < 0x10000`, `0 ≤ ct ≤ 8`, `c < 2^32`.
  Also how `Decode` continues in each of the encoder's three cases (`decode_eq`, `decodeCore_cases`), for the round
  trip and for `T1ZeroBlock`.
-/
namespace Mqc
open Gen.J2kMqc

/-- decoder invariant (also valid in the middle of `renormd`) -/
structure DecOk (d : Dec) : Prop where
  bpin : d.bp < d.data.size
  apos : 0 < d.a
  ahi : d.a < 65536
  ctlo : 0 ≤ d.ct
  cthi : d.ct ≤ 8
  chi : d.c < 4294967296
  ctx : CtxOk d.ctx

theorem u32_lt (x : Nat) : u32 x < 4294967296 := by unfold u32; omega
theorem sub32_lt (x y : Nat) : sub32 x y < 4294967296 := by unfold sub32; omega

/-- `DecOk` with the fields as variables: the side conditions are then about them and not about projections of a
record, and a record update of a `DecOk` state is an instance -/
theorem DecOk.of {data : Array Nat} {bp dataLen a c : Nat} {ct : Int} {eos : Nat} {ctx : Array Nat} (hbp : bp < data.size)
    (ha0 : 0 < a) (ha1 : a < 65536) (hct0 : 0 ≤ ct) (hct1 : ct ≤ 8) (hc : c < 4294967296) (hctx : CtxOk ctx) :
    DecOk ⟨data, bp, dataLen, a, c, ct, eos, ctx⟩ := ⟨hbp, ha0, ha1, hct0, hct1, hc, hctx⟩

theorem bytein_spec (d : Dec) (h : DecOk d) :
    ∃ d', bytein d = some d' ∧ DecOk d' ∧ d'.a = d.a ∧ d'.ctx = d.ctx ∧ d'.data = d.data ∧ (d'.ct = 7 ∨ d'.ct = 8) := by
  -- past the data and at a marker the decoder feeds 1-bits without moving
  have stay : DecOk { d with c := u32 (d.c + 0xFF00), ct := 8, eos := d.eos + 1 } :=
    .of h.bpin h.apos h.ahi (by decide) (by decide) (u32_lt _) h.ctx
  unfold bytein
  by_cases hg : d.bp + 1 ≥ d.data.size
  · rw [if_pos hg]
    exact ⟨_, rfl, stay, rfl, rfl, rfl, Or.inr rfl⟩
  · rw [if_neg hg]
    have h1 : d.bp + 1 < d.data.size := by omega
    rw [rd_some d.data (d.bp + 1) h1, rd_some d.data d.bp h.bpin]
    simp only []
    by_cases hff : rd d.data d.bp = 255
    · rw [if_pos hff]
      by_cases hn : rd d.data (d.bp + 1) > 143
      · rw [if_pos hn]
        exact ⟨_, rfl, stay, rfl, rfl, rfl, Or.inr rfl⟩
      · rw [if_neg hn]
        exact ⟨_, rfl, .of h1 h.apos h.ahi (by decide) (by decide) (u32_lt _) h.ctx, rfl, rfl, rfl, Or.inl rfl⟩
    · rw [if_neg hff]
      exact ⟨_, rfl, .of h1 h.apos h.ahi (by decide) (by decide) (u32_lt _) h.ctx, rfl, rfl, rfl, Or.inr rfl⟩

theorem renormdLoop_done (fuel : Nat) (d : Dec) (h : ¬ d.a < 0x8000) : renormdLoop fuel d = some d := by
  cases fuel <;> rw [renormdLoop, if_neg h]

theorem renormdLoop_spec : ∀ (fuel : Nat) (d : Dec), DecOk d → 0x8000 ≤ d.a * 2 ^ fuel →
    ∃ d', renormdLoop fuel d = some d' ∧ DecOk d' ∧ 0x8000 ≤ d'.a ∧ d'.ctx = d.ctx ∧ d'.data = d.data := by
  intro fuel
  induction fuel with
  | zero => intro d h ha; exact ⟨d, renormdLoop_done 0 d (by omega), h, by omega, rfl, rfl⟩
  | succ fuel ih =>
    intro d h ha
    by_cases hlt : d.a < 0x8000
    · have hap := h.apos; have hcl := h.ctlo
      rw [renormdLoop, if_pos hlt]
      obtain ⟨d1, hd1, hok1, ha1, hctx1, hdata1, hct1⟩ : ∃ d1, (if d.ct = 0 then bytein d else some d) = some d1 ∧
          DecOk d1 ∧ d1.a = d.a ∧ d1.ctx = d.ctx ∧ d1.data = d.data ∧ 1 ≤ d1.ct := by
        by_cases hz : d.ct = 0
        · rw [if_pos hz]
          obtain ⟨d', hb, hok, ha', hc', hd', hct'⟩ := bytein_spec d h
          exact ⟨d', hb, hok, ha', hc', hd', by omega⟩
        · rw [if_neg hz]
          exact ⟨d, rfl, h, rfl, rfl, rfl, by omega⟩
      rw [hd1]
      simp only []
      have hch := hok1.cthi
      rw [ha1, u32_id (d.a * 2) (by omega)]
      have hr : DecOk { d1 with a := d.a * 2, c := u32 (d1.c * 2), ct := d1.ct - 1 } :=
        .of hok1.bpin (by omega) (by omega) (by omega) (by omega) (u32_lt _) hok1.ctx
      obtain ⟨d3, hd3, hok3, ha3, hctx3, hdata3⟩ := ih _ hr
        (by rw [Nat.pow_succ, ← Nat.mul_assoc, Nat.mul_right_comm] at ha; exact ha)
      exact ⟨d3, hd3, hok3, ha3, hctx3.trans hctx1, hdata3.trans hdata1⟩
    · exact ⟨d, renormdLoop_done _ d hlt, h, by omega, rfl, rfl⟩

/-- how every renormalising branch of `decodeCore` ends -/
theorem renormd_after (d : Dec) (h : DecOk d) (bit a' c' : Nat) (ctx' : Array Nat) (hb : bit ≤ 1) (ha0 : 0 < a')
    (ha1 : a' < 65536) (hc : c' < 4294967296) (hctx : CtxOk ctx') (hsz : ctx'.size = d.ctx.size) :
    ∃ b d', (renormd { d with a := a', c := c', ctx := ctx' }).map (bit, ·) = some (b, d') ∧ b ≤ 1 ∧ DecOk d' ∧
      0x8000 ≤ d'.a ∧ d'.ctx.size = d.ctx.size ∧ d'.data = d.data := by
  obtain ⟨d', hd', hok, ha, hcx, hdat⟩ := renormdLoop_spec 16 { d with a := a', c := c', ctx := ctx' }
    (.of h.bpin ha0 ha1 h.ctlo h.cthi hc hctx) (Nat.le_trans (by decide : 0x8000 ≤ 1 * 2 ^ 16) (Nat.mul_le_mul_right _ ha0))
  exact ⟨bit, d', by rw [renormd, hd']; rfl, hb, hok, ha, by rw [hcx]; exact hsz, hdat⟩

theorem decodeCore_spec (d : Dec) (cx cxv qe nmps nlps sw : Nat) (h : DecOk d) (hn : 0x8000 ≤ d.a)
    (hcxv : cxv < 256) (q2 : 1 ≤ qe) (q3 : qe ≤ 0x5601) (m2 : nmps < 47) (l2 : nlps < 47) :
    ∃ bit d', decodeCore d cx cxv qe nmps nlps sw = some (bit, d') ∧ bit ≤ 1 ∧ DecOk d' ∧ 0x8000 ≤ d'.a ∧
      d'.ctx.size = d.ctx.size ∧ d'.data = d.data := by
  have hah := h.ahi
  have hsub : sub32 d.a qe = d.a - qe := sub32_eq _ _ (by omega) (by omega)
  have hq : 0 < qe ∧ qe < 65536 := by omega
  have hA : 0 < d.a - qe ∧ d.a - qe < 65536 := by omega
  have hmps : cxv / 128 ≤ 1 := by omega
  have hm := ctxOk_set d.ctx cx _ h.ctx (mpsCx_ok cxv nmps m2)
  have hl := ctxOk_set d.ctx cx _ h.ctx (lpsCx_ok cxv nlps sw l2)
  unfold decodeCore
  rw [hsub]
  by_cases hlps : d.c / 2 ^ 16 < qe
  · rw [if_pos hlps]
    by_cases hx : d.a - qe < qe
    · rw [if_pos hx]
      exact renormd_after d h _ qe d.c _ hmps hq.1 hq.2 h.chi hm Array.size_setIfInBounds
    · rw [if_neg hx]
      exact renormd_after d h _ qe d.c _ (Nat.sub_le _ _) hq.1 hq.2 h.chi hl Array.size_setIfInBounds
  · rw [if_neg hlps]
    by_cases hbig : (d.a - qe) / 0x8000 % 2 ≠ 0
    · rw [if_pos hbig]
      exact ⟨_, _, rfl, hmps, .of h.bpin hA.1 hA.2 h.ctlo h.cthi (sub32_lt _ _) h.ctx,
        by show 0x8000 ≤ d.a - qe; omega, rfl, rfl⟩
    · rw [if_neg hbig]
      by_cases hx : d.a - qe < qe
      · rw [if_pos hx]
        exact renormd_after d h _ (d.a - qe) _ _ (Nat.sub_le _ _) hA.1 hA.2 (sub32_lt _ _) hl Array.size_setIfInBounds
      · rw [if_neg hx]
        exact renormd_after d h _ (d.a - qe) _ _ hmps hA.1 hA.2 (sub32_lt _ _) hm Array.size_setIfInBounds

/-- how `decodeCore` continues, in the three cases of `encodeCore_cases`: `bit` is the decision and the context word is
written as there -/
theorem decodeCore_cases (d : Dec) (cx cxv qe nmps nlps sw bit A : Nat) (hA : sub32 d.a qe = A) (hbit : bit ≤ 1)
    (hcxv : cxv < 256) :
    (d.c / 2 ^ 16 < qe → (A < qe ↔ bit = cxv / 128) → decodeCore d cx cxv qe nmps nlps sw =
      (renormd { d with a := qe, ctx := (d.ctx.setIfInBounds cx
        (if bit = cxv / 128 then mpsCx cxv nmps else lpsCx cxv nlps sw)) }).map (bit, ·)) ∧
    (¬ d.c / 2 ^ 16 < qe → 0x8000 ≤ A → A < 65536 → decodeCore d cx cxv qe nmps nlps sw =
      some (cxv / 128, { d with a := A, c := sub32 d.c (u32 (qe * 2 ^ 16)) })) ∧
    (¬ d.c / 2 ^ 16 < qe → A < 0x8000 → (A < qe ↔ bit ≠ cxv / 128) → decodeCore d cx cxv qe nmps nlps sw =
      (renormd { d with a := A, c := sub32 d.c (u32 (qe * 2 ^ 16)), ctx := (d.ctx.setIfInBounds cx
        (if bit = cxv / 128 then mpsCx cxv nmps else lpsCx cxv nlps sw)) }).map (bit, ·)) := by
  have hnot : bit ≠ cxv / 128 → 1 - cxv / 128 = bit := by omega
  unfold decodeCore
  rw [hA]
  refine ⟨fun hlt hx => ?_, fun hge h1 h2 => ?_, fun hge hlt hx => ?_⟩
  · rw [if_pos hlt]
    by_cases hb : bit = cxv / 128
    · rw [if_pos (hx.mpr hb), if_pos hb, hb]
    · rw [if_neg (fun hh => hb (hx.mp hh)), if_neg hb, hnot hb]
  · rw [if_neg hge, if_pos (by omega)]
  · rw [if_neg hge, if_neg (by omega)]
    by_cases hb : bit = cxv / 128
    · rw [if_neg (fun hh => hx.mp hh hb), if_pos hb, hb]
    · rw [if_pos (hx.mpr hb), if_neg hb, hnot hb]

theorem decode_eq (d : Dec) (cx v qe nmps nlps sw : Nat) (h1 : d.ctx[cx]? = some v)
    (h2 : lookup (v % 128) = some (qe, nmps, nlps, sw)) :
    decode d cx = decodeCore d cx v qe nmps nlps sw := by
  unfold decode
  rw [h1]
  simp only [h2]

theorem decode_spec (d : Dec) (cx : Nat) (h : DecOk d) (hn : 0x8000 ≤ d.a) (hcx : cx < d.ctx.size) :
    ∃ bit d', decode d cx = some (bit, d') ∧ bit ≤ 1 ∧ DecOk d' ∧ 0x8000 ≤ d'.a ∧
      d'.ctx.size = d.ctx.size ∧ d'.data = d.data := by
  obtain ⟨hst, hcx256⟩ := h.ctx cx
  obtain ⟨qe, nmps, nlps, sw, hlk, q2, q3, m2, l2, s2⟩ := lookup_wf (rd d.ctx cx % 128) hst
  rw [decode_eq d cx _ qe nmps nlps sw (rd_some d.ctx cx hcx) hlk]
  exact decodeCore_spec d cx (rd d.ctx cx) qe nmps nlps sw h hn hcx256 q2 q3 m2 l2

theorem decNew_spec (bytes : List Nat) (n : Nat) :
    ∃ d, Dec.new bytes n = some d ∧ DecOk d ∧ 0x8000 ≤ d.a ∧ d.ctx.size = n ∧ d.data.size = bytes.length + 2 := by
  unfold Dec.new Dec.init
  have hsz : (bytes ++ [0xFF, 0xFF]).toArray.size = bytes.length + 2 := by simp
  obtain ⟨b0, hb0⟩ : ∃ b0, (if bytes.length = 0 then some 0xFF else (bytes ++ [0xFF, 0xFF]).toArray[0]?) = some b0 := by
    split
    · exact ⟨_, rfl⟩
    · exact ⟨_, rd_some _ 0 (by rw [hsz]; omega)⟩
  simp only [hb0]
  obtain ⟨d1, hd1, hok1, ha1, hctx1, hdata1, hct1⟩ := bytein_spec
    (Dec.mk (bytes ++ [0xFF, 0xFF]).toArray 0 bytes.length 0x8000 (u32 (b0 * 2 ^ 16)) 0 0 (Array.replicate n 0))
    (.of (by rw [hsz]; omega) (by decide) (by decide) (by decide) (by decide) (u32_lt _) (ctxOk_replicate0 n))
  rw [hd1]
  exact ⟨_, rfl, .of hok1.bpin (by decide) (by decide) (by omega) (by omega) (u32_lt _) hok1.ctx, Nat.le_refl _,
    (congrArg Array.size hctx1).trans Array.size_replicate, (congrArg Array.size hdata1).trans hsz⟩

theorem decodeAll_spec : ∀ (cxs : List Nat) (d : Dec), DecOk d → 0x8000 ≤ d.a → (∀ cx ∈ cxs, cx < d.ctx.size) →
    ∃ bits d', decodeAll d cxs = some (bits, d') ∧ bits.length = cxs.length ∧ (∀ b ∈ bits, b ≤ 1) ∧
      DecOk d' ∧ 0x8000 ≤ d'.a ∧ d'.data = d.data := by
  intro cxs
  induction cxs with
  | nil => intro d h hn _; exact ⟨[], d, rfl, rfl, List.forall_mem_nil _, h, hn, rfl⟩
  | cons cx cxs ih =>
    intro d h hn hcx
    obtain ⟨bit, d1, hd1, hb1, hok1, hn1, hs1, hdat1⟩ := decode_spec d cx h hn (hcx cx List.mem_cons_self)
    obtain ⟨bits, d2, hd2, hlen, hbits, hok2, hn2, hdat2⟩ := ih d1 hok1 hn1
      (by intro c hc; rw [hs1]; exact hcx c (List.mem_cons_of_mem _ hc))
    refine ⟨bit :: bits, d2, ?_, by simp [hlen], List.forall_mem_cons.mpr ⟨hb1, hbits⟩, hok2, hn2, by rw [hdat2, hdat1]⟩
    rw [decodeAll, hd1]; simp only [hd2, Option.map_some]

theorem decoder_total (bytes : List Nat) (n : Nat) (cxs : List Nat) (hcx : ∀ cx ∈ cxs, cx < n) :
    ∃ d0 bits d, Dec.new bytes n = some d0 ∧ decodeAll d0 cxs = some (bits, d) ∧
      bits.length = cxs.length ∧ (∀ b ∈ bits, b ≤ 1) ∧
      0x8000 ≤ d.a ∧ d.a < 0x10000 ∧ 0 ≤ d.ct ∧ d.ct ≤ 8 ∧ d.c < 2 ^ 32 ∧ d.bp < bytes.length + 2 := by
  obtain ⟨d0, hd0, hok0, hn0, hs0, hsz0⟩ := decNew_spec bytes n
  obtain ⟨bits, d, hd, hlen, hbits, hok, hn, hdat⟩ := decodeAll_spec cxs d0 hok0 hn0 (by rw [hs0]; exact hcx)
  refine ⟨d0, bits, d, hd0, hd, hlen, hbits, hn, hok.ahi, hok.ctlo, hok.cthi, hok.chi, ?_⟩
  have := hok.bpin
  rw [hdat, hsz0] at this
  exact this

theorem decodeBits_total (bytes : List Nat) (n : Nat) (cxs : List Nat) (hcx : ∀ cx ∈ cxs, cx < n) :
    ∃ bits, decodeBits bytes n cxs = some bits ∧ bits.length = cxs.length ∧ (∀ b ∈ bits, b ≤ 1) := by
  obtain ⟨d0, bits, d, hd0, hd, hlen, hbits, _⟩ := decoder_total bytes n cxs hcx
  refine ⟨bits, ?_, hlen, hbits⟩
  unfold decodeBits
  rw [hd0]
  simp only [hd, Option.map_some]

end Mqc
