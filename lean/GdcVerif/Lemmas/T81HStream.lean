import GdcVerif.Spec.T81HStream
import GdcVerif.Lemmas.JllScan
import GdcVerif.Lemmas.JllCanon
import GdcVerif.Lemmas.JllBits
import GdcVerif.Lemmas.T81H
import GdcVerif.Lemmas.JllStreamDec
import GdcVerif.Lemmas.Basics
import GdcVerif.Lemmas.Loops
/-!
  C13 at stream level: the INDEPENDENT T.81 Annex H decoder of `Spec/T81HStream.lean`
  (`T81H.specDecode`: strict Annex B reader, B.1.1.5 unstuffing, Annex C code generation, F.2.2.3
  DECODE by prefix search, RECEIVE / EXTEND, H.1.2.1 prediction, modulo-2^16 reconstruction)
  recovers the source image from the stream of the MODEL encoder (`JLL.encodeScan` behind the
  `JpegC.losslessHeader` / `sv1Header` container), for every predictor 1..7 and SV1.

  The specification's decoder is run alone on `JLL.scanBits`, the bit string the model encoder's bytes
  pack (`JLL.encodeScan_packs`); the model's (category, amplitude) is the standard's (SSSS, additional
  bits) (`symOf_spec`).
-/
namespace T81H
open JLL

theorem unstuffEcs_eq (l : List Nat) : unstuffEcs l = unstuff l := by
  induction l using unstuff.induct with
  | case1 => rfl
  | case2 => rfl
  | case3 x rest2 ih => simp only [unstuffEcs, unstuff, if_true, ih]
  | case4 b rest hb ih => rw [unstuffEcs.eq_def, unstuff.eq_def]; simp only [hb, if_false, ih]

theorem byteBits_eq (b : Nat) : byteBits b = bitsOf b 8 := by
  rw [bitsOf_eq, byteBits, Bits.msb_eq_map]

theorem ecsBits_eq (scan : List Nat) :
    ecsBits scan = (unstuff scan).flatMap (fun b => bitsOf b 8) := by
  unfold ecsBits
  rw [unstuffEcs_eq, funext byteBits_eq]

/-- HUFFSIZE from length `l + 1` on -/
def sizesFrom : List Nat → Nat → List Nat
  | [], _ => []
  | n :: rest, l => List.replicate n (l + 1) ++ sizesFrom rest (l + 1)

theorem huffSize_from : ∀ (bits : List Nat) (l : Nat),
    (bits.zipIdx l).flatMap (fun (p : Nat × Nat) => List.replicate p.1 (p.2 + 1)) = sizesFrom bits l
  | [], _ => rfl
  | n :: rest, l => by
    simp only [List.zipIdx_cons, List.flatMap_cons, sizesFrom, huffSize_from rest (l + 1)]

theorem huffSize_eq (bits : List Nat) : huffSize bits = sizesFrom bits 0 :=
  huffSize_from bits 0

/-- Figure C.2 run over the sizes of the lengths `l+1 ..`, from state (CODE, SI) with
    `CODE · 2^(l+1−SI) = F` -/
theorem huffCodeGo_spec : ∀ (rest : List Nat) (l F C si : Nat), si ≤ l + 1 → C * 2 ^ (l + 1 - si) = F →
    (huffCodeGo (sizesFrom rest l) C si).zip (sizesFrom rest l) = specCodes rest l F
  | [], _, _, _, _, _, _ => by simp [sizesFrom, huffCodeGo, specCodes]
  | n :: rest, l, F, C, si, hsi, hF => by
    simp only [sizesFrom, specCodes]
    induction n generalizing F C si with
    | zero =>
      simp only [List.replicate_zero, List.nil_append, specLen, Nat.add_zero]
      apply huffCodeGo_spec rest (l + 1) (F * 2) C si (by omega)
      rw [show l + 1 + 1 - si = (l + 1 - si) + 1 by omega, Nat.pow_succ, ← Nat.mul_assoc, hF]
    | succ n ih =>
      simp only [List.replicate_succ, List.cons_append, huffCodeGo, List.zip_cons_cons, specLen, hF]
      have := ih (F + 1) (F + 1) (l + 1) (Nat.le_refl _) (by simp)
      rw [this, show F + 1 + n = F + (n + 1) by omega]

theorem huffCode_eq (sizes : List Nat) : huffCode sizes = huffCodeGo sizes 0 1 := by
  cases sizes with
  | nil => rfl
  | cons s rest => simp [huffCode, huffCodeGo]

theorem codeTable_eq (bits vals : List Nat) : codeTable bits vals = vals.zip (specCodes bits 0 0) := by
  unfold codeTable
  simp only
  rw [huffCode_eq, huffSize_eq, huffCodeGo_spec bits 0 0 0 1 (by omega) (by simp)]
  have : (fun (x : Nat × Nat × Nat) => match x with | (v, c, s) => (v, c, s)) = id := by
    funext x; rfl
  rw [this, List.map_id]

theorem mem_codeTable {bits : List Nat} {values : Array Nat} (hv : ValidTable bits values = true)
    {sym c len : Nat} :
    (sym, c, len) ∈ codeTable bits values.toList ↔
      sym ∈ values.toList ∧ (buildHuffmanCodes bits values)[sym]? = some (c, len) := by
  rw [codeTable_eq]
  constructor
  · intro hm
    obtain ⟨j, hj⟩ := List.mem_iff_getElem?.1 hm
    obtain ⟨hjv, hjc⟩ := List.getElem?_zip_eq_some.1 hj
    obtain ⟨c', len', h1, h2⟩ := huff_at hv (j := j) (sym := sym) (by simpa using hjv)
    exact ⟨List.mem_of_getElem? hjv, by rw [h2, ← h1, hjc]⟩
  · rintro ⟨hs, hc⟩
    obtain ⟨j, hj⟩ := List.mem_iff_getElem?.1 hs
    obtain ⟨c', len', h1, h2⟩ := huff_at hv (j := j) (sym := sym) (by simpa using hj)
    exact List.mem_of_getElem? (List.getElem?_zip_eq_some.2 ⟨hj, by rw [h1, ← h2, hc]⟩)

theorem isPrefix_iff (c len : Nat) (bs : List Bool) :
    isPrefix c len bs = true ↔ len ≤ bs.length ∧ ofBits (bs.take len) = c := by
  simp only [isPrefix, foldl_bits, Nat.zero_mul, Nat.zero_add, Bool.and_eq_true, decide_eq_true_eq,
    beq_iff_eq]

theorem isPrefix_self (c len : Nat) (hc : c < 2 ^ len) (rest : List Bool) :
    isPrefix c len (bitsOf c len ++ rest) = true := by
  rw [isPrefix_iff]
  refine ⟨by simp [bitsOf_length], ?_⟩
  rw [List.take_left' (bitsOf_length c len), ofBits_bitsOf, Nat.mod_eq_of_lt hc]

theorem isPrefix_split (c len : Nat) (bs : List Bool) (h : isPrefix c len bs = true) :
    bs = bitsOf c len ++ bs.drop len := by
  rw [isPrefix_iff] at h
  obtain ⟨h1, h2⟩ := h
  have hl : (bs.take len).length = len := by simp; omega
  have := bitsOf_ofBits (bs.take len)
  rw [h2, hl] at this
  rw [this, List.take_append_drop]

/-- F.2.2.3 DECODE on a code of the table: the prefix search can only stop at that code's entry, any
    entry whose code is a prefix of the string being the same symbol's (`code_prefix_unique`) -/
theorem decodeSym_code (bits : List Nat) (values : Array Nat) (hv : ValidTable bits values = true)
    (sym : Nat) (hs : sym ∈ values.toList) (c len : Nat)
    (hc : (buildHuffmanCodes bits values)[sym]? = some (c, len)) (hlt : c < 2 ^ len) (rest : List Bool) :
    decodeSym (codeTable bits values.toList) (bitsOf c len ++ rest) = some (sym, rest) := by
  unfold decodeSym
  rw [List.find?_unique (a := (sym, c, len)) ((mem_codeTable hv).2 ⟨hs, hc⟩)]
  · simp [bitsOf_length]
  · exact isPrefix_self c len hlt rest
  · rintro ⟨sym', c', len'⟩ hm hp
    obtain ⟨hs', hc'⟩ := (mem_codeTable hv).1 hm
    obtain rfl := (code_prefix_unique bits values hv sym sym' hs hs' c len c' len' hc hc' rest _
      (isPrefix_split c' len' _ hp)).1
    rw [hc] at hc'
    rw [Option.some.inj hc']

theorem receive_bits (v n : Nat) (hv : v < 2 ^ n) (rest : List Bool) :
    receive n (bitsOf v n ++ rest) = some (v, rest) := by
  have hl : ¬ (bitsOf v n ++ rest).length < n := by simp [bitsOf_length]
  unfold receive
  rw [if_neg hl, foldl_bits, List.take_left' (bitsOf_length v n), List.drop_left' (bitsOf_length v n),
    ofBits_bitsOf, Nat.mod_eq_of_lt hv]
  simp

theorem encDiff_diff (x p : Int) :
    encDiff x p = if diff x p = 32768 then -32768 else diff x p := by
  simp only [encDiff, Gen.JpegLossless.losslessDifference, Go.wrap16, diff]
  split <;> split <;> omega

theorem symOfDiff_spec (d : Int) (hlo : -32767 ≤ d) (hhi : d ≤ 32768) :
    symOfDiff (if d = 32768 then -32768 else d) = (ssss d, (extraBits d).1) := by
  by_cases hm : d = 32768
  · subst hm; decide
  rw [if_neg hm]
  by_cases h0 : d = 0
  · subst h0; decide
  obtain ⟨k1, hle, b1, b2, hx⟩ := extraBits_spec d h0 hlo (by omega)
  have h15 : Go.shl (-1) 15 = -32768 := by decide
  obtain ⟨k, hk1, hk16, h3, h4, he⟩ := encodeCategory_spec d h0 (by omega) (by omega)
  obtain rfl : k = ssss d := bitlen_unique _ k (ssss d) h3 h4 b1 b2 hk1 k1
  have hsym : symOfDiff d = (ssss d, (if d > 0 then d else (2:Int) ^ ssss d + d - 1).toNat) := by
    simp only [symOfDiff, encodeLosslessDifference, h15]
    rw [if_neg (by omega), he]
    simp
  have hamp : (if d > 0 then d else (2:Int) ^ ssss d + d - 1) = (if d > 0 then d else d - 1 + (2:Int) ^ ssss d) := by
    split <;> omega
  rw [hsym, hx, hamp]

theorem symOf_spec (x p : Int) :
    symOfDiff (encDiff x p) = (ssss (diff x p), (extraBits (diff x p)).1) := by
  rw [encDiff_diff]
  exact symOfDiff_spec _ (diff_range x p).1 (diff_range x p).2

theorem decodeDiff_sym (bits : List Nat) (values : Array Nat) (hv : ValidTable bits values = true)
    (x : Nat × Nat) (hx : SymOk x) (hm : x.1 ∈ values.toList) (rest : List Bool) :
    decodeDiff (codeTable bits values.toList)
      ((symWrite (buildHuffmanCodes bits values) x).flatMap (fun w => bitsOf w.1 w.2) ++ rest)
      = some (extend x.2 x.1, rest) := by
  obtain ⟨c, len, hc, _, _, hlt⟩ := codes_wf bits values hv x.1 hm
  rw [symWrite_bits hc, List.append_assoc]
  unfold decodeDiff
  rw [decodeSym_code bits values hv x.1 hm c len hc hlt]
  simp only
  by_cases hcat : 0 < x.1 ∧ x.1 ≠ 16
  · rw [if_neg (by have := hx.1; omega), if_neg (by omega), if_pos hcat, receive_bits x.2 x.1 hx.2.1]
  · have he : x.1 = 0 ∨ x.1 = 16 := by omega
    rw [if_neg (by omega), if_pos he, if_neg hcat, hx.2.2 he]
    rfl

theorem recon_sample (sample p : Int) (hs : 0 ≤ sample ∧ sample < 65536) :
    recon p (extend (symOfDiff (encDiff sample p)).2 (symOfDiff (encDiff sample p)).1) = sample := by
  rw [symOf_spec]
  exact sample_roundtrip sample p hs

theorem symOf_posOf (sv1 : Bool) (P pred w nc : Nat) (s : Planes) (i : Nat) :
    symOf sv1 P pred w s (posOf w nc i) =
      symOfDiff (encDiff (cell s (i % nc) (i / nc))
        (predOf sv1 P pred w s (i / nc / w, i / nc % w, i % nc))) := by
  simp only [symOf, diffOf, posOf, Nat.div_add_mod']

/-- the planes decoded before loop index `i`: component `c` has the samples of the pixels
    `0 .. i / nc` (one more if `c` has already been visited in the current pixel).  The specification's
    decoder grows a list per component, so "decoded so far" is this list; the model's decoder fills arrays
    of full size, where it is `JLL.AgreeTo`. -/
def planesAt (s : Planes) (nc i : Nat) : List (List Int) :=
  (List.range nc).map fun c => (List.range (i / nc + (if c < i % nc then 1 else 0))).map (cell s c)

theorem planesAt_zero (s : Planes) (nc : Nat) : planesAt s nc 0 = List.replicate nc [] := by
  simp [planesAt, List.map_const']

theorem planesAt_full (s : Planes) (nc n : Nat) (hnc : 0 < nc) :
    planesAt s nc (n * nc) = (List.range nc).map fun c => (List.range n).map (cell s c) := by
  simp [planesAt, Nat.mul_div_cancel _ hnc]

theorem planesAt_get (s : Planes) (nc i : Nat) (hnc : 0 < nc) :
    (planesAt s nc i)[i % nc]? = some ((List.range (i / nc)).map (cell s (i % nc))) := by
  have hr : i % nc < nc := Nat.mod_lt _ hnc
  simp [planesAt, hr]

theorem count_succ (nc i c : Nat) (hnc : 0 < nc) (hc : c < nc) :
    (i + 1) / nc + (if c < (i + 1) % nc then 1 else 0) =
      i / nc + (if c < i % nc then 1 else 0) + (if i % nc = c then 1 else 0) := by
  rcases Radix.succ_digits nc i hnc with ⟨h1, h2, h3⟩ | ⟨h1, h2, h3⟩
  · rw [h2, h3]
    split <;> split <;> split <;> omega
  · rw [h2, h3]
    split <;> split <;> split <;> omega

theorem planesAt_succ (s : Planes) (nc i : Nat) (hnc : 0 < nc) :
    (planesAt s nc i).set (i % nc)
        ((List.range (i / nc)).map (cell s (i % nc)) ++ [cell s (i % nc) (i / nc)])
      = planesAt s nc (i + 1) := by
  have hr : i % nc < nc := Nat.mod_lt _ hnc
  apply List.ext_getElem?
  intro c
  rw [List.getElem?_set]
  simp only [planesAt, List.length_map, List.length_range, List.getElem?_map]
  by_cases hc : c < nc
  · simp only [List.getElem?_range hc, Option.map_some, hr, if_true, count_succ nc i c hnc hc]
    by_cases hcr : i % nc = c
    · subst hcr
      simp only [if_true, Nat.lt_irrefl, if_false, Nat.add_zero, Option.some.injEq]
      rw [List.range_succ, List.map_append]
      rfl
    · simp only [hcr, if_false, Nat.add_zero]
  · have hne : ¬ i % nc = c := by omega
    have hn : (List.range nc)[c]? = none := by simp; omega
    simp only [hne, if_false, hn, Option.map_none]

theorem px_congr (P Pt sel row col : Nat) (a b c a' b' c' : Int)
    (ha : col > 0 → a = a') (hb : row > 0 → b = b') (hc : row > 0 ∧ col > 0 → c = c') :
    px P Pt sel row col a b c = px P Pt sel row col a' b' c' := by
  unfold px
  by_cases hr : row = 0 <;> by_cases hcl : col = 0
  · simp [hr, hcl]
  · simp only [hr, hcl, if_true, if_false]; exact ha (by omega)
  · simp only [hr, hcl, if_true, if_false]; exact hb (by omega)
  · simp only [hr, hcl, if_false]
    rw [ha (by omega), hb (by omega), hc ⟨by omega, by omega⟩]

theorem predOf_px (sv1 : Bool) (P pred w : Nat) (s : Planes) (hP : 1 ≤ P)
    (hpred : 1 ≤ pred ∧ pred ≤ 7) (hsv1 : sv1 = true → pred = 1) (row col c : Nat) :
    predOf sv1 P pred w s (row, col, c) =
      px P 0 pred row col (nbOf s c w row col).left (nbOf s c w row col).up (nbOf s c w row col).upLeft := by
  cases sv1 with
  | true =>
    have hp1 : pred = 1 := hsv1 rfl
    subst hp1
    simp only [predOf, if_true]
    exact sv1Predicted_conforms P row col _ hP
  | false =>
    simp only [predOf, Bool.false_eq_true, if_false]
    exact encPredicted_conforms P pred row col _ hP hpred

/-- H.1.2.1 over any record `f` of the component's earlier samples (a full plane for the encoder, the list
    decoded so far for the decoder) is the model's prediction at that pixel -/
theorem px_predOf (sv1 : Bool) (P pred w : Nat) (s : Planes) (hP : 1 ≤ P)
    (hpred : 1 ≤ pred ∧ pred ≤ 7) (hsv1 : sv1 = true → pred = 1) (pix c : Nat)
    (f : Nat → Int) (hf : ∀ k, k < pix → f k = cell s c k) :
    px P 0 pred (pix / w) (pix % w) (f (pix - 1)) (f (pix - w)) (f (pix - w - 1))
      = predOf sv1 P pred w s (pix / w, pix % w, c) := by
  have hdm : pix / w * w + pix % w = pix := Nat.div_add_mod' pix w
  have hrow : 0 < pix / w → 0 < w := fun h => (Nat.div_pos_iff.1 h).1
  rw [predOf_px sv1 P pred w s hP hpred hsv1]
  generalize pix / w = row at *
  generalize pix % w = col at *
  -- a neighbour that the model reads lies one row up and/or one column left: an earlier pixel
  have up : row > 0 → (row - 1) * w + w = row * w := fun hr => by
    rw [← Nat.succ_mul]; congr 1; omega
  simp only [nbOf]
  apply px_congr
  · intro hc0
    rw [if_pos hc0, hf _ (by omega)]
    congr 1; omega
  · intro hr0
    have := up hr0; have := hrow hr0
    rw [if_pos hr0, hf _ (by omega)]
    congr 1; omega
  · intro ⟨hr0, hc0⟩
    have := up hr0; have := hrow hr0
    rw [if_pos ⟨hr0, hc0⟩, hf _ (by omega)]
    congr 1; omega

def SpecTables (nc : Nat) (tbls : List (List (Nat × Nat × Nat))) (B : Nat → List Nat) (V : Nat → Array Nat) : Prop :=
  ∀ c, c < nc → ValidTable (B c) (V c) = true ∧ tbls[c]? = some (codeTable (B c) (V c).toList)

theorem specFold_bits (sv1 : Bool) (P pred w h nc : Nat) (B : Nat → List Nat) (V : Nat → Array Nat)
    (tbls : List (List (Nat × Nat × Nat)))
    (hT : SpecTables nc tbls B V)
    (s : Planes) (hP : 2 ≤ P ∧ P ≤ 16)
    (hpred : 1 ≤ pred ∧ pred ≤ 7) (hsv1 : sv1 = true → pred = 1)
    (hnc : 0 < nc) (hrng : InRange P s) (hm : Coded sv1 P pred w h nc V s) (pad : List Bool) :
    ∀ (n i : Nat), i + n = w * h * nc →
      decodeSamples P 0 pred w nc tbls n i (planesAt s nc i)
        (((List.range' i n).map (posOf w nc)).flatMap (posBits sv1 P pred w B V s) ++ pad)
      = some (planesAt s nc (w * h * nc)) := by
  intro n
  induction n with
  | zero =>
    intro i hi
    simp only [Nat.add_zero] at hi
    subst hi
    simp [decodeSamples]
  | succ n ih =>
    intro i hi
    have hr : i % nc < nc := Nat.mod_lt _ hnc
    obtain ⟨hv, ht⟩ := hT _ hr
    rw [List.range'_succ, List.map_cons, List.flatMap_cons, List.append_assoc]
    have hd := decodeDiff_sym (B (i % nc)) (V (i % nc)) hv (symOf sv1 P pred w s (posOf w nc i))
      (encDiff_symOk _ _) (hm i (by omega))
    simp only [decodeSamples, ht, planesAt_get s nc i hnc]
    erw [hd]  -- `posBits` at `posOf w nc i` unfolds to the `symWrite` image of `hd`
    simp only
    rw [symOf_posOf, px_predOf sv1 P pred w s (by omega) hpred hsv1 (i / nc) (i % nc)
      (fun k => ((List.range (i / nc)).map (cell s (i % nc))).getD k 0) fun k hk => List.getD_map_range _ 0 hk]
    have hs := hrng (i % nc) (i / nc)
    have hf := pow_facts (P : Int) (by omega) (by omega)
    rw [recon_sample _ _ ⟨hs.1, by omega⟩, planesAt_succ s nc i hnc]
    exact ih (i + 1) (by omega)

theorem specScan_bits (sv1 : Bool) (P pred w h nc : Nat) (B : Nat → List Nat) (V : Nat → Array Nat)
    (tbls : List (List (Nat × Nat × Nat)))
    (hT : SpecTables nc tbls B V)
    (s : Planes) (hP : 2 ≤ P ∧ P ≤ 16) (hpred : 1 ≤ pred ∧ pred ≤ 7) (hsv1 : sv1 = true → pred = 1)
    (hnc : 0 < nc) (hrng : InRange P s) (hm : Coded sv1 P pred w h nc V s) (pad : List Bool) :
    decodeSamples P 0 pred w nc tbls (w * h * nc) 0 (List.replicate nc []) (scanBits sv1 P pred w h nc B V s ++ pad)
      = some ((List.range nc).map fun c => (List.range (w * h)).map fun i => cell s c i) := by
  have := specFold_bits sv1 P pred w h nc B V tbls hT s hP hpred hsv1 hnc hrng hm pad (w * h * nc) 0 (by omega)
  rwa [planesAt_zero, planesAt_full s nc (w * h) hnc] at this

theorem specScan_of_packs (sv1 : Bool) (P pred w h nc : Nat) (B : Nat → List Nat) (V : Nat → Array Nat)
    (tbls : List (List (Nat × Nat × Nat)))
    (hT : SpecTables nc tbls B V)
    (s : Planes) (hP : 2 ≤ P ∧ P ≤ 16) (hpred : 1 ≤ pred ∧ pred ≤ 7) (hsv1 : sv1 = true → pred = 1)
    (hnc : 0 < nc) (hrng : InRange P s) (hm : Coded sv1 P pred w h nc V s) {scan : List Nat}
    (hpk : Packs scan (scanBits sv1 P pred w h nc B V s)) :
    decodeSamples P 0 pred w nc tbls (w * h * nc) 0 (List.replicate nc []) (ecsBits scan)
      = some ((List.range nc).map fun c => (List.range (w * h)).map fun i => cell s c i) := by
  obtain ⟨pad, _, _, hrd⟩ := hpk.reads
  rw [ecsBits_eq, show (unstuff scan).flatMap (fun b => bitsOf b 8) = pending { data := scan } from rfl, hrd.ahead]
  exact specScan_bits sv1 P pred w h nc B V tbls hT s hP hpred hsv1 hnc hrng hm pad

theorem specDecode_model_stream (sv1 : Bool) (P pred w h nc : Nat) (tb : JpegC.HuffTable)
    (s : Planes) (hdr scan : List Nat)
    (hw : 1 ≤ w ∧ w ≤ 65535) (hh : 1 ≤ h ∧ h ≤ 65535) (hnc : nc = 1 ∨ nc = 3)
    (hP : 2 ≤ P ∧ P ≤ 16) (hpred : 1 ≤ pred ∧ pred ≤ 7) (hsv1 : sv1 = true → pred = 1)
    (htb : JpegC.TableOk tb)
    (hv : ValidTable (tb.bits.map Int.toNat) tb.values.toArray = true)
    (hm : Coded sv1 P pred w h nc (fun _ => tb.values.toArray) s)
    (hrng : InRange P s)
    (hhdr : (if sv1 then JpegC.sv1Header w h nc P tb else JpegC.losslessHeader w h nc P pred tb) = .ok hdr)
    (hpk : Packs scan (scanBits sv1 P pred w h nc (fun _ => tb.bits.map Int.toNat) (fun _ => tb.values.toArray) s))
    (hne : scan ≠ []) :
    specDecode (hdr ++ scan ++ [0xFF, 0xD9]) =
      some { width := w, height := h, precision := P,
             planes := (List.range nc).map fun c => (List.range (w * h)).map fun i => cell s c i } := by
  have hnc0 : 0 < nc := by omega
  have hhdr' := Stream.losslessHeader_of_sv1 hsv1 hhdr
  have hbits := htb.bits_byteOf
  have hst : StrictJpeg.NoMarker scan = true := by
    rw [← JpegC.stuffOk_eq_noMarker]
    exact hpk.stuffOk
  -- C16: the strict reader accepts the frame and recovers the header fields
  obtain ⟨bytes, r, hbytes, hparse, hframe, hsh, _, hdht, hlen, hse, _⟩ :=
    JpegC.lossless_frame (w : Int) (h : Int) (P : Int) (pred : Int) nc tb scan (by omega) (by omega) hnc
      (by omega) (by omega) htb hst hne
  obtain ⟨rfl, hhe, hse'⟩ := JpegC.withScan_ends hhdr' hbytes hlen hse
  simp only [Int.toNat_natCast] at hframe hsh
  have hslice : ((hdr ++ scan ++ [0xFF, 0xD9]).drop r.hdrEnd).take (r.scanEnd - r.hdrEnd) = scan := by
    rw [hse', hhe, Nat.add_sub_cancel_left, List.append_assoc, List.drop_left, List.take_left]
  have hany : (JpegC.comps111 nc).any (fun c => c.h ≠ 1 ∨ c.v ≠ 1) = false := by
    simp [JpegC.comps111]
  have hlenc : (JpegC.comps111 nc).length = nc := by simp [JpegC.comps111]
  have htbls : ((List.range nc).map (fun i => (⟨i + 1, 0, 0⟩ : StrictJpeg.Sel))).mapM
      (fun sl => tableAt r.dht sl.td) =
      some (List.replicate nc (codeTable (tb.bits.map Int.toNat) tb.values.toArray.toList)) := by
    rw [Loop.mapM_pure _ (fun _ => codeTable (tb.bits.map Int.toNat) tb.values.toArray.toList) _ (by
        intro x hx
        simp only [List.mem_map] at hx
        obtain ⟨i, _, rfl⟩ := hx
        simp [tableAt, hdht, hbits])]
    simp [Function.comp_def, List.map_const']
  have hdec := specScan_of_packs sv1 P pred w h nc _ _ (List.replicate nc (codeTable (tb.bits.map Int.toNat) tb.values.toArray.toList))
    (fun c hc => ⟨hv, by simp [hc]⟩) s hP hpred hsv1 hnc0 hrng hm hpk
  unfold specDecode
  simp only [hparse, hslice]
  simp only [hframe, hsh, hany, hlenc, htbls, hdec]
  simp

/-- end to end: the model encoder's scan inside the model container is decoded by the independent
    specification to the source image -/
theorem specDecode_encodeScan (sv1 : Bool) (P pred w h nc : Nat) (tb : JpegC.HuffTable)
    (s : Planes) (hdr : List Nat)
    (hw : 1 ≤ w ∧ w ≤ 65535) (hh : 1 ≤ h ∧ h ≤ 65535) (hnc : nc = 1 ∨ nc = 3)
    (hP : 2 ≤ P ∧ P ≤ 16) (hpred : 1 ≤ pred ∧ pred ≤ 7) (hsv1 : sv1 = true → pred = 1)
    (htb : JpegC.TableOk tb)
    (hv : ValidTable (tb.bits.map Int.toNat) tb.values.toArray = true)
    (hcat : ∀ k ∈ emittedCats sv1 P pred w h nc s, k ∈ tb.values)
    (hsz : Sized w h nc s) (hrng : InRange P s)
    (hhdr : (if sv1 then JpegC.sv1Header w h nc P tb else JpegC.losslessHeader w h nc P pred tb) = .ok hdr) :
    ∃ scan, encodeScan sv1 P pred w h nc
        (buildHuffmanCodes (tb.bits.map Int.toNat) tb.values.toArray) s = .ok scan ∧
      specDecode (hdr ++ scan ++ [0xFF, 0xD9]) =
        some { width := w, height := h, precision := P,
               planes := (List.range nc).map fun c => (List.range (w * h)).map fun i => cell s c i } := by
  have hcat' : ∀ k ∈ emittedCats sv1 P pred w h nc s, k ∈ tb.values.toArray.toList := by
    simpa using hcat
  obtain ⟨henc, hpk, hm⟩ := encodeScan_packs sv1 P pred w h nc _ _ s hv hsz hcat'
  exact ⟨_, henc, specDecode_model_stream sv1 P pred w h nc tb s hdr _ hw hh hnc hP hpred hsv1 htb hv
    hm hrng hhdr hpk (scan_ne_nil hv hcat' hw.1 hh.1 (by omega))⟩

/-! ## the former first-line / line-start deviation (regression)

  Before fix 946feeb jpeg/lossless applied the selected predictor on the first line and at line
  starts with 2^(P-1) stand-ins; the witnesses of that deviation (P = 8; first line, col 1, Ra = 10;
  second line, col 0, Rb = 10) now agree with H.1.2.1 for every predictor. -/

example : ∀ sel ∈ [1, 2, 3, 4, 5, 6, 7],
    encPredicted 8 (sel : Nat) 0 1 ⟨10, 0, 0⟩ = px 8 0 sel 0 1 10 0 0 ∧
    encPredicted 8 (sel : Nat) 1 0 ⟨0, 10, 0⟩ = px 8 0 sel 1 0 0 10 0 := by decide

end T81H
