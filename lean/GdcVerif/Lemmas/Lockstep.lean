/-!
  Lock-step composition for predictive codecs (JPEG Lossless, JPEG-LS, near-lossless).

  An encoder and a decoder walk the samples in the same order, each carrying a state
  (reconstructed neighbourhood, context statistics, run index …).  If one encoder step and
  one decoder step, started from the same state, agree — same successor state, and the
  decoder's output related to the encoder's input by `R` — then whole sequences agree.
  `R = Eq` gives exact reconstruction (`lockstep_exact`, JPEG Lossless); `R x y := |x − y| ≤ NEAR` would give a
  near-lossless bound.  JPEG-LS, whose steps are partial and of variable length, goes through `lockstep_var2`
  below and carries the closeness in its invariant `inv`.
  The encoder state must therefore be a function of what the *decoder* can know
  (reconstructed samples), which is exactly what the per-step hypothesis demands.
-/
namespace Lockstep

variable {S σ E : Type}

/-- core Lean has no `List.Forall₂` -/
inductive AllRel (R : S → S → Prop) : List S → List S → Prop
  | nil : AllRel R [] []
  | cons {x y xs ys} : R x y → AllRel R xs ys → AllRel R (x :: xs) (y :: ys)

theorem AllRel.length_eq {R : S → S → Prop} {xs ys : List S} (h : AllRel R xs ys) :
    xs.length = ys.length := by
  induction h with
  | nil => rfl
  | cons _ _ ih => simp [ih]

theorem AllRel.eq {xs ys : List S} (h : AllRel Eq xs ys) : xs = ys := by
  induction h with
  | nil => rfl
  | cons h0 _ ih => rw [h0, ih]

theorem AllRel.get {R : S → S → Prop} {xs ys : List S} (h : AllRel R xs ys)
    (i : Nat) (hx : i < xs.length) (hy : i < ys.length) : R xs[i] ys[i] := by
  induction h generalizing i with
  | nil => simp at hx
  | cons h0 _ ih =>
    cases i with
    | zero => simpa using h0
    | succ j => simpa using ih j (by simpa using hx) (by simpa using hy)

theorem AllRel.mono {R Q : S → S → Prop} (hrq : ∀ a b, R a b → Q a b) {xs ys : List S}
    (h : AllRel R xs ys) : AllRel Q xs ys := by
  induction h with
  | nil => exact AllRel.nil
  | cons h0 _ ih => exact AllRel.cons (hrq _ _ h0) ih

theorem AllRel.replicate {R : S → S → Prop} (a : S) : ∀ (l : List S), (∀ p ∈ l, R a p) →
    AllRel R (List.replicate l.length a) l
  | [], _ => AllRel.nil
  | p :: l, h => by
    rw [List.length_cons, List.replicate_succ]
    exact AllRel.cons (h p (by simp)) (AllRel.replicate a l (fun q hq => h q (by simp [hq])))

theorem AllRel.of_getD {R : S → S → Prop} (d : S) : ∀ (xs ys : List S), xs.length = ys.length →
    (∀ k, k < xs.length → R (xs.getD k d) (ys.getD k d)) → AllRel R xs ys
  | [], [], _, _ => AllRel.nil
  | [], _ :: _, h, _ => by simp at h
  | _ :: _, [], h, _ => by simp at h
  | a :: xs, b :: ys, hl, h => by
    refine AllRel.cons ?_ (AllRel.of_getD d xs ys (by simpa using hl) (fun k hk => ?_))
    · simpa using h 0 (by simp)
    · simpa using h (k + 1) (by simp; omega)

def encAll (encStep : σ → S → σ × E) : σ → List S → σ × List E
  | s, [] => (s, [])
  | s, x :: xs =>
    let r := encStep s x
    let r2 := encAll encStep r.1 xs
    (r2.1, r.2 :: r2.2)

def decAll (decStep : σ → E → σ × S) : σ → List E → σ × List S
  | s, [] => (s, [])
  | s, e :: es =>
    let r := decStep s e
    let r2 := decAll decStep r.1 es
    (r2.1, r.2 :: r2.2)

theorem lockstep (encStep : σ → S → σ × E) (decStep : σ → E → σ × S)
    (R : S → S → Prop) (inv : σ → Prop) (ok : S → Prop)
    (hstep : ∀ s x, inv s → ok x →
      (decStep s (encStep s x).2).1 = (encStep s x).1 ∧ R x (decStep s (encStep s x).2).2 ∧
      inv (encStep s x).1)
    (s : σ) (xs : List S) (hs : inv s) (hx : ∀ x ∈ xs, ok x) :
    (decAll decStep s (encAll encStep s xs).2).1 = (encAll encStep s xs).1 ∧
    AllRel R xs (decAll decStep s (encAll encStep s xs).2).2 ∧
    inv (encAll encStep s xs).1 := by
  induction xs generalizing s with
  | nil => exact ⟨rfl, AllRel.nil, hs⟩
  | cons x xs ih =>
    have hx0 : ok x := hx x (by simp)
    have hxs : ∀ y ∈ xs, ok y := fun y hy => hx y (by simp [hy])
    obtain ⟨h1, h2, h3⟩ := hstep s x hs hx0
    obtain ⟨i1, i2, i3⟩ := ih (encStep s x).1 h3 hxs
    simp only [encAll, decAll]
    rw [h1]
    exact ⟨i1, AllRel.cons h2 i2, i3⟩

theorem lockstep_exact (encStep : σ → S → σ × E) (decStep : σ → E → σ × S)
    (inv : σ → Prop) (ok : S → Prop)
    (hstep : ∀ s x, inv s → ok x →
      (decStep s (encStep s x).2).1 = (encStep s x).1 ∧ x = (decStep s (encStep s x).2).2 ∧
      inv (encStep s x).1)
    (s : σ) (xs : List S) (hs : inv s) (hx : ∀ x ∈ xs, ok x) :
    (decAll decStep s (encAll encStep s xs).2).2 = xs := by
  exact (AllRel.eq (lockstep encStep decStep Eq inv ok hstep s xs hs hx).2.1).symm

/-! ### variable-length, partial steps over a residual symbol stream

  JPEG-LS run mode consumes a variable number of samples per step, steps can fail, and the
  decoder reads from one undivided bit stream.  Encoder and decoder share the state type `σ`.  One encoder
  step consumes a non-empty prefix of the pending samples and emits symbols; the decoder step,
  told how many samples are still pending, consumes exactly those symbols. -/
section Var
variable {σ S B ε : Type}

def encAllV (e0 : ε) (encStep : σ → List S → Except ε (List B × σ × List S)) :
    Nat → σ → List S → Except ε (List B × σ)
  | 0, _, _ => .error e0
  | n + 1, s, todo =>
    if todo.isEmpty then .ok ([], s) else
    match encStep s todo with
    | .error e => .error e
    | .ok (ws, s', todo') =>
      match encAllV e0 encStep n s' todo' with
      | .error e => .error e
      | .ok (ws2, sf) => .ok (ws ++ ws2, sf)

def decAllV (e0 : ε) (decStep : σ → Nat → List B → Except ε (σ × Nat × List B)) :
    Nat → σ → Nat → List B → Except ε (σ × List B)
  | 0, _, _, _ => .error e0
  | n + 1, s, remaining, bs =>
    if remaining = 0 then .ok (s, bs) else
    match decStep s remaining bs with
    | .error e => .error e
    | .ok (s', remaining', bs') => decAllV e0 decStep n s' remaining' bs'

def mapSym {C : Type} (f : List B → List C) (encStep : σ → List S → Except ε (List B × σ × List S)) :
    σ → List S → Except ε (List C × σ × List S) :=
  fun s t => match encStep s t with
    | .error e => .error e
    | .ok (ws, s', t') => .ok (f ws, s', t')

theorem encAllV_map {C : Type} (f : List B → List C) (hnil : f [] = []) (happ : ∀ a b, f (a ++ b) = f a ++ f b)
    (e0 : ε) (encStep : σ → List S → Except ε (List B × σ × List S)) :
    ∀ (n : Nat) (s : σ) (todo : List S),
      encAllV e0 (mapSym f encStep) n s todo =
        match encAllV e0 encStep n s todo with
        | .error e => .error e
        | .ok (ws, sf) => .ok (f ws, sf)
  | 0, _, _ => rfl
  | n + 1, s, todo => by
    simp only [encAllV]
    by_cases he : todo.isEmpty
    · simp [he, hnil]
    · simp only [he, Bool.false_eq_true, if_false]
      cases hs : encStep s todo with
      | error e => simp [mapSym, hs]
      | ok r =>
        obtain ⟨ws, s', t'⟩ := r
        simp only [mapSym, hs]
        rw [encAllV_map f hnil happ e0 encStep n s' t']
        cases encAllV e0 encStep n s' t' with
        | error e => simp
        | ok r2 => obtain ⟨ws2, sf⟩ := r2; simp [happ]

/-- The encoder's symbols (type `B`) reach the decoder (type `C`) through a monoid morphism `f`. -/
theorem lockstep_var2 {C : Type} (f : List B → List C) (hnil : f [] = []) (happ : ∀ a b, f (a ++ b) = f a ++ f b)
    (Pr : List B → Prop) (hp0 : Pr []) (hpa : ∀ a b, Pr a → Pr b → Pr (a ++ b))
    (e0 : ε) (encStep : σ → List S → Except ε (List B × σ × List S))
    (decStep : σ → Nat → List C → Except ε (σ × Nat × List C)) (inv : σ → List S → Prop)
    (hstep : ∀ s todo, todo ≠ [] → inv s todo →
      ∃ ws s' todo', encStep s todo = .ok (ws, s', todo') ∧ todo'.length < todo.length ∧ inv s' todo' ∧ Pr ws ∧
        ∀ rest, decStep s todo.length (f ws ++ rest) = .ok (s', todo'.length, rest)) :
    ∀ (fuel : Nat) (s : σ) (todo : List S), todo.length < fuel → inv s todo →
      ∃ ws sf, encAllV e0 encStep fuel s todo = .ok (ws, sf) ∧ inv sf [] ∧ Pr ws ∧
        ∀ rest, decAllV e0 decStep fuel s todo.length (f ws ++ rest) = .ok (sf, rest)
  | 0, _, _, h, _ => by omega
  | n + 1, s, todo, hf, hi => by
    cases todo with
    | nil => exact ⟨[], s, by simp [encAllV], hi, hp0, fun rest => by simp [decAllV, hnil]⟩
    | cons x xs =>
      obtain ⟨ws, s', todo', he, hlt, hi', hpr, hd⟩ := hstep s (x :: xs) (by simp) hi
      obtain ⟨ws2, sf, he2, hif, hpr2, hd2⟩ :=
        lockstep_var2 f hnil happ Pr hp0 hpa e0 encStep decStep inv hstep n s' todo' (by omega) hi'
      refine ⟨ws ++ ws2, sf, ?_, hif, hpa _ _ hpr hpr2, ?_⟩
      · simp only [encAllV, List.isEmpty_cons, Bool.false_eq_true, if_false, he, he2]
      · intro rest
        have hne : (x :: xs).length ≠ 0 := by simp
        simp only [decAllV, hne, if_false]
        rw [happ, List.append_assoc, hd (f ws2 ++ rest)]
        exact hd2 rest

theorem lockstep_var (e0 : ε) (encStep : σ → List S → Except ε (List B × σ × List S))
    (decStep : σ → Nat → List B → Except ε (σ × Nat × List B)) (inv : σ → List S → Prop)
    (hstep : ∀ s todo, todo ≠ [] → inv s todo →
      ∃ ws s' todo', encStep s todo = .ok (ws, s', todo') ∧ todo'.length < todo.length ∧ inv s' todo' ∧
        ∀ rest, decStep s todo.length (ws ++ rest) = .ok (s', todo'.length, rest)) :
    ∀ (fuel : Nat) (s : σ) (todo : List S), todo.length < fuel → inv s todo →
      ∃ ws sf, encAllV e0 encStep fuel s todo = .ok (ws, sf) ∧ inv sf [] ∧
        ∀ rest, decAllV e0 decStep fuel s todo.length (ws ++ rest) = .ok (sf, rest) := by
  intro fuel s todo hf hi
  obtain ⟨ws, sf, he, hif, _, hd⟩ :=
    lockstep_var2 id rfl (fun _ _ => rfl) (fun _ => True) trivial (fun _ _ _ _ => trivial)
      e0 encStep decStep inv
      (fun s todo hne hi =>
        let ⟨ws, s', todo', he, hlt, hi', hd⟩ := hstep s todo hne hi
        ⟨ws, s', todo', he, hlt, hi', trivial, hd⟩)
      fuel s todo hf hi
  exact ⟨ws, sf, he, hif, hd⟩

end Var

end Lockstep
