import GdcVerif.Model.Rct
import GdcVerif.Lemmas.GoBits
/-! The generated RCT kernels (`Gen.J2kColor`) invert each other over `Int` (`inverse_forward`) and equal their int32
    reading of `Model/Rct.lean` under bounds that keep every operation from wrapping (`forward32_eq`, `inverse32_eq`). -/
namespace Rct
open Gen.J2kColor

theorem shr1 (x : Int) : Go.shr x 1 = x / 2 := Go.shr_one x

theorem inverse_forward (r g b : Int) :
    RCTInverse (RCTForward r g b).1 (RCTForward r g b).2.1 (RCTForward r g b).2.2 = (r, g, b) := by
  simp only [RCTForward, RCTInverse, Go.shr_two]
  -- `cb + cr = (r + 2g + b) - 4g`, so its quotient by 4 is `y - g`, and `y` minus that is `g` again
  ext <;> simp <;> omega

def I32 (x : Int) : Prop := -2147483648 ≤ x ∧ x ≤ 2147483647

theorem wrap32_id {x : Int} (h : I32 x) : Go.wrap32 x = x :=
  Go.wrap32_id h.1 (Int.lt_add_one_iff.mpr h.2)

/-- with `|r|,|g|,|b| ≤ 2^28` no int32 operation of `RCTForward` wraps -/
theorem forward32_eq {r g b : Int} (hr : -268435456 ≤ r ∧ r ≤ 268435456) (hg : -268435456 ≤ g ∧ g ≤ 268435456)
    (hb : -268435456 ≤ b ∧ b ≤ 268435456) : forward32 r g b = RCTForward r g b := by
  simp only [forward32, RCTForward]
  rw [wrap32_id (x := 2 * g) ⟨by omega, by omega⟩, wrap32_id (x := r + 2 * g) ⟨by omega, by omega⟩,
    wrap32_id (x := r + 2 * g + b) ⟨by omega, by omega⟩, wrap32_id (x := b - g) ⟨by omega, by omega⟩,
    wrap32_id (x := r - g) ⟨by omega, by omega⟩]

theorem forward_bounds {M r g b : Int} (hr : -M ≤ r ∧ r ≤ M) (hg : -M ≤ g ∧ g ≤ M) (hb : -M ≤ b ∧ b ≤ M) :
    (-M ≤ (RCTForward r g b).1 ∧ (RCTForward r g b).1 ≤ M) ∧
    (-(2 * M) ≤ (RCTForward r g b).2.1 ∧ (RCTForward r g b).2.1 ≤ 2 * M) ∧
    (-(2 * M) ≤ (RCTForward r g b).2.2 ∧ (RCTForward r g b).2.2 ≤ 2 * M) := by
  simp only [RCTForward, Go.shr_two]
  omega

theorem inverse32_eq {M y cb cr : Int} (hM : M ≤ 268435456) (hy : -M ≤ y ∧ y ≤ M) (hcb : -(2 * M) ≤ cb ∧ cb ≤ 2 * M)
    (hcr : -(2 * M) ≤ cr ∧ cr ≤ 2 * M) : inverse32 y cb cr = RCTInverse y cb cr := by
  simp only [inverse32, RCTInverse, Go.shr_two]
  rw [wrap32_id (x := cb + cr) ⟨by omega, by omega⟩]
  -- the green sample, within `2M`; red and blue add `cr`, `cb` to it
  have hg : -(2 * M) ≤ y - (cb + cr) / 4 ∧ y - (cb + cr) / 4 ≤ 2 * M := by omega
  generalize y - (cb + cr) / 4 = g at hg ⊢
  rw [wrap32_id (x := g) ⟨by omega, by omega⟩, wrap32_id (x := cr + g) ⟨by omega, by omega⟩,
    wrap32_id (x := cb + g) ⟨by omega, by omega⟩]

theorem inverse32_forward32 {r g b : Int} (hr : -268435456 ≤ r ∧ r ≤ 268435456) (hg : -268435456 ≤ g ∧ g ≤ 268435456)
    (hb : -268435456 ≤ b ∧ b ≤ 268435456) :
    inverse32 (forward32 r g b).1 (forward32 r g b).2.1 (forward32 r g b).2.2 = (r, g, b) := by
  rw [forward32_eq hr hg hb]
  have hbnd := forward_bounds hr hg hb
  rw [inverse32_eq (Int.le_refl _) hbnd.1 hbnd.2.1 hbnd.2.2]
  exact inverse_forward r g b

theorem zip3_map {α β γ δ : Type} (f1 : α → β) (f2 : α → γ) (f3 : α → δ) (t : List α) :
    (t.map f1).zip ((t.map f2).zip (t.map f3)) = t.map (fun x => (f1 x, f2 x, f3 x)) := by
  induction t with
  | nil => rfl
  | cons a t ih => simp [ih]

/-- the slice wrappers `ApplyRCTToComponents` / `ApplyInverseRCTToComponents` -/
theorem apply_roundtrip (r g b : List Int) (hg : g.length = r.length) (hb : b.length = r.length) :
    (applyForward r g b).bind (fun t => applyInverse (t.map (·.1)) (t.map (·.2.1)) (t.map (·.2.2)))
      = some (r.zip (g.zip b)) := by
  simp only [applyForward, applyInverse, hg, hb, Nat.lt_irrefl, or_self, if_false, Option.bind_some,
    List.length_map]
  rw [zip3_map, List.map_map, List.map_map,
    List.map_congr_left (g := id) fun x _ => inverse_forward x.1 x.2.1 x.2.2, List.map_id]

end Rct
