import GdcVerif.Lemmas.Htj2kBits
import GdcVerif.Lemmas.BitList
import GdcVerif.Lemmas.Basics
/-!
  MagSgn bit packing: writer and reader are each related to the LSB-first bit list of the byte string (`unpackL`);
  the reader sees the written list continued by ones (`sbit`).
-/
namespace Htj2k

def bitsLSB (n v : Nat) : List Bool := (Bits.msb v n).reverse

theorem bitsLSB_zero (v : Nat) : bitsLSB 0 v = [] := rfl

theorem bitsLSB_add (a b v : Nat) : bitsLSB (a + b) v = bitsLSB a v ++ bitsLSB b (v / 2 ^ a) := by
  rw [bitsLSB, bitsLSB, bitsLSB, Nat.add_comm, Bits.msb_add, List.reverse_append, Nat.shiftRight_eq_div_pow]

theorem bitsLSB_mod (n v : Nat) : bitsLSB n (v % 2 ^ n) = bitsLSB n v := by
  rw [bitsLSB, bitsLSB, Bits.msb_mod v (Nat.le_refl n)]

theorem bitsLSB_concat (a b v w : Nat) (hv : v < 2 ^ a) :
    bitsLSB (a + b) (v + w * 2 ^ a) = bitsLSB a v ++ bitsLSB b w := by
  rw [bitsLSB, bitsLSB, bitsLSB, Nat.add_comm a b, Nat.add_comm v, Nat.mul_comm w, Bits.msb_mul_add w hv,
    List.reverse_append]

theorem bitsLSB_ones (t : Nat) : bitsLSB t (2 ^ t - 1) = List.replicate t true := by
  rw [bitsLSB, Bits.msb_ones t t (Nat.le_refl t), List.reverse_replicate]

/-- stream reading with implicit all-ones continuation (the MagSgn decoder feeds 0xFF beyond the data);
    `sbit a = sbit b`: no reader can tell `a` from `b` -/
def sbit (l : List Bool) (i : Nat) : Bool := l.getD i true

theorem sbit_append_ones (l : List Bool) (n : Nat) : sbit (l ++ List.replicate n true) = sbit l := by
  funext i
  unfold sbit
  by_cases h : i < l.length
  · simp [List.getD_eq_getElem?_getD, List.getElem?_append_left h]
  · have h' : l.length ≤ i := by omega
    rw [List.getD_eq_getElem?_getD, List.getD_eq_getElem?_getD, List.getElem?_append_right h',
      List.getElem?_eq_none h']
    by_cases h2 : i - l.length < n
    · simp [h2]
    · simp [h2]

theorem sbit_append_left (p q : List Bool) (i : Nat) (h : i < p.length) : sbit (p ++ q) i = p[i] := by
  unfold sbit
  rw [List.getD_eq_getElem?_getD, List.getElem?_append_left h, List.getElem?_eq_getElem h]; rfl

theorem sbit_split (P Q B S : List Bool) (hlen : P.length = B.length) (h : sbit (P ++ Q) = sbit (B ++ S)) :
    P = B ∧ sbit Q = sbit S := by
  constructor
  · apply List.ext_getElem hlen
    intro i h1 h2
    have := congrFun h i
    rwa [sbit_append_left _ _ i h1, sbit_append_left _ _ i h2] at this
  · funext i
    have := congrFun h (P.length + i)
    unfold sbit at this ⊢
    rwa [List.getD_append_add, hlen, List.getD_append_add] at this

abbrev unpackL : Bool → List Nat → List Bool := unpackBy bitsLSB

theorem unpackL_snoc (ff : Bool) (a : List Nat) (x : Nat) :
    unpackL ff (a ++ [x]) = unpackL ff a ++ bitsLSB (if lastFF ff a then 7 else 8) x :=
  unpackBy_snoc _ ff a x

def MsWriter.view (m : MsWriter) : List Bool := unpackL false m.buf ++ bitsLSB m.usedBits m.tmp

structure MsWriter.Inv (m : MsWriter) : Prop where
  used : m.usedBits < m.maxBits
  tmp : m.tmp < 2 ^ m.usedBits
  maxb : m.maxBits = if lastFF false m.buf then 7 else 8
  stuffed : Stuffed false m.buf
  bytes : ∀ x ∈ m.buf, x < 256

theorem msw_init : ({} : MsWriter).Inv := ⟨by decide, by decide, by decide, trivial, by simp⟩

theorem msw_close (m : MsWriter) (hi : m.Inv) (X t B : Nat) (hX : X < 2 ^ t) (ht : m.usedBits + t = m.maxBits)
    (hB : B = m.tmp + X * 2 ^ m.usedBits) :
    B < 256 ∧ MsWriter.Inv ⟨m.buf ++ [B], if B = 255 then 7 else 8, 0, 0⟩ ∧
    MsWriter.view ⟨m.buf ++ [B], if B = 255 then 7 else 8, 0, 0⟩ = m.view ++ bitsLSB t X := by
  have hlt : B < 2 ^ (if lastFF false m.buf then 7 else 8) := by
    rw [hB, ← hi.maxb, ← ht]; exact lt_pow_add hi.tmp hX
  obtain ⟨hs, h256⟩ := stuffed_close m.buf B hi.stuffed hlt
  refine ⟨h256, ⟨?_, Nat.two_pow_pos 0, ?_, hs, fun x hx => ?_⟩, ?_⟩
  · show 0 < if B = 255 then 7 else 8
    split <;> omega
  · exact (byteCap_snoc false m.buf B).symm
  · rcases List.mem_append.mp hx with h | h
    · exact hi.bytes x h
    · rwa [List.mem_singleton.mp h]
  · show unpackL false (m.buf ++ [B]) ++ bitsLSB 0 0 = _
    rw [unpackL_snoc, hB, ← hi.maxb, ← ht, bitsLSB_concat _ _ _ _ hi.tmp, MsWriter.view, bitsLSB_zero, List.append_nil,
      List.append_assoc]

theorem msw_keep (m : MsWriter) (hi : m.Inv) (X t : Nat) (hX : X < 2 ^ t) (ht : m.usedBits + t < m.maxBits) :
    MsWriter.Inv { m with tmp := m.tmp + X * 2 ^ m.usedBits, usedBits := m.usedBits + t } ∧
    MsWriter.view { m with tmp := m.tmp + X * 2 ^ m.usedBits, usedBits := m.usedBits + t } = m.view ++ bitsLSB t X :=
  ⟨⟨ht, lt_pow_add hi.tmp hX, hi.maxb, hi.stuffed, hi.bytes⟩, by
    simp only [MsWriter.view]
    rw [bitsLSB_concat _ _ _ _ hi.tmp, List.append_assoc]⟩

/-- a turn of the loop moves the `t` low bits of `cwd` into the open byte, which either stays open or is closed -/
theorem msw_loop (f : Nat) : ∀ (m : MsWriter) (cwd len : Nat), m.Inv → len ≤ f →
    (MsWriter.encodeLoop f m cwd len).Inv ∧
    (MsWriter.encodeLoop f m cwd len).view = m.view ++ bitsLSB len cwd := by
  induction f with
  | zero =>
    intro m cwd len hi hl
    have : len = 0 := by omega
    subst this
    simp [MsWriter.encodeLoop, hi, bitsLSB_zero]
  | succ f ih =>
    intro m cwd len hi hl
    unfold MsWriter.encodeLoop
    by_cases h0 : len = 0
    · subst h0; simp [hi, bitsLSB_zero]
    · simp only [h0, if_false]
      have hused := hi.used
      generalize ht : min (m.maxBits - m.usedBits) len = t
      have hx : cwd % 2 ^ t < 2 ^ t := Nat.mod_lt _ (Nat.two_pow_pos t)
      have hsplit : bitsLSB len cwd = bitsLSB t (cwd % 2 ^ t) ++ bitsLSB (len - t) (cwd / 2 ^ t) := by
        rw [bitsLSB_mod, ← bitsLSB_add]; congr 1; omega
      by_cases hfull : m.usedBits + t ≥ m.maxBits
      · obtain ⟨hb256, hinv', hview⟩ := msw_close m hi (cwd % 2 ^ t) t _ hx (by omega) rfl
        simp only [hfull, if_true]
        rw [Nat.mod_eq_of_lt hb256]
        obtain ⟨i1, i2⟩ := ih _ (cwd / 2 ^ t) (len - t) hinv' (by omega)
        exact ⟨i1, by rw [i2, hview, hsplit, List.append_assoc]⟩
      · obtain ⟨hinv', hview⟩ := msw_keep m hi (cwd % 2 ^ t) t hx (by omega)
        simp only [hfull, if_false]
        obtain ⟨i1, i2⟩ := ih _ (cwd / 2 ^ t) (len - t) hinv' (by omega)
        exact ⟨i1, by rw [i2, hview, hsplit, List.append_assoc]⟩

/-- a trailing 0xFF may be dropped: it was written with 8 bits, and the reader continues the data with ones -/
theorem sbit_drop_ff (a : List Nat) (hst : Stuffed false (a ++ [255])) :
    sbit (unpackL false (a ++ [255])) = sbit (unpackL false a) := by
  have hla : lastFF false a = false := by
    by_cases hl : lastFF false a = true
    · have := stuffed_snoc_inv false a 255 hst hl; omega
    · simpa using hl
  rw [unpackL_snoc, hla]
  exact sbit_append_ones _ 8

theorem msw_terminate (m : MsWriter) (hi : m.Inv) :
    sbit (unpackL false m.terminate) = sbit m.view ∧ ∀ x ∈ m.terminate, x < 256 := by
  unfold MsWriter.terminate
  by_cases hu : m.usedBits = 0
  · simp only [hu, ne_eq, not_true_eq_false, if_false]
    have hv : m.view = unpackL false m.buf := by simp [MsWriter.view, hu, bitsLSB_zero]
    by_cases h7 : m.maxBits = 7 ∧ m.buf.length > 0
    · simp only [h7, and_self, if_true]
      refine ⟨?_, fun x hx => hi.bytes x (List.dropLast_subset _ hx)⟩
      obtain ⟨a, x, hax⟩ : ∃ a x, m.buf = a ++ [x] := by
        have hne : m.buf ≠ [] := by intro h; rw [h] at h7; simp at h7
        exact ⟨m.buf.dropLast, m.buf.getLast hne, (List.dropLast_concat_getLast hne).symm⟩
      have hx : x = 255 := by
        have := hi.maxb
        rw [h7.1, hax, lastFF_snoc] at this
        by_cases hx : x = 255
        · exact hx
        · simp [hx] at this
      subst hx
      rw [hv, hax, List.dropLast_concat, sbit_drop_ff a (hax ▸ hi.stuffed)]
    · simp only [h7, if_false]
      exact ⟨by rw [hv], hi.bytes⟩
  · simp only [hu, ne_eq, not_false_eq_true, if_true]
    have hused := hi.used
    have hmax8 : m.maxBits ≤ 8 := by rw [hi.maxb]; exact byteCap_le false m.buf
    generalize ht : m.maxBits - m.usedBits = t
    have hpos := Nat.two_pow_pos t
    obtain ⟨hb256, hc, hview⟩ := msw_close m hi (2 ^ t - 1) t _ (by omega) (by omega) rfl
    replace hview := (List.append_nil _).symm.trans hview
    rw [bitsLSB_ones] at hview
    have hones : (2 ^ t - 1) % 256 = 2 ^ t - 1 := by
      apply Nat.mod_eq_of_lt
      have : 2 ^ t ≤ 2 ^ 8 := Nat.pow_le_pow_right (by omega) (by omega)
      omega
    rw [hones, Nat.mod_eq_of_lt hb256]
    generalize m.tmp + (2 ^ t - 1) * 2 ^ m.usedBits = B at *
    by_cases h255 : B = 255
    · subst h255
      simp only [not_true_eq_false, if_false]
      exact ⟨by rw [← sbit_drop_ff m.buf hc.stuffed, hview, sbit_append_ones], hi.bytes⟩
    · simp only [h255, not_false_eq_true, if_true]
      exact ⟨by rw [hview, sbit_append_ones], hc.bytes⟩

def MsReader.view (r : MsReader) : List Bool :=
  bitsLSB r.bitCount r.bitBuffer ++ unpackL (decide (r.lastByte = 255)) r.rest

structure MsReader.Inv (r : MsReader) : Prop where
  buf : r.bitBuffer < 2 ^ r.bitCount
  bytes : ∀ x ∈ r.rest, x < 256

theorem msr_fill (n : Nat) (rest : List Nat) : ∀ (buf cnt last : Nat), buf < 2 ^ cnt → (∀ x ∈ rest, x < 256) →
    (MsReader.fill n rest buf cnt last).Inv ∧
    (MsReader.fill n rest buf cnt last).view = bitsLSB cnt buf ++ unpackL (decide (last = 255)) rest ∧
    ((MsReader.fill n rest buf cnt last).bitCount < n → (MsReader.fill n rest buf cnt last).rest = []) := by
  induction rest with
  | nil => intro buf cnt last hb _; exact ⟨⟨hb, by simp [MsReader.fill]⟩, rfl, fun _ => rfl⟩
  | cons b rest ih =>
    intro buf cnt last hb hr
    have hb256 : b < 256 := hr b (List.mem_cons_self)
    have hr' : ∀ x ∈ rest, x < 256 := fun x hx => hr x (List.mem_cons_of_mem _ hx)
    unfold MsReader.fill
    by_cases hc : cnt < n
    · simp only [hc, if_true]
      by_cases hl : last = 255
      · simp only [hl, if_true]
        have hx : b % 128 < 2 ^ 7 := Nat.mod_lt _ (by decide)
        obtain ⟨i1, i2, i3⟩ := ih (buf + b % 128 * 2 ^ cnt) (cnt + 7) b (lt_pow_add hb hx) hr'
        refine ⟨i1, ?_, i3⟩
        rw [i2, bitsLSB_concat _ _ _ _ hb]
        have : bitsLSB 7 (b % 128) = bitsLSB 7 b := bitsLSB_mod 7 b
        simp [unpackBy, this, List.append_assoc]
      · simp only [hl, if_false]
        have hx : b < 2 ^ 8 := hb256
        obtain ⟨i1, i2, i3⟩ := ih (buf + b * 2 ^ cnt) (cnt + 8) b (lt_pow_add hb hx) hr'
        refine ⟨i1, ?_, i3⟩
        rw [i2, bitsLSB_concat _ _ _ _ hb]
        simp [unpackBy, List.append_assoc]
    · simp only [hc, if_false]
      exact ⟨⟨hb, hr⟩, rfl, fun h => by simp at h⟩

theorem msr_pad (f n : Nat) : ∀ (r : MsReader), r.Inv → r.rest = [] →
    (MsReader.pad f n r).Inv ∧ sbit (MsReader.pad f n r).view = sbit r.view ∧
    (n ≤ r.bitCount + 7 * f → n ≤ (MsReader.pad f n r).bitCount) := by
  induction f with
  | zero => intro r hi _; exact ⟨hi, rfl, fun h => by simpa [MsReader.pad] using h⟩
  | succ f ih =>
    intro r hi hr
    have step : ∀ c, 7 ≤ c →
        let r' : MsReader := { r with bitBuffer := r.bitBuffer + (2 ^ c - 1) * 2 ^ r.bitCount,
                                      bitCount := r.bitCount + c, lastByte := 255 }
        (MsReader.pad f n r').Inv ∧ sbit (MsReader.pad f n r').view = sbit r.view ∧
        (n ≤ r.bitCount + 7 * (f + 1) → n ≤ (MsReader.pad f n r').bitCount) := by
      intro c hc7 r'
      have hinv : r'.Inv := ⟨lt_pow_add (k := c) hi.buf (Nat.sub_lt (Nat.two_pow_pos c) Nat.one_pos), hi.bytes⟩
      obtain ⟨i1, i2, i3⟩ := ih r' hinv hr
      refine ⟨i1, ?_, fun h => i3 (by show n ≤ r.bitCount + c + 7 * f; omega)⟩
      rw [i2]
      simp only [MsReader.view, r', hr, unpackBy, List.append_nil]
      rw [bitsLSB_concat _ _ _ _ hi.buf, bitsLSB_ones, sbit_append_ones]
    unfold MsReader.pad
    by_cases hc : r.bitCount < n
    · simp only [hc, if_true]
      split
      · exact step 7 (Nat.le_refl 7)
      · exact step 8 (by decide)
    · simp only [hc, if_false]
      exact ⟨hi, trivial, fun _ => by omega⟩

theorem msr_read (r : MsReader) (n : Nat) (hi : r.Inv) (hn : 1 ≤ n) (B S : List Bool) (hB : B.length = n)
    (hs : sbit r.view = sbit (B ++ S)) :
    (r.readBits n).1 = Bits.val B.reverse ∧ (r.readBits n).2.2.Inv ∧ sbit (r.readBits n).2.2.view = sbit S := by
  obtain ⟨f1, f2, f3⟩ := msr_fill n r.rest r.bitBuffer r.bitCount r.lastByte hi.buf hi.bytes
  unfold MsReader.readBits
  simp only [show n ≠ 0 by omega, if_false]
  generalize MsReader.fill n r.rest r.bitBuffer r.bitCount r.lastByte = r1 at f1 f2 f3 ⊢
  -- `r2`: the reader filled to `n` bits, with ones beyond the data
  generalize hr2 : (if r1.bitCount < n then MsReader.pad n n r1 else r1) = r2
  obtain ⟨i1, i2, i3⟩ : r2.Inv ∧ n ≤ r2.bitCount ∧ sbit r2.view = sbit (B ++ S) := by
    subst hr2
    split
    next hc =>
      obtain ⟨p1, p2, p3⟩ := msr_pad n n _ f1 (f3 hc)
      exact ⟨p1, p3 (by omega), p2.trans (f2 ▸ hs)⟩
    next hc => exact ⟨f1, by omega, f2 ▸ hs⟩
  have hview : r2.view = bitsLSB n r2.bitBuffer ++
      (bitsLSB (r2.bitCount - n) (r2.bitBuffer / 2 ^ n) ++ unpackL (decide (r2.lastByte = 255)) r2.rest) := by
    rw [MsReader.view, show r2.bitCount = n + (r2.bitCount - n) by omega, bitsLSB_add, List.append_assoc,
      Nat.add_sub_cancel_left]
  obtain ⟨hpre, hrest⟩ := sbit_split _ _ B S ((by simp [bitsLSB] : (bitsLSB n r2.bitBuffer).length = n).trans hB.symm) (hview ▸ i3)
  refine ⟨?_, ⟨?_, i1.bytes⟩, hrest⟩
  · show r2.bitBuffer % 2 ^ n = Bits.val B.reverse
    rw [← hpre, bitsLSB, List.reverse_reverse, Bits.val_msb]
  · show r2.bitBuffer / 2 ^ n < 2 ^ (r2.bitCount - n)
    apply Nat.div_lt_of_lt_mul
    rw [← Nat.pow_add, show n + (r2.bitCount - n) = r2.bitCount by omega]
    exact i1.buf

def msBits : List (Nat × Nat) → List Bool
  | [] => []
  | (cwd, len) :: ws => bitsLSB len cwd ++ msBits ws

theorem msw_all (ws : List (Nat × Nat)) : ∀ (m : MsWriter), m.Inv →
    (m.encodeAll ws).Inv ∧ (m.encodeAll ws).view = m.view ++ msBits ws := by
  induction ws with
  | nil => intro m hi; exact ⟨hi, by simp [MsWriter.encodeAll, msBits]⟩
  | cons w ws ih =>
    intro m hi
    obtain ⟨cwd, len⟩ := w
    obtain ⟨a1, a2⟩ := msw_loop len m cwd len hi (Nat.le_refl _)
    obtain ⟨b1, b2⟩ := ih (m.encode cwd len) a1
    refine ⟨b1, ?_⟩
    show ((m.encode cwd len).encodeAll ws).view = _
    rw [b2]
    show (MsWriter.encodeLoop len m cwd len).view ++ _ = _
    rw [a2]; simp [msBits, List.append_assoc]

theorem msr_all (ws : List (Nat × Nat)) : ∀ (r : MsReader) (S : List Bool), r.Inv →
    sbit r.view = sbit (msBits ws ++ S) →
    r.readAll (ws.map (·.2)) = ws.map (fun w => w.1 % 2 ^ w.2) := by
  induction ws with
  | nil => intro r S _ _; rfl
  | cons w ws ih =>
    intro r S hi hs
    obtain ⟨cwd, len⟩ := w
    by_cases hl : len = 0
    · -- `readBits 0` returns 0 and leaves the reader alone
      subst hl
      simp only [List.map_cons, MsReader.readAll, MsReader.readBits, if_true, Nat.pow_zero, Nat.mod_one]
      congr 1
      exact ih r S hi (by simpa [msBits, bitsLSB_zero] using hs)
    · have hs' : sbit r.view = sbit (bitsLSB len cwd ++ (msBits ws ++ S)) := by
        rw [hs]; simp [msBits, List.append_assoc]
      obtain ⟨v1, v2, v3⟩ := msr_read r len hi (by omega) (bitsLSB len cwd) (msBits ws ++ S) (by simp [bitsLSB]) hs'
      simp only [List.map_cons, MsReader.readAll]
      rw [v1, bitsLSB, List.reverse_reverse, Bits.val_msb]
      congr 1
      exact ih _ S v2 v3

end Htj2k
