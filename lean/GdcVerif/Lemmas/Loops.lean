/-!
  Folds and maps whose steps succeed, in any lawful monad.  "Succeeds with `b`" is `= pure b`, which is `some b` in
  `Option`, `.ok b` in `Except` and in the codecs' own outcome types, so one statement serves them all.

  The fold invariants are indexed by the prefix consumed so far and give the step the position it is taken at
  (`l = pre ++ a :: post`): an invariant of the state alone, one indexed by a counter, one that only needs
  `a ∈ l`, one whose state is a function of the prefix, the pure `foldl` (the fold in `Id`), are all instances.
  `foldlM_lock` (two folds in lock-step), `mapM_some_get` and `ite_some_bind` are stated for `Option` only.
-/
namespace Loop
variable {m : Type → Type} [Monad m] [LawfulMonad m] {α β γ : Type}

theorem foldlM_inv (f : β → α → m β) (I : List α → β → Prop) (l : List α)
    (step : ∀ pre a post b, l = pre ++ a :: post → I pre b → ∃ b', f b a = pure b' ∧ I (pre ++ [a]) b')
    (b : β) (h0 : I [] b) : ∃ b', l.foldlM f b = pure b' ∧ I l b' := by
  suffices h : ∀ (post pre : List α) (b : β), l = pre ++ post → I pre b →
      ∃ b', post.foldlM f b = pure b' ∧ I l b' from h l [] b rfl h0
  intro post
  induction post with
  | nil => intro pre b hl hb; exact ⟨b, rfl, by rw [hl, List.append_nil]; exact hb⟩
  | cons a post ih =>
    intro pre b hl hb
    obtain ⟨b', hf, hb'⟩ := step pre a post b hl hb
    rw [List.foldlM_cons, hf, pure_bind]
    exact ih (pre ++ [a]) b' (by rw [hl, List.append_assoc]; rfl) hb'

theorem foldlM_inv_mem (f : β → α → m β) (P : β → Prop) (l : List α)
    (step : ∀ a b, a ∈ l → P b → ∃ b', f b a = pure b' ∧ P b') (b : β) (h0 : P b) :
    ∃ b', l.foldlM f b = pure b' ∧ P b' :=
  foldlM_inv f (fun _ => P) l (fun pre a post b hl hb => step a b (by rw [hl]; simp) hb) b h0

theorem foldlM_rep (f : β → α → m β) (R : List α → β) (l : List α)
    (step : ∀ pre a post, l = pre ++ a :: post → f (R pre) a = pure (R (pre ++ [a]))) :
    l.foldlM f (R []) = pure (R l) := by
  obtain ⟨b, h1, rfl⟩ := foldlM_inv f (fun pre b => b = R pre) l
    (fun pre a post b hl hb => ⟨_, hb ▸ step pre a post hl, rfl⟩) (R []) rfl
  exact h1

theorem range_split {n : Nat} {pre post : List Nat} {a : Nat} (h : List.range n = pre ++ a :: post) :
    a = pre.length ∧ pre.length < n := by
  have hlen := congrArg List.length h
  simp only [List.length_range, List.length_append, List.length_cons] at hlen
  have := congrArg (fun l => l[pre.length]?) h
  simp only [List.getElem?_append_right (Nat.le_refl _), Nat.sub_self, List.getElem?_cons_zero] at this
  rw [List.getElem?_range (by omega)] at this
  exact ⟨(Option.some.inj this).symm, by omega⟩

theorem foldlM_range_inv (f : β → Nat → m β) (I : Nat → β → Prop) (n : Nat)
    (step : ∀ i b, i < n → I i b → ∃ b', f b i = pure b' ∧ I (i + 1) b') (b : β) (h0 : I 0 b) :
    ∃ b', (List.range n).foldlM f b = pure b' ∧ I n b' := by
  have := foldlM_inv f (fun pre b => I pre.length b) (List.range n) (fun pre a post b hl hb => by
    obtain ⟨rfl, hlt⟩ := range_split hl
    simpa using step _ b hlt hb) b h0
  simpa using this

theorem foldlM_congr {m : Type → Type} [Monad m] (f g : β → α → m β) :
    ∀ (l : List α) (b : β), (∀ a ∈ l, ∀ b, f b a = g b a) → l.foldlM f b = l.foldlM g b
  | [], _, _ => rfl
  | a :: l, b, h => by
    rw [List.foldlM_cons, List.foldlM_cons, h a (by simp)]
    congr 1; funext b'
    exact foldlM_congr f g l b' fun a ha => h a (by simp [ha])

theorem foldlM_sim (f : β → α → m β) (g : γ → α → m γ) (p : β → γ) :
    ∀ (l : List α), (∀ a ∈ l, ∀ b, g (p b) a = p <$> f b a) → ∀ b, l.foldlM g (p b) = p <$> l.foldlM f b
  | [], _, b => by simp
  | a :: l, h, b => by
    rw [List.foldlM_cons, List.foldlM_cons, h a (by simp), map_eq_pure_bind, bind_assoc, map_eq_pure_bind,
      bind_assoc]
    congr 1; funext b'
    rw [pure_bind, foldlM_sim f g p l (fun a ha => h a (by simp [ha])) b', map_eq_pure_bind]

theorem run_fold {σ τ : Type} (loop : Nat → σ → Nat → m τ) (step : Nat → σ → m σ) (lim : Nat)
    (h1 : ∀ f s i, i < lim → loop (f + 1) s i = step i s >>= fun s' => loop f s' (i + 1)) :
    ∀ (n f : Nat) (s : σ) (i : Nat), i + n ≤ lim →
      loop (f + n) s i = (List.range' i n).foldlM (fun s i => step i s) s >>= fun s' => loop f s' (i + n)
  | 0, f, s, i, _ => by simp
  | n + 1, f, s, i, hl => by
    rw [show f + (n + 1) = f + n + 1 by omega, h1 _ s i (by omega), List.range'_succ, List.foldlM_cons, bind_assoc]
    congr 1; funext s'
    rw [run_fold loop step lim h1 n f s' (i + 1) (by omega), show i + 1 + n = i + (n + 1) by omega]

theorem mapM_pure (f : α → m β) (g : α → β) : ∀ l : List α, (∀ a ∈ l, f a = pure (g a)) → l.mapM f = pure (l.map g)
  | [], _ => by simp
  | a :: l, h => by
    rw [List.mapM_cons, h a (by simp), pure_bind, mapM_pure f g l fun a ha => h a (by simp [ha]), pure_bind,
      List.map_cons]

theorem array_mapM_pure (f : α → m β) (g : α → β) (a : Array α) (h : ∀ x ∈ a.toList, f x = pure (g x)) :
    a.mapM f = pure (a.map g) := by
  rw [Array.mapM_eq_mapM_toList, mapM_pure f g a.toList h, map_pure, ← Array.toList_map, Array.toArray_toList]

theorem mapM_some_get (f : α → Option β) : ∀ (l : List α) (r : List β), l.mapM f = some r →
    ∀ (c : Nat) (a : α), l[c]? = some a → ∃ b, r[c]? = some b ∧ f a = some b
  | [], _, _, _, _, hc => by simp at hc
  | x :: l, r, h, c, a, hc => by
    rw [List.mapM_cons] at h
    cases hx : f x with
    | none => simp [hx] at h
    | some y =>
      cases hm : l.mapM f with
      | none => simp [hx, hm] at h
      | some ys =>
        obtain rfl : y :: ys = r := by simpa [hx, hm] using h
        cases c with
        | zero =>
          obtain rfl : x = a := by simpa using hc
          exact ⟨y, rfl, hx⟩
        | succ c => exact mapM_some_get f l ys hm c a hc

/-- a step taken only under the guard `b` (default `a0` otherwise), as `do` notation leaves it: the rest `k` of
    the block in both branches -/
theorem guard_bind {b : Prop} [Decidable b] {x : m α} {a a0 : α} (h : b → x = pure a) (k : α → m β) :
    (if b then x >>= k else pure a0 >>= k) = k (if b then a else a0) := by
  split
  · next hb => rw [h hb, pure_bind]
  · rw [pure_bind]

theorem foldl_inv (f : β → α → β) (I : List α → β → Prop) (l : List α)
    (step : ∀ pre a post b, l = pre ++ a :: post → I pre b → I (pre ++ [a]) (f b a))
    (b : β) (h0 : I [] b) : I l (l.foldl f b) := by
  obtain ⟨b', h, hI⟩ := foldlM_inv (m := Id) (fun b a => pure (f b a)) I l
    (fun pre a post b hl hb => ⟨_, rfl, step pre a post b hl hb⟩) b h0
  rw [List.foldlM_pure] at h
  exact (show l.foldl f b = b' from h) ▸ hI

theorem foldl_inv_mem (f : β → α → β) (P : β → Prop) (l : List α) (step : ∀ a b, a ∈ l → P b → P (f b a))
    (b : β) (h0 : P b) : P (l.foldl f b) :=
  foldl_inv f (fun _ => P) l (fun pre a post b hl hb => step a b (by rw [hl]; simp) hb) b h0

theorem ite_some_bind {c : Prop} [Decidable c] {a : Option α} {s s' : α} (k : α → Option β)
    (h : (if c then a else some s) = some s') : (if c then a.bind k else k s) = k s' := by
  split at h
  · rw [if_pos ‹c›, h]; rfl
  · cases h; rw [if_neg ‹¬c›]

theorem foldl_paint {S Op V : Type} (step : S → Op → S) (view : S → V) (target : V) (hit : Op → Prop) [DecidablePred hit]
    (hstep : ∀ g op, view (step g op) = if hit op then target else view g) :
    ∀ (ops : List Op) (init : S), view (ops.foldl step init) = if ∃ op ∈ ops, hit op then target else view init
  | [], _ => by simp
  | op :: ops, init => by
    rw [List.foldl_cons, foldl_paint step view target hit hstep ops, hstep]
    by_cases h : hit op <;> by_cases h' : ∃ o ∈ ops, hit o <;> simp [h, h']

theorem foldl_max_le (f : α → Nat) (d : Nat) : ∀ (l : List α) (init : Nat),
    l.foldl (fun m c => max m (f c)) init ≤ d ↔ init ≤ d ∧ ∀ c ∈ l, f c ≤ d
  | [], init => by simp
  | a :: l, init => by
    rw [List.foldl_cons, foldl_max_le f d l, Nat.max_le]
    simp only [List.mem_cons, forall_eq_or_imp, and_assoc]

theorem le_foldl_max (f : α → Nat) (l : List α) (init : Nat) :
    init ≤ l.foldl (fun m c => max m (f c)) init ∧ ∀ c ∈ l, f c ≤ l.foldl (fun m c => max m (f c)) init :=
  (foldl_max_le f _ l init).mp (Nat.le_refl _)

/-- lock-step fold: the facts `F` travel backwards; the invariant `I` is indexed by the remaining list -/
theorem foldlM_lock {α σe σd : Type} (fe : σe → α → Option σe) (fd : σd → α → Option σd)
    (P F : σe → Prop) (Q : α → Prop) (I : List α → σe → σd → Prop)
    (hstep : ∀ (a : α) (l : List α) (s : σe), P s → Q a → ∃ s', fe s a = some s' ∧ P s' ∧ (F s' → F s) ∧
      (F s' → ∀ sd, I (a :: l) s sd → ∃ sd', fd sd a = some sd' ∧ I l s' sd')) :
    ∀ (l : List α) (s : σe), (∀ a ∈ l, Q a) → P s → ∃ s', l.foldlM fe s = some s' ∧ P s' ∧ (F s' → F s) ∧
      (F s' → ∀ sd, I l s sd → ∃ sd', l.foldlM fd sd = some sd' ∧ I [] s' sd') := by
  intro l
  induction l with
  | nil => intro s _ hs; exact ⟨s, rfl, hs, id, fun _ sd hI => ⟨sd, rfl, hI⟩⟩
  | cons a l ih =>
    intro s hQ hs
    obtain ⟨s1, e1, hp1, hb1, hl1⟩ := hstep a l s hs (hQ a List.mem_cons_self)
    obtain ⟨s2, e2, hp2, hb2, hl2⟩ := ih s1 (fun b hb => hQ b (List.mem_cons_of_mem _ hb)) hp1
    refine ⟨s2, by rw [List.foldlM_cons, e1]; exact e2, hp2, fun hF => hb1 (hb2 hF), ?_⟩
    intro hF sd hI
    obtain ⟨sd1, ed1, hI1⟩ := hl1 (hb2 hF) sd hI
    obtain ⟨sd2, ed2, hI2⟩ := hl2 hF sd1 hI1
    exact ⟨sd2, by rw [List.foldlM_cons, ed1]; exact ed2, hI2⟩

end Loop
