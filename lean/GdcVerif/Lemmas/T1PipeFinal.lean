import GdcVerif.Lemmas.T1PipeEnc
import GdcVerif.Lemmas.T1BlockLock
import GdcVerif.Lemmas.T1ZeroBlock
/-!
  C20 — the T1 configuration of the reversible pipeline, assembled: fractional bits on the encoder side, OpenJPEG
  reconstruction at `maxBitplane = numbps` and halving on the decoder side.
-/
namespace T1
open Gen

/-- `Encode` (style 0, all passes), then `DecodeWithBitplane` with OpenJPEG
reconstruction at `maxBitplane = numbps = mb + 1`, then `coeffs[i] /= 2`, returns the coefficients
(`|c| < 2^29`; the pipeline has `|c| < 2^25`) -/
theorem t1_roundtrip_oj (w h orient mb : Nat) (coeffs : List Int) (hlen : coeffs.length = w * h)
    (hbnd : ∀ c ∈ coeffs, c.natAbs < 536870912) (hmb : findMaxBitplane (padBlock w h coeffs) = some mb) :
    ∃ bytes out, encodeBlock w h orient 0 coeffs (3 * mb + 1) = .ok bytes ∧
      decodeBlockOJ w h orient 0 (3 * mb + 1) ((mb + 1 : Nat) : Int) bytes = .ok out ∧ out.map halveT = coeffs := by
  obtain ⟨bytes, he, hne, hd⟩ := blockG_roundtrip ojR_holds (by decide) w h orient 0 mb coeffs hlen hbnd hmb
    (by decide) (by decide)
  refine ⟨bytes, _, he, by rw [decodeBlockOJ_eqG]; exact hd (hne (by decide)), ?_⟩
  simp only [List.map_flatMap, List.map_map, Function.comp_def, halve_ojv, rows_eq w h coeffs hlen]

/-- the same with the block scaled by `2^fb` through `Encode` with `SetNMSEDecFractionalBits(fb)`, `fb ≥ 1`: what the
pipeline runs -/
theorem t1_pipeline_roundtrip (fb w h orient mb : Nat) (coeffs : List Int) (hfb : 1 ≤ fb) (hlen : coeffs.length = w * h)
    (hbnd : ∀ c ∈ coeffs, c.natAbs < 536870912) (hmb : findMaxBitplane (padBlock w h coeffs) = some mb) :
    ∃ bytes out, encodeBlockF fb w h orient 0 (coeffs.map (fun c => c * ((2 ^ fb : Nat) : Int))) (3 * mb + 1) = .ok bytes ∧
      decodeBlockOJ w h orient 0 (3 * mb + 1) ((mb + 1 : Nat) : Int) bytes = .ok out ∧ out.map halveT = coeffs := by
  obtain ⟨bytes, out, he, hd, ho⟩ := t1_roundtrip_oj w h orient mb coeffs hlen hbnd hmb
  refine ⟨bytes, out, ?_, hd, ho⟩
  rw [encodeBlockF_scale fb w h orient 0 coeffs (3 * mb + 1) hfb (by decide) (by decide) (by decide) (by decide)]
  exact he

end T1
