import GdcVerif.Model.J2kGlue
import GdcVerif.Lemmas.J2kPacketHeader
import GdcVerif.Lemmas.J2kBio
/-! The packets of a tile, bytes to bytes.  `decPacket` parses the header from `allBits r`, the bits the reader would
    deliver, and then reads as many bits as the parser took: reading `n` bits takes a prefix off `allBits`
    (`allBits_readBitsList`), so the lock step on bit lists (`header_sync`) and the byte round trip (`bio_read_align`)
    meet in `decPacket_encPacket`; the bodies are cut by the decoded lengths (`cutBands_expected`). -/
namespace J2kGlue
open J2k J2kPH

theorem readBit_avail (r r' : BioR) (b : Bool) (h : r.readBit = some (b, r')) : avail r' < avail r := by
  unfold BioR.readBit at h
  by_cases hc : r.ct = 0
  · cases hd : r.data with
    | nil => simp [hc, BioR.byteIn, hd] at h
    | cons d rest =>
      simp only [hc, BEq.rfl, if_true, BioR.byteIn, hd, Option.some.injEq, Prod.mk.injEq] at h
      obtain ⟨-, rfl⟩ := h
      unfold avail
      simp only [hd, List.length_cons, hc]
      split <;> omega
  · have hc' : (r.ct == 0) = false := by simp [hc]
    simp only [hc', Bool.false_eq_true, if_false, Option.some.injEq, Prod.mk.injEq] at h
    obtain ⟨-, rfl⟩ := h
    unfold avail
    simp only []
    omega

theorem readBit_none_of_avail (r : BioR) (h : avail r = 0) : r.readBit = none := by
  unfold avail at h
  have hc : r.ct = 0 := by omega
  have hd : r.data = [] := by
    cases hd : r.data with
    | nil => rfl
    | cons a t => simp [hd] at h
  unfold BioR.readBit BioR.byteIn
  simp [hc, hd]

theorem allBitsF_stable : ∀ (f g : Nat) (r : BioR), avail r ≤ f → avail r ≤ g → allBitsF f r = allBitsF g r := by
  intro f
  induction f with
  | zero =>
    intro g r hf _
    have h0 : avail r = 0 := by omega
    cases g with
    | zero => rfl
    | succ g => simp [allBitsF, readBit_none_of_avail r h0]
  | succ f ih =>
    intro g r hf hg
    cases g with
    | zero =>
      have h0 : avail r = 0 := by omega
      simp [allBitsF, readBit_none_of_avail r h0]
    | succ g =>
      unfold allBitsF
      cases hr : r.readBit with
      | none => rfl
      | some q =>
        obtain ⟨b, r'⟩ := q
        have := readBit_avail r r' b hr
        simp only []
        rw [ih g r' (by omega) (by omega)]

theorem allBits_readBit (r r' : BioR) (b : Bool) (h : r.readBit = some (b, r')) : allBits r = b :: allBits r' := by
  have hlt := readBit_avail r r' b h
  unfold allBits
  obtain ⟨k, hk⟩ : ∃ k, avail r = k + 1 := ⟨avail r - 1, by omega⟩
  rw [hk]
  show (match r.readBit with | none => [] | some (b, r') => b :: allBitsF k r') = _
  rw [h]
  simp only []
  rw [allBitsF_stable k (avail r') r' (by omega) (Nat.le_refl _)]

theorem allBits_readBitsList : ∀ (n : Nat) (r r' : BioR) (bs : List Bool),
    r.readBitsList n = some (bs, r') → allBits r = bs ++ allBits r'
  | 0, r, r', bs, h => by
    obtain ⟨rfl, rfl⟩ : [] = bs ∧ r = r' := by simpa [BioR.readBitsList] using h
    rfl
  | n + 1, r, r', bs, h => by
    rw [BioR.readBitsList] at h
    cases hb : r.readBit with
    | none => simp [hb] at h
    | some q =>
      cases hn : q.2.readBitsList n with
      | none => simp [hb, hn] at h
      | some q2 =>
        simp only [hb, hn, Option.some.injEq, Prod.mk.injEq] at h
        obtain ⟨rfl, rfl⟩ := h
        rw [allBits_readBit r q.2 q.1 hb, allBits_readBitsList n q.2 q2.2 q2.1 hn]
        rfl

/-- some band has a code-block (the encoder emits no packet otherwise); 65535 is decodePacket's `maxSegmentLength` -/
def PacketOk (p : Packet) : Prop :=
  (∃ b ∈ p, b.cbs ≠ []) ∧
  ∀ b ∈ p, (b.cbs.map fun c => (c.x, c.y)).Nodup ∧
    ∀ c ∈ b.cbs, c.zbp < 32 ∧ (c.data ≠ [] → 1 ≤ c.np ∧ c.np ≤ 164 ∧ c.data.length ≤ 65535)

/-- the encoder's band states at the first packet of a precinct, and what each block contributes to it
    (the two arguments `headerBits` gives to `encHeader`) -/
abbrev freshBands (p : Packet) : List BandE := p.map fun b => BandE.fresh b.w b.h b.geo
abbrev contribs (p : Packet) : List (List Contrib) := p.map fun b => b.cbs.map CB.contrib

/-- the encoder's state of a block before the first packet of its precinct -/
def CB.fresh (c : CB) : CbE := { x := c.x, y := c.y, zbp := c.zbp, included := false, lblock := 0 }

theorem fresh_cbs (b : Band) : (BandE.fresh b.w b.h b.geo).cbs = b.cbs.map CB.fresh := by
  simp [BandE.fresh, Band.geo, CB.fresh, Function.comp_def]

theorem fresh_spec (b : Band) : (Band.spec b).fresh = BandD.fresh b.w b.h b.geo := by
  unfold BandSpec.fresh Band.spec BandD.fresh Band.geo
  simp [List.map_map, Function.comp_def]

theorem freshBands_inv (p : Packet) (h : ∀ b ∈ p, (b.cbs.map fun c => (c.x, c.y)).Nodup ∧ ∀ c ∈ b.cbs, c.zbp < 32) :
    BandsInv 0 (freshBands p) ((p.map Band.spec).map BandSpec.fresh) := by
  rw [List.map_map]
  refine all2_map_map _ _ p (fun b hb => ?_)
  rw [Function.comp_apply, fresh_spec]
  apply bandInv_fresh
  · unfold Band.geo; simpa [List.map_map, Function.comp_def] using (h b hb).1
  · intro c hc
    unfold Band.geo at hc
    obtain ⟨c0, hc0, rfl⟩ := List.mem_map.mp hc
    exact (h b hb).2 c0 hc0

theorem csOk_fresh : ∀ (p : Packet),
    (∀ b ∈ p, ∀ c ∈ b.cbs, c.data ≠ [] → 1 ≤ c.np ∧ c.np ≤ 164 ∧ c.data.length ≤ 65535) →
    CsOk (freshBands p) (contribs p)
  | [], _ => trivial
  | b :: bs, h => by
    refine ⟨by simp [fresh_cbs], fun x hx np len he => ?_, csOk_fresh bs fun b' hb' => h b' (by simp [hb'])⟩
    obtain ⟨c, hc, rfl⟩ := List.mem_map.mp hx
    unfold CB.contrib at he
    split at he
    · cases he
    · next hd =>
      cases he
      have := h b (by simp) c hc (by simpa using hd)
      exact ⟨this.1, this.2.1, by omega⟩

theorem cutBodies_expected : ∀ (cbs : List CB) (rest : List Nat),
    (∀ c ∈ cbs, c.data.length ≤ 65535) →
    cutBodies (List.zipWith expIncl (cbs.map CB.fresh) (cbs.map CB.contrib)) ((cbs.flatMap fun c => c.data) ++ rest) =
      (cbs.map CB.expected, rest)
  | [], _, _ => rfl
  | c :: cs, rest, h => by
    have hc := h c (by simp)
    have ih := cutBodies_expected cs rest fun c' hc' => h c' (by simp [hc'])
    simp only [List.map_cons, List.zipWith_cons_cons, List.flatMap_cons, List.append_assoc]
    unfold cutBodies
    by_cases hnil : c.data = []
    · simp only [CB.contrib, expIncl, hnil, List.nil_append]
      rw [ih]
      simp [CB.expected, hnil]
    · have hd := List.isEmpty_eq_false_iff.mpr hnil
      have hpos := List.length_pos_iff.mpr hnil
      simp only [CB.contrib, hd, Bool.false_eq_true, if_false, expIncl, Bool.true_and, decide_eq_true_eq, gt_iff_lt, hpos, if_true]
      rw [Nat.min_eq_left hc, List.drop_left, List.take_left, ih]
      simp [CB.expected, CB.fresh, hd]

theorem cutBands_expected : ∀ (p : Packet) (rest : List Nat),
    (∀ b ∈ p, ∀ c ∈ b.cbs, c.data.length ≤ 65535) →
    cutBands (expBands (freshBands p) (contribs p))
      (bodyBytes p ++ rest) = (Packet.expected p, rest)
  | [], _, _ => rfl
  | b :: bs, rest, h => by
    have ih := cutBands_expected bs rest fun b' hb' => h b' (by simp [hb'])
    unfold bodyBytes at ih ⊢
    simp only [List.map_cons, expBands, List.flatMap_cons, List.append_assoc]
    unfold cutBands
    rw [fresh_cbs, cutBodies_expected b.cbs _ (h b (by simp))]
    simp only []
    rw [ih]
    rfl

theorem all_empty_false (p : Packet) (h : ∃ b ∈ p, b.cbs ≠ []) :
    (freshBands p).all (fun b => b.cbs.isEmpty) = false := by
  obtain ⟨b, hb, hne⟩ := h
  rw [Bool.eq_false_iff]
  intro hall
  rw [List.all_eq_true] at hall
  have := hall (BandE.fresh b.w b.h b.geo) (List.mem_map.mpr ⟨b, hb, rfl⟩)
  simp [fresh_cbs] at this
  exact hne this

theorem decPacket_encPacket (p : Packet) (tail : List Nat) (hok : PacketOk p) :
    decPacket (p.map Band.spec) (encPacket p ++ tail) = some (some (Packet.expected p), tail) := by
  obtain ⟨hne, hb⟩ := hok
  have hinv := freshBands_inv p (fun b hb' => ⟨(hb b hb').1, fun c hc => ((hb b hb').2 c hc).1⟩)
  have hcs := csOk_fresh p (fun b hb' c hc => ((hb b hb').2 c hc).2)
  have hlen : ∀ b ∈ p, ∀ c ∈ b.cbs, c.data.length ≤ 65535 := by
    intro b hb' c hc
    by_cases hd : c.data = []
    · simp [hd]
    · exact (((hb b hb').2 c hc).2 hd).2.2
  obtain ⟨r1, r2, hr1, hr2, hdata⟩ := bio_read_align (headerBits p) (bodyBytes p ++ tail) (encHeader_ne_nil _ _ _)
  obtain ⟨bds', hdec⟩ := header_sync 0 (by decide) _ _ _ (allBits r1) hinv hcs
  rw [all_empty_false p hne, if_neg Bool.false_ne_true] at hdec
  have hnil : ((BioW.new.writeBitsList (headerBits p)).flush ++ (bodyBytes p ++ tail)).isEmpty = false :=
    List.isEmpty_eq_false_iff.mpr (List.append_ne_nil_of_left_ne_nil (flush_nonempty _) _)
  have hl : (headerBits p ++ allBits r1).length - (allBits r1).length = (headerBits p).length := by
    rw [List.length_append]; omega
  unfold decPacket encPacket headerBytes
  rw [List.append_assoc, hnil, if_neg Bool.false_ne_true]
  simp only [allBits_readBitsList _ _ _ _ hr1, show decHeader 0 _ (headerBits p ++ allBits r1) = _ from hdec.1, hl, hr1, hr2,
    hdata, cutBands_expected p tail hlen]

theorem decTile_encTile : ∀ (ps : List Packet) (tail : List Nat), (∀ p ∈ ps, PacketOk p) →
    decTile (ps.map fun p => p.map Band.spec) (encTile ps ++ tail) = some (ps.map fun p => some (Packet.expected p), tail) := by
  intro ps
  induction ps with
  | nil => intro tail _; rfl
  | cons p ps ih =>
    intro tail h
    unfold encTile at ih ⊢
    simp only [List.map_cons, List.flatMap_cons, List.append_assoc]
    unfold decTile
    rw [decPacket_encPacket p _ (h p (by simp))]
    simp only []
    rw [ih tail (fun p' hp' => h p' (by simp [hp']))]

end J2kGlue
