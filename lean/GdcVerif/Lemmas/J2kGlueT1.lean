import GdcVerif.Lemmas.J2kGlue
import GdcVerif.Lemmas.J2kGluePlane
import GdcVerif.Lemmas.J2kGluePasses
import GdcVerif.Lemmas.Loops
import GdcVerif.Lemmas.T1Lock
import GdcVerif.Lemmas.T1Model
import GdcVerif.Lemmas.T1Termall
import GdcVerif.Lemmas.T1PipeFinal
import GdcVerif.Lemmas.T1ZeroBlock
/-! T1 hand-over around the packets: encodeCodeBlock → packet header → estimateMaxBitplane → DecodeWithBitplane.
    The coded form of a block is a function of the block (`cbOf`), so the three nested `mapM`s of `encodeTileBody`
    are `List.map`s and the way back is `List.map` algebra. -/
namespace J2kGlue
open J2k J2kPH T1

-- the pass count gives exactly `mb + 1`, QCD gives `nb - zbp = min nb (mb + 1)`; the larger is `mb + 1`
theorem estimate_nonzero (mb nb : Nat) : estimateMaxBitplane (3 * (mb + 1) - 2) (nb - (mb + 1)) nb = ((mb + 1 : Nat) : Int) := by
  rw [estimate_eq _ _ _ (by omega)]; omega

theorem estimate_zero (nb : Nat) : estimateMaxBitplane 1 nb nb = 1 := by
  rw [estimate_eq _ _ _ (by omega)]; omega

theorem findMaxBitplane_lt (V : Array Int) (k mb : Nat) (hb : ∀ j, (gi V j).natAbs < 2 ^ k)
    (h : findMaxBitplane V = some mb) : mb < k := by
  obtain ⟨e, _⟩ | ⟨m, hm, e, hle⟩ := findMaxBitplane_spec V <;> rw [e] at h <;> cases h
  exact (Nat.log2_lt hm).mpr (Nat.lt_of_le_pred (Nat.two_pow_pos k) ((hle _).mpr fun j => Nat.le_pred_of_lt (hb j)))

/-- admissible block.  Named hypothesis (not proved): `bytes` — the T1 output of a block fits decodePacket's
    `maxSegmentLength` (only the crude bound `C20.mq_len_bound` exists).  Side conditions: length, `|c| < 2^25`
    (Go shifts the coefficient left by 6 in int32), `bandNumbps < 32` (zero-bit-plane tag tree is read with
    threshold 32).  The all-zero block is covered by `C20.t1_pipeline_zero_block`. -/
structure BlkOk (b : Blk) : Prop where
  len : b.coeffs.length = b.w * b.h
  bnd : ∀ c ∈ b.coeffs, c.natAbs < 2 ^ 25
  nb32 : b.nb < 32
  bytes : ∀ np bs, encodeBlock b.w b.h b.orient 0 b.coeffs np = .ok bs → bs.length ≤ 65535

theorem decodeBlockOJ_ok_ne (w h o s np : Nat) (mb : Int) (bytes : List Nat) (out : List Int)
    (h : decodeBlockOJ w h o s np mb bytes = .ok out) : bytes ≠ [] := by
  intro hb
  subst hb
  unfold decodeBlockOJ at h
  simp at h

theorem findMax_shift6 (w h : Nat) (cs : List Int) :
    findMaxBitplane (padBlock w h (shift6 cs)) = (findMaxBitplane (padBlock w h cs)).map (· + 6) := by
  unfold shift6
  rw [padBlock_map w h cs _ (by simp), findMax_scale]

theorem encodeF_shift6 (w h o : Nat) (cs : List Int) (np : Nat) :
    encodeBlockF 6 w h o 0 (shift6 cs) np = encodeBlock w h o 0 cs np :=
  encodeBlockF_scale 6 w h o 0 cs np (by decide) (by decide) (by decide) (by decide) (by decide)

theorem blk_roundtrip (b : Blk) (hok : BlkOk b) :
    ∃ np zbp data, t1Encode b = some (np, zbp, data) ∧ data ≠ [] ∧ 1 ≤ np ∧ np ≤ 164 ∧ zbp < 32 ∧
      data.length ≤ 65535 ∧ t1Decode b.w b.h b.orient b.nb ⟨true, np, data.length, zbp⟩ data = some b.coeffs := by
  -- 2^29: the coefficient bound of `t1_roundtrip_oj`
  have hb29 : ∀ c ∈ b.coeffs, c.natAbs < 536870912 := fun c hc => by have := hok.bnd c hc; omega
  cases hmb : findMaxBitplane (padBlock b.w b.h b.coeffs) with
  | none =>
    have henc := (encode_zero_bytes 6 b.w b.h b.orient 0 b.coeffs 1 hok.len hmb).2
    have hdec := decodeBlockOJ_zero b.w b.h b.orient 0 1 (by decide)
    have hzero := zero_of_nomax b.w b.h b.coeffs hok.len hmb
    refine ⟨1, b.nb, [255, 127], ?_, by simp, by omega, by omega, hok.nb32, by simp, ?_⟩
    · unfold t1Encode cblkNumbps passLayout
      rw [findMax_shift6, hmb]
      simp [encodeF_shift6, henc]
    · unfold t1Decode
      simp only [estimate_zero]
      have h31 : ¬ ((1 : Int) ≥ 31) := by decide
      simp only [h31, if_false]
      have h1 : ((1 : Nat) : Int) = 1 := rfl
      rw [h1] at hdec
      simp [hdec, halveT, hzero]
  | some mb =>
    obtain ⟨bytes, out, henc, hdec, hout⟩ := t1_roundtrip_oj b.w b.h b.orient mb b.coeffs hok.len hb29 hmb
    have hne := decodeBlockOJ_ok_ne _ _ _ _ _ _ _ _ hdec
    have hmb25 : mb < 25 := findMaxBitplane_lt _ 25 mb (padBlock_boundB (2 ^ 25) (by decide) b.w b.h b.coeffs hok.bnd) hmb
    have hnp : 3 * (mb + 1) - 2 = 3 * mb + 1 := by omega
    refine ⟨3 * (mb + 1) - 2, b.nb - (mb + 1), bytes, ?_, hne, by omega, by omega, by have := hok.nb32; omega,
      hok.bytes _ bytes henc, ?_⟩
    · unfold t1Encode cblkNumbps passLayout
      rw [findMax_shift6, hmb]
      have e1 : mb + 6 + 1 - 6 = mb + 1 := by omega
      have : mb + 1 > 0 := by omega
      simp only [Option.map_some, e1, this, if_true, hnp, encodeF_shift6, henc]
    · unfold t1Decode
      have he : ¬ (bytes.isEmpty = true) := fun h => hne (List.isEmpty_iff.mp h)
      simp only [estimate_nonzero, he]
      have h31 : ¬ (((mb + 1 : Nat) : Int) ≥ 31) := by omega
      simp only [h31, if_false]
      have hneg : ¬ (((mb + 1 : Nat) : Int) < 0) := by omega
      simp only [hneg]
      rw [hnp, hdec]
      simp [hout]

/-- what `blk_roundtrip` says of a block and its coded form -/
structure Coded (pb : PBlk) (cb : CB) : Prop where
  np1 : 1 ≤ cb.np
  np164 : cb.np ≤ 164
  zbp : cb.zbp < 32
  len : cb.data.length ≤ 65535
  dec : t1Decode pb.blk.w pb.blk.h pb.blk.orient pb.blk.nb (CB.expected cb).1 (CB.expected cb).2 = some pb.blk.coeffs

/-- the coded form of a block; its position is the block's whatever T1 does -/
def cbOf (pb : PBlk) : CB :=
  match t1Encode pb.blk with
  | some r => ⟨pb.x, pb.y, r.2.1, r.1, r.2.2⟩
  | none => ⟨pb.x, pb.y, 0, 0, []⟩

def bandOf (b : PBand) : Band := ⟨b.w, b.h, b.blks.map cbOf⟩

theorem cbOf_pos (pb : PBlk) : ((cbOf pb).x, (cbOf pb).y) = (pb.x, pb.y) := by unfold cbOf; split <;> rfl

theorem codeBlk_cbOf (pb : PBlk) (hok : BlkOk pb.blk) : codeBlk pb = some (cbOf pb) ∧ Coded pb (cbOf pb) := by
  obtain ⟨np, zbp, data, he, hne, h1, h2, h3, h4, hd⟩ := blk_roundtrip pb.blk hok
  have hcb : cbOf pb = ⟨pb.x, pb.y, zbp, np, data⟩ := by simp [cbOf, he]
  rw [hcb]
  refine ⟨by simp [codeBlk, he], h1, h2, h3, h4, ?_⟩
  simp only [CB.expected, List.isEmpty_eq_false_iff.mpr hne, Bool.false_eq_true, if_false]
  exact hd

theorem codePacket_eq (p : PPacket) (hok : ∀ b ∈ p, ∀ pb ∈ b.blks, BlkOk pb.blk) : codePacket p = some (p.map bandOf) :=
  Loop.mapM_pure _ _ p fun b hb => by
    unfold codeBand
    rw [Loop.mapM_pure codeBlk cbOf b.blks fun pb hpb => (codeBlk_cbOf pb (hok b hb pb hpb)).1]; rfl

theorem bandOf_pos (b : PBand) : ((bandOf b).cbs.map fun c => (c.x, c.y)) = b.blks.map fun pb => (pb.x, pb.y) := by
  simp only [bandOf, List.map_map]
  exact List.map_congr_left fun pb _ => cbOf_pos pb

theorem spec_bandOf (b : PBand) : Band.spec (bandOf b) = BandGeo.spec (PBand.geo b) := by
  simp only [Band.spec, bandOf_pos, BandGeo.spec, PBand.geo, List.map_map]
  rfl

def PPacketOk (p : PPacket) : Prop :=
  (∃ b ∈ p, b.blks ≠ []) ∧ ∀ b ∈ p, (b.blks.map fun pb => (pb.x, pb.y)).Nodup ∧ ∀ pb ∈ b.blks, BlkOk pb.blk

theorem packetOk_bandOf (p : PPacket) (hp : PPacketOk p) : PacketOk (p.map bandOf) := by
  obtain ⟨⟨b0, hb0, hne0⟩, hall⟩ := hp
  refine ⟨⟨bandOf b0, List.mem_map_of_mem hb0, by simpa [bandOf] using hne0⟩, fun c hc => ?_⟩
  obtain ⟨b, hb, rfl⟩ := List.mem_map.mp hc
  refine ⟨?_, fun cb hcb => ?_⟩
  · rw [bandOf_pos]; exact (hall b hb).1
  · obtain ⟨pb, hpb, rfl⟩ := List.mem_map.mp hcb
    have hcd := (codeBlk_cbOf pb ((hall b hb).2 pb hpb)).2
    exact ⟨hcd.zbp, fun _ => ⟨hcd.np1, hcd.np164, hcd.len⟩⟩

theorem decodePacket_bandOf (p : PPacket) (hok : ∀ b ∈ p, ∀ pb ∈ b.blks, BlkOk pb.blk) :
    decodePacketBlocks (p.map PBand.geo) (some (Packet.expected (p.map bandOf))) = some (coeffsOf p) := by
  show ((p.map PBand.geo).zip ((p.map bandOf).map _)).mapM _ = _
  rw [List.map_map, List.zip_map']
  rw [List.mapM_map]
  refine Loop.mapM_pure _ _ p fun b hb => ?_
  show ((b.blks.map PBlk.geo).zip ((b.blks.map cbOf).map CB.expected)).mapM _ = _
  rw [List.map_map, List.zip_map', List.mapM_map]
  exact Loop.mapM_pure _ _ b.blks fun pb hpb => (codeBlk_cbOf pb (hok b hb pb hpb)).2.dec

theorem tile_blocks_roundtrip (ps : List PPacket) (hok : ∀ p ∈ ps, PPacketOk p) :
    ∃ bytes, encodeTileBody ps = some bytes ∧ ∀ tail,
      decodeTileBody (ps.map fun p => p.map PBand.geo) (bytes ++ tail) = some (ps.map coeffsOf) := by
  have hblk : ∀ p ∈ ps, ∀ b ∈ p, ∀ pb ∈ b.blks, BlkOk pb.blk := fun p hp b hb => ((hok p hp).2 b hb).2
  refine ⟨encTile (ps.map fun p => p.map bandOf), ?_, fun tail => ?_⟩
  · unfold encodeTileBody
    rw [Loop.mapM_pure codePacket _ ps fun p hp => codePacket_eq p (hblk p hp)]; rfl
  · have hspec : (ps.map fun p => p.map PBand.geo).map (fun g => g.map BandGeo.spec) =
        (ps.map fun p => p.map bandOf).map fun q => q.map Band.spec := by
      simp only [List.map_map]
      exact List.map_congr_left fun p _ => by
        simp only [Function.comp_apply, List.map_map]
        exact List.map_congr_left fun b _ => (spec_bandOf b).symm
    unfold decodeTileBody
    rw [hspec, decTile_encTile _ tail fun q hq => by
      obtain ⟨p, hp, rfl⟩ := List.mem_map.mp hq; exact packetOk_bandOf p (hok p hp)]
    simp only [List.map_map, List.zip_map', List.mapM_map]
    exact Loop.mapM_pure _ _ ps fun p hp => decodePacket_bandOf p (hblk p hp)

end J2kGlue
