import GdcVerif.Model.Htj2k
/-!
  Arithmetic of packing a field above `cnt` low bits, its list form (`winOf`: the LSB-first window of a list of
  (codeword, length) items, as the VLC stream carries them), and what the MEL and MagSgn streams share: the byte-stuffing
  rule (a byte that follows 0xFF carries 7 bits) and the bit list a reader sees in a byte string, with the order of
  the bits within a byte left open (`unpackBy`: MSB first for MEL, LSB first for MagSgn).
-/
namespace Htj2k

theorem lt_pow_add {buf cnt x k : Nat} (hb : buf < 2 ^ cnt) (hx : x < 2 ^ k) : buf + x * 2 ^ cnt < 2 ^ (cnt + k) :=
  calc buf + x * 2 ^ cnt < (x + 1) * 2 ^ cnt := by rw [Nat.add_mul, Nat.one_mul]; omega
    _ ≤ 2 ^ k * 2 ^ cnt := Nat.mul_le_mul_right _ hx
    _ = 2 ^ (cnt + k) := by rw [Nat.pow_add, Nat.mul_comm]

theorem add_mul_pow_mod {c n : Nat} (X : Nat) (hc : c < 2 ^ n) : (c + X * 2 ^ n) % 2 ^ n = c := by
  rw [Nat.add_mul_mod_self_right, Nat.mod_eq_of_lt hc]

theorem add_mul_pow_div {c n : Nat} (X : Nat) (hc : c < 2 ^ n) : (c + X * 2 ^ n) / 2 ^ n = X := by
  rw [Nat.add_mul_div_right _ _ (Nat.two_pow_pos n), Nat.div_eq_of_lt hc, Nat.zero_add]

def winOf : List (Nat × Nat) → Nat → Nat
  | [], vr => vr
  | it :: l, vr => it.1 % 2 ^ it.2 + winOf l vr * 2 ^ it.2

theorem winOf_append (a b : List (Nat × Nat)) (vr : Nat) : winOf (a ++ b) vr = winOf a (winOf b vr) := by
  induction a with
  | nil => rfl
  | cons it l ih => simp [winOf, ih]

theorem winOf_concat (l : List (Nat × Nat)) (vr : Nat) :
    winOf l vr = (vlcConcat l).1 + vr * 2 ^ (vlcConcat l).2 := by
  induction l with
  | nil => simp [winOf, vlcConcat]
  | cons it l ih =>
    obtain ⟨c, n⟩ := it
    simp only [winOf, vlcConcat, ih]
    rw [Nat.add_mul, Nat.pow_add, Nat.add_assoc]
    congr 1
    rw [Nat.mul_assoc, Nat.mul_comm (2 ^ (vlcConcat l).2) (2 ^ n), Nat.mul_comm (2 ^ n) (2 ^ (vlcConcat l).2)]

theorem vlcConcat_lt (l : List (Nat × Nat)) : (vlcConcat l).1 < 2 ^ (vlcConcat l).2 := by
  induction l with
  | nil => simp [vlcConcat]
  | cons it l ih =>
    obtain ⟨c, n⟩ := it
    simp only [vlcConcat]
    exact lt_pow_add (Nat.mod_lt _ (Nat.two_pow_pos n)) ih

theorem winOf_div (l : List (Nat × Nat)) (X : Nat) : winOf l X / 2 ^ (vlcConcat l).2 = X := by
  rw [winOf_concat, add_mul_pow_div _ (vlcConcat_lt l)]

theorem winOf_mod (l : List (Nat × Nat)) (X : Nat) : winOf l X % 2 ^ (vlcConcat l).2 = (vlcConcat l).1 := by
  rw [winOf_concat, add_mul_pow_mod _ (vlcConcat_lt l)]

theorem vlcConcat_append_snd (a b : List (Nat × Nat)) : (vlcConcat (a ++ b)).2 = (vlcConcat a).2 + (vlcConcat b).2 := by
  induction a with
  | nil => simp [vlcConcat]
  | cons it l ih => simp [vlcConcat, ih, Nat.add_assoc]

theorem winOf_append_mod (pre suf : List (Nat × Nat)) (rest k : Nat) (hk : (vlcConcat pre).2 ≤ k) :
    winOf (pre ++ suf) rest % 2 ^ k % 2 ^ (vlcConcat pre).2 = (vlcConcat pre).1 := by
  rw [Nat.mod_mod_of_dvd _ (Nat.pow_dvd_pow 2 hk), winOf_append, winOf_mod]

def lastFF : Bool → List Byte → Bool
  | ff, [] => ff
  | _, y :: ys => lastFF (decide (y = 255)) ys

theorem lastFF_snoc (ff : Bool) (a : List Byte) (x : Byte) : lastFF ff (a ++ [x]) = decide (x = 255) := by
  induction a generalizing ff with
  | nil => simp [lastFF]
  | cons y ys ih => simp [lastFF, ih]

/-- the bits a reader takes from a byte string (`ff`: the byte before the list was 0xFF) -/
def unpackBy (bits : Nat → Nat → List Bool) : Bool → List Nat → List Bool
  | _, [] => []
  | ff, x :: xs => bits (if ff then 7 else 8) x ++ unpackBy bits (decide (x = 255)) xs

/-- how many bits the byte after `a` carries -/
def byteCap (ff : Bool) (a : List Byte) : Nat := if lastFF ff a then 7 else 8

theorem byteCap_le (ff : Bool) (a : List Byte) : byteCap ff a ≤ 8 := by
  unfold byteCap; split <;> decide

theorem byteCap_snoc (ff : Bool) (a : List Byte) (x : Byte) : byteCap ff (a ++ [x]) = if x = 255 then 7 else 8 := by
  simp [byteCap, lastFF_snoc]

theorem unpackBy_snoc (bits : Nat → Nat → List Bool) (ff : Bool) (a : List Nat) (x : Nat) :
    unpackBy bits ff (a ++ [x]) = unpackBy bits ff a ++ bits (byteCap ff a) x := by
  induction a generalizing ff with
  | nil => exact List.append_nil _
  | cons y ys ih => rw [List.cons_append, unpackBy, unpackBy, ih, List.append_assoc]; rfl

/-- the byte-stuffing rule (`ff`: the byte before the list was 0xFF) -/
def Stuffed : Bool → List Nat → Prop
  | _, [] => True
  | ff, x :: xs => (ff = true → x < 128) ∧ Stuffed (decide (x = 255)) xs

theorem stuffed_snoc (ff : Bool) (a : List Nat) (x : Nat) (h : Stuffed ff a) (hx : lastFF ff a = true → x < 128) :
    Stuffed ff (a ++ [x]) := by
  induction a generalizing ff with
  | nil => exact ⟨hx, trivial⟩
  | cons y ys ih => exact ⟨h.1, ih _ h.2 hx⟩

theorem stuffed_close (a : List Nat) (x : Nat) (h : Stuffed false a) (hx : x < 2 ^ byteCap false a) :
    Stuffed false (a ++ [x]) ∧ x < 256 :=
  ⟨stuffed_snoc _ _ _ h fun hf => by rw [byteCap, hf] at hx; exact hx,
    Nat.lt_of_lt_of_le hx (Nat.pow_le_pow_right (by decide) (byteCap_le _ _))⟩

theorem stuffed_snoc_inv (ff : Bool) (a : List Nat) (x : Nat) (h : Stuffed ff (a ++ [x])) (hl : lastFF ff a = true) :
    x < 128 := by
  induction a generalizing ff with
  | nil => exact h.1 hl
  | cons y ys ih => exact ih _ h.2 hl

end Htj2k
