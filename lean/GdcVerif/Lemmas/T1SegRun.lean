import GdcVerif.Lemmas.T1SegLock
/-!
  An MQ codeword segment of any number of passes at any position of the loops of `EncodeLayered` /
  `DecodeLayeredWithMode`, in the index view of `Lemmas/T1Sched.lean`: the decoder's loop over the segment
  (`decLoopL_seg`), the encoder's (`encStepL_mid`, `encStepL_last`, `encFoldL_mid`), and both put together with the
  segment frame `seg_frameQ` (`mseg_lock`).
-/
namespace T1
open Gen

theorem segLast_run (term : Int → Nat → Bool) (mb np : Nat) : ∀ (n fuel last i : Nat), i + n < 3 * mb + 1 →
    (∀ k, k < n → term (planeI mb (i + k)) (typeOf (i + k)) = false) →
    term (planeI mb (i + n)) (typeOf (i + n)) = true → n + 1 ≤ fuel → last + n + 1 ≤ np →
    segLast term np fuel last (planeI mb i) (typeOf i) = last + n := by
  intro n
  induction n with
  | zero => intro fuel last i _ _ ht _ _; exact segLast_term _ _ _ _ _ _ ht
  | succ n ih =>
    intro fuel last i hi hf ht hfu hnp
    obtain ⟨f, rfl⟩ : ∃ f, fuel = f + 1 := ⟨fuel - 1, by omega⟩
    obtain ⟨hp, _, h2, h3⟩ := idx_next mb i (by omega)
    have h0 : term (planeI mb i) (typeOf i) = false := hf 0 (by omega)
    rw [segLast_next _ _ _ _ _ _ h0 (by omega)]
    have hrest := ih f (last + 1) (i + 1) (by omega) (fun k hk => by rw [show i + 1 + k = i + (k + 1) by omega]; exact hf _ (by omega))
      (by rw [show i + 1 + n = i + (n + 1) by omega]; exact ht) (by omega) (by omega)
    by_cases h : typeOf i = 2
    · rw [if_pos h, hp, ← (h2 h).1, ← (h2 h).2, hrest]; omega
    · rw [if_neg h, hp, ← (h3 h).1, ← (h3 h).2, hrest]; omega

section Dec
variable (w h orient style mb : Nat) (u : Bool) (PL bytes : List Nat)

theorem decLoopL_mq_step (f : Nat) (s : LDec) (i : Nat) (d : Mqc.Dec) (pe : Nat) (ds' : DecSt)
    (hi : i < 3 * mb + 1) (hc : i < PL.length)
    (hraw : rawAt style mb i = false)
    (hco : coderG (styReset style) false (fun b p => u || J2kT1.isTerminatingPass b (mb : Int) (p : Int) (style : Int))
      PL bytes s s.st.mq (planeOf mb i : Nat) i (typeOf i) = .ok (d, pe))
    (hd : stepDL plainR w h orient style mb i { s.st with mq := d } = some ds') :
    decLoopL w h orient style u (styReset style) (mb : Int) PL bytes (f + 1) s (planeI mb i) i (typeOf i) =
      decLoopL w h orient style u (styReset style) (mb : Int) PL bytes f
        { st := ds', prevEnd := pe, prevCtx := if ¬ styReset style = true then ds'.mq.ctx else s.prevCtx,
          newSegment := u || termAt style mb i }
        (planeI mb (i + 1)) (i + 1) (typeOf (i + 1)) := by
  obtain ⟨hp, hpt, h2, h3⟩ := idx_next mb i hi
  unfold rawAt at hraw
  unfold termAt
  unfold stepDL at hd
  rw [cvD_mq] at hd
  rw [hp, decLoopL_stepG w h orient style u (styReset style) (mb : Int) PL bytes f s _ i _ hpt hc hraw, hco]
  simp only [hd, Bool.false_eq_true, not_false_eq_true, true_and]
  by_cases ht : typeOf i = 2
  · rw [if_pos ht, (h2 ht).1, (h2 ht).2]
  · rw [if_neg ht, (h3 ht).1, (h3 ht).2]

theorem decLoopL_seg : ∀ (n f : Nat) (s : LDec) (i : Nat) (d : Mqc.Dec) (pe : Nat) (ds' : DecSt),
    i + n < 3 * mb + 1 → i + n < PL.length →
    (∀ k, k ≤ n → rawAt style mb (i + k) = false) →
    (∀ k, k < n → (u || termAt style mb (i + k)) = false) →
    coderG (styReset style) false (fun b p => u || J2kT1.isTerminatingPass b (mb : Int) (p : Int) (style : Int))
      PL bytes s s.st.mq (planeOf mb i : Nat) i (typeOf i) = .ok (d, pe) →
    ((List.range' i n).foldlM (fun s i => stepDR plainR w h orient style mb i s) { s.st with mq := d }).bind
      (stepDL plainR w h orient style mb (i + n)) = some ds' →
    decLoopL w h orient style u (styReset style) (mb : Int) PL bytes (f + (n + 1)) s (planeI mb i) i (typeOf i) =
      decLoopL w h orient style u (styReset style) (mb : Int) PL bytes f
        { st := ds', prevEnd := pe, prevCtx := if ¬ styReset style = true then ds'.mq.ctx else s.prevCtx,
          newSegment := u || termAt style mb (i + n) }
        (planeI mb (i + n + 1)) (i + n + 1) (typeOf (i + n + 1)) := by
  intro n
  induction n with
  | zero =>
    intro f s i d pe ds' hi hc hraw _ hco hd
    rw [decLoopL_mq_step w h orient style mb u PL bytes f s i d pe ds' hi hc (hraw 0 (Nat.le_refl _)) hco hd]
    rfl
  | succ n ih =>
    intro f s i d pe ds' hi hc hraw hterm hco hd
    -- the first pass of the run, taken apart into the pass (`stepDL`) and the context reset behind it, which the loop
    -- does when it takes up the coder again for the next pass (`coderG_cont`)
    rw [List.range'_succ, List.foldlM_cons, Option.bind_eq_bind, Option.bind_assoc] at hd
    obtain ⟨ds2, h12, hd⟩ := Option.bind_eq_some_iff.mp hd
    unfold stepDR at h12
    rw [← Option.bind_assoc] at h12
    obtain ⟨ds1, h1, h2⟩ := Option.bind_eq_some_iff.mp h12
    have ht0 : (u || termAt style mb i) = false := hterm 0 (by omega)
    rw [show f + (n + 1 + 1) = f + (n + 1) + 1 by omega,
      decLoopL_mq_step w h orient style mb u PL bytes (f + (n + 1)) s i d pe ds1 (by omega) (by omega)
        (hraw 0 (by omega)) hco h1, ht0]
    have hcg := coderG_cont style (fun b p => u || J2kT1.isTerminatingPass b (mb : Int) (p : Int) (style : Int)) PL bytes
      { st := ds1, prevEnd := pe, prevCtx := if ¬ styReset style = true then ds1.mq.ctx else s.prevCtx, newSegment := false }
      rfl (planeOf mb (i + 1) : Nat) (i + 1) (typeOf (i + 1))
    simp only [h2] at hcg
    rw [ih f _ (i + 1) ds2.mq pe ds' (by omega) (by omega)
      (fun k hk => by rw [show i + 1 + k = i + (k + 1) by omega]; exact hraw _ (by omega))
      (fun k hk => by rw [show i + 1 + k = i + (k + 1) by omega]; exact hterm _ (by omega)) hcg
      (by rw [← resetD_mq style ds1 ds2 h2, show i + 1 + n = i + (n + 1) by omega]; exact hd),
      show i + 1 + n = i + (n + 1) by omega]
    -- under RESET `prevCtx` is not written, without it the last pass of the run overwrites it
    cases styReset style <;> rfl
end Dec

section EncSteps
variable (w h orient style : Nat) (V : Array Int) (mb i : Nat)
  (hraw : rawAt style mb i = false)
include hraw

theorem encStepL_mid (hterm : termAt style mb i = false)
    (st : EncSt) (acc : List PassRec) :
    encStepL w h orient style V mb i (st, false, acc) =
      (stepR w h orient style V mb i st).map fun st' => (st', false, acc ++ [(numBytes st'.mq + 3, false)]) := by
  unfold encStepL stepR termG rateG
  rw [hraw, hterm, passER_false, startG_false]
  -- both sides are one chain of binds, the record made at its end
  simp only [Bool.false_eq_true, if_false, Option.bind_some, Option.bind_assoc, Function.comp_def, Option.map_eq_bind]
  rfl

theorem encStepL_last (hterm : termAt style mb i = true)
    (st : EncSt) (acc : List PassRec) :
    encStepL w h orient style V mb i (st, false, acc) =
      (stepL w h orient style V mb i st).bind fun st => (termMq style st.mq).bind fun m =>
        (resetE style { st with mq := m }).map fun st' => (st', true, acc ++ [(numBytes st'.mq, true)]) := by
  unfold encStepL stepL termG rateG
  rw [hraw, hterm, passER_false, startG_false]
  simp only [Bool.false_eq_true, if_false, if_true, Option.bind_assoc, Option.bind_some, Function.comp_def, Option.map_eq_bind]
  rfl

theorem encStepL_restart (st : EncSt) (t : Bool) (acc : List PassRec) :
    encStepL w h orient style V mb i (st, t, acc) = encStepL w h orient style V mb i (restartIf t st, false, acc) := by
  unfold encStepL
  rw [hraw]
  simp only [startG_false, cv_restart]
  rfl
end EncSteps

/-- `P` is any invariant of the states between the unterminated passes -/
theorem encFoldL_mid (w h orient style : Nat) (V : Array Int) (mb : Nat) (P : EncSt → Prop) :
    ∀ (n i : Nat) (es es' : EncSt),
    (∀ k, k < n → rawAt style mb (i + k) = false ∧
      termAt style mb (i + k) = false) →
    (∀ k st st', k < n → P st → stepR w h orient style V mb (i + k) st = some st' → P st') → P es →
    (List.range' i n).foldlM (fun s i => stepR w h orient style V mb i s) es = some es' →
    ∃ recs, (∀ acc, (List.range' i n).foldlM (fun s i => encStepL w h orient style V mb i s) (es, false, acc) =
        some (es', false, acc ++ recs)) ∧ recs.length = n ∧
      ∀ x ∈ recs, x.2 = false ∧ ∃ st, P st ∧ x.1 = numBytes st.mq + 3 := by
  intro n
  induction n with
  | zero =>
    intro i es es' _ _ hP he
    obtain rfl : es = es' := Option.some.inj he
    exact ⟨[], fun acc => by rw [List.append_nil]; rfl, rfl, fun x hx => absurd hx (by simp)⟩
  | succ n ih =>
    intro i es es' hk hstep hP he
    rw [List.range'_succ, List.foldlM_cons] at he
    have h0 := hk 0 (by omega)
    rw [Nat.add_zero] at h0
    obtain ⟨es1, h1, he⟩ := Option.bind_eq_some_iff.mp he
    have hP1 := hstep 0 es es1 (by omega) hP h1
    obtain ⟨recs, hr, hl, hall⟩ := ih (i + 1) es1 es'
      (fun k hk' => by rw [show i + 1 + k = i + (k + 1) by omega]; exact hk _ (by omega))
      (fun k st st' hk' hp hs => hstep (k + 1) st st' (by omega) hp (by rw [show i + (k + 1) = i + 1 + k by omega]; exact hs))
      hP1 he
    refine ⟨(numBytes es1.mq + 3, false) :: recs, fun acc => ?_, by rw [List.length_cons, hl], ?_⟩
    · rw [List.range'_succ, List.foldlM_cons, encStepL_mid w h orient style V mb i h0.1 h0.2, h1]
      simp only [Option.map_some, Option.bind_some, Option.bind_eq_bind]
      rw [hr, List.append_assoc]; rfl
    · intro x hx
      rcases List.mem_cons.mp hx with rfl | hx
      · exact ⟨rfl, es1, hP1, rfl⟩
      · exact hall x hx

section Step
variable (w h : Nat) (V : Array Int) (hV : ∀ j, (gi V j).natAbs < 2147483648)
include hV

/-- **an MQ codeword segment of `n + 1` passes from pass `i` on, both loops**: `n` unterminated MQ passes (which the
decoder, with TERMALL switch `u`, must see as unterminated too) and a terminated one -/
theorem mseg_lock (orient style mb np : Nat) (u : Bool) (f n : Nat) (es : EncSt) (prevT : Bool) (i : Nat)
    (hin : EncOkT w h V es prevT) (hst : StartOk (restartIf prevT es).mq) (hi : i + n < 3 * mb + 1) (hc : i + n < np)
    (hraw : ∀ k, k ≤ n → rawAt style mb (i + k) = false)
    (hmid : ∀ k, k < n → (u || termAt style mb (i + k)) = false)
    (hterm : termAt style mb (i + n) = true) :
    ∃ es4 pre, SegLock w h V orient style mb np u f es prevT i n pre es4 := by
  obtain ⟨hser, hflr, hctxr, hbufr, _⟩ := restartIf_ok w h V es prevT hin
  have hmidE : ∀ k, k < n → termAt style mb (i + k) = false :=
    fun k hk => (Bool.or_eq_false_iff.mp (hmid k hk)).2
  obtain ⟨es3, ef, es4, he3, hef, he4, hok4, hfl4, _, hE, hbp2', hlock⟩ :=
    seg_frameQ w h V style (planeOf mb i) (typeOf i)
      (fun es => ((List.range' i n).foldlM (fun s i => stepR w h orient style V mb i s) es).bind (stepL w h orient style V mb (i + n)))
      (fun ds => ((List.range' i n).foldlM (fun s i => stepDR plainR w h orient style mb i s) ds).bind
        (stepDL plainR w h orient style mb (i + n)))
      (fun R => Post tr w h V R (planeOf mb (i + n)) (typeOf (i + n)))
      (fun F R hC hX es hs => passes_lock hC hX plainR_holds hV (R := R) orient style mb n i es hi hs)
      (restartIf prevT es) hser hst
  -- the states between the unterminated passes stay inside the segment
  let P : EncSt → Prop := fun st => EncOk w h V st ∧ Mqc.InSeg (restartIf prevT es).mq.bp (restartIf prevT es).mq.buf st.mq
  have hP0 : P (restartIf prevT es) := ⟨hser, hst.inSeg⟩
  have hPstep : ∀ k st st', k < n → P st → stepR w h orient style V mb (i + k) st = some st' → P st' := by
    intro k st st' hk hp hs
    obtain ⟨st2, he2, hok2, hfw2, _⟩ := stepR_lock (coder_inSeg _ _) (coderCtx_inSeg _ _) plainR_holds hV orient style mb (i + k) (by omega) st hp.1
    obtain rfl : st2 = st' := Option.some.inj (he2.symm.trans hs)
    exact ⟨hok2, of_back hfw2 hp.2⟩
  obtain ⟨esn, hmidrun, he3⟩ := Option.bind_eq_some_iff.mp he3
  obtain ⟨pre, hpreq, hpl, hpre⟩ := encFoldL_mid w h orient style V mb P n i (restartIf prevT es) esn
    (fun k hk => ⟨hraw k (by omega), hmidE k hk⟩) hPstep hP0 hmidrun
  obtain ⟨hp, hpt, _, _⟩ := idx_next mb i (by omega)
  have hraw0 : rawAt style mb i = false := hraw 0 (by omega)
  refine ⟨es4, pre, hpl, ?_, ?_, hok4, hE.grow, fun hp _ => hbp2' hp, fun j hj => by rw [hE.frozen j hj, hbufr], ?_⟩
  · intro acc
    have hhead : (List.range' i (n + 1)).foldlM (fun s i => encStepL w h orient style V mb i s) (es, prevT, acc) =
        (List.range' i (n + 1)).foldlM (fun s i => encStepL w h orient style V mb i s) (restartIf prevT es, false, acc) := by
      rw [List.range'_succ, List.foldlM_cons, List.foldlM_cons, encStepL_restart w h orient style V mb i hraw0 es prevT acc]
    have hrun := encLoopL_run w h orient style V mb np (n + 1) f (es, prevT, acc) i (by omega) (by omega)
    refine hrun.trans ?_
    rw [hhead, List.range'_concat, List.foldlM_append, hpreq acc]
    simp only [Option.bind_some, Option.bind_eq_bind, List.foldlM_cons, List.foldlM_nil, Nat.one_mul]
    rw [encStepL_last w h orient style V mb (i + n) (hraw n (Nat.le_refl _)) hterm, he3]
    simp only [Option.bind_some, hef, he4, Option.map_some, numBytes_eq es4.mq hE.term.bp1]
    rfl
  · intro x hx
    obtain ⟨h1, st, hPst, hx1⟩ := hpre x hx
    refine ⟨h1, ?_⟩
    rw [hx1]
    have := hPst.2.le
    unfold numBytes Mqc.start
    split <;> omega
  · intro bytesF PL hag hPL hpiL s hs hP
    have hP' : PInv tr w h V (fun _ _ => True) (planeOf mb i) (typeOf i) (restartIf prevT es) s.st :=
      hP.transfer _ hflr _ True.intro
    obtain ⟨d0, hd0, ds3, hd3, _, _, _, _, hPost⟩ := hlock bytesF hag s.st hP'
    have hctx3 : ds3.mq.ctx = es3.mq.ctx := by obtain ⟨_, hL, _⟩ := hPost; exact hL.rel.ctx
    have hsl : segLast (fun b p => u || J2kT1.isTerminatingPass b (mb : Int) (p : Int) (style : Int)) PL.length PL.length i
        (planeOf mb i : Nat) (typeOf i) = i + n := by
      rw [← hp]
      exact segLast_run _ mb PL.length n PL.length i i hi
        (fun k hk => by rw [(idx_next mb (i + k) (by omega)).1]; exact hmid k hk)
        (by rw [(idx_next mb (i + n) hi).1]; show (u || termAt style mb (i + n)) = true; rw [hterm]; exact Bool.or_true _)
        (by omega) (by omega)
    have hco := hs.coder hE hag (raw := false) (mq := s.st.mq) hsl hPL
    simp only [Bool.false_eq_true, if_false] at hco
    rw [← hctxr, hd0] at hco
    refine ⟨_, DecAt.next hok4 (by omega) ds3 (if ¬ styReset style = true then ds3.mq.ctx else s.prevCtx) hE
      (fun hr => by rw [if_pos (by rw [hr]; simp), hctx3]), hPost.weaken hfl4, ?_⟩
    rw [decLoopL_seg w h orient style mb u PL bytesF n f s i d0 (es4.mq.bp - 1) ds3 hi hpiL hraw hmid hco hd3, hterm,
      Bool.or_true]

end Step

end T1
