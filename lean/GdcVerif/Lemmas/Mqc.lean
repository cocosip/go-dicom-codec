import GdcVerif.Model.Mqc
import GdcVerif.Lemmas.Basics
/-!
  MQ encoder (`Model/Mqc.lean`): well-formedness of the generated tables, the register invariant `RegOk` for every
  decision sequence, and the byte-stream invariant `StreamOk` of the output ("a 0xFF is always followed by a byte
  ≤ 0x8F", hence never trailing); that `Flush` establishes it is `encoder_stream` (Lemmas/MqcTerm.lean).
-/
namespace Mqc
open Gen.J2kMqc

theorem tables_size : qeTable.size = 47 ∧ nmpsTable.size = 47 ∧ nlpsTable.size = 47 ∧ switchTable.size = 47 := by
  decide

theorem tables_wf : ∀ s, s < 47 →
    (tab qeTable s).isSome ∧ 1 ≤ (tab qeTable s).getD 0 ∧ (tab qeTable s).getD 0 ≤ 0x5601 ∧
    (tab nmpsTable s).isSome ∧ (tab nmpsTable s).getD 0 < 47 ∧
    (tab nlpsTable s).isSome ∧ (tab nlpsTable s).getD 0 < 47 ∧
    (tab switchTable s).isSome ∧ (tab switchTable s).getD 0 ≤ 1 := by
  decide +kernel

/-- the entries are the non-negative literals of the Go tables (no `toNat` truncation) -/
theorem tables_nonneg : ∀ s, s < 47 →
    0 ≤ (qeTable[s]?).getD (-1) ∧ 0 ≤ (nmpsTable[s]?).getD (-1) ∧ 0 ≤ (nlpsTable[s]?).getD (-1) ∧
    0 ≤ (switchTable[s]?).getD (-1) := by
  decide +kernel

theorem switch_qe : ∀ s, s < 47 → (tab switchTable s).getD 0 = 1 → (tab qeTable s).getD 0 = 0x5601 := by
  decide +kernel

theorem tab_none (tbl : Array Int) (s : Nat) (h : tbl.size ≤ s) : tab tbl s = none := by
  simp [tab, Array.getElem?_eq_none h]

theorem u8_lt (x : Nat) : u8 x < 256 := Nat.mod_lt x (by decide)

theorem sub32_eq (x y : Nat) (h1 : y ≤ x) (h2 : x < 4294967296) : sub32 x y = x - y := by
  unfold sub32; omega

theorem u32_id (x : Nat) (h : x < 4294967296) : u32 x = x := by unfold u32; omega

def rd (buf : Array Nat) (i : Nat) : Nat := (buf[i]?).getD 0

theorem rd_some (buf : Array Nat) (i : Nat) (h : i < buf.size) : buf[i]? = some (rd buf i) := by
  simp [rd, Array.getElem?_eq_getElem h]

theorem rd_ensure (buf : Array Nat) (idx i : Nat) : rd (ensureIndex buf idx) i = rd buf i := by
  unfold ensureIndex rd
  split
  · rfl
  · rw [Array.getElem?_append]
    split
    · rfl
    · next h =>
      rw [Array.getElem?_replicate, Array.getElem?_eq_none (by omega)]
      split <;> rfl

theorem size_ensure (buf : Array Nat) (idx : Nat) :
    idx < (ensureIndex buf idx).size ∧ buf.size ≤ (ensureIndex buf idx).size := by
  unfold ensureIndex
  split
  · omega
  · simp only [Array.size_append, Array.size_replicate]; omega

theorem rd_set (buf : Array Nat) (j v i : Nat) (hj : j < buf.size) :
    rd (buf.setIfInBounds j v) i = if j = i then v else rd buf i := by
  rw [rd, Array.getD_setIfInBounds_eq buf j i v 0 hj]; simp only [eq_comm]; rfl

structure BufOk (buf : Array Nat) (bp : Nat) : Prop where
  inb : bp < buf.size
  bytes : ∀ i, rd buf i < 256
  marker : ∀ i, i < bp → rd buf i = 255 → rd buf (i + 1) ≤ 143

theorem set_ok (buf buf' : Array Nat) (bp j v : Nat) (hb : BufOk buf bp) (hsz : j < buf'.size)
    (hrd : ∀ i, rd buf' i = if j = i then v else rd buf i) (hj : bp ≤ j) (hj1 : j ≤ bp + 1) (hv : v < 256)
    (hm : ∀ i, i + 1 = j → rd buf i = 255 → v ≤ 143) :
    BufOk buf' j ∧ rd buf' j = v ∧ ∀ i, i < j → rd buf' i = rd buf i := by
  refine ⟨⟨hsz, fun i => ?_, fun i hi h255 => ?_⟩, by rw [hrd, if_pos rfl], fun i hi => by rw [hrd, if_neg (by omega)]⟩
  · rw [hrd]; split
    · exact hv
    · exact hb.bytes i
  · rw [hrd] at h255 ⊢
    rw [if_neg (by omega)] at h255
    split
    · next heq => exact hm i heq.symm h255
    · exact hb.marker i (by omega) h255

theorem inc_ok (buf : Array Nat) (bp b1 : Nat) (hb : BufOk buf bp) (hb1 : b1 < 256)
    (hm : 1 ≤ bp → rd buf (bp - 1) = 255 → b1 ≤ 143) :
    BufOk (buf.setIfInBounds bp b1) bp ∧ rd (buf.setIfInBounds bp b1) bp = b1 ∧
    ∀ i, i < bp → rd (buf.setIfInBounds bp b1) i = rd buf i :=
  set_ok buf (buf.setIfInBounds bp b1) bp bp b1 hb (by rw [Array.size_setIfInBounds]; exact hb.inb) (fun i => rd_set _ _ _ _ hb.inb)
    (Nat.le_refl _) (by omega) hb1 (fun i hi h => hm (by omega) (by rwa [show bp - 1 = i by omega]))

/-- the interval `[c, c + x)`, in units of `c` before the pending shift by `ct`, fits into the code register: what
`RegOk` says with `x = a`.  `A`: a byte-out leaves `c·2^ct < 2^27` and the width is at most `2^16·2^8` (`byteout_spec`),
hence `2^27 + 2^24`; so at the next byte-out a carry reaches bit 27 and no further.  `B`: behind a 0xFF the current byte
stays `≤ 0x8F` whatever carry still arrives (`144·2^27`). -/
structure Room (e : Enc) (x : Nat) : Prop where
  buf : BufOk e.buf e.bp
  x1 : 1 ≤ x
  A : (e.c + x) * 2 ^ e.ct.toNat ≤ 150994944
  B : 1 ≤ e.bp → rd e.buf (e.bp - 1) = 255 →
        rd e.buf e.bp * 134217728 + (e.c + x) * 2 ^ e.ct.toNat ≤ 19327352832

/-- `Room` with the shift done: what `byteout()`, which does not read `ct`, needs of `[c, c + x)` -/
structure OutOk (e : Enc) (x : Nat) : Prop where
  buf : BufOk e.buf e.bp
  x1 : 1 ≤ x
  A : e.c + x ≤ 150994944
  B : 1 ≤ e.bp → rd e.buf (e.bp - 1) = 255 → rd e.buf e.bp * 134217728 + e.c + x ≤ 19327352832

theorem Room.out {e : Enc} {x : Nat} (h : Room e x) : OutOk e x := by
  have hge : e.c + x ≤ (e.c + x) * 2 ^ e.ct.toNat := Nat.le_mul_of_pos_right _ (Nat.two_pow_pos _)
  exact ⟨h.buf, h.x1, Nat.le_trans hge h.A, fun hb h255 => by
    rw [Nat.add_assoc]; exact Nat.le_trans (Nat.add_le_add_left hge _) (h.B hb h255)⟩

theorem Room.shift {e : Enc} {x : Nat} (h : Room e x) (k : Int) :
    OutOk { e with c := e.c * 2 ^ e.ct.toNat, ct := k } (x * 2 ^ e.ct.toNat) := by
  have hA := h.A; rw [Nat.add_mul] at hA
  exact ⟨h.buf, Nat.mul_pos h.x1 (Nat.two_pow_pos _), hA, fun hb h255 => by
    have := h.B hb h255; rw [Nat.add_mul, ← Nat.add_assoc] at this; exact this⟩

theorem Room.sub {e : Enc} {x : Nat} (h : Room e x) (c' y : Nat) (hy : 1 ≤ y) (hle : c' + y ≤ e.c + x) :
    Room { e with c := c' } y :=
  ⟨h.buf, hy, Nat.le_trans (Nat.mul_le_mul_right _ hle) h.A, fun h1 h255 =>
    Nat.le_trans (Nat.add_le_add_left (Nat.mul_le_mul_right _ hle) _) (h.B h1 h255)⟩

theorem scale_step (c a : Nat) (ct : Int) (h : 1 ≤ ct) :
    (c * 2 + a * 2) * 2 ^ (ct - 1).toNat = (c + a) * 2 ^ ct.toNat := by
  have h1 : ct.toNat = (ct - 1).toNat + 1 := by omega
  rw [h1, Nat.pow_succ, ← Nat.add_mul, Nat.mul_assoc, Nat.mul_comm 2]

theorem Room.double {e : Enc} {x : Nat} (h : Room e x) (hct : 1 ≤ e.ct) (a' : Nat) :
    Room { e with a := a', c := e.c * 2, ct := e.ct - 1 } (x * 2) :=
  have hs := Nat.le_of_eq (scale_step e.c x e.ct hct)
  ⟨h.buf, Nat.le_trans h.x1 (Nat.le_mul_of_pos_right x (by decide)), Nat.le_trans hs h.A, fun h1 h255 =>
    Nat.le_trans (Nat.add_le_add_left hs _) (h.B h1 h255)⟩

/-! The four splittings of `c` that `byteout()` performs, carry, byte and remainder as it computes them: `omega` exceeds
its recursion depth on `c * 256 = (δ * 256 + nb) * 134217728 + c' * 256` with `δ`, `nb`, `c'` variables, so what follows
from the splitting is derived by hand (`Emitted.carry_le`) or with the width `w` left a variable. -/

theorem split7 (c : Nat) (h : c < 150994944) :
    c * 128 = (0 * 128 + u8 (c / 2 ^ 20)) * 134217728 + c % 2 ^ 20 * 128 ∧ c % 2 ^ 20 * 128 < 134217728 := by
  unfold u8; omega
theorem split8 (c : Nat) (h : c < 134217728) :
    c * 256 = (0 * 256 + u8 (c / 2 ^ 19)) * 134217728 + c % 2 ^ 19 * 256 ∧ c % 2 ^ 19 * 256 < 134217728 := by
  unfold u8; omega
theorem split7c (c : Nat) (h1 : 134217728 ≤ c) (h2 : c < 150994944) :
    c * 128 = (1 * 128 + u8 (c % 2 ^ 27 / 2 ^ 20)) * 134217728 + c % 2 ^ 27 % 2 ^ 20 * 128 ∧
    c % 2 ^ 27 % 2 ^ 20 * 128 < 134217728 := by
  unfold u8; omega
theorem split8c (c : Nat) (h1 : 134217728 ≤ c) (h2 : c < 150994944) :
    c * 256 = (1 * 256 + u8 (c / 2 ^ 19)) * 134217728 + c % 2 ^ 19 * 256 ∧ c % 2 ^ 19 * 256 < 134217728 := by
  unfold u8; omega

/-- `e2` is `e` after one emitted byte: `c = δ·2^27 + nb·2^(27-w) + c'` splits into the carry `δ` into the current
byte, the new byte `nb` of width `w` (7 after a 0xFF) and the remainder `c'`; the splitting is stated times `2^w`, the
scale of `e2` -/
structure Emitted (e e2 : Enc) (w nb δ : Nat) : Prop where
  w78 : w = 7 ∨ w = 8
  bp : e2.bp = e.bp + 1
  ct : e2.ct = (w : Int)
  split : e.c * 2 ^ w = (δ * 2 ^ w + nb) * 134217728 + e2.c * 2 ^ w
  rest : e2.c * 2 ^ w < 134217728
  carry : δ ≤ 1
  byte : rd e2.buf (e.bp + 1) = nb
  cur : rd e2.buf e.bp = rd e.buf e.bp + δ
  pre : ∀ j, j < e.bp → rd e2.buf j = rd e.buf j
  w7 : w = 7 ↔ rd e2.buf e.bp = 255
  a : e2.a = e.a
  ctx : e2.ctx = e.ctx

/-- the common end of the four branches of `byteout()`; `buf1` is the buffer of `e` with the carry `δ` added to the
current byte, whose value decides the width `w`.  After a 0xFF the new byte is at most 0x8F because
`c < 2^27 + 2^24 = 144·2^20`.  `e2` comes with an equation so that the branch's `rfl` meets the record once and the
conclusion is about a variable. -/
theorem emit_ok (e e2 : Enc) (buf1 : Array Nat) {w v δ c1 : Nat} (hc : e.c < 150994944)
    (he2 : e2 =
      { e with buf := (ensureIndex buf1 (e.bp + 1)).setIfInBounds (e.bp + 1) (u8 v), bp := e.bp + 1, c := c1, ct := w })
    (h1 : BufOk buf1 e.bp) (hcur : rd buf1 e.bp = rd e.buf e.bp + δ) (hpre : ∀ j, j < e.bp → rd buf1 j = rd e.buf j)
    (hδ : δ ≤ 1) (hw : w = 7 ∧ rd buf1 e.bp = 255 ∨ w = 8 ∧ rd buf1 e.bp ≠ 255)
    (hM : e.c * 2 ^ w = (δ * 2 ^ w + u8 v) * 134217728 + c1 * 2 ^ w ∧ c1 * 2 ^ w < 134217728) :
    BufOk e2.buf e2.bp ∧ Emitted e e2 w (u8 v) δ := by
  subst he2
  have hs := (size_ensure buf1 (e.bp + 1)).1
  obtain ⟨hok, hlast, hkeep⟩ := set_ok buf1 ((ensureIndex buf1 (e.bp + 1)).setIfInBounds (e.bp + 1) (u8 v)) e.bp
    (e.bp + 1) (u8 v) h1 (by rw [Array.size_setIfInBounds]; exact hs) (fun i => by rw [rd_set _ _ _ _ hs, rd_ensure])
    (Nat.le_succ _) (Nat.le_refl _) (u8_lt v)
    (fun i hi h255 => by
      obtain rfl : i = e.bp := Nat.succ.inj hi
      rcases hw with ⟨rfl, _⟩ | ⟨_, hne⟩
      · omega  -- `u8 v · 2^27 ≤ c · 2^7 < 144 · 2^27`
      · exact absurd h255 hne)
  -- with the buffer term in place every `rfl` below is dear
  generalize (ensureIndex buf1 (e.bp + 1)).setIfInBounds (e.bp + 1) (u8 v) = buf2 at hok hlast hkeep ⊢
  have hb := hkeep e.bp (Nat.lt_succ_self _)
  refine ⟨hok, hw.imp And.left And.left, rfl, rfl, hM.1, hM.2, hδ, hlast, hb.trans hcur,
    fun j hj => (hkeep j (Nat.lt_succ_of_lt hj)).trans (hpre j hj), ?_, rfl, rfl⟩
  show w = 7 ↔ rd buf2 e.bp = 255
  rw [hb]
  rcases hw with ⟨rfl, h⟩ | ⟨rfl, h⟩
  · exact ⟨fun _ => h, fun _ => rfl⟩
  · exact ⟨fun h8 => absurd h8 (by decide), fun h' => absurd h' h⟩

theorem byteout_split (e : Enc) (x : Nat) (ho : OutOk e x) :
    ∃ (e2 : Enc) (w nb δ : Nat), byteout e = some e2 ∧ BufOk e2.buf e2.bp ∧ Emitted e e2 w nb δ := by
  obtain ⟨hb, hx1, hA, hB⟩ := ho
  have hb256 := hb.bytes e.bp
  have hcA : e.c < 150994944 := by omega
  unfold byteout
  simp only [if_neg (show ¬ e.bp ≥ e.buf.size from by have := hb.inb; omega), rd_some e.buf e.bp hb.inb]
  by_cases hff : rd e.buf e.bp = 255
  · rw [if_pos hff]
    exact ⟨_, 7, _, 0, rfl, emit_ok e _ e.buf hcA rfl hb rfl (fun _ _ => rfl) (Nat.zero_le _)
      (Or.inl ⟨rfl, hff⟩) (split7 e.c hcA)⟩
  · rw [if_neg hff]
    by_cases hc : e.c / 2 ^ 27 % 2 = 0
    · rw [if_pos hc]
      exact ⟨_, 8, _, 0, rfl, emit_ok e _ e.buf hcA rfl hb rfl (fun _ _ => rfl) (Nat.zero_le _)
        (Or.inr ⟨rfl, hff⟩) (split8 e.c (by omega))⟩
    · rw [if_neg hc]
      have hc27 : 134217728 ≤ e.c := by omega
      have hb1 : u8 (rd e.buf e.bp + 1) = rd e.buf e.bp + 1 := by unfold u8; omega
      -- all that is needed of `hB`: a carry does not lift the byte behind a 0xFF above 0x8F
      obtain ⟨hok1, hcur1, hpre1⟩ := inc_ok e.buf e.bp (u8 (rd e.buf e.bp + 1)) hb (u8_lt _)
        (fun h1 h255 => by have := hB h1 h255; omega)
      generalize e.buf.setIfInBounds e.bp (u8 (rd e.buf e.bp + 1)) = buf1 at hok1 hcur1 hpre1 ⊢
      rw [hb1] at hcur1 ⊢
      by_cases hff1 : rd e.buf e.bp + 1 = 255
      · rw [if_pos hff1]
        exact ⟨_, 7, _, 1, rfl, emit_ok e _ buf1 hcA rfl hok1 hcur1 hpre1 (Nat.le_refl _)
          (Or.inl ⟨rfl, hcur1.trans hff1⟩) (split7c e.c hc27 hcA)⟩
      · rw [if_neg hff1]
        exact ⟨_, 8, _, 1, rfl, emit_ok e _ buf1 hcA rfl hok1 hcur1 hpre1 (Nat.le_refl _)
          (Or.inr ⟨rfl, fun h => hff1 (hcur1.symm.trans h)⟩) (split8c e.c hc27 hcA)⟩

theorem byteout_decomp (e : Enc) (x : Nat) (ho : OutOk e x) :
    ∀ e2, byteout e = some e2 → ∃ (w nb δ : Nat), Emitted e e2 w nb δ := by
  obtain ⟨e2, w, nb, δ, he2, _, hrest⟩ := byteout_split e x ho
  intro e2' he2'
  obtain rfl : e2 = e2' := Option.some.inj (he2.symm.trans he2')
  exact ⟨w, nb, δ, hrest⟩

theorem Emitted.carry_le {e e2 : Enc} {w nb δ : Nat} (h : Emitted e e2 w nb δ) : δ * 134217728 ≤ e.c := by
  apply Nat.le_of_mul_le_mul_right _ (Nat.two_pow_pos w)
  rw [h.split, Nat.add_mul, Nat.mul_right_comm]
  exact Nat.le_trans (Nat.le_add_right _ _) (Nat.le_add_right _ _)

theorem Emitted.ct78 {e e2 : Enc} {w nb δ : Nat} (h : Emitted e e2 w nb δ) : e2.ct = 7 ∨ e2.ct = 8 := by
  rcases h.w78 with rfl | rfl
  · exact Or.inl h.ct
  · exact Or.inr h.ct

theorem byteout_spec (e : Enc) (x : Nat) (ho : OutOk e x) (hx2 : x ≤ 65536) :
    ∃ e' w nb δ, byteout e = some e' ∧ Emitted e e' w nb δ ∧ Room e' x := by
  have hA := ho.A
  obtain ⟨e2, w, nb, δ, he2, hok, hE⟩ := byteout_split e x ho
  have hM := hE.split; have hc1 := hE.rest
  refine ⟨e2, w, nb, δ, he2, hE, hok, ho.x1, ?_, fun _ => ?_⟩
  · rcases hE.w78 with rfl | rfl
    · rw [hE.ct, Int.toNat_natCast]; omega
    · rw [hE.ct, Int.toNat_natCast]; omega
  · rw [hE.bp, Nat.add_sub_cancel, hE.byte]
    intro h255
    -- a stuffed byte: `nb·2^27 + (c' + x)·2^7 = (c + x)·2^7 − δ·2^34`
    rcases hE.w78 with rfl | rfl
    · rw [hE.ct, Int.toNat_natCast]; omega
    · exact absurd (hE.w7.mpr h255) (by decide)

/-- a context word: the state, `< 47`, with the MPS in bit 7 -/
def CtxOk (ctx : Array Nat) : Prop := ∀ i, rd ctx i % 128 < 47 ∧ rd ctx i < 256

/-- invariant of the encoder registers, also valid in the middle of `renorme` (`ct = 13` is what `RestartInitEnc` sets
behind a 0xFF) -/
structure RegOk (e : Enc) : Prop where
  buf : BufOk e.buf e.bp
  apos : 0 < e.a
  ahi : e.a < 65536
  ctlo : 1 ≤ e.ct
  cthi : e.ct ≤ 13
  A : (e.c + e.a) * 2 ^ e.ct.toNat ≤ 150994944
  B : 1 ≤ e.bp → rd e.buf (e.bp - 1) = 255 →
        rd e.buf e.bp * 134217728 + (e.c + e.a) * 2 ^ e.ct.toNat ≤ 19327352832
  ctx : CtxOk e.ctx

theorem RegOk.room {e : Enc} (h : RegOk e) : Room e e.a := ⟨h.buf, h.apos, h.A, h.B⟩

theorem Room.reg {e : Enc} (h : Room e e.a) (ahi : e.a < 65536) (ctlo : 1 ≤ e.ct) (cthi : e.ct ≤ 13) (ctx : CtxOk e.ctx) :
    RegOk e := ⟨h.buf, h.x1, ahi, ctlo, cthi, h.A, h.B, ctx⟩

theorem regok_sub (e : Enc) (h : RegOk e) (a' c' : Nat) (ctx' : Array Nat) (ha0 : 0 < a') (ha1 : a' < 65536)
    (hsum : c' + a' ≤ e.c + e.a) (hctx : CtxOk ctx') : RegOk { e with a := a', c := c', ctx := ctx' } :=
  have r := h.room.sub c' a' ha0 hsum
  ⟨r.buf, ha0, ha1, h.ctlo, h.cthi, r.A, r.B, hctx⟩

/-- one turn of the `renorme` loop from `e`: `e2` is the doubled state, with a byte emitted if `ct` reached 0 -/
structure RenStep (e e2 : Enc) : Prop where
  reg : RegOk e2
  a : e2.a = e.a * 2
  ctx : e2.ctx = e.ctx
  bp : e.bp ≤ e2.bp
  out : (1 < e.ct ∧ e2 = { e with a := e.a * 2, c := e.c * 2, ct := e.ct - 1 }) ∨
    (e.ct - 1 = 0 ∧ ∃ w nb δ, Emitted { e with a := e.a * 2, c := e.c * 2, ct := e.ct - 1 } e2 w nb δ)

theorem renorme_step (e : Enc) (h : RegOk e) (hlt : e.a < 0x8000) :
    ∃ e2, RenStep e e2 ∧ ∀ fuel, renormeLoop (fuel + 1) e = renormeLoop fuel e2 := by
  have hap := h.apos; have hcl := h.ctlo; have hch := h.cthi
  have hcA := h.room.out.A
  have ha2 : u32 (e.a * 2) = e.a * 2 := u32_id _ (by omega)
  have hc2 : u32 (e.c * 2) = e.c * 2 := u32_id _ (by omega)
  have hr1 : Room { e with a := e.a * 2, c := e.c * 2, ct := e.ct - 1 } (e.a * 2) := h.room.double hcl _
  by_cases hz : e.ct - 1 = 0
  · obtain ⟨e2, w, nb, δ, he2, hE, hr2⟩ := byteout_spec _ _ hr1.out (by omega)
    have hbp2 : e2.bp = e.bp + 1 := hE.bp
    have ha2' : e2.a = e.a * 2 := hE.a
    have hct2 := hE.ct78
    rw [← ha2'] at hr2
    refine ⟨e2, ⟨hr2.reg (by omega) (by omega) (by omega) (hE.ctx ▸ h.ctx), ha2', hE.ctx, by omega,
      Or.inr ⟨hz, w, nb, δ, hE⟩⟩, fun fuel => ?_⟩
    rw [renormeLoop, if_pos hlt]
    simp only [ha2, hc2, if_pos hz, he2]
  · refine ⟨_, ⟨hr1.reg (show e.a * 2 < 65536 by omega) (show 1 ≤ e.ct - 1 by omega) (show e.ct - 1 ≤ 13 by omega) h.ctx,
      rfl, rfl, Nat.le_refl _, Or.inl ⟨by omega, rfl⟩⟩, fun fuel => ?_⟩
    rw [renormeLoop, if_pos hlt]
    simp only [ha2, hc2, if_neg hz]

theorem renormeLoop_done (fuel : Nat) (e : Enc) (h : ¬ e.a < 0x8000) : renormeLoop fuel e = some e := by
  cases fuel <;> rw [renormeLoop, if_neg h]

theorem renormeLoop_spec : ∀ (fuel : Nat) (e : Enc), RegOk e → 0x8000 ≤ e.a * 2 ^ fuel →
    ∃ e', renormeLoop fuel e = some e' ∧ RegOk e' ∧ 0x8000 ≤ e'.a ∧ e'.ctx = e.ctx ∧ e.bp ≤ e'.bp := by
  intro fuel
  induction fuel with
  | zero => intro e h ha; exact ⟨e, renormeLoop_done 0 e (by omega), h, by omega, rfl, Nat.le_refl _⟩
  | succ fuel ih =>
    intro e h ha
    by_cases hlt : e.a < 0x8000
    · obtain ⟨e2, hs, hstep⟩ := renorme_step e h hlt
      obtain ⟨e3, he3, hr3, ha3, hctx3, hbp3⟩ := ih e2 hs.reg
        (by rw [hs.a, Nat.mul_assoc, ← Nat.pow_succ']; exact ha)
      exact ⟨e3, by rw [hstep]; exact he3, hr3, ha3, hctx3.trans hs.ctx, Nat.le_trans hs.bp hbp3⟩
    · exact ⟨e, renormeLoop_done _ e hlt, h, by omega, rfl, Nat.le_refl _⟩

theorem renormeLoop_induct {P : Nat → Enc → Prop} (e' : Enc) (base : 0x8000 ≤ e'.a → ∀ fuel, P fuel e')
    (step : ∀ fuel e e2, RegOk e → e.a < 0x8000 → RenStep e e2 → P fuel e2 → P (fuel + 1) e) :
    ∀ (fuel : Nat) (e : Enc), RegOk e → renormeLoop fuel e = some e' → P fuel e := by
  intro fuel
  induction fuel with
  | zero =>
    intro e h he
    rw [renormeLoop] at he
    split at he
    · exact absurd he (by simp)
    · next hge => injection he with he; subst he; exact base (by omega) 0
  | succ fuel ih =>
    intro e h he
    by_cases hlt : e.a < 0x8000
    · obtain ⟨e2, hs, hstep⟩ := renorme_step e h hlt
      rw [hstep] at he
      exact step fuel e e2 h hlt hs (ih e2 hs.reg he)
    · rw [renormeLoop_done _ e hlt] at he
      injection he with he; subst he; exact base (by omega) _

theorem ctxOk_set (ctx : Array Nat) (cx v : Nat) (h : CtxOk ctx) (hv : v % 128 < 47 ∧ v < 256) :
    CtxOk (ctx.setIfInBounds cx v) := by
  intro i
  by_cases hcx : cx < ctx.size
  · rw [rd_set _ _ _ _ hcx]
    split
    · exact hv
    · exact h i
  · rw [Array.setIfInBounds_eq_of_size_le (Nat.le_of_not_lt hcx)]; exact h i

theorem mpsCx_ok (cx nmps : Nat) (h2 : nmps < 47) : mpsCx cx nmps % 128 < 47 ∧ mpsCx cx nmps < 256 := by
  unfold mpsCx u8; omega
theorem lpsCx_ok (cx nlps sw : Nat) (h2 : nlps < 47) : lpsCx cx nlps sw % 128 < 47 ∧ lpsCx cx nlps sw < 256 := by
  unfold lpsCx u8; split <;> omega

theorem lookup_wf (s : Nat) (h : s < 47) :
    ∃ qe nmps nlps sw, lookup s = some (qe, nmps, nlps, sw) ∧
      1 ≤ qe ∧ qe ≤ 0x5601 ∧ nmps < 47 ∧ nlps < 47 ∧ sw ≤ 1 := by
  obtain ⟨hq, q1, q2, hm, m1, hl, l1, hs, s1⟩ := tables_wf s h
  obtain ⟨qe, hq⟩ := Option.isSome_iff_exists.mp hq
  obtain ⟨nmps, hm⟩ := Option.isSome_iff_exists.mp hm
  obtain ⟨nlps, hl⟩ := Option.isSome_iff_exists.mp hl
  obtain ⟨sw, hs⟩ := Option.isSome_iff_exists.mp hs
  rw [hq] at q1 q2; rw [hm] at m1; rw [hl] at l1; rw [hs] at s1
  exact ⟨qe, nmps, nlps, sw, by unfold lookup; rw [hq, hm, hl, hs], q1, q2, m1, l1, s1⟩

/-- an MPS whose upper sub-interval `[c + qe, c + a)` is still normalised is coded by moving there.  Otherwise `renorme`
follows: on the lower sub-interval `[c, c + qe)` for an MPS with `a - qe < qe` (conditional exchange) and for an LPS
without, else on the upper one. -/
theorem encodeCore_cases (e : Enc) (bit cx cxv qe nmps nlps sw : Nat) (h : RegOk e) (hn : 0x8000 ≤ e.a)
    (q2 : 1 ≤ qe) (q3 : qe ≤ 0x5601) (m2 : nmps < 47) (l2 : nlps < 47) :
    (bit = cxv / 128 ∧ 0x8000 ≤ e.a - qe ∧ RegOk { e with a := e.a - qe, c := e.c + qe } ∧
      encodeCore e bit cx cxv qe nmps nlps sw = some { e with a := e.a - qe, c := e.c + qe }) ∨
    ∃ v, v = (if bit = cxv / 128 then mpsCx cxv nmps else lpsCx cxv nlps sw) ∧
      (((e.a - qe < qe ↔ bit = cxv / 128) ∧ RegOk { e with a := qe, ctx := e.ctx.setIfInBounds cx v } ∧
        encodeCore e bit cx cxv qe nmps nlps sw = renorme { e with a := qe, ctx := e.ctx.setIfInBounds cx v }) ∨
       (e.a - qe < 0x8000 ∧ (e.a - qe < qe ↔ bit ≠ cxv / 128) ∧
        RegOk { e with a := e.a - qe, c := e.c + qe, ctx := e.ctx.setIfInBounds cx v } ∧
        encodeCore e bit cx cxv qe nmps nlps sw =
          renorme { e with a := e.a - qe, c := e.c + qe, ctx := e.ctx.setIfInBounds cx v })) := by
  have hah := h.ahi
  have hcA := h.room.out.A
  have hsub : sub32 e.a qe = e.a - qe := sub32_eq _ _ (by omega) (by omega)
  have hcq : u32 (e.c + qe) = e.c + qe := u32_id _ (by omega)
  have lower : ∀ ctx', CtxOk ctx' → RegOk { e with a := qe, ctx := ctx' } :=
    fun ctx' => regok_sub e h qe e.c ctx' (by omega) (by omega) (by omega)
  have upper : ∀ ctx', CtxOk ctx' → RegOk { e with a := e.a - qe, c := e.c + qe, ctx := ctx' } :=
    fun ctx' => regok_sub e h (e.a - qe) (e.c + qe) ctx' (by omega) (by omega) (by omega)
  have hm := ctxOk_set e.ctx cx _ h.ctx (mpsCx_ok cxv nmps m2)
  have hl := ctxOk_set e.ctx cx _ h.ctx (lpsCx_ok cxv nlps sw l2)
  unfold encodeCore
  rw [hsub, hcq]
  by_cases hbit : bit = cxv / 128
  · rw [if_pos hbit]
    by_cases hren : (e.a - qe) / 0x8000 % 2 = 0
    · rw [if_pos hren]
      refine Or.inr ⟨mpsCx cxv nmps, (if_pos hbit).symm, ?_⟩
      by_cases hx : e.a - qe < qe
      · rw [if_pos hx]; exact Or.inl ⟨⟨fun _ => hbit, fun _ => hx⟩, lower _ hm, rfl⟩
      · rw [if_neg hx]; exact Or.inr ⟨by omega, ⟨fun hh => absurd hh hx, fun hh => absurd hbit hh⟩, upper _ hm, rfl⟩
    · rw [if_neg hren]; exact Or.inl ⟨hbit, by omega, upper _ h.ctx, rfl⟩
  · rw [if_neg hbit]
    refine Or.inr ⟨lpsCx cxv nlps sw, (if_neg hbit).symm, ?_⟩
    by_cases hx : e.a - qe < qe
    · rw [if_pos hx]; exact Or.inr ⟨by omega, ⟨fun _ => hbit, fun _ => hx⟩, upper _ hl, rfl⟩
    · rw [if_neg hx]; exact Or.inl ⟨⟨fun hh => absurd hh hx, fun hh => absurd hh hbit⟩, lower _ hl, rfl⟩

theorem encode_eq (e : Enc) (bit cx v qe nmps nlps sw : Nat) (h1 : e.ctx[cx]? = some v)
    (h2 : lookup (v % 128) = some (qe, nmps, nlps, sw)) :
    encode e bit cx = encodeCore e bit cx v qe nmps nlps sw := by
  unfold encode
  rw [h1]
  simp only [h2]

/-- `Encode` = a sub-interval, then `renorme`: where the MPS path skips `renorme`, `a ≥ 0x8000` and `renorme` would do
nothing -/
theorem encode_sub (e : Enc) (bit cx : Nat) (h : RegOk e) (hn : 0x8000 ≤ e.a) (hcx : cx < e.ctx.size) :
    ∃ a' c' ctx', e.c ≤ c' ∧ c' + a' ≤ e.c + e.a ∧ ctx'.size = e.ctx.size ∧
      RegOk { e with a := a', c := c', ctx := ctx' } ∧
      encode e bit cx = renorme { e with a := a', c := c', ctx := ctx' } := by
  obtain ⟨hst, hcxv⟩ := h.ctx cx
  obtain ⟨qe, nmps, nlps, sw, hlk, q2, q3, m2, l2, _⟩ := lookup_wf (rd e.ctx cx % 128) hst
  rw [encode_eq e bit cx _ qe nmps nlps sw (rd_some e.ctx cx hcx) hlk]
  rcases encodeCore_cases e bit cx (rd e.ctx cx) qe nmps nlps sw h hn q2 q3 m2 l2 with
    ⟨_, hge, hr, he⟩ | ⟨v, _, ⟨_, hr, he⟩ | ⟨_, _, hr, he⟩⟩
  · exact ⟨e.a - qe, e.c + qe, e.ctx, by omega, by omega, rfl, hr,
      he.trans (renormeLoop_done 16 _ (by show ¬ e.a - qe < 0x8000; omega)).symm⟩
  · exact ⟨qe, e.c, _, Nat.le_refl _, by omega, Array.size_setIfInBounds, hr, he⟩
  · exact ⟨e.a - qe, e.c + qe, _, by omega, by omega, Array.size_setIfInBounds, hr, he⟩

theorem encode_spec (e : Enc) (bit cx : Nat) (h : RegOk e) (hn : 0x8000 ≤ e.a) (hcx : cx < e.ctx.size) :
    ∃ e', encode e bit cx = some e' ∧ RegOk e' ∧ 0x8000 ≤ e'.a ∧ e'.ctx.size = e.ctx.size ∧ e.bp ≤ e'.bp := by
  obtain ⟨a', c', ctx', _, _, hsz, hr, he⟩ := encode_sub e bit cx h hn hcx
  obtain ⟨e', he', hr', ha', hc', hbp'⟩ := renormeLoop_spec 16 _ hr
    (by show 0x8000 ≤ a' * 2 ^ 16; have : 0 < a' := hr.apos; rw [show (2 : Nat) ^ 16 = 65536 from rfl]; omega)
  exact ⟨e', he.trans he', hr', ha', by rw [hc', hsz], hbp'⟩

theorem rd_replicate0 (n i : Nat) : rd (Array.replicate n 0) i = 0 := by
  unfold rd; rw [Array.getElem?_replicate]; split <;> rfl

theorem ctxOk_replicate0 (n : Nat) : CtxOk (Array.replicate n 0) := fun i => by rw [rd_replicate0]; decide

theorem new_ok (n : Nat) : RegOk (Enc.new n) ∧ 0x8000 ≤ (Enc.new n).a ∧ (Enc.new n).ctx.size = n := by
  have hrd : ∀ i, rd #[0] i = 0 := by
    intro i; unfold rd
    rcases i with _ | i
    · rfl
    · rfl
  refine ⟨⟨⟨?_, ?_, ?_⟩, ?_, ?_, ?_, ?_, ?_, ?_, ?_⟩, ?_, ?_⟩
  · show 0 < (#[0] : Array Nat).size; decide
  · intro i; show rd #[0] i < 256; rw [hrd]; decide
  · intro i hi; exact absurd hi (Nat.not_lt_zero _)
  · show 0 < 0x8000; decide
  · show 0x8000 < 65536; decide
  · show (1 : Int) ≤ 12; decide
  · show (12 : Int) ≤ 13; decide
  · show (0 + 0x8000) * 2 ^ (12 : Int).toNat ≤ 150994944; decide
  · intro h1; exact absurd h1 (by show ¬ 1 ≤ 0; decide)
  · exact ctxOk_replicate0 n
  · show 0x8000 ≤ 0x8000; decide
  · show (Array.replicate n 0).size = n; exact Array.size_replicate

theorem encodeAll_spec : ∀ (ds : List (Nat × Nat)) (e : Enc), RegOk e → 0x8000 ≤ e.a →
    (∀ d ∈ ds, d.2 < e.ctx.size) →
    ∃ e', encodeAll e ds = some e' ∧ RegOk e' ∧ 0x8000 ≤ e'.a ∧ e'.ctx.size = e.ctx.size := by
  intro ds
  induction ds with
  | nil => intro e h hn _; exact ⟨e, rfl, h, hn, rfl⟩
  | cons d ds ih =>
    intro e h hn hds
    obtain ⟨bit, cx⟩ := d
    obtain ⟨e1, he1, hr1, hn1, hs1, _⟩ := encode_spec e bit cx h hn (hds (bit, cx) (List.mem_cons_self))
    obtain ⟨e2, he2, hr2, hn2, hs2⟩ := ih e1 hr1 hn1
      (by intro d hd; rw [hs1]; exact hds d (List.mem_cons_of_mem _ hd))
    refine ⟨e2, ?_, hr2, hn2, by rw [hs2, hs1]⟩
    rw [encodeAll, he1]; exact he2

theorem encodeAll_induct {P : Enc → List (Nat × Nat) → Prop} (ef : Enc) (base : P ef [])
    (step : ∀ e e1 bit cx ds, RegOk e → 0x8000 ≤ e.a → cx < e.ctx.size → encode e bit cx = some e1 →
      P e1 ds → P e ((bit, cx) :: ds)) :
    ∀ (ds : List (Nat × Nat)) (e : Enc), RegOk e → 0x8000 ≤ e.a → (∀ d ∈ ds, d.2 < e.ctx.size) →
      encodeAll e ds = some ef → P e ds := by
  intro ds
  induction ds with
  | nil => intro e _ _ _ he; rw [encodeAll] at he; injection he with he; subst he; exact base
  | cons d ds ih =>
    intro e h hn hds he
    obtain ⟨bit, cx⟩ := d
    have hcx := hds (bit, cx) List.mem_cons_self
    obtain ⟨e1, he1, hr1, hn1, hs1, _⟩ := encode_spec e bit cx h hn hcx
    rw [encodeAll, he1] at he
    exact step e e1 bit cx ds h hn hcx he1
      (ih e1 hr1 hn1 (by intro d hd; rw [hs1]; exact hds d (List.mem_cons_of_mem _ hd)) he)

theorem encodeAll_new (n : Nat) (ds : List (Nat × Nat)) (hds : ∀ d ∈ ds, d.2 < n) :
    ∃ e, encodeAll (Enc.new n) ds = some e ∧ RegOk e ∧ 0x8000 ≤ e.a := by
  obtain ⟨h0, hn0, hs0⟩ := new_ok n
  obtain ⟨e, he, hr, hn, _⟩ := encodeAll_spec ds (Enc.new n) h0 hn0 (by rw [hs0]; exact hds)
  exact ⟨e, he, hr, hn⟩

theorem encoder_registers (n : Nat) (ds : List (Nat × Nat)) (hds : ∀ d ∈ ds, d.2 < n) :
    ∃ e, encodeAll (Enc.new n) ds = some e ∧ 0x8000 ≤ e.a ∧ e.a < 0x10000 ∧ 1 ≤ e.ct ∧ e.ct ≤ 13 ∧
      e.c < 2 ^ 28 ∧ e.bp < e.buf.size := by
  obtain ⟨e, he, hr, hn⟩ := encodeAll_new n ds hds
  have := hr.room.out.A
  exact ⟨e, he, hn, hr.ahi, hr.ctlo, hr.cthi, by omega, hr.buf.inb⟩

/-- byte-stream invariant of MQ output: what T.800 requires so that no marker code ≥ 0xFF90 can appear inside coded
data -/
def StreamOk (bytes : List Nat) : Prop :=
  (∀ (j : Nat) (b : Nat), bytes[j]? = some b → b < 256) ∧
  (∀ j : Nat, bytes[j]? = some 255 → ∃ b, bytes[j + 1]? = some b ∧ b ≤ 143)

theorem StreamOk.no_trailing_ff {bytes : List Nat} (h : StreamOk bytes) : bytes.getLast? ≠ some 255 := by
  intro hl
  rw [List.getLast?_eq_getElem?] at hl
  obtain ⟨b, hb, _⟩ := h.2 _ hl
  have := (List.getElem?_eq_some_iff.mp hl).1
  rw [List.getElem?_eq_none (by omega)] at hb
  cases hb

theorem getBuffer_get (e : Enc) (h1 : 1 ≤ e.bp) (hsz : e.bp ≤ e.buf.size) :
    (getBuffer e).length = e.bp - 1 ∧
    ∀ k, (getBuffer e)[k]? = if k < e.bp - 1 then some (rd e.buf (k + 1)) else none := by
  have hm : min e.bp e.buf.size - start = e.bp - 1 := by unfold start; omega
  unfold getBuffer
  rw [if_neg (by unfold start; omega)]
  refine ⟨by rw [Array.length_toList, Array.size_extract, hm], fun k => ?_⟩
  rw [Array.getElem?_toList, Array.getElem?_extract, hm]
  split
  · unfold start; rw [rd_some e.buf (1 + k) (by omega), Nat.add_comm]
  · rfl

end Mqc

namespace T1
open Mqc

/-- encoder state after a termination: `buf[1 .. bp)` is the finished stream, its last byte is not 0xFF -/
structure TermOk (e : Enc) : Prop where
  bp1 : 1 ≤ e.bp
  sz : e.bp ≤ e.buf.size
  bytes : ∀ i, rd e.buf i < 256
  marker : ∀ i, i + 1 < e.bp → rd e.buf i = 255 → rd e.buf (i + 1) ≤ 143
  last : rd e.buf (e.bp - 1) ≠ 255
  ctx : CtxOk e.ctx

end T1

namespace Mqc
open T1

theorem getBuffer_stream (e : Enc) (h : TermOk e) (h2 : 2 ≤ e.bp) : StreamOk (getBuffer e) := by
  obtain ⟨_, hsz, hbytes, hmarker, hlast, _⟩ := h
  have hget := (getBuffer_get e (by omega) hsz).2
  refine ⟨?_, ?_⟩
  · intro j b hb
    rw [hget] at hb
    split at hb
    · injection hb with hb; rw [← hb]; exact hbytes _
    · exact absurd hb (by simp)
  · intro j hj
    rw [hget] at hj
    split at hj
    · next hlt =>
      injection hj with hj
      have hne : j + 1 ≠ e.bp - 1 := by intro heq; rw [heq] at hj; exact hlast hj
      exact ⟨rd e.buf (j + 1 + 1), by rw [hget, if_pos (by omega)], hmarker (j + 1) (by omega) hj⟩
    · exact absurd hj (by simp)

end Mqc
