import GdcVerif.Lemmas.J2kGluePlane
import GdcVerif.Lemmas.J2kGlueT1
/-! planes → packets → bytes → packets → planes for one tile (T2 + T1 + cut/paste) -/
namespace J2kGlue
open T1

theorem cutBlock_length (f : Plane) (k : BlkRect) : (cutBlock f k).length = k.w * k.h := by
  unfold cutBlock
  rw [Radix.grid_length (fun y x => f (k.x0 + x) (k.y0 + y)), Nat.mul_comm]

theorem blkRects_pos_nodup (cbw cbh : Nat) (b : BandRect) :
    ((blkRects cbw cbh b).map fun k => (k.cbx, k.cby)).Nodup := by
  unfold blkRects
  rw [List.map_flatMap]
  simp only [List.map_map, Function.comp_def]
  exact Radix.nodup_grid _ _

theorem blkRects_ne_nil (cbw cbh : Nat) (hw : 0 < cbw) (hh : 0 < cbh) (b : BandRect) (h : b.bw ≠ 0 ∧ b.bh ≠ 0) :
    blkRects cbw cbh b ≠ [] :=
  List.ne_nil_of_mem ((mem_blkRects cbw cbh b _).mpr
    ⟨0 / cbh, Nat.div_lt_ceilDiv hh (by omega), 0 / cbw, Nat.div_lt_ceilDiv hw (by omega), rfl⟩)

/-- NAMED HYPOTHESIS (unproved): the T1 output of a code-block fits decodePacket's `maxSegmentLength = 65535`
    (no bound on the MQ output length is proved).  TRAP: it speaks of blocks of every size `w × h`, not only of the at
    most 4096 samples a code-block has, and so is false (by evaluation, `encodeBlock 160 160 0 0 cs 73` of 25600 noise
    values below 2^25 returns 83573 bytes); a theorem that assumes it says nothing.  The proofs use `SegmentLenFor`. -/
def SegmentLenHyp : Prop :=
  ∀ (w h orient : Nat) (cs : List Int) (np : Nat) (bs : List Nat), cs.length = w * h → (∀ c ∈ cs, c.natAbs < 2 ^ 25) →
    encodeBlock w h orient 0 cs np = .ok bs → bs.length ≤ 65535

/-- the same bound for blocks up to `cbw × cbh` only, which is all a tile with that code-block size needs; unlike
    `SegmentLenHyp` it can hold (the encoder admits `cbw * cbh ≤ 4096`) -/
def SegmentLenFor (cbw cbh : Nat) : Prop :=
  ∀ (w h orient : Nat) (cs : List Int) (np : Nat) (bs : List Nat), w ≤ cbw → h ≤ cbh → cs.length = w * h →
    (∀ c ∈ cs, c.natAbs < 2 ^ 25) → encodeBlock w h orient 0 cs np = .ok bs → bs.length ≤ 65535

theorem SegmentLenHyp.for (hs : SegmentLenHyp) (cbw cbh : Nat) : SegmentLenFor cbw cbh :=
  fun w h o cs np bs _ _ => hs w h o cs np bs

theorem blkRects_size (cbw cbh : Nat) (b : BandRect) (k : BlkRect) (hk : k ∈ blkRects cbw cbh b) :
    k.w ≤ cbw ∧ k.h ≤ cbh := by
  obtain ⟨_, _, _, _, rfl⟩ := (mem_blkRects cbw cbh b k).mp hk
  exact ⟨Nat.min_le_left _ _, Nat.min_le_left _ _⟩

theorem cutBlock_bound (f : Plane) (k : BlkRect) (hb : ∀ x y, (f x y).natAbs < 2 ^ 25) : ∀ v ∈ cutBlock f k, v.natAbs < 2 ^ 25 := by
  intro v hv
  unfold cutBlock at hv
  rw [List.mem_flatMap] at hv
  obtain ⟨y, _, hv⟩ := hv
  obtain ⟨x, _, rfl⟩ := List.mem_map.mp hv
  exact hb _ _

theorem ppacketOf_ok (c : TCfg) (r : Nat) (f : Plane) (hw : 0 < c.cbw) (hh : 0 < c.cbh) (hl : liveBands c r ≠ [])
    (hnb : ∀ r b, c.nb r b < 32) (hb : ∀ x y, (f x y).natAbs < 2 ^ 25) (hs : SegmentLenFor c.cbw c.cbh) :
    PPacketOk (ppacketOf c r f) := by
  constructor
  · obtain ⟨b, hmem⟩ := List.exists_mem_of_ne_nil _ hl
    exact ⟨pbandOf c r f b, List.mem_map_of_mem hmem, fun he =>
      blkRects_ne_nil c.cbw c.cbh hw hh b ((mem_liveBands c r b).mp hmem).2 (List.map_eq_nil_iff.mp he)⟩
  · intro pb hpb
    obtain ⟨b, _, rfl⟩ := List.mem_map.mp hpb
    constructor
    · unfold pbandOf
      simp only [List.map_map, Function.comp_def]
      exact blkRects_pos_nodup c.cbw c.cbh b
    · intro blk hblk
      obtain ⟨k, hk, rfl⟩ := List.mem_map.mp hblk
      have hsz := blkRects_size c.cbw c.cbh b k hk
      have hlen := cutBlock_length f k
      have hbd := cutBlock_bound f k hb
      exact { len := hlen, bnd := hbd, nb32 := hnb r b.band, bytes := fun np bs => hs _ _ _ _ np bs hsz.1 hsz.2 hlen hbd }

theorem tile_planes_roundtrip_for (c : TCfg) (nC prog : Nat) (planes : Nat → Plane)
    (hw : 0 < c.cbw) (hh : 0 < c.cbh) (hnb : ∀ r b, c.nb r b < 32)
    (hb : ∀ k x y, (planes k x y).natAbs < 2 ^ 25) (hs : SegmentLenFor c.cbw c.cbh) :
    ∃ bytes, encodeTileBody (tilePackets c nC prog planes) = some bytes ∧ ∀ tail, ∃ out,
      decodeTileBody (tileGeo c nC prog) (bytes ++ tail) = some out ∧
      ∀ k x y, k < nC → x < c.W → y < c.H → pasteTile c nC prog out k x y = planes k x y := by
  have hok : ∀ p ∈ tilePackets c nC prog planes, PPacketOk p := by
    intro p hp
    unfold tilePackets at hp
    obtain ⟨q, hq, rfl⟩ := List.mem_map.mp hp
    exact ppacketOf_ok c q.1 (planes q.2) hw hh ((mem_packetSeq c nC prog q.1 q.2).mp hq).2.2 hnb (hb q.2) hs
  obtain ⟨bytes, henc, hdec⟩ := tile_blocks_roundtrip (tilePackets c nC prog planes) hok
  refine ⟨bytes, henc, fun tail => ⟨_, tileGeo_eq c nC prog planes ▸ hdec tail, fun k x y hk hx hy => ?_⟩⟩
  exact pasteTile_tilePackets c nC prog planes hw hh k x y hk hx hy

/-- the tile-component planes the encoder cuts its code-blocks from are the planes the decoder fills — every sample of
    every component.  Named hypothesis: `SegmentLenHyp` (`tile_planes_roundtrip_for` needs it only up to the code-block
    size). -/
theorem tile_planes_roundtrip (c : TCfg) (nC prog : Nat) (planes : Nat → Plane) (tail : List Nat)
    (hw : 0 < c.cbw) (hh : 0 < c.cbh) (hnb : ∀ r b, c.nb r b < 32)
    (hb : ∀ k x y, (planes k x y).natAbs < 2 ^ 25) (hs : SegmentLenHyp) :
    ∃ bytes out, encodeTileBody (tilePackets c nC prog planes) = some bytes ∧
      decodeTileBody (tileGeo c nC prog) (bytes ++ tail) = some out ∧
      ∀ k x y, k < nC → x < c.W → y < c.H → pasteTile c nC prog out k x y = planes k x y :=
  let ⟨bytes, henc, hdec⟩ := tile_planes_roundtrip_for c nC prog planes hw hh hnb hb (hs.for _ _)
  let ⟨out, h⟩ := hdec tail
  ⟨bytes, out, henc, h⟩

end J2kGlue
