import GdcVerif.Lemmas.JllOptimal
import GdcVerif.Lemmas.Loops
/-!
  L6: the depth of the unrestricted code built by the merge loop of `BuildOptimalHuffmanTable`.

  * `depthLe_256`: every code size is ≤ 256 = `maxHuffmanCodeLength`, so `bits[size]++` stays inside
    the 257-entry work array.  Before fix
    9f5cc40 the array had 33 entries and the function panicked exactly when
    the depth exceeded 32.
  * `depth_fib`: a code size `d` forces `fib (d + 2) ≤ Σ f + 1` (`fib 1 = fib 2 = 1`); hence
    `Σ f + 1 < fib 35 = 9227465 → DepthLe f 32` (`depthLe_of_sum`): below that total the
    length-limiting loop never sees a size beyond 32.  A fact about the depth only; safety does not
    depend on it.
-/
namespace JLL.Opt

theorem fib_le_succ : ∀ n, fib n ≤ fib (n + 1)
  | 0 => by decide
  | n + 1 => by rw [fib_add_two]; omega

theorem fib_mono {n m : Nat} (h : n ≤ m) : fib n ≤ fib m := by
  induction m with
  | zero => rw [Nat.le_zero.1 h]; exact Nat.le_refl _
  | succ m ih =>
    by_cases e : n = m + 1
    · rw [e]
      exact Nat.le_refl _
    · exact Nat.le_trans (ih (by omega)) (fib_le_succ m)

theorem fib_35 : fib 35 = 9227465 := by decide

theorem sum_map_mul_nat (c : Nat) (g : Nat → Nat) : ∀ l : List Nat,
    (l.map (fun a => c * g a)).sum = c * (l.map g).sum :=
  fun l => (List.mul_sum_map c _ g l fun _ _ => rfl).symm

/-- the largest code size after the merge loop (executable) -/
def maxDepth (f : List Nat) : Nat :=
  match mergeLoop 258 (st0 f) with
  | .ok st => st.codeSize.toList.foldl max 0
  | _ => 0

def DepthLe (f : List Nat) (d : Nat) : Prop := maxDepth f ≤ d

instance (f : List Nat) (d : Nat) : Decidable (DepthLe f d) := Nat.decLe _ _

theorem depthLe_iff {f : List Nat} {st : St} (run : mergeLoop 258 (st0 f) = .ok st) (d : Nat) :
    DepthLe f d ↔ ∀ a, st.cs a ≤ d := by
  unfold DepthLe maxDepth
  rw [run]
  simp only [show ∀ l : List Nat, l.foldl max 0 ≤ d ↔ _ from fun l => Loop.foldl_max_le id d l 0, id, Nat.zero_le, true_and]
  constructor
  · intro hx a
    unfold St.cs
    cases h : st.codeSize[a]? with
    | none => exact Nat.zero_le _
    | some x => exact hx x (Array.mem_toList_iff.2 (Array.mem_of_getElem? h))
  · exact forall_codeSize (Q := (· ≤ d))

theorem depthLe_countP (f : List Nat) (hlen : f.length = 256) :
    DepthLe f (f.countP (fun x => x != 0)) := by
  obtain ⟨st, _, run, m⟩ := mergeLoop_spec f hlen _ (Nat.le_refl _)
  exact (depthLe_iff run _).2 m.csle

/-- a Huffman tree over the 256 symbols plus the pseudo-symbol is at most 256 levels deep: every
    code size fits the 257-entry work array `bits` -/
theorem depthLe_256 (f : List Nat) (hlen : f.length = 256) : DepthLe f 256 :=
  Nat.le_trans (depthLe_countP f hlen) (hlen ▸ List.countP_le_length)

/-- at most 32 non-zero frequencies ⇒ at most 32 merges ⇒ depth ≤ 32 -/
theorem depthLe_of_count (f : List Nat) (hlen : f.length = 256)
    (hc : f.countP (fun x => x != 0) ≤ 32) : DepthLe f 32 :=
  Nat.le_trans (depthLe_countP f hlen) hc

/-- `f.sum + 1` is the total weight: all frequencies plus the pseudo-symbol. -/
theorem depth_fib (f : List Nat) (hlen : f.length = 256) (st : St)
    (hst : mergeLoop 258 (st0 f) = .ok st) (a : Nat) : fib (st.cs a + 2) ≤ f.sum + 1 := by
  obtain ⟨st', _, run, m⟩ := mergeLoop_spec f hlen 256 (hlen ▸ List.countP_le_length)
  cases hst.symm.trans run
  exact m.fibW a

theorem depthLe_of_sum_lt (f : List Nat) (hlen : f.length = 256) (d : Nat) (hs : f.sum + 1 < fib (d + 3)) :
    DepthLe f d := by
  obtain ⟨st, _, run, _⟩ := mergeLoop_spec f hlen 256 (hlen ▸ List.countP_le_length)
  refine (depthLe_iff run d).2 fun a => Classical.byContradiction fun hn => ?_
  exact Nat.lt_irrefl _ (Nat.lt_of_le_of_lt
    (Nat.le_trans (fib_mono (by omega)) (depth_fib f hlen st run a)) hs)

/-- fewer than `fib 35 - 1 = 9227464` samples in total keep every code size ≤ 32.  The constant
    is sharp (checked with `#eval`, not kernel-proved):
    `f = replicate 223 0 ++ [fib 33, fib 32, …, fib 2, fib 1]` has `f.sum + 1 = 9227465` and
    `maxDepth f = 33`; on it the function panicked before fix 9f5cc40 (33-entry
    work array) and returns normally since (`buildOptimal_total`). -/
theorem depthLe_of_sum (f : List Nat) (hlen : f.length = 256) (hs : f.sum + 1 < 9227465) :
    DepthLe f 32 :=
  depthLe_of_sum_lt f hlen 32 (fib_35 ▸ hs)

end JLL.Opt
