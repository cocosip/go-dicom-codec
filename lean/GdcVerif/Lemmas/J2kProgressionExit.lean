import GdcVerif.Model.J2kProgression
/-!
  C09, LRCP / RLCP without precincts: the repaired loops of t2/packet_decoder.go leave the iteration when one
  whole pass over (resolution, component) — LRCP: of a layer; RLCP: of a layer at one resolution — visited no
  precinct.  `decLRCPx` / `decRLCPx` are the loops WITH that exit; they generate exactly the packet sequence of the
  loops without it (`J2kProg.decLRCP` / `decRLCP`), for every precinct table: the exit only skips turns that
  contribute nothing, because what a pass visits does not depend on the layer.
-/
namespace J2kProg

/-- one layer's pass of decodeLRCP over (resolution, component, precinct) -/
def layerPass (nR nC : Nat) (idx : Nat → Nat → List Nat) (l : Nat) : List Pkt :=
  (range nR).flatMap fun r => (range nC).flatMap fun c => (idx c r).map fun p => (l, r, c, p)

/-- decodeLRCP with the exit `if visited == 0 { return }` at the end of a layer -/
def decLRCPx (nR nC : Nat) (idx : Nat → Nat → List Nat) : List Nat → List Pkt
  | [] => []
  | l :: ls => if (layerPass nR nC idx l).isEmpty then [] else layerPass nR nC idx l ++ decLRCPx nR nC idx ls

/-- one (resolution, layer) pass of decodeRLCP over (component, precinct) -/
def resLayerPass (nC : Nat) (idx : Nat → Nat → List Nat) (r l : Nat) : List Pkt :=
  (range nC).flatMap fun c => (idx c r).map fun p => (l, r, c, p)

/-- the layer loop of decodeRLCP at one resolution with the exit `if visited == 0 { break }` -/
def resLayersx (nC : Nat) (idx : Nat → Nat → List Nat) (r : Nat) : List Nat → List Pkt
  | [] => []
  | l :: ls => if (resLayerPass nC idx r l).isEmpty then [] else resLayerPass nC idx r l ++ resLayersx nC idx r ls

def decRLCPx (nL nR nC : Nat) (idx : Nat → Nat → List Nat) : List Pkt :=
  (range nR).flatMap fun r => resLayersx nC idx r (range nL)

theorem resLayerPass_empty {nC : Nat} {idx : Nat → Nat → List Nat} {r l : Nat} (l' : Nat)
    (h : resLayerPass nC idx r l = []) : resLayerPass nC idx r l' = [] := by
  unfold resLayerPass at h ⊢
  simp only [List.flatMap_eq_nil_iff, List.map_eq_nil_iff] at h ⊢
  exact h

theorem layerPass_empty {nR nC : Nat} {idx : Nat → Nat → List Nat} {l : Nat} (l' : Nat)
    (h : layerPass nR nC idx l = []) : layerPass nR nC idx l' = [] :=
  -- a layer's pass is its passes at the resolutions, joined
  List.flatMap_eq_nil_iff.2 fun r hr => resLayerPass_empty l' (List.flatMap_eq_nil_iff.1 h r hr)

theorem exitLoop_eq {α : Type} (pass : Nat → List α) (hp : ∀ l l', pass l = [] → pass l' = [])
    (f : List Nat → List α) (h0 : f [] = [])
    (hc : ∀ l ls, f (l :: ls) = if (pass l).isEmpty then [] else pass l ++ f ls) (ls : List Nat) :
    f ls = ls.flatMap pass := by
  induction ls with
  | nil => exact h0
  | cons l ls ih =>
    rw [hc, List.flatMap_cons, ih]
    split
    · next he =>
      have he := List.isEmpty_iff.mp he
      rw [he, List.flatMap_eq_nil_iff.mpr fun l' _ => hp l l' he]
      rfl
    · rfl

theorem decLRCPx_eq (nR nC : Nat) (idx : Nat → Nat → List Nat) (ls : List Nat) :
    decLRCPx nR nC idx ls = ls.flatMap (layerPass nR nC idx) :=
  exitLoop_eq _ (fun _ l' => layerPass_empty l') _ (by rw [decLRCPx]) (fun _ _ => by rw [decLRCPx]) ls

theorem resLayersx_eq (nC : Nat) (idx : Nat → Nat → List Nat) (r : Nat) (ls : List Nat) :
    resLayersx nC idx r ls = ls.flatMap (resLayerPass nC idx r) :=
  exitLoop_eq _ (fun _ l' => resLayerPass_empty l') _ (by rw [resLayersx]) (fun _ _ => by rw [resLayersx]) ls

theorem decLRCPx_eq_decLRCP (nL nR nC : Nat) (idx : Nat → Nat → List Nat) :
    decLRCPx nR nC idx (range nL) = decLRCP nL nR nC idx := by
  rw [decLRCPx_eq]
  rfl

theorem decRLCPx_eq_decRLCP (nL nR nC : Nat) (idx : Nat → Nat → List Nat) :
    decRLCPx nL nR nC idx = decRLCP nL nR nC idx := by
  unfold decRLCPx decRLCP
  congr 1
  funext r
  rw [resLayersx_eq]
  rfl

theorem decLRCPx_no_precinct (nR nC : Nat) (idx : Nat → Nat → List Nat) (h : ∀ c r, idx c r = []) (ls : List Nat) :
    decLRCPx nR nC idx ls = [] := by
  rw [decLRCPx_eq, List.flatMap_eq_nil_iff]
  intro l _
  unfold layerPass
  simp [h]

end J2kProg
