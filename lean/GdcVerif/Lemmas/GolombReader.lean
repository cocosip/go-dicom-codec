import GdcVerif.Model.GolombReader
import GdcVerif.Lemmas.GolombDestuff
/-!
  The `GolombReader` model delivers exactly the bit sequence `Golomb.destuff bytes`.
  One invariant, `Rep r S`: the 64-bit cache is a window (`Golomb.Win 64`) onto the remaining bit
  stream `S` and the unread bytes un-stuff to what the window does not show.  It is established by
  `rep_new`, kept by reading a byte (`rep_byte`, the core of both fill paths) and by consuming bits
  (`rep_consume`); `fill_spec`, `readBit_spec`, `readBits_spec` follow from these.
-/
namespace GolombReader
open Golomb

theorem m64_eq : M64 = 2 ^ 64 := by decide

/-- `Golomb.Win 64` written out -/
def Win64 (cache : Nat) (S : List Bool) (n : Nat) : Prop :=
  ∀ q, q < 64 → cache.testBit q = (decide (63 - q < n) && pg S (63 - q))

theorem shr_lt (cache k : Nat) (hc : cache < M64) (hk : k ≤ 64) : cache >>> (64 - k) < 2 ^ k := by
  rw [Nat.shiftRight_eq_div_pow]
  apply Nat.div_lt_of_lt_mul
  rw [← Nat.pow_add]
  have : 64 - k + k = 64 := by omega
  rw [this, ← m64_eq]; exact hc

theorem top_value (cache : Nat) (S : List Bool) (n k : Nat) (hw : Win64 cache S n) (hk : k ≤ n) (hk64 : k ≤ 64)
    (hS : k ≤ S.length) (hc : cache < M64) :
    cache >>> (64 - k) = natOfBits (S.take k) := by
  rw [← win_top k hw hk hk64 hS, bitsOf_eq, natOfBits_eq, Bits.val_msb, Nat.mod_eq_of_lt (shr_lt cache k hc hk64)]

/-- scan data as the writer produces it: bytes, every 0xFF followed by a byte < 0x80, not ending on 0xFF -/
def WellStuffed (d : List Nat) : Prop :=
  (∀ b ∈ d, b < 256) ∧ ∀ i, i < d.length → d.getD i 0 = 255 → i + 1 < d.length ∧ d.getD (i + 1) 0 < 128

theorem wellStuffed_of : ∀ (d : List Nat), (∀ b ∈ d, b < 256) → Stuffed d → d.getLast? ≠ some 255 → WellStuffed d := by
  intro d hb hs hl
  refine ⟨hb, ?_⟩
  induction d with
  | nil => intro i hi; simp at hi
  | cons x rest ih =>
    intro i hi h255
    cases rest with
    | nil =>
      have : i = 0 := by simp at hi; omega
      subst this
      simp at h255
      subst h255
      simp at hl
    | cons y more =>
      cases i with
      | zero =>
        simp at h255
        subst h255
        exact ⟨by simp, by simpa using hs.1 rfl⟩
      | succ j =>
        have := ih (fun b hb' => hb b (by simp [hb'])) hs.2
          (by rw [List.getLast?_cons_cons] at hl; exact hl) j (by simpa using hi) (by simpa using h255)
        simpa using this

/-- was the byte before `pos` a 0xFF? -/
def aff (r : Reader) : Bool := decide (r.pos > 0) && (r.data.getD (r.pos - 1) 0 == 255)

/-- the last bit of a 0xFF just read is still to be overlapped by bit 7 (a zero) of the next byte: it is shown by the
    cache but not counted in `validBits` -/
def an (r : Reader) : Nat := if aff r then 1 else 0

structure Rep (r : Reader) (S : List Bool) : Prop where
  hc : r.cache < M64
  hv : 0 ≤ r.valid
  hn : r.valid.toNat + an r ≤ 64
  hw : Win64 r.cache S (r.valid.toNat + an r)
  hpos : r.pos ≤ r.data.length
  hS : S.drop (r.valid.toNat + an r) = destuff (r.data.drop r.pos) (aff r)
  hlen : r.valid.toNat + an r ≤ S.length
  hff : ∀ i, r.pos ≤ i → i < r.posFF → r.data.getD i 0 ≠ 255
  hposFF : r.posFF ≤ r.data.length
  hdata : WellStuffed r.data

theorem after_ff (r : Reader) (S : List Bool) (h : Rep r S) (ha : aff r = true) :
    r.pos < r.data.length ∧ r.data.getD r.pos 0 < 128 := by
  unfold aff at ha
  simp only [Bool.and_eq_true, decide_eq_true_eq, beq_iff_eq] at ha
  have := h.hdata.2 (r.pos - 1) (by have := h.hpos; omega) ha.2
  rwa [show r.pos - 1 + 1 = r.pos by omega] at this

theorem findFF_spec (d : List Nat) : ∀ (fuel i : Nat), i ≤ d.length →
    findFF d fuel i ≤ d.length ∧ ∀ j, i ≤ j → j < findFF d fuel i → d.getD j 0 ≠ 255
  | 0, i, h => ⟨h, fun j h1 h2 => by have : j < i := h2; omega⟩
  | fuel + 1, i, h => by
    unfold findFF
    split
    · split
      · exact ⟨h, fun j h1 h2 => by omega⟩
      · rename_i hlt hne
        obtain ⟨ih1, ih2⟩ := findFF_spec d fuel (i + 1) hlt
        exact ⟨ih1, fun j h1 h2 => if hij : j = i then hij ▸ hne else ih2 j (by omega) h2⟩
    · exact ⟨Nat.le_refl _, fun j h1 h2 => by omega⟩

theorem findFFfrom_spec (d : List Nat) (i : Nat) (hi : i ≤ d.length) :
    findFFfrom d i ≤ d.length ∧ ∀ j, i ≤ j → j < findFFfrom d i → d.getD j 0 ≠ 255 := by
  unfold findFFfrom
  split
  · exact findFF_spec d _ i hi
  · exact ⟨Nat.le_refl _, fun j h1 h2 => by omega⟩

theorem rep_new (d : List Nat) (hd : WellStuffed d) : Rep (new d) (destuff d false) := by
  obtain ⟨hf1, hf2⟩ := findFFfrom_spec d 0 (Nat.zero_le _)
  have hcnt : (new d).valid.toNat + an (new d) = 0 := rfl
  refine ⟨by show (0 : Nat) < M64; decide, Int.le_refl 0, ?_, ?_, Nat.zero_le _, ?_, ?_, hf2, hf1, hd⟩
  · rw [hcnt]; decide
  · rw [hcnt]
    intro q _
    show (0 : Nat).testBit q = _
    rw [Nat.zero_testBit, decide_eq_false (Nat.not_lt_zero _), Bool.false_and]
  · rw [hcnt]; rfl
  · rw [hcnt]; exact Nat.zero_le _

/-- one more byte below the `V + a` shown bits, `cache |= b << (56 − V)`: its `8 − a` low bits are the stream bits
    that follow, its other bits are zero (after 0xFF, `a = 1`: bit 7 of `b` falls on the last shown bit) -/
theorem win64_byte (cache : Nat) (S rest : List Bool) (V a b : Nat) (hw : Win64 cache S (V + a)) (hV : V ≤ 56)
    (ha : a ≤ 1) (hb : b < 2 ^ (8 - a)) (hS : S.drop (V + a) = bitsOf b (8 - a) ++ rest) :
    Win64 (cache ||| (b <<< (56 - V)) % M64) S (V + 8) := by
  rw [m64_eq]
  refine win_or b (8 - a) (V + 8) hw (fun i hi _ => ?_) hb (by omega) (by omega) (fun q hq => ?_)
  · rw [show V + 8 = V + a + (8 - a) by omega]
    exact pg_bitsOf hS i hi
  · rw [testBit_shl_mod_pow, decide_eq_true hq, Bool.true_and,
      decide_eq_decide.mpr (by omega : q ≥ 56 - V ↔ 64 ≤ q + (V + 8)), show q - (56 - V) = q + (V + 8) - 64 by omega]

def addByte (r : Reader) (b : Nat) : Reader :=
  Reader.mk r.data (r.cache ||| (b <<< (56 - r.valid).toNat) % M64)
    (if b = 255 then r.valid + 8 - 1 else r.valid + 8) (r.pos + 1) r.posFF

theorem an_le (r : Reader) : an r ≤ 1 := by unfold an; split <;> omega

/-- reading one more byte into the cache, the common core of both fill paths: afterwards
    `validBits + an = validBits_before + 8` whether or not the byte is 0xFF -/
theorem rep_byte (r : Reader) (S : List Bool) (h : Rep r S) (hp : r.pos < r.data.length) (hv56 : r.valid ≤ 56) :
    Rep (addByte r (r.data.getD r.pos 0)) S := by
  have ⟨hc, hv, hn, hw, hpos, hS, hlen, hff, hposFF, hdata⟩ := h
  obtain ⟨V, hV⟩ : ∃ V : Nat, r.valid = (V : Int) := ⟨r.valid.toNat, by omega⟩
  rw [hV, Int.toNat_natCast] at hn hw hS hlen
  have hb8 : r.data.getD r.pos 0 < 2 ^ (8 - an r) := by
    unfold an
    split
    · exact (after_ff r S h (by assumption)).2
    · exact hdata.1 _ (List.getD_mem hp 0)
  have ha1 := an_le r
  generalize hb : r.data.getD r.pos 0 = b at *
  -- the byte's `8 − an r` stream bits head the unread part of `S`
  have hSb : S.drop (V + an r) = bitsOf b (8 - an r) ++ destuff (r.data.drop (r.pos + 1)) (b == 255) := by
    rw [hS, List.drop_eq_getElem_cons hp, List.getElem_eq_getD (h := hp) 0, hb]
    unfold an
    cases aff r <;> rfl
  have hSlen : V + an r + (8 - an r) ≤ S.length := by
    have := congrArg List.length hSb
    simp only [List.length_drop, List.length_append, length_bitsOf] at this
    omega
  have haff' : aff (addByte r b) = (b == 255) := by
    unfold aff addByte
    simp only [Nat.add_sub_cancel, hb]
    simp
  have hcnt : (addByte r b).valid.toNat + an (addByte r b) = V + 8 := by
    unfold an
    rw [haff']
    show (if b = 255 then r.valid + 8 - 1 else r.valid + 8).toNat + _ = _
    by_cases h255 : b = 255
    · rw [if_pos h255, if_pos (by simpa using h255)]; omega
    · rw [if_neg h255, if_neg (by simpa using h255)]; omega
  refine ⟨?_, ?_, ?_, ?_, hp, ?_, ?_, ?_, hposFF, hdata⟩
  · show r.cache ||| (b <<< (56 - r.valid).toNat) % M64 < M64
    rw [m64_eq] at hc ⊢
    exact Nat.or_lt_two_pow hc (Nat.mod_lt _ (by decide))
  · show 0 ≤ (if b = 255 then r.valid + 8 - 1 else r.valid + 8)
    split <;> omega
  · rw [hcnt]; omega
  · rw [hcnt]
    show Win64 (r.cache ||| (b <<< (56 - r.valid).toNat) % M64) S (V + 8)
    rw [hV, show ((56 : Int) - (V : Int)).toNat = 56 - V from Int.toNat_sub 56 V]
    exact win64_byte r.cache S _ V (an r) b hw (by omega) ha1 hb8 hSb
  · rw [hcnt]
    show List.drop (V + 8) S = destuff (List.drop (r.pos + 1) r.data) (aff (addByte r b))
    rw [haff', show V + 8 = (V + an r) + (8 - an r) by omega, ← List.drop_drop, hSb,
      List.drop_left' (length_bitsOf _ _)]
  · rw [hcnt]; omega
  · exact fun i hi1 hi2 => hff i (Nat.le_of_succ_le hi1) hi2

theorem byteAt_ok (d : List Nat) (i : Nat) (h : i < d.length) : byteAt d i = .ok (d.getD i 0) := by
  unfold byteAt
  rw [List.getElem?_eq_getElem h, ← List.getElem_eq_getD (h := h) 0]

theorem shl64_ok (b : Nat) (k : Int) (h0 : 0 ≤ k) (h64 : k < 64) : shl64 b k = .ok ((b <<< k.toNat) % M64) := by
  unfold shl64
  have h1 : ¬ k < 0 := by omega
  have h2 : ¬ k ≥ 64 := by omega
  simp only [h1, h2, if_false]

theorem optLoop_step (n : Nat) (r : Reader) (hlen : r.pos < r.data.length) (hne : r.data.getD r.pos 0 ≠ 255)
    (h0 : 0 ≤ r.valid) (h56 : r.valid ≤ 56) : optLoop (n + 1) r = optLoop n (addByte r (r.data.getD r.pos 0)) := by
  rw [optLoop, byteAt_ok _ _ hlen]
  simp only [bind, Except.bind]
  rw [shl64_ok _ _ (by omega) (by omega)]
  unfold addByte
  simp only [hne, if_false, show (64 - 8 - r.valid).toNat = (56 - r.valid).toNat by omega]

theorem optLoop_spec (S : List Bool) : ∀ (n : Nat) (r : Reader), Rep r S → r.pos + n ≤ r.posFF →
    r.valid + 8 * (n : Int) ≤ 64 → ∃ r', optLoop n r = .ok r' ∧ Rep r' S ∧ r'.data = r.data
  | 0, r, h, _, _ => ⟨r, rfl, h, rfl⟩
  | n + 1, r, h, hp, hv => by
    have hlen : r.pos < r.data.length := by have := h.hposFF; omega
    have hne : r.data.getD r.pos 0 ≠ 255 := h.hff r.pos (Nat.le_refl _) (by omega)
    rw [optLoop_step n r hlen hne h.hv (by omega)]
    have hval : (addByte r (r.data.getD r.pos 0)).valid = r.valid + 8 := if_neg hne
    exact optLoop_spec S n _ (rep_byte r S h hlen (by omega)) (by show r.pos + 1 + n ≤ r.posFF; omega)
      (by rw [hval]; push_cast at hv; omega)

theorem an_end (r : Reader) (S : List Bool) (h : Rep r S) (he : r.pos = r.data.length) : an r = 0 := by
  unfold an
  split
  · have := (after_ff r S h (by assumption)).1
    omega
  · rfl

theorem rep_all_shown (r : Reader) (S : List Bool) (h : Rep r S) (he : r.pos = r.data.length) :
    S.length = r.valid.toNat := by
  have hS : S.drop (r.valid.toNat + an r) = [] := by rw [h.hS, he, List.drop_length]; rfl
  have := List.drop_eq_nil_iff.mp hS
  have := h.hlen
  rw [an_end r S h he] at *
  omega

theorem markerAt_wellStuffed (d : List Nat) (hd : WellStuffed d) (i : Nat) (hi : i < d.length) :
    markerAt d i (d.getD i 0) = .ok false := by
  unfold markerAt
  by_cases h255 : d.getD i 0 = 255
  · obtain ⟨h1, h2⟩ := hd.2 i hi h255
    have hnl : ¬ i = d.length - 1 := by omega
    have hb2 : ¬ d.getD (i + 1) 0 % 256 ≥ 128 := by omega
    simp only [h255, if_true, hnl, if_false, byteAt_ok _ _ h1, bind, Except.bind, pure, Except.pure, hb2, decide_false]
  · simp only [h255, if_false]; rfl

/-- on well-stuffed data the byte read is never a marker -/
theorem slowLoop_step (f : Nat) (r : Reader) (hd : WellStuffed r.data) (hlen : r.pos < r.data.length)
    (h0 : 0 ≤ r.valid) (hv : r.valid < 56) : slowLoop (f + 1) r = slowLoop f (addByte r (r.data.getD r.pos 0)) := by
  rw [slowLoop]
  simp only [hv, if_true, show ¬ r.pos ≥ r.data.length by omega, if_false]
  rw [byteAt_ok _ _ hlen]
  simp only [bind, Except.bind]
  rw [markerAt_wellStuffed _ hd _ hlen]
  simp only [Bool.false_eq_true, if_false]
  rw [shl64_ok _ _ (by omega) (by omega)]
  rfl

/-- Every turn adds at least 7 valid bits, so the model's fuel 10 cannot run out from `valid ≥ 0`. -/
theorem slowLoop_spec (S : List Bool) : ∀ (f : Nat) (r : Reader), Rep r S → 56 ≤ r.valid + 7 * (f : Int) →
    (slowLoop f r = .error .err ∧ S = []) ∨
    ∃ r', (slowLoop f r = .ok (.inl r') ∨ slowLoop f r = .ok (.inr r')) ∧ Rep r' S ∧ 1 ≤ r'.valid ∧
      (56 ≤ r'.valid ∨ S.length = r'.valid.toNat) ∧ r'.data = r.data
  | 0, r, h, hf => by
    have h56 : 56 ≤ r.valid := by simpa using hf
    exact Or.inr ⟨r, Or.inr rfl, h, by omega, Or.inl h56, rfl⟩
  | f + 1, r, h, hf => by
    by_cases hv : r.valid < 56
    · by_cases hend : r.pos ≥ r.data.length
      · unfold slowLoop
        simp only [hv, hend, if_true]
        have hall := rep_all_shown r S h (by have := h.hpos; omega)
        by_cases h0 : r.valid = 0
        · left
          simp only [h0, if_true]
          rw [h0] at hall
          exact ⟨trivial, List.length_eq_zero_iff.mp hall⟩
        · right
          simp only [h0, if_false]
          exact ⟨r, Or.inl rfl, h, by have := h.hv; omega, Or.inr hall, rfl⟩
      · have hlen : r.pos < r.data.length := by omega
        rw [slowLoop_step f r h.hdata hlen h.hv hv]
        have hstep := rep_byte r S h hlen (by omega)
        have hvn : r.valid + 7 ≤ (addByte r (r.data.getD r.pos 0)).valid := by
          show r.valid + 7 ≤ (if r.data.getD r.pos 0 = 255 then r.valid + 8 - 1 else r.valid + 8)
          split <;> omega
        rcases slowLoop_spec S f (addByte r (r.data.getD r.pos 0)) hstep (by push_cast at hf; omega) with he | ⟨r', hok, hr, h1, hfin, hd⟩
        · -- `S` is not empty: a byte was added
          have := hstep.hlen
          rw [he.2, List.length_nil] at this
          have := h.hv
          omega
        · exact Or.inr ⟨r', hok, hr, h1, hfin, by rw [hd]; rfl⟩
    · unfold slowLoop
      simp only [hv, if_false]
      exact Or.inr ⟨r, Or.inr rfl, h, by omega, Or.inl (by omega), rfl⟩

theorem fillOptimistic_spec (r : Reader) (S : List Bool) (h : Rep r S) (hv : r.valid ≤ 32) :
    ∃ r1 done, fillOptimistic r = .ok (r1, done) ∧ Rep r1 S ∧ r1.data = r.data ∧ (done = true → 56 ≤ r1.valid) := by
  unfold fillOptimistic
  by_cases hc : (r.pos : Int) < (r.posFF : Int) - 7
  · simp only [hc, if_true]
    have ht : Int.tdiv (64 - r.valid) 8 = (64 - r.valid) / 8 := Int.tdiv_eq_ediv_of_nonneg (by omega)
    rw [ht]
    -- the number of bytes: at most 8, at most up to the next 0xFF, and no more than fit
    generalize hn : Int.toNat _ = n
    obtain ⟨r1, he, hr, hd⟩ := optLoop_spec S n r h (by omega) (by omega)
    simp only [bind, Except.bind, he]
    exact ⟨r1, _, rfl, hr, hd, fun hdone => by simpa using hdone⟩
  · simp only [hc, if_false]
    exact ⟨r, false, rfl, h, rfl, nofun⟩

theorem fill_spec (r : Reader) (S : List Bool) (h : Rep r S) (hv : r.valid ≤ 32) :
    (fill r = .error .err ∧ S = []) ∨
    ∃ r', fill r = .ok r' ∧ Rep r' S ∧ 1 ≤ r'.valid ∧ (56 ≤ r'.valid ∨ S.length = r'.valid.toNat) ∧ r'.data = r.data := by
  obtain ⟨r1, done, ho, hr1, hd1, h56⟩ := fillOptimistic_spec r S h hv
  unfold fill
  simp only [ho, bind, Except.bind]
  by_cases hdone : done = true
  · simp only [hdone, if_true]
    have hv56 := h56 hdone
    exact Or.inr ⟨r1, rfl, hr1, by omega, Or.inl hv56, hd1⟩
  · simp only [hdone]
    have hv1 := hr1.hv
    rcases slowLoop_spec S 10 r1 hr1 (by push_cast; omega) with ⟨he, hs⟩ | ⟨r', hok, hr, h1, hend, hd⟩
    · exact Or.inl ⟨by rw [he]; rfl, hs⟩
    · right
      have hdata : r'.data = r.data := by rw [hd, hd1]
      rcases hok with hok | hok <;> rw [hok]
      · exact ⟨r', rfl, hr, h1, hend, hdata⟩
      · obtain ⟨hf1, hf2⟩ := findFFfrom_spec r'.data r'.pos hr.hpos
        exact ⟨_, rfl, ⟨hr.hc, hr.hv, hr.hn, hr.hw, hr.hpos, hr.hS, hr.hlen, hf2, hf1, hr.hdata⟩, h1, hend, hdata⟩

theorem rep_consume (r : Reader) (S : List Bool) (h : Rep r S) (k : Nat) (hk : (k : Int) ≤ r.valid) :
    r.cache >>> (64 - k) = natOfBits (S.take k) ∧
    Rep (Reader.mk r.data ((r.cache <<< k) % M64) (r.valid - k) r.pos r.posFF) (S.drop k) := by
  have ⟨hc, hv, hn, hw, hpos, hS, hlen, hff, hposFF, hdata⟩ := h
  have hkn : k ≤ r.valid.toNat + an r := by omega
  refine ⟨top_value r.cache S _ k hw hkn (by omega) (by omega) hc, ?_⟩
  -- `an` looks at `data` and `pos` only
  have hcnt : (Reader.mk r.data ((r.cache <<< k) % M64) (r.valid - k) r.pos r.posFF).valid.toNat +
      an (Reader.mk r.data ((r.cache <<< k) % M64) (r.valid - k) r.pos r.posFF) = r.valid.toNat + an r - k := by
    show (r.valid - (k : Int)).toNat + an r = _
    omega
  refine ⟨Nat.mod_lt _ (by decide), by show 0 ≤ r.valid - (k : Int); omega, ?_, ?_, hpos, ?_, ?_, hff, hposFF, hdata⟩
  · rw [hcnt]; omega
  · rw [hcnt, m64_eq]
    exact win_shift k hw hn hkn
  · rw [hcnt, List.drop_drop, show k + (r.valid.toNat + an r - k) = r.valid.toNat + an r by omega]
    exact hS
  · rw [hcnt, List.length_drop]; omega

theorem readBit_spec (r : Reader) (S : List Bool) (h : Rep r S) :
    match S with
    | [] => readBit r = .error .err
    | b :: S' => ∃ r', readBit r = .ok ((if b then 1 else 0), r') ∧ Rep r' S' ∧ r'.data = r.data := by
  unfold readBit
  -- `o`: the outcome of the optional fill
  generalize ho : (if r.valid = 0 then fill r else pure r : R Reader) = o
  have hfill : (S = [] ∧ o = .error .err) ∨
      ∃ r1, o = .ok r1 ∧ Rep r1 S ∧ 1 ≤ r1.valid ∧ r1.data = r.data := by
    rw [← ho]
    by_cases h0 : r.valid = 0
    · simp only [h0, if_true]
      rcases fill_spec r S h (by omega) with ⟨he, hs⟩ | ⟨r', he, hr, h1, _, hd⟩
      · exact Or.inl ⟨hs, he⟩
      · exact Or.inr ⟨r', he, hr, h1, hd⟩
    · simp only [h0, if_false]
      exact Or.inr ⟨r, rfl, h, by have := h.hv; omega, rfl⟩
  rcases hfill with ⟨rfl, rfl⟩ | ⟨r1, rfl, hr1, h1, hd1⟩
  · rfl
  · obtain ⟨hval, hrep⟩ := rep_consume r1 S hr1 1 (by simpa using h1)
    have hlen : 1 ≤ S.length := by have := hr1.hlen; omega
    cases S with
    | nil => simp at hlen
    | cons b S' =>
      refine ⟨_, ?_, hrep, hd1⟩
      simp only [bind, Except.bind]
      rw [show (64 : Nat) - 1 = 63 from rfl] at hval
      rw [hval]
      cases b <;> rfl

theorem readBits_spec (r : Reader) (S : List Bool) (h : Rep r S) (n : Nat) (hn1 : 1 ≤ n) (hn32 : n ≤ 32) :
    match takeBits n S with
    | none => readBits r (n : Int) = .error .err
    | some (v, S') => ∃ r', readBits r (n : Int) = .ok (v, r') ∧ Rep r' S' ∧ r'.data = r.data := by
  have hn0 : ¬ (n : Int) = 0 := by omega
  have hn33 : ¬ (n : Int) > 32 := by omega
  have hnn : ¬ (n : Int) < 0 := by omega
  unfold readBits
  simp only [hn0, hn33, if_false]
  -- `o`: the outcome of the optional fill
  generalize ho : (if r.valid < (n : Int) then _ else pure r : R Reader) = o
  have hstate : (S.length < n ∧ o = .error .err) ∨
      ∃ r1, o = .ok r1 ∧ Rep r1 S ∧ (n : Int) ≤ r1.valid ∧ r1.data = r.data := by
    rw [← ho]
    by_cases hlt : r.valid < (n : Int)
    · simp only [hlt, if_true]
      rcases fill_spec r S h (by omega) with ⟨he, hs⟩ | ⟨r', he, hr, _, hfin, hd⟩
      · left
        simp only [he, bind, Except.bind]
        exact ⟨by rw [hs]; simp; omega, trivial⟩
      · simp only [he, bind, Except.bind]
        by_cases hlt2 : r'.valid < (n : Int)
        · left
          simp only [hlt2, if_true]
          exact ⟨by omega, trivial⟩
        · right
          simp only [hlt2, if_false]
          exact ⟨r', rfl, hr, by omega, hd⟩
    · simp only [hlt, if_false]
      exact Or.inr ⟨r, rfl, h, by omega, rfl⟩
  rcases hstate with ⟨hs, rfl⟩ | ⟨r1, rfl, hr1, hge, hd1⟩
  · simp only [takeBits, hs, if_true]
    rfl
  · have hlen : ¬ S.length < n := by have := hr1.hlen; have := hr1.hv; omega
    simp only [takeBits, hlen, if_false]
    simp only [bind, Except.bind, hnn, if_false, Int.toNat_natCast]
    obtain ⟨hval, hrep⟩ := rep_consume r1 S hr1 n hge
    refine ⟨_, ?_, hrep, hd1⟩
    rw [hval]
    have hlt : natOfBits (S.take n) < 4294967296 := by
      rw [← hval]
      have := shr_lt r1.cache n hr1.hc (by omega)
      have h32 : (2 : Nat) ^ n ≤ 2 ^ 32 := Nat.pow_le_pow_right (by decide) hn32
      omega
    rw [Nat.mod_eq_of_lt hlt]

end GolombReader
