import GdcVerif.Model.J2kGluePlane
import GdcVerif.Lemmas.Radix
import GdcVerif.Lemmas.Basics
import GdcVerif.Lemmas.Loops
/-! cut ∘ paste = id on the tile-component planes.  Every write of the decoder puts a sample's own value, so neither the
    order of the writes nor an overlap matters (`Loop.foldl_paint`); what is left to show is that every sample is written:
    it lies in a band of some resolution (`band_cover`) and there in a code-block of the grid (`blk_cover`). -/
namespace J2kGlue

def covers (k : BlkRect) (x y : Nat) : Prop := k.x0 ≤ x ∧ x < k.x0 + k.w ∧ k.y0 ≤ y ∧ y < k.y0 + k.h

instance (k : BlkRect) (x y : Nat) : Decidable (covers k x y) := by unfold covers; infer_instance

theorem writeBlock_cut (f g : Plane) (k : BlkRect) (x y : Nat) :
    writeBlock k (cutBlock f k) g x y = if covers k x y then f x y else g x y := by
  unfold writeBlock covers
  by_cases hc : k.x0 ≤ x ∧ x < k.x0 + k.w ∧ k.y0 ≤ y ∧ y < k.y0 + k.h
  · simp only [hc, and_self, if_true]
    unfold cutBlock
    rw [Radix.grid_getD (fun yy xx => f (k.x0 + xx) (k.y0 + yy)) 0 k.w k.h (y - k.y0) (x - k.x0) (by omega) (by omega)]
    have h1 : k.x0 + (x - k.x0) = x := by omega
    have h2 : k.y0 + (y - k.y0) = y := by omega
    simp only [h1, h2]
  · simp only [hc, if_false]

theorem foldl_writes (f : Plane) (ops : List BlkRect) (init : Plane) (x y : Nat) :
    (ops.map fun k => (k, cutBlock f k)).foldl (fun g w => writeBlock w.1 w.2 g) init x y =
      if ∃ k ∈ ops, covers k x y then f x y else init x y := by
  rw [List.foldl_map]
  exact Loop.foldl_paint _ (fun g => g x y) (f x y) (covers · x y) (fun g k => writeBlock_cut f g k x y) ops init

theorem dimAt_mono (len n : Nat) : dimAt len (n + 1) ≤ dimAt len n := by
  show (dimAt len n + 1) / 2 ≤ dimAt len n
  omega

def inBand (b : BandRect) (x y : Nat) : Prop := b.ox ≤ x ∧ x < b.ox + b.bw ∧ b.oy ≤ y ∧ y < b.oy + b.bh

theorem band_cover (W H L : Nat) : ∀ (j n : Nat), n + j = L → ∀ x y, x < dimAt W n → y < dimAt H n →
    ∃ r, r ≤ L ∧ ∃ b ∈ bandRects W H L r, inBand b x y := by
  intro j
  induction j with
  | zero =>
    intro n hn x y hx hy
    have : n = L := by omega
    subst this
    exact ⟨0, Nat.zero_le _, ⟨0, 0, 0, dimAt W n, dimAt H n⟩, by simp [bandRects], by unfold inBand; simp; exact ⟨hx, hy⟩⟩
  | succ j ih =>
    intro n hn x y hx hy
    by_cases hin : x < dimAt W (n + 1) ∧ y < dimAt H (n + 1)
    · exact ih (n + 1) (by omega) x y hin.1 hin.2
    · -- resolution r = L - n ≥ 1
      have hr : L - n ≠ 0 := by omega
      have e1 : L - (L - n) = n := by omega
      have mw := dimAt_mono W n
      have mh := dimAt_mono H n
      refine ⟨L - n, by omega, ?_⟩
      unfold bandRects
      simp only [hr, if_false, e1]
      by_cases hxl : x < dimAt W (n + 1)
      · have hyl : ¬ y < dimAt H (n + 1) := fun h => hin ⟨hxl, h⟩
        exact ⟨⟨2, 0, dimAt H (n + 1), dimAt W (n + 1), dimAt H n - dimAt H (n + 1)⟩, by simp,
          by unfold inBand; simp only []; omega⟩
      · by_cases hyl : y < dimAt H (n + 1)
        · exact ⟨⟨1, dimAt W (n + 1), 0, dimAt W n - dimAt W (n + 1), dimAt H (n + 1)⟩, by simp,
            by unfold inBand; simp only []; omega⟩
        · exact ⟨⟨3, dimAt W (n + 1), dimAt H (n + 1), dimAt W n - dimAt W (n + 1), dimAt H n - dimAt H (n + 1)⟩, by simp,
            by unfold inBand; simp only []; omega⟩

theorem mem_liveBands (c : TCfg) (r : Nat) (b : BandRect) :
    b ∈ liveBands c r ↔ b ∈ bandRects c.W c.H c.L r ∧ b.bw ≠ 0 ∧ b.bh ≠ 0 := by
  simp [liveBands]

theorem mem_blkRects (cbw cbh : Nat) (b : BandRect) (k : BlkRect) :
    k ∈ blkRects cbw cbh b ↔ ∃ cby, cby < numCb b.bh cbh ∧ ∃ cbx, cbx < numCb b.bw cbw ∧
      ⟨cbx, cby, b.ox + cbx * cbw, b.oy + cby * cbh, min cbw (b.bw - cbx * cbw), min cbh (b.bh - cby * cbh)⟩ = k := by
  simp only [blkRects, List.mem_flatMap, List.mem_map, List.mem_range]

theorem blk_cover (cbw cbh : Nat) (hw : 0 < cbw) (hh : 0 < cbh) (b : BandRect) (x y : Nat) (h : inBand b x y) :
    ∃ k ∈ blkRects cbw cbh b, covers k x y := by
  obtain ⟨hx0, hx1, hy0, hy1⟩ := h
  let lx := x - b.ox
  let ly := y - b.oy
  have hlx : lx < b.bw := by show x - b.ox < b.bw; omega
  have hly : ly < b.bh := by show y - b.oy < b.bh; omega
  refine ⟨_, (mem_blkRects cbw cbh b _).mpr ⟨ly / cbh, Nat.div_lt_ceilDiv hh hly, lx / cbw, Nat.div_lt_ceilDiv hw hlx, rfl⟩, ?_⟩
  unfold covers
  simp only []
  have a1 : lx / cbw * cbw ≤ lx := Nat.div_mul_le_self lx cbw
  have a2 : lx < lx / cbw * cbw + cbw := by
    have := Nat.lt_div_mul_add (a := lx) hw
    omega
  have b1 : ly / cbh * cbh ≤ ly := Nat.div_mul_le_self ly cbh
  have b2 : ly < ly / cbh * cbh + cbh := by
    have := Nat.lt_div_mul_add (a := ly) hh
    omega
  have ex : x = b.ox + lx := by show x = b.ox + (x - b.ox); omega
  have ey : y = b.oy + ly := by show y = b.oy + (y - b.oy); omega
  generalize lx / cbw * cbw = qx at *
  generalize ly / cbh * cbh = qy at *
  omega

def coeffsOf (p : PPacket) : List (List (List Int)) := p.map fun b => b.blks.map fun pb => pb.blk.coeffs

theorem zip_map_self {α β : Type} (g : α → β) (l : List α) : l.zip (l.map g) = l.map fun a => (a, g a) := by
  simpa using List.zip_map' (f := id) (g := g) (l := l)

theorem packetWrites_cut (c : TCfg) (r : Nat) (f : Plane) :
    packetWrites c r (coeffsOf (ppacketOf c r f)) =
      ((liveBands c r).flatMap (blkRects c.cbw c.cbh)).map fun k => (k, cutBlock f k) := by
  unfold packetWrites coeffsOf ppacketOf
  rw [List.map_map]
  have : ((fun b : PBand => b.blks.map fun pb => pb.blk.coeffs) ∘ pbandOf c r f) =
      fun b => (blkRects c.cbw c.cbh b).map (cutBlock f) := by
    funext b; simp [pbandOf, List.map_map, Function.comp_def]
  rw [this, zip_map_self, List.flatMap_map, List.map_flatMap]
  congr 1
  funext b
  exact zip_map_self _ _

theorem mem_packetSeq (c : TCfg) (nC prog r k : Nat) :
    (r, k) ∈ packetSeq c nC prog ↔ r ≤ c.L ∧ k < nC ∧ liveBands c r ≠ [] := by
  unfold packetSeq
  -- either loop nest: some `r' ≤ L` that is live and some `k' < nC` with `(r', k') = (r, k)`
  split <;>
    simp only [List.mem_flatMap, List.mem_range, List.mem_ite_nil_right, List.mem_map, List.mem_filter, Prod.mk.injEq,
      Bool.not_eq_eq_eq_not, Bool.not_true, List.isEmpty_eq_false_iff]
  · constructor
    · rintro ⟨r', hr', hlv, k', hk', rfl, rfl⟩
      exact ⟨by omega, hk', hlv⟩
    · rintro ⟨h1, h2, h3⟩
      exact ⟨r, by omega, h3, k, h2, rfl, rfl⟩
  · constructor
    · rintro ⟨k', hk', r', ⟨hr', hlv⟩, rfl, rfl⟩
      exact ⟨by omega, hk', hlv⟩
    · rintro ⟨h1, h2, h3⟩
      exact ⟨k, h2, r, ⟨by omega, h3⟩, rfl, rfl⟩

theorem pasteTile_cut (c : TCfg) (nC prog : Nat) (planes : Nat → Plane) (k x y : Nat) :
    pasteTile c nC prog ((tilePackets c nC prog planes).map coeffsOf) k x y =
      if ∃ q ∈ packetSeq c nC prog, q.2 = k ∧ ∃ kk ∈ (liveBands c q.1).flatMap (blkRects c.cbw c.cbh), covers kk x y
      then planes k x y else 0 := by
  unfold pasteTile tilePackets
  rw [List.map_map, zip_map_self, List.foldl_map]
  refine Loop.foldl_paint _ (fun P : Nat → Plane => P k x y) (planes k x y) _ (fun P q => ?_) _ _
  by_cases hk : k = q.2
  · subst hk
    simp only [Function.comp_apply, if_true, packetWrites_cut, foldl_writes, true_and]
  · simp only [if_neg hk, if_neg fun h : q.2 = k ∧ _ => hk h.1.symm]

theorem pasteTile_tilePackets (c : TCfg) (nC prog : Nat) (planes : Nat → Plane) (hw : 0 < c.cbw) (hh : 0 < c.cbh)
    (k x y : Nat) (hk : k < nC) (hx : x < c.W) (hy : y < c.H) :
    pasteTile c nC prog ((tilePackets c nC prog planes).map coeffsOf) k x y = planes k x y := by
  obtain ⟨r, hr, b, hb, hin⟩ := band_cover c.W c.H c.L c.L 0 (by omega) x y hx hy
  have hlive : b ∈ liveBands c r := (mem_liveBands c r b).mpr ⟨hb, by unfold inBand at hin; omega⟩
  obtain ⟨kk, hkk, hcov⟩ := blk_cover c.cbw c.cbh hw hh b x y hin
  have hq := (mem_packetSeq c nC prog r k).mpr ⟨hr, hk, List.ne_nil_of_mem hlive⟩
  rw [pasteTile_cut]
  exact if_pos ⟨(r, k), hq, rfl, kk, List.mem_flatMap.mpr ⟨b, hlive, hkk⟩, hcov⟩

theorem tileGeo_eq (c : TCfg) (nC prog : Nat) (planes : Nat → Plane) :
    (tilePackets c nC prog planes).map (fun p => p.map PBand.geo) = tileGeo c nC prog := by
  unfold tilePackets tileGeo
  rw [List.map_map]
  apply List.map_congr_left
  intro q _
  simp only [Function.comp_def, ppacketOf, List.map_map]
  apply List.map_congr_left
  intro b _
  simp [pbandOf, PBand.geo, PBlk.geo, List.map_map, Function.comp_def]

end J2kGlue
