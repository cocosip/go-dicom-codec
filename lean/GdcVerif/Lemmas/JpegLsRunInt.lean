import GdcVerif.Lemmas.JpegLsRun
import GdcVerif.Lemmas.JpegLs
import GdcVerif.Lemmas.JpegLsNear
/-!
  Run-interruption sample: `DecodeRunInterruption` inverts `EncodeRunInterruption`
  (same error value, same successor context, rest of the bits untouched) for both
  run-interruption contexts; the invariants of the run-interruption contexts (generated
  `RunModeContext.UpdateVariables`, T.87 A.7.2 code segment A.23) and the bound they give on the
  Golomb parameter of `GetGolombCode` (hand-modelled loop `JpegLsRun.golombLoop`): it never exceeds
  31, so the hypothesis of the round trip holds along every scan.
-/
namespace JpegLsRun
open Gen.JpegLs Golomb JpegLsNear

/-- invariant of the loop of `GetGolombCode` (`for nTest < temp { nTest <<= 1; k++; if k > 32 … }`) with
    `nTest = N·2^k`: every exponent below the result is too small, and unless the cap stopped the loop
    the result is large enough.  The loop leaves at `k = 33` at the latest; `34 ≤ f + k` says the fuel (40 in
    `getGolombCode`) does not run out first. -/
theorem golombLoop_inv (N temp : Int) : ∀ (f : Nat) (nTest k : Int), 0 ≤ k → k ≤ 32 → 34 ≤ f + k.toNat →
    nTest = N * 2 ^ k.toNat →
    (∀ j : Nat, (j : Int) < k → N * 2 ^ j < temp) →
    (k ≤ golombLoop f nTest temp k ∧ golombLoop f nTest temp k ≤ 33) ∧
    (∀ j : Nat, (j : Int) < golombLoop f nTest temp k → N * 2 ^ j < temp) ∧
    (golombLoop f nTest temp k ≤ 32 → temp ≤ N * 2 ^ (golombLoop f nTest temp k).toNat)
  | 0, nTest, k, h0, h32, hf, hn, hj => by omega
  | f + 1, nTest, k, h0, h32, hf, hn, hj => by
    unfold golombLoop
    have hj' : ∀ j : Nat, (j : Int) < k + 1 → nTest < temp → N * 2 ^ j < temp := by
      intro j hjk hlt
      by_cases hjk' : (j : Int) < k
      · exact hj j hjk'
      · have : j = k.toNat := by omega
        subst this; rw [← hn]; exact hlt
    split
    · rename_i hc
      simp only []
      split
      · rename_i hk
        exact ⟨⟨by omega, by omega⟩, fun j hjk => hj' j hjk hc, fun h => by omega⟩
      · rename_i hk
        have hn' : nTest * 2 = N * 2 ^ (k + 1).toNat := by
          have : (k + 1).toNat = k.toNat + 1 := by omega
          rw [this, Int.pow_succ, hn, Int.mul_assoc]
        have ih := golombLoop_inv N temp f (nTest * 2) (k + 1) (by omega) (by omega) (by omega) hn'
          (fun j hjk => hj' j hjk hc)
        exact ⟨⟨by omega, ih.1.2⟩, ih.2.1, ih.2.2⟩
    · rename_i hc
      refine ⟨⟨by omega, by omega⟩, hj, fun _ => ?_⟩
      rw [← hn]; omega

/-- the loop as `GetGolombCode` starts it: the least `k` with `temp ≤ N·2^k`, or 33 if that is above 32 -/
theorem golombLoop_least (N temp : Int) :
    (0 ≤ golombLoop 40 N temp 0 ∧ golombLoop 40 N temp 0 ≤ 33) ∧
    (∀ j : Nat, (j : Int) < golombLoop 40 N temp 0 → N * 2 ^ j < temp) ∧
    (golombLoop 40 N temp 0 ≤ 32 → temp ≤ N * 2 ^ (golombLoop 40 N temp 0).toNat) :=
  golombLoop_inv N temp 40 N 0 (by omega) (by omega) (by simp) (by simp) (by intro j hj; omega)

theorem getGolombCode_nonneg (ctx : RunModeContext) : 0 ≤ getGolombCode ctx := (golombLoop_least ctx.N _).1.1

/-- the mapped value `EMErrval = 2·|Errval| − RItype − map` of T.87 A.7.2, the map bit taken for Golomb
    parameter `k` -/
def riEM (ctx : RunModeContext) (e k : Int) : Int :=
  if RunModeContext.ComputeMap ctx e k then 2 * Go.abs e - ctx.runInterruptionType - 1
  else 2 * Go.abs e - ctx.runInterruptionType

theorem encodeRunInterruption_ok (t : Traits) (idx : Int) (ctx : RunModeContext) (e : Int) (hidx : 0 ≤ idx ∧ idx ≤ 31) :
    encodeRunInterruption t idx ctx e =
      .ok (encodeWrites (getGolombCode ctx) (riEM ctx e (getGolombCode ctx)) (t.Limit - Jv idx.toNat - 1) t.Qbpp,
        RunModeContext.UpdateVariables ctx e (riEM ctx e (getGolombCode ctx)) t.Reset) := by
  unfold encodeRunInterruption riEM
  simp only [J?_eq idx hidx, bind, Except.bind]

/-- the map bit of T.87 A.21: where the decoder's `mapCondition` holds a negative error is the expected one and the bit
    marks it, otherwise the bit marks a positive error -/
theorem computeMap_eq (ctx : RunModeContext) (e k : Int) :
    RunModeContext.ComputeMap ctx e k =
      if k != 0 || decide (2 * ctx.NN ≥ ctx.N) then decide (e < 0) else decide (e > 0) := by
  unfold RunModeContext.ComputeMap
  -- all four tests are split, so that the proof does not depend on how the Go source nests them
  by_cases hk : k = 0 <;> by_cases hn : 2 * ctx.NN ≥ ctx.N <;> by_cases hp : e > 0 <;> by_cases hm : e < 0 <;>
    simp [hk, hn, hp, hm] <;> omega

/-- the decoder's sign/magnitude recovery inverts the encoder's map-bit rule (T.87 A.7.2) -/
theorem computeErrorValue_inv (ctx : RunModeContext) (e k : Int) :
    RunModeContext.ComputeErrorValue ctx (riEM ctx e k + ctx.runInterruptionType) k = e := by
  have ha := Go.abs_cases e
  -- `EMErrval + RItype = 2·|Errval| − map`: the parity is the map bit, the half rounded up the magnitude
  have key : ∀ (mp : Bool) (a r : Int), 0 ≤ a →
      ((if mp then 2 * a - r - 1 else 2 * a - r) + r) % 2 = (if mp then 1 else 0) ∧
      Int.tdiv ((if mp then 2 * a - r - 1 else 2 * a - r) + r + (if mp then 1 else 0)) 2 = a := by
    intro mp a r h0
    cases mp
    · simp only [Bool.false_eq_true, if_false]
      refine ⟨by omega, ?_⟩
      rw [Int.tdiv_eq_ediv_of_nonneg (by omega)]; omega
    · simp only [if_true]
      refine ⟨by omega, ?_⟩
      rw [Int.tdiv_eq_ediv_of_nonneg (by omega)]; omega
  obtain ⟨k1, k2⟩ := key (RunModeContext.ComputeMap ctx e k) (Go.abs e) ctx.runInterruptionType (by omega)
  unfold RunModeContext.ComputeErrorValue riEM
  simp only [Go.and_one]
  rw [k1, k2, computeMap_eq]
  clear key k1 k2
  -- the decoder negates the magnitude where the bit agrees with `mapCondition`
  cases (k != 0 || decide (2 * ctx.NN ≥ ctx.N))
  · by_cases hs : e > 0 <;> simp [hs] <;> omega
  · by_cases hs : e < 0 <;> simp [hs] <;> omega

/-- `EMErrval` lies in `0 .. 2·|Errval|`; for run-interruption type 1 this needs `Errval ≠ 0`, which the
    run test guarantees -/
theorem riEM_bounds (ctx : RunModeContext) (e k : Int)
    (hrit : ctx.runInterruptionType = 0 ∨ ctx.runInterruptionType = 1)
    (he0 : ctx.runInterruptionType = 1 → e ≠ 0) : 0 ≤ riEM ctx e k ∧ riEM ctx e k ≤ 2 * Go.abs e := by
  have := Go.abs_cases e
  unfold riEM
  split
  · rename_i hmap
    have he : e ≠ 0 := by
      intro h0
      simp [computeMap_eq, h0] at hmap
    rcases hrit with h | h <;> rw [h] <;> omega
  · rcases hrit with h | h
    · rw [h]; omega
    · have := he0 h
      rw [h]; omega

/-- the bits and the successor context are those of `encodeRunInterruption_ok` -/
theorem decodeRunInterruption_encoded (t : Traits) (idx : Int) (ctx : RunModeContext) (e : Int)
    (hidx : 0 ≤ idx ∧ idx ≤ 31) (hq : 1 ≤ t.Qbpp ∧ t.Qbpp ≤ 16)
    (hl : t.Qbpp + 1 < t.Limit - Jv idx.toNat - 1 ∧ t.Limit - Jv idx.toNat - 1 ≤ 64)
    (hk : getGolombCode ctx ≤ 31)
    (hrit : ctx.runInterruptionType = 0 ∨ ctx.runInterruptionType = 1)
    (he0 : ctx.runInterruptionType = 1 → e ≠ 0)
    (hmag : 2 * Go.abs e ≤ 2 ^ t.Qbpp.toNat) (rest : List Bool) :
    decodeRunInterruption t idx ctx (writesBits (encodeWrites (getGolombCode ctx) (riEM ctx e (getGolombCode ctx))
        (t.Limit - Jv idx.toNat - 1) t.Qbpp) ++ rest) =
      .ok (e, RunModeContext.UpdateVariables ctx e (riEM ctx e (getGolombCode ctx)) t.Reset, rest) := by
  have hm0 := riEM_bounds ctx e (getGolombCode ctx) hrit he0
  have hcode := code_roundtrip (getGolombCode ctx) (riEM ctx e (getGolombCode ctx)) (t.Limit - Jv idx.toNat - 1) t.Qbpp
    rest ⟨getGolombCode_nonneg ctx, hk⟩ hq hl ⟨hm0.1, by omega⟩
  unfold decodeRunInterruption
  simp only [J?_eq idx hidx, bind, Except.bind, hcode, computeErrorValue_inv]

/-- for every admissible (P, NEAR) and every RUNindex the run-interruption limit
    `LIMIT − J[RUNindex] − 1` leaves room for the escape code -/
theorem run_limit_ok (P : Nat) (N : Int) (h : Admissible P N) (idx : Int) (hidx : 0 ≤ idx ∧ idx ≤ 31) :
    (1 ≤ (traits P N).Qbpp ∧ (traits P N).Qbpp ≤ 16) ∧
    ((traits P N).Qbpp + 1 < (traits P N).Limit - Jv idx.toNat - 1 ∧ (traits P N).Limit - Jv idx.toNat - 1 ≤ 64) := by
  obtain ⟨q, hQ, hq1, hqP, _, _⟩ := traits_qbpp P N h
  have hj := Jv_range idx.toNat (by omega)
  have hP := h.1
  rw [hQ, traits_limit P N hP]
  omega

/-- reachable run contexts: run-interruption type 0 or 1, `1 ≤ N ≤ reset`, `0 ≤ NN ≤ N`, `0 ≤ A ≤ 2^17·N`
    (`A` grows by about `EMErrval / 2` per sample and is halved with `N` at RESET; `updateVariables_inv` keeps the bound
    for `EMErrval ≤ 2^17`, the scan has `EMErrval ≤ 2·|Errval| ≤ RANGE ≤ 2^16`) -/
def RunCtxInv (ctx : RunModeContext) (reset : Int) : Prop :=
  (ctx.runInterruptionType = 0 ∨ ctx.runInterruptionType = 1) ∧ (1 ≤ ctx.N ∧ ctx.N ≤ reset) ∧
  (0 ≤ ctx.NN ∧ ctx.NN ≤ ctx.N) ∧ (0 ≤ ctx.A ∧ ctx.A ≤ 131072 * ctx.N)

theorem updateVariables_inv (ctx : RunModeContext) (e em reset : Int) (h : RunCtxInv ctx reset)
    (hem : 0 ≤ em ∧ em ≤ 131072) :
    RunCtxInv (RunModeContext.UpdateVariables ctx e em reset) reset := by
  obtain ⟨hrit, hN, hNN, hA⟩ := h
  rw [JpegLsLemmas.updateVariables_eq]
  unfold RunCtxInv
  -- at RESET `A`, `N`, `NN` are halved together, which keeps `A ≤ 2^17·N`; otherwise `A` grows by at most `2^16` and `N` by 1
  split
  · refine ⟨hrit, ?_, ?_, ?_⟩ <;> dsimp only <;> (try split) <;> omega
  · refine ⟨hrit, ?_, ?_, ?_⟩ <;> dsimp only <;> (try split) <;> omega

theorem newRunModeContext_inv (rit range : Int) (hrit : rit = 0 ∨ rit = 1) (hr : 2 ≤ range ∧ range ≤ 65536) :
    RunCtxInv (NewRunModeContext rit range) 64 := by
  unfold NewRunModeContext RunCtxInv
  simp only []
  rw [Int.tdiv_eq_ediv_of_nonneg (by omega)]
  refine ⟨hrit, by omega, by omega, ?_⟩
  omega

/-- along every scan the Golomb parameter of a run-interruption context is at most 31: `TEMP ≤ N·2^31`,
    and every exponent below the result is too small -/
theorem getGolombCode_le (ctx : RunModeContext) {reset : Int} (h : RunCtxInv ctx reset) : getGolombCode ctx ≤ 31 := by
  obtain ⟨hrit, hN, hNN, hA⟩ := h
  have hb : ctx.A + ctx.N / 2 * ctx.runInterruptionType ≤ ctx.N * 2 ^ 31 := by
    have h31 : (2 : Int) ^ 31 = 2147483648 := by decide
    rw [h31]
    rcases hrit with h0 | h1
    · rw [h0]; omega
    · rw [h1]; omega
  have hmin := (golombLoop_least ctx.N (ctx.A + ctx.N / 2 * ctx.runInterruptionType)).2.1
  unfold getGolombCode
  rw [Go.shr_one]
  by_cases hc : golombLoop 40 ctx.N (ctx.A + ctx.N / 2 * ctx.runInterruptionType) 0 ≤ 31
  · exact hc
  · have := hmin 31 (by omega)
    omega

end JpegLsRun
