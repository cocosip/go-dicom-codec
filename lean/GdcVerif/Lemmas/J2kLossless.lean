import GdcVerif.Model.J2kLossless
namespace J2kL

/-! `Validate` field by field: a step `if c then { p with F := v } else p` leaves every projection but `F`
    alone, so pushing a projection through the `if`s keeps exactly the steps that write the field. -/
section
variable (p : LParams)

theorem validate_append : (validate p).AppendLosslessLayer = p.AppendLosslessLayer := by
  simp only [validate, v1, v2, v3, v4, v5, v6, v7, apply_ite LParams.AppendLosslessLayer, ite_self]

theorem validate_levels :
    (validate p).NumLevels = if p.NumLevels < 0 ∨ p.NumLevels > 6 then 5 else p.NumLevels := by
  simp only [validate, v1, v2, v3, v4, v5, v6, v7, apply_ite LParams.NumLevels, ite_self]

theorem validate_rate : (validate p).Rate = if p.Rate < 0 then 0 else p.Rate := by
  simp only [validate, v1, v2, v3, v4, v5, v6, v7, apply_ite LParams.Rate, ite_self]

theorem validate_order :
    (validate p).ProgressionOrder = if p.ProgressionOrder > 4 then 0 else p.ProgressionOrder := by
  simp only [validate, v1, v2, v3, v4, v5, v6, v7, apply_ite LParams.ProgressionOrder, ite_self]

theorem validate_target :
    (validate p).TargetRatio = if p.TargetRatio.neg = true then Frac.zero else p.TargetRatio := by
  simp only [validate, v1, v2, v3, v4, v5, v6, v7, apply_ite LParams.TargetRatio, ite_self]

/-- the one field that two steps write: raised to 1, then to 2 when a lossless layer is to be appended to a
    rate-targeted stream -/
theorem validate_layers :
    (validate p).NumLayers =
      if p.AppendLosslessLayer = true ∧ (if p.NumLayers < 1 then 1 else p.NumLayers) < 2 ∧
          (if p.TargetRatio.neg = true then Frac.zero else p.TargetRatio).pos = true
      then 2 else if p.NumLayers < 1 then 1 else p.NumLayers := by
  simp only [validate, v1, v2, v3, v4, v5, v6, v7, apply_ite LParams.NumLayers,
    apply_ite LParams.AppendLosslessLayer, apply_ite LParams.TargetRatio, ite_self]

theorem validate_layers_pos : 1 ≤ (validate p).NumLayers := by
  rw [validate_layers]
  omega

theorem validate_inScope (hs : inScope p) : inScope (validate p) := by
  unfold inScope
  rw [validate_append, validate_rate, validate_target]
  rcases hs with h | ⟨h1, h2⟩
  · exact Or.inl h
  · refine Or.inr ⟨by omega, ?_⟩
    split
    · rfl
    · exact h2

end

theorem layersFromRateLevels_pos (rate : Int) (levels : List Int) : 1 ≤ layersFromRateLevels rate levels := by
  unfold layersFromRateLevels
  split
  · omega
  · simp only []; split <;> omega

theorem rateToTargetRatio_pos (rate bs ba : Int) (hr : 0 < rate) (hbs : 1 ≤ bs) (hba : 1 ≤ ba) :
    (rateToTargetRatio rate bs ba).pos = true := by
  unfold rateToTargetRatio Frac.pos
  have c1 : ¬ rate ≤ 0 := by omega
  have c2 : ¬ ba ≤ 0 := by omega
  have c3 : ¬ (bs ≤ 0 ∨ ba ≤ 0) := by omega
  rw [if_neg c1]
  simp only [if_neg c2, if_neg c3, decide_eq_true_eq]
  exact Int.mul_pos hr (by omega)

theorem layerRates_last (rate : Int) (levels : List Int) (bs ba : Int) (hr : 0 < rate) :
    (openJPEGLayerRates rate levels bs ba true).getLast? = some Frac.zero := by
  unfold openJPEGLayerRates
  have c1 : ¬ rate ≤ 0 := by omega
  simp only [c1, if_false, if_true, List.getLast?_append, List.getLast?_singleton, Option.some_or]

theorem configure_target (q : LParams) (bs ba : Int) (hbs : 1 ≤ bs) (hba : 1 ≤ ba) :
    (configure bs ba q).TargetRatio.pos = (q.TargetRatio.pos || decide (q.Rate > 0)) := by
  unfold configure
  cases hp : q.TargetRatio.pos
  · by_cases hr : q.Rate > 0
    · simp [hr, rateToTargetRatio_pos q.Rate bs ba hr hbs hba]
    · simp [hr, hp]
  · simp [hp]

/-- `configureLosslessEncodeParams` on an object in scope with at least one layer.  `Lossless`, `NumLevels`,
    `ProgressionOrder` and `AppendLosslessLayer` of the result are those of `q` by computation. -/
theorem configure_sound (q : LParams) (bs ba : Int) (hbs : 1 ≤ bs) (hba : 1 ≤ ba) (hly : 1 ≤ q.NumLayers)
    (hs : inScope q) :
    let e := configure bs ba q
    1 ≤ e.NumLayers ∧ (e.TargetRatio.pos = true → e.AppendLosslessLayer = true ∧ 2 ≤ e.NumLayers) ∧
    (q.Rate > 0 → e.LayerRates.getLast? = some Frac.zero) ∧
    (useLayered e = true → appendLosslessFlag e = true) := by
  have hl := layersFromRateLevels_pos q.Rate q.RateLevels
  intro e
  have hN : e.NumLayers =
      if e.TargetRatio.pos = true ∧ q.AppendLosslessLayer = true then
        (if e.TargetRatio.pos = true ∧ q.NumLayers ≤ 1 then layersFromRateLevels q.Rate q.RateLevels
          else q.NumLayers) + 1
      else if e.TargetRatio.pos = true ∧ q.NumLayers ≤ 1 then layersFromRateLevels q.Rate q.RateLevels
        else q.NumLayers := rfl
  -- a rate target, given or derived from `Rate`, is in scope only with the closing lossless layer
  have happ : e.TargetRatio.pos = true → q.AppendLosslessLayer = true := by
    intro ht
    rcases hs with h | ⟨h1, h2⟩
    · exact h
    · rw [configure_target q bs ba hbs hba] at ht
      simp [Frac.pos, h1, h2] at ht
  have h2 : e.TargetRatio.pos = true → 2 ≤ e.NumLayers := by
    intro ht
    rw [hN, if_pos ⟨ht, happ ht⟩]
    split <;> omega
  have h1 : 1 ≤ e.NumLayers := by
    by_cases ht : e.TargetRatio.pos = true
    · have := h2 ht; omega
    · rw [hN, if_neg (fun h => ht h.1), if_neg (fun h => ht h.1)]; exact hly
  refine ⟨h1, fun ht => ⟨happ ht, h2 ht⟩, ?_, ?_⟩
  · intro hr
    show (openJPEGLayerRates q.Rate q.RateLevels bs ba q.AppendLosslessLayer).getLast? = _
    rw [hs.resolve_right fun h => by omega]
    exact layerRates_last _ _ _ _ hr
  · intro hu
    have : e.NumLayers > 1 := by
      by_cases ht : e.TargetRatio.pos = true
      · exact h2 ht
      · simpa [useLayered, ht] using hu
    simp [appendLosslessFlag, this, show e.Lossless = true from rfl]

theorem layerLoop_length (rate : Int → Int) (n total : Int) (alloc : List Int) (pe : Int) :
    (layerLoop rate n total alloc pe).length = alloc.length := by
  induction alloc generalizing pe with
  | nil => rfl
  | cons a rest ih => simp only [layerLoop, List.length_cons, ih]

theorem appendLast_last (rate : Int → Int) (n total : Int) (ls : List (Int × Int × Int)) (h : ls ≠ []) :
    ((appendLast rate n total ls).getLast?).map (·.1) = some n ∧ (appendLast rate n total ls).length = ls.length := by
  unfold appendLast
  have hr : ls.reverse ≠ [] := by simpa using h
  cases hrev : ls.reverse with
  | nil => exact absurd hrev hr
  | cons x before =>
    simp only [List.getLast?_append, List.getLast?_singleton, Option.some_or, Option.map_some,
      List.length_append, List.length_reverse, List.length_singleton, true_and]
    have : ls.length = (x :: before).length := by rw [← hrev, List.length_reverse]
    rw [this]; simp

/-! `extractBasicLosslessParams`: each key writes its own field and nothing else. -/
section
variable (g : GParams) (p : LParams)

theorem g1_eq : g1 g p = { p with NumLevels :=
    match g.numLevels with | some n => if 0 ≤ n ∧ n ≤ 6 then n else p.NumLevels | none => p.NumLevels } := by
  unfold g1
  cases g.numLevels with
  | none => rfl
  | some n => simp only []; split <;> rfl

theorem g2_eq : g2 g p = { p with AllowMCT := g.allowMCT.getD p.AllowMCT } := by
  unfold g2; cases g.allowMCT <;> rfl

theorem g3_eq : g3 g p = { p with Rate :=
    match g.rate with | some r => if r ≥ 0 then r else p.Rate | none => p.Rate } := by
  unfold g3
  cases g.rate with
  | none => rfl
  | some r => simp only []; split <;> rfl

theorem g4_eq : g4 g p = { p with RateLevels :=
    match g.rateLevels with | some l => if l.length > 0 then l else p.RateLevels | none => p.RateLevels } := by
  unfold g4
  cases g.rateLevels with
  | none => rfl
  | some l => simp only []; split <;> rfl

theorem g5_eq : g5 g p = { p with ProgressionOrder :=
    match g.progressionOrder with
    | some x => if x ≥ 0 then x % 256 else p.ProgressionOrder
    | none => p.ProgressionOrder } := by
  unfold g5
  cases g.progressionOrder with
  | none => rfl
  | some x => simp only []; split <;> rfl

theorem g6_eq : g6 g p = { p with NumLayers := g.numLayers.getD p.NumLayers } := by
  unfold g6; cases g.numLayers <;> rfl

theorem g7_eq : g7 g p = { p with TargetRatio := g.targetRatio.getD p.TargetRatio } := by
  unfold g7; cases g.targetRatio <;> rfl

theorem g8_eq : g8 g p = { p with UsePCRDOpt := g.usePCRDOpt.getD p.UsePCRDOpt } := by
  unfold g8; cases g.usePCRDOpt <;> rfl

theorem g9_eq : g9 g p = { p with AppendLosslessLayer := g.appendLosslessLayer.getD p.AppendLosslessLayer } := by
  unfold g9; cases g.appendLosslessLayer <;> rfl

theorem extractGeneric_eq : extractGeneric g =
    { NumLevels := match g.numLevels with | some n => if 0 ≤ n ∧ n ≤ 6 then n else 5 | none => 5
      AllowMCT := g.allowMCT.getD true
      Rate := match g.rate with | some r => if r ≥ 0 then r else 20 | none => 20
      RateLevels := match g.rateLevels with
        | some l => if l.length > 0 then l else defaultRateLevels
        | none => defaultRateLevels
      ProgressionOrder := match g.progressionOrder with | some x => if x ≥ 0 then x % 256 else 0 | none => 0
      NumLayers := g.numLayers.getD 1
      TargetRatio := g.targetRatio.getD Frac.zero
      UsePCRDOpt := g.usePCRDOpt.getD false
      AppendLosslessLayer := g.appendLosslessLayer.getD true } := by
  simp only [extractGeneric, g1_eq, g2_eq, g3_eq, g4_eq, g5_eq, g6_eq, g7_eq, g8_eq, g9_eq, defaultLParams]

end

theorem extract_rate (g : GParams) : (extractGeneric g).Rate ≥ 0 := by
  simp only [extractGeneric_eq]
  cases g.rate with
  | none => decide
  | some r => simp only []; split <;> omega

/-- 0 included: `"rate": 0` switches the default ladder off -/
theorem extract_rate_zero (g : GParams) : (extractGeneric g).Rate = 0 ↔ g.rate = some 0 := by
  simp only [extractGeneric_eq]
  cases g.rate with
  | none => simp
  | some r =>
    simp only [Option.some.injEq]
    split
    · exact Iff.rfl
    · constructor <;> intro h <;> omega

theorem extract_target (g : GParams) : (extractGeneric g).TargetRatio = g.targetRatio.getD Frac.zero := by
  simp only [extractGeneric_eq]

theorem extract_prog (g : GParams) : 0 ≤ (extractGeneric g).ProgressionOrder := by
  simp only [extractGeneric_eq]
  cases g.progressionOrder with
  | none => decide
  | some x => simp only []; split <;> omega

theorem extract_append (g : GParams) :
    (extractGeneric g).AppendLosslessLayer = true ↔ g.appendLosslessLayer ≠ some false := by
  simp only [extractGeneric_eq]
  cases g.appendLosslessLayer with
  | none => simp
  | some b => cases b <;> simp

end J2kL
