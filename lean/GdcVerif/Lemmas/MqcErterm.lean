import GdcVerif.Model.T1
import GdcVerif.Lemmas.MqcTerm
/-!
  `ErtermEnc()` (predictable termination) as the end of a codeword segment: its loop is a run of `Mqc.drain_step`s; the
  bytes it emits, read with the stuffing rule and 1-padding, denote a value inside the encoder's final interval — the
  analogue of `Mqc.flush_term`.  `term_facts` is the statement for both terminations.
-/
namespace Mqc

/-- the loop of `ErtermEnc()` is a run of `Drain`s with total shift `S` (the pending `ct` of the end state not counted);
`k` counts down by the widths of the bytes put out -/
theorem ertermLoop_run : ∀ (fuel : Nat) (k : Int) (e : Enc), Room e 1 → 0 ≤ e.ct → e.ct ≤ 13 → k ≤ 7 * (fuel : Int) →
    ∃ (e' : Enc) (S : Nat), ertermLoop fuel k e = some e' ∧ Room e' 1 ∧ 0 ≤ e'.ct ∧ e'.ctx = e.ctx ∧
      (k ≤ 0 → e' = e ∧ S = 0) ∧
      (0 < k → e'.c * 2 ^ e'.ct.toNat < 134217728 ∧ e.bp < e'.bp ∧
        e.ct + k ≤ (S : Int) + e'.ct ∧ (S : Int) + e'.ct ≤ e.ct + k + 7) ∧
      ∀ x B last, 1 ≤ x → FX B last e' (x * 2 ^ S) → FX B last e x := by
  intro fuel
  induction fuel with
  | zero =>
    intro k e h hc0 _ hk
    exact ⟨e, 0, by unfold ertermLoop; rw [if_neg (by omega)], h, hc0, rfl, fun _ => ⟨rfl, rfl⟩,
      fun hh => absurd hh (by omega), fun x B last _ hf => by rwa [Nat.pow_zero, Nat.mul_one] at hf⟩
  | succ f ih =>
    intro k e h hc0 hc13 hk
    by_cases hk0 : 0 < k
    · obtain ⟨e2, d⟩ := drain_step e h hc0 hc13
      have hct2 := d.ct; have hbp2 := d.bp
      obtain ⟨e', S2, he', h', hc0', hctx', hz', hp', hx'⟩ := ih (k - e2.ct) e2 d.room (by omega) (by omega) (by omega)
      have hloop : ertermLoop (f + 1) k e = some e' := by
        unfold ertermLoop
        rw [if_pos hk0]
        simp only [d.shl, d.out 0]
        exact he'
      have hS : ((e.ct.toNat + S2 : Nat) : Int) = e.ct + (S2 : Int) := by omega
      refine ⟨e', e.ct.toNat + S2, hloop, h', hc0', hctx'.trans d.ctx, fun hh => absurd hk0 (by omega), fun _ => ?_,
        fun x B last hx hf => d.back hx (hx' _ B last (Nat.mul_pos hx (Nat.two_pow_pos _)) ?_)⟩
      · rw [hS]
        by_cases hk2 : 0 < k - e2.ct
        · obtain ⟨g1, g2, g3, g4⟩ := hp' hk2
          exact ⟨g1, by omega, by omega, by omega⟩
        · obtain ⟨rfl, rfl⟩ := hz' (by omega)
          exact ⟨d.rest, by omega, by omega, by omega⟩
      · rwa [Nat.pow_add, ← Nat.mul_assoc] at hf
    · exact ⟨e, 0, by unfold ertermLoop; rw [if_neg hk0], h, hc0, rfl, fun _ => ⟨rfl, rfl⟩, fun hh => absurd hh hk0,
        fun x B last _ hf => by rwa [Nat.pow_zero, Nat.mul_one] at hf⟩

end Mqc

namespace T1
open Mqc

theorem ertermEnc_ok (e : Enc) (h : RegOk e) : ∃ e', ertermEnc e = some e' ∧ e'.ctx = e.ctx := by
  have h1 : Room e 1 := h.room.sub e.c 1 (Nat.le_refl 1) (by have := h.apos; omega)
  obtain ⟨e1, _, he1, hr1, _, hctx1, _⟩ :=
    ertermLoop_run 64 (11 - e.ct + 1) e h1 (by have := h.ctlo; omega) h.cthi (by have := h.ctlo; omega)
  unfold ertermEnc
  simp only []
  rw [he1]
  simp only [rd_some e1.buf e1.bp hr1.buf.inb]
  split
  · obtain ⟨e2, _, _, _, he2, hE, _⟩ := byteout_spec e1 1 hr1.out (by omega)
    exact ⟨e2, he2, by rw [hE.ctx, hctx1]⟩
  · exact ⟨e1, rfl, hctx1⟩

theorem erterm_facts (e : Enc) (h : RegOk e) (hn : 0x8000 ≤ e.a) (p0 : Nat) (b0 : Array Nat) (hs : InSeg p0 b0 e)
    (hnf : rd b0 p0 ≠ 255) :
    ∃ ef last len, ertermEnc e = some ef ∧ TermFacts e ef last len ∧ p0 + 1 ≤ ef.bp := by
  have hcl := h.ctlo; have hch := h.cthi; have hapos := h.apos
  have h1 : Room e 1 := h.room.sub e.c 1 (Nat.le_refl 1) (by omega)
  obtain ⟨e1, S, he1, hr1, hc0, hctx1, hz1, hp1, hx1⟩ :=
    ertermLoop_run 64 (11 - e.ct + 1) e h1 (by omega) hch (by omega)
  have hp0bp := hs.le
  -- the total shift `T = S + ct` is between 12 and 27; the interval of width `2^(27-T)` ends as one unit of bit 27.
  -- Where the loop does nothing (`ct ≥ 12`), `c·2^ct < 2^27` because `a·2^ct` alone fills the room above it, and the
  -- current byte is the one in front of the segment or behind it
  have hT : 12 ≤ S + e1.ct.toNat ∧ S + e1.ct.toNat ≤ 27 ∧ e1.c * 2 ^ e1.ct.toNat < 134217728 ∧
      (rd e1.buf e1.bp = 255 → p0 < e1.bp) ∧ p0 ≤ e1.bp := by
    by_cases hk : 0 < 11 - e.ct + 1
    · have := hp1 hk; exact ⟨by omega, by omega, this.1, fun _ => by omega, by omega⟩
    · obtain ⟨rfl, rfl⟩ := hz1 (by omega)
      have hA := h.A; rw [Nat.add_mul] at hA
      have : 32768 * 2 ^ 12 ≤ e1.a * 2 ^ e1.ct.toNat :=
        Nat.mul_le_mul hn (Nat.pow_le_pow_right (by decide) (by omega))
      refine ⟨by omega, by omega, by omega, fun hff => Nat.lt_of_le_of_ne hp0bp fun hp => hnf ?_, hp0bp⟩
      rw [← hs.pre p0 (Nat.le_refl _), hp]; exact hff
  obtain ⟨hT1, hT2, hq1, hlt1, hle1⟩ := hT
  have hxS : 2 ^ (27 - (S + e1.ct.toNat)) * 2 ^ S * 2 ^ e1.ct.toNat = 134217728 := by
    rw [Nat.mul_assoc, ← Nat.pow_add, ← Nat.pow_add, show 27 - (S + e1.ct.toNat) + (S + e1.ct.toNat) = 27 by omega]
  have hxa : 2 ^ (27 - (S + e1.ct.toNat)) ≤ e.a :=
    Nat.le_trans (Nat.pow_le_pow_right (by decide) (by omega : 27 - (S + e1.ct.toNat) ≤ 15)) hn
  generalize 2 ^ (27 - (S + e1.ct.toNat)) = x at hxS hxa
  have hx0 : 1 ≤ x := Nat.pos_of_ne_zero (fun h0 => by rw [h0] at hxS; simp at hxS)
  have hu1 : 134217728 ≤ (e1.c + x * 2 ^ S) * 2 ^ e1.ct.toNat := by rw [Nat.add_mul, hxS]; omega
  have hfacts : ∀ (B : Nat → Nat) (last : Nat), FX B last e1 (x * 2 ^ S) → FE B last e := fun B last hf =>
    FX.of_sub e.c x (Nat.le_refl _) (Nat.add_le_add_left hxa _) (hx1 x B last hx0 hf)
  have hb1 := hr1.buf
  unfold ertermEnc
  simp only []
  rw [he1]
  simp only [rd_some e1.buf e1.bp hb1.inb]
  by_cases hff : rd e1.buf e1.bp = 255
  · -- the last byte is 0xFF and stays outside the stream
    rw [if_neg (fun hh => hh hff)]
    have := hlt1 hff
    exact ⟨e1, e1.bp, _, rfl, .of_final hb1 hq1 hu1 hfacts hctx1 h.ctx (Or.inl ⟨hff, by omega, rfl⟩)
      (Nat.le_of_lt hb1.inb) hb1.bytes (fun _ _ => rfl), by omega⟩
  · -- one more byte-out, which carries nothing: the stream ends with the byte at `e1.bp`
    rw [if_pos hff]
    obtain ⟨ef, _, _, _, hef, hE, hrf⟩ := byteout_spec e1 1 hr1.out (by omega)
    have hbpf := hE.bp
    have hsame := (seg_byteout e1.bp e1.buf hE (fun _ _ => rfl) (Nat.le_refl _)
      (fun _ => Nat.lt_of_le_of_lt (Nat.le_mul_of_pos_right _ (Nat.two_pow_pos _)) hq1)).pre
    exact ⟨ef, e1.bp, _, hef, .of_final hb1 hq1 hu1 hfacts (hE.ctx.trans hctx1) h.ctx (Or.inr ⟨hff, hbpf⟩)
      (Nat.le_of_lt hrf.buf.inb) hrf.buf.bytes hsame, by omega⟩

/-- termination of an MQ codeword segment: `ErtermEnc()` under PTERM, else `FlushToOutput()` -/
def termMq (style : Nat) (e : Enc) : Option Enc :=
  if styPterm style = true then ertermEnc e else flushToOutput e

theorem flush_of_termMq0 {e ef : Enc} (h : termMq 0 e = some ef) : flush e = some (ef, getBuffer ef) := by
  unfold flush; rw [show flushToOutput e = some ef from h]; rfl

theorem getBuffer_get (e : Enc) (hsz : e.bp ≤ e.buf.size) (h1 : 1 ≤ e.bp) :
    (getBuffer e).length = e.bp - 1 ∧ ∀ k, k < e.bp - 1 → (getBuffer e)[k]? = some (rd e.buf (k + 1)) :=
  ⟨(Mqc.getBuffer_get e h1 hsz).1, fun k hk => by rw [(Mqc.getBuffer_get e h1 hsz).2, if_pos hk]⟩

theorem term_facts (style : Nat) (e : Enc) (h : RegOk e) (hn : 0x8000 ≤ e.a) (p0 : Nat) (b0 : Array Nat)
    (hs : InSeg p0 b0 e) (hnf : rd b0 p0 ≠ 255) :
    ∃ ef last len, termMq style e = some ef ∧ ef.ctx = e.ctx ∧ TermOk ef ∧
      BOk (finalB ef.buf last) last len ∧ FE (finalB ef.buf last) last e ∧ len = ef.bp - 1 ∧
      (∀ k, k < len → finalB ef.buf last (k + 1) = rd ef.buf (k + 1)) ∧
      (∀ j, j ≤ p0 → rd ef.buf j = rd b0 j) ∧ p0 + 1 ≤ ef.bp ∧ (styPterm style = false → p0 + 2 ≤ ef.bp) := by
  unfold termMq
  by_cases hP : styPterm style = true
  · rw [if_pos hP]
    obtain ⟨ef, last, len, h1, ht, h9⟩ := erterm_facts e h hn p0 b0 hs hnf
    exact ⟨ef, last, len, h1, ht.ctx, ht.term, ht.bok, ht.fe, ht.len_eq, ht.bytes, ht.pre hs, h9,
      fun hh => absurd hP (by rw [hh]; simp)⟩
  · rw [if_neg hP]
    obtain ⟨ef, last, len, h1, ht, h9, _⟩ := flush_term e h hn
    have hp := hs.le
    exact ⟨ef, last, len, h1, ht.ctx, ht.term, ht.bok, ht.fe, ht.len_eq, ht.bytes, ht.pre hs, by omega, fun _ => by omega⟩

end T1
