import GdcVerif.Lemmas.T1OJVal
import GdcVerif.Lemmas.T1Sched
import GdcVerif.Model.T1Layered
import GdcVerif.Model.T1Pipe
import GdcVerif.Lemmas.Basics
/-!
  C20, the all-zero block (no magnitude bit: no coding pass on the encoder side).  Encoder: every configuration emits
  FF 7F, the flush of a fresh coder (`encode_zero_bytes`); the layered encoder emits nothing; a block without top plane is
  the zero block (`zero_of_nomax`).  Decoder: with no pass it returns zeros; the pipeline still sends ONE pass, and the
  decoder then runs a cleanup pass over these two bytes, in which every decision it reads is 0: behind FF 7F the
  reader feeds 1-bits, the code register stays at the top of the interval, and the two contexts involved (run-length,
  zero coding with no significant neighbour) only walk the MPS chain of states with small Qe.
-/
namespace Mqc

/-- probability states reached from the initial states 3 (run-length) and 4 (zero coding) along MPS transitions -/
def Safe (s : Nat) : Prop := s = 3 ∨ s = 4 ∨ s = 5 ∨ s = 38 ∨ s = 39 ∨ s = 40 ∨ s = 41 ∨ s = 42 ∨ s = 43 ∨ s = 44 ∨ s = 45

theorem safe_lookup (s : Nat) (hs : Safe s) :
    ∃ qe nmps nlps sw, lookup s = some (qe, nmps, nlps, sw) ∧ 1 ≤ qe ∧ qe ≤ 0x0AC1 ∧ Safe nmps := by
  unfold Safe at hs
  rcases hs with rfl | rfl | rfl | rfl | rfl | rfl | rfl | rfl | rfl | rfl | rfl
  all_goals exact ⟨_, _, _, _, rfl, by decide, by decide, by unfold Safe; decide⟩

/-- the decoder's registers behind the stream FF 7F: the code register is `a·2^16 - 2^(16-ct)`, the top of the interval
less the weight of the bits still to be shifted in, which are all 1 -/
structure ZReg (d : Dec) : Prop where
  data : d.data = #[255, 127, 255, 255]
  bp : d.bp = 1 ∨ d.bp = 2
  ctlo : 0 ≤ d.ct
  cthi : d.ct ≤ 8
  ahi : d.a < 0x10000
  c : d.c + 2 ^ (16 - d.ct.toNat) = d.a * 65536

/-- `bytein` at `ct = 0` adds `0xFF00` whether it stands on the 7F or on the sentinel, and `ct` becomes 8: `c + 2^(16-ct)`
is the same before and after -/
theorem zfill (d : Dec) (hz : ZReg d) :
    ∃ d', (if d.ct = 0 then bytein d else some d) = some d' ∧ ZReg d' ∧ 1 ≤ d'.ct ∧ d'.a = d.a ∧ d'.ctx = d.ctx := by
  by_cases h0 : d.ct = 0
  · have hc : d.c + 2 ^ 16 = d.a * 65536 := by have := hz.c; rw [h0] at this; exact this
    have hahi := hz.ahi
    have hreg : ∀ dl eos : Nat, ZReg ⟨#[255, 127, 255, 255], 2, dl, d.a, u32 (d.c + 0xFF00), 8, eos, d.ctx⟩ := fun _ _ =>
      ⟨rfl, Or.inr rfl, (by decide : (0 : Int) ≤ 8), (by decide : (8 : Int) ≤ 8), hahi, by
        show u32 (d.c + 0xFF00) + 2 ^ 8 = d.a * 65536; unfold u32; omega⟩
    rw [if_pos h0]
    unfold bytein
    rw [hz.data]
    rcases hz.bp with hb | hb
    · rw [hb]; exact ⟨_, rfl, hreg _ _, (by decide : (1 : Int) ≤ 8), rfl, rfl⟩
    · rw [hb]; exact ⟨_, rfl, hreg _ _, (by decide : (1 : Int) ≤ 8), rfl, rfl⟩
  · rw [if_neg h0]; exact ⟨d, rfl, hz, by have := hz.ctlo; omega, rfl, rfl⟩

/-- from `a ≥ 0x4000` renormalisation is at most one shift, and a shift doubles `c`, `a` and `2^(16-ct)` -/
theorem zrenorm (d : Dec) (hz : ZReg d) (ha : 0x4000 ≤ d.a) :
    ∃ d', renormd d = some d' ∧ ZReg d' ∧ 0x8000 ≤ d'.a ∧ d'.ctx = d.ctx := by
  unfold renormd
  by_cases hlt : d.a < 0x8000
  · obtain ⟨d2, h2, hz2, hct2, ha2, hx2⟩ := zfill d hz
    have hct8 := hz2.cthi
    have hc := hz2.c
    have hP : 2 ^ (16 - (d2.ct - 1).toNat) = 2 * 2 ^ (16 - d2.ct.toNat) := by
      rw [show 16 - (d2.ct - 1).toNat = 16 - d2.ct.toNat + 1 by omega, Nat.pow_succ, Nat.mul_comm]
    have hua : u32 (d2.a * 2) = d2.a * 2 := u32_id _ (by omega)
    rw [renormdLoop, if_pos hlt, h2]
    refine ⟨_, renormdLoop_done _ _ (by show ¬ u32 (d2.a * 2) < 0x8000; omega), ⟨hz2.data, hz2.bp, by show 0 ≤ d2.ct - 1; omega,
      by show d2.ct - 1 ≤ 8; omega, by show u32 (d2.a * 2) < 0x10000; omega, ?_⟩, by show 0x8000 ≤ u32 (d2.a * 2); omega, hx2⟩
    show u32 (d2.c * 2) + 2 ^ (16 - (d2.ct - 1).toNat) = u32 (d2.a * 2) * 65536
    rw [hP, hua, u32_id _ (by omega)]
    omega
  · exact ⟨d, renormdLoop_done _ _ hlt, hz, by omega, rfl⟩

structure ZInv (d : Dec) : Prop where
  reg : ZReg d
  alo : 0x8000 ≤ d.a
  csz : d.ctx.size = 19
  safe : ∀ cx, cx = 0 ∨ cx = 17 → ∃ s, d.ctx[cx]? = some s ∧ Safe s

/-- the arithmetic of `a -= Qe`, `c -= Qe·2^16` behind FF 7F: all that is used of `P = 2^(16-ct)` is `256 ≤ P ≤ 65536`, and
`Qe` is small; so `c`, which lies `P` below the top `a·2^16` of the interval, is in the MPS part and stays `P` below the
top, and `a - Qe ≥ 0x4000` -/
theorem zarith (a c qe P : Nat) (hc : c + P = a * 65536) (hP1 : 256 ≤ P) (hP2 : P ≤ 65536) (hq1 : 1 ≤ qe)
    (hq2 : qe ≤ 0x0AC1) (ha1 : 0x8000 ≤ a) (ha2 : a < 0x10000) :
    ¬ c / 2 ^ 16 < qe ∧ sub32 a qe = a - qe ∧ sub32 c (u32 (qe * 2 ^ 16)) = c - qe * 65536 ∧
      c - qe * 65536 + P = (a - qe) * 65536 ∧ 0x4000 ≤ a - qe ∧ a - qe < 0x10000 ∧ ¬ a - qe < qe := by
  unfold sub32 u32
  refine ⟨?_, ?_, ?_, ?_, ?_, ?_, ?_⟩ <;> omega

theorem zdecode (d : Dec) (hz : ZInv d) (cx : Nat) (hcx : cx = 0 ∨ cx = 17) :
    ∃ d', decode d cx = some (0, d') ∧ ZInv d' := by
  obtain ⟨s, hs, hsafe⟩ := hz.safe cx hcx
  obtain ⟨qe, nmps, nlps, sw, hlk, hq1, hq2, hnm⟩ := safe_lookup s hsafe
  have hs45 : s ≤ 45 := by unfold Safe at hsafe; omega
  have hnm45 : nmps ≤ 45 := by unfold Safe at hnm; omega
  have hs0 : s / 128 = 0 := by omega
  have hmps : mpsCx s nmps = nmps := by
    unfold mpsCx u8; rw [hs0]; simp only [Nat.zero_mul, Nat.zero_mod, Nat.add_zero]; omega
  have hct := hz.reg.ctlo
  have hct8 := hz.reg.cthi
  obtain ⟨hnlt, hsub, hsubc, hceq, ha4, ha16, hnq⟩ := zarith d.a d.c qe (2 ^ (16 - d.ct.toNat)) hz.reg.c
    (Nat.pow_le_pow_right (by omega) (by omega) : 2 ^ 8 ≤ _) (Nat.pow_le_pow_right (by omega) (by omega) : _ ≤ 2 ^ 16)
    hq1 hq2 hz.alo hz.reg.ahi
  have hreg : ∀ ctx', ZReg { d with a := d.a - qe, c := d.c - qe * 65536, ctx := ctx' } := fun _ =>
    ⟨hz.reg.data, hz.reg.bp, hct, hct8, ha16, hceq⟩
  obtain ⟨_, cbig, cren⟩ := decodeCore_cases d cx s qe nmps nlps sw 0 (d.a - qe) hsub (Nat.zero_le _) (by omega)
  rw [decode_eq d cx s qe nmps nlps sw hs (by rw [Nat.mod_eq_of_lt (by omega)]; exact hlk)]
  by_cases hbig : 0x8000 ≤ d.a - qe
  · rw [cbig hnlt hbig ha16, hs0, hsubc]
    exact ⟨_, rfl, hreg d.ctx, hbig, hz.csz, hz.safe⟩
  · rw [cren hnlt (Nat.lt_of_not_le hbig) ⟨fun h => absurd h hnq, fun h => absurd hs0.symm h⟩, if_pos hs0.symm, hmps, hsubc]
    obtain ⟨d', hd', hreg', ha', hctx'⟩ := zrenorm _ (hreg (d.ctx.setIfInBounds cx nmps)) ha4
    rw [hd']
    refine ⟨d', rfl, hreg', ha', ?_, fun cx' hcx' => ?_⟩
    · rw [hctx']; exact (Array.size_setIfInBounds ..).trans hz.csz
    rw [hctx']
    show ∃ s, (d.ctx.setIfInBounds cx nmps)[cx']? = some s ∧ Safe s
    rw [Array.getElem?_setIfInBounds]
    by_cases h0 : cx = cx'
    · rw [if_pos h0, if_pos (by rw [hz.csz]; omega)]; exact ⟨nmps, rfl, hnm⟩
    · rw [if_neg h0]; exact hz.safe cx' hcx'

end Mqc

namespace T1
open Gen

theorem flush_fresh : ∃ e, Mqc.flush (Mqc.Enc.new NUMCONTEXTS) = some (e, [255, 127]) := by
  unfold Mqc.flush Mqc.flushToOutput Mqc.Enc.new NUMCONTEXTS
  simp [Mqc.byteout, Mqc.u32, Mqc.u8, Mqc.sub32, Mqc.shl32, Mqc.ensureIndex, Mqc.getBuffer, Mqc.start]

theorem encode_zero_bytes (fb w h orient style : Nat) (coeffs : List Int) (np : Nat) (hlen : coeffs.length = w * h)
    (hz : findMaxBitplane (padBlock w h coeffs) = none) :
    encodeBlockF fb w h orient style coeffs np = .ok [255, 127] ∧ encodeBlock w h orient style coeffs np = .ok [255, 127] := by
  obtain ⟨e, hf⟩ := flush_fresh
  unfold encodeBlockF encodeBlock
  rw [if_neg (by rw [hlen]; exact fun hc => hc rfl), if_neg (by rw [hlen]; exact fun hc => hc rfl)]
  simp only []
  rw [hz]
  simp only []
  rw [hf]
  exact ⟨rfl, rfl⟩

theorem encodeBlock_zero (w h orient style : Nat) (coeffs : List Int) (np : Nat) (hlen : coeffs.length = w * h)
    (hz : findMaxBitplane (padBlock w h coeffs) = none) :
    ∃ bytes, encodeBlock w h orient style coeffs np = .ok bytes ∧ bytes ≠ [] :=
  ⟨_, (encode_zero_bytes 0 w h orient style coeffs np hlen hz).2, by decide⟩

theorem encodeLayered_zero (w h orient style : Nat) (coeffs : List Int) (np : Nat) (hlen : coeffs.length = w * h)
    (hz : findMaxBitplane (padBlock w h coeffs) = none) :
    encodeLayered w h orient style coeffs np = .ok ([], -1, []) := by
  unfold encodeLayered
  rw [if_neg (by rw [hlen]; exact fun hc => hc rfl)]
  simp only []
  rw [hz]

theorem zero_of_nomax (w h : Nat) (coeffs : List Int) (hlen : coeffs.length = w * h)
    (hz : findMaxBitplane (padBlock w h coeffs) = none) : coeffs = List.replicate (w * h) 0 := by
  obtain ⟨_, hall⟩ | ⟨m, _, e, _⟩ := findMaxBitplane_spec (padBlock w h coeffs)
  · obtain ⟨_, hget, _⟩ := padBlock_spec w h coeffs
    refine List.eq_replicate_iff.mpr ⟨hlen, fun b hb => ?_⟩
    rw [← rows_eq w h coeffs hlen] at hb
    simp only [List.mem_flatMap, List.mem_range, List.mem_map] at hb
    obtain ⟨y, hy, x, hx, rfl⟩ := hb
    rw [← hget x y hx hy]
    exact hall _
  · rw [e] at hz; cases hz

/-- what the tile decoder does for a code-block that is signalled with zero passes -/
theorem decodeBlock_nopass (w h orient style : Nat) (mb : Int) (bytes : List Nat) (hb : bytes.length ≠ 0) :
    decodeBlock w h orient style 0 mb bytes = .ok (List.replicate (w * h) 0) := by
  obtain ⟨d, ed, hd, hn, hsz, _⟩ := Mqc.decNew_spec bytes NUMCONTEXTS
  obtain ⟨d', ed', _⟩ := initCtxDec_ok d hd hn hsz
  rw [decodeBlock_eqG]
  unfold decodeBlockG
  rw [if_neg hb, ed]
  simp only []
  rw [ed']
  simp only []
  rw [decLoopG_exit _ _ _ _ _ _ _ _ _ _ _ (Or.inr (Nat.le_refl _))]
  simp only []
  rw [readback_zero w h _ Array.size_replicate (gi_replicate _)]

theorem has0 (m : Nat) : has 0 m = false := by unfold has; simp

theorem zc_zero : ∀ o < 4, tabN J2kT1.lutCtxnoZc (o * 512) = some 0 := by decide +kernel

theorem zcCtx0 (orient : Nat) : zcCtx 0 orient = some 0 := by
  unfold zcCtx bit
  simp only [has0, Bool.false_eq_true, if_false, Nat.mul_zero, Nat.add_zero]
  exact zc_zero _ (by split <;> omega)

def ZSt (w h : Nat) (st : DecSt) : Prop :=
  st.flags.size = (w + 2) * (h + 2) ∧ (∀ j, gf st.flags j = 0) ∧ Mqc.ZInv st.mq

theorem zsample (rc : Recon) (w h orient bp : Nat) (st : DecSt) (hz : ZSt w h st) (x y : Nat) (hx : x < w) (hy : y < h) :
    ∃ st', decCleanSampleG rc w orient bp st x y false = some (st', false) ∧ ZSt w h st' ∧ st'.data = st.data := by
  obtain ⟨hsz, hzero, hmq⟩ := hz
  have hi := idx_lt w h x y hx hy
  have hiF : idxOf w x y < st.flags.size := by rw [hsz]; exact hi
  have hf0 : st.flags[idxOf w x y]? = some 0 := by
    rw [Array.getElem?_eq_getElem hiF, ← gf_get _ _ hiF, hzero]
  obtain ⟨d', hd', hz'⟩ := Mqc.zdecode st.mq hmq 0 (Or.inl rfl)
  unfold decCleanSampleG
  simp only [Option.bind_eq_bind, hf0, Option.bind_some, has0, Bool.false_eq_true, or_self, if_false, zcCtx0, hd']
  refine ⟨_, rfl, ⟨by show (st.flags.setIfInBounds _ _).size = _; rw [Array.size_setIfInBounds]; exact hsz, ?_, hz'⟩, rfl⟩
  intro j
  show gf (st.flags.setIfInBounds (idxOf w x y) (clr 0 fVisit)) j = 0
  rw [gf_set _ _ _ _ hiF]
  split
  · rfl
  · exact hzero j

theorem zcleanup (rc : Recon) (w h orient bp : Nat) (st : DecSt) (hz : ZSt w h st) :
    ∃ st', decCleanupG rc w h orient bp st = some st' ∧ ZSt w h st' ∧ st'.data = st.data := by
  unfold decCleanupG
  apply foldlM_inv (fun (s : DecSt) => ZSt w h s ∧ s.data = st.data) (fun (p : Nat × Nat) => p.2 < w ∧ p.1 < h) _
    (columns w h) (fun p hp => columns_mem w h p.1 p.2 hp) ?_ st ⟨hz, rfl⟩
  intro s p hs hq
  obtain ⟨k, i⟩ := p
  obtain ⟨hzs, hds⟩ := hs
  simp only []
  by_cases hk : k + 3 < h
  · rw [if_pos hk]
    obtain ⟨can, ecan, hcan⟩ := rlScanDec_spec w h s.flags k i hzs.1 hq.1 hk
    have hct : can = true := by
      rw [hcan]
      intro dy _
      unfold RlGood visA sigA
      rw [hzs.2.1]
      exact ⟨has0 _, has0 _, has0 _⟩
    subst hct
    obtain ⟨d', hd', hz'⟩ := Mqc.zdecode s.mq hzs.2.2 17 (Or.inr rfl)
    simp only [Option.bind_eq_bind, ecan, Option.bind_some, if_true]
    have hd17 : Mqc.decode s.mq CTXRL = some (0, d') := hd'
    rw [hd17]
    simp only [Option.bind_some, if_true]
    exact ⟨_, rfl, ⟨hzs.1, hzs.2.1, hz'⟩, hds⟩
  · rw [if_neg hk]
    apply foldlM_inv (fun (s : DecSt) => ZSt w h s ∧ s.data = st.data) (fun dy => k + dy < h) _ _
      (fun dy hdy => by simpa using (List.mem_filter.mp hdy).2) ?_ s ⟨hzs, hds⟩
    intro s1 dy hs1 hdy
    obtain ⟨s2, he2, hz2, hd2⟩ := zsample rc w h orient bp s1 hs1.1 i (k + dy) hq.1 hdy
    exact ⟨s2, by simp only [Option.bind_eq_bind, he2, Option.bind_some], hz2, by rw [hd2]; exact hs1.2⟩

/-- the MQ decoder on FF 7F after `init` and the three `SetContextState` calls -/
def zdec : Mqc.Dec := Mqc.Dec.mk #[255, 127, 255, 255] 1 2 0x8000 0x7FFF0000 0 0 (ctx3 (Array.replicate 19 0))

theorem zdec_inv : Mqc.ZInv zdec :=
  ⟨⟨rfl, Or.inl rfl, by decide, by decide, by decide, by decide⟩, by decide, by decide, fun cx hcx => by
    rcases hcx with rfl | rfl
    · exact ⟨4, by decide, by unfold Mqc.Safe; decide⟩
    · exact ⟨3, by decide, by unfold Mqc.Safe; decide⟩⟩

theorem zst0 (w h : Nat) : ZSt w h (DecSt.mk (clearVisit (Array.replicate ((w + 2) * (h + 2)) 0)) (Array.replicate ((w + 2) * (h + 2)) 0) zdec) := by
  refine ⟨(clearVisit_size _).trans Array.size_replicate, ?_, zdec_inv⟩
  intro j
  rw [gf_clearVisit, gf_replicate]; rfl

/-- the all-zero block as the pipeline sends it: one cleanup pass over FF 7F (the flush of a fresh coder) -/
theorem decodeBlockG_zero (rc : Recon) (w h orient style mbd : Nat) (hS : stySegsym style = false) :
    decodeBlockG rc w h orient style 1 (mbd : Int) [255, 127] = .ok (List.replicate (w * h) 0) := by
  have hd0 : Mqc.Dec.new [255, 127] NUMCONTEXTS =
      some (Mqc.Dec.mk #[255, 127, 255, 255] 1 2 0x8000 0x7FFF0000 0 0 (Array.replicate 19 0)) := by rfl
  unfold decodeBlockG
  rw [if_neg (by decide), hd0]
  simp only []
  rw [initCtxDec_eq _ (by simp)]
  simp only []
  obtain ⟨st', he, hz', hd'⟩ := zcleanup rc w h orient mbd _ (zst0 w h)
  have hl : stepDL rc w h orient style mbd 0
      (DecSt.mk (Array.replicate ((w + 2) * (h + 2)) 0) (Array.replicate ((w + 2) * (h + 2)) 0) zdec) = some st' := by
    unfold stepDL passDV cvD segD
    rw [show planeOf mbd 0 = mbd by unfold planeOf; omega, show typeOf 0 = 2 from rfl, if_pos (Or.inr ⟨rfl, rfl⟩)]
    simp only [he, Option.bind_some, hS, Bool.false_eq_true, and_false, if_false]
  unfold zdec at hl
  rw [decLoopG_all rc w h orient style mbd 0 _ (by omega), List.range'_zero, List.foldlM_nil]
  simp only [Option.pure_def, Option.bind_some, hl]
  rw [readback_zero w h st'.data (by rw [hd']; exact Array.size_replicate) (by rw [hd']; exact gi_replicate _)]

theorem decodeBlock_zero (w h orient style mbd : Nat) (hS : stySegsym style = false) :
    decodeBlock w h orient style 1 (mbd : Int) [255, 127] = .ok (List.replicate (w * h) 0) := by
  rw [decodeBlock_eqG]; exact decodeBlockG_zero plainR w h orient style mbd hS

theorem decodeBlockOJ_zero (w h orient style mbd : Nat) (hS : stySegsym style = false) :
    decodeBlockOJ w h orient style 1 (mbd : Int) [255, 127] = .ok (List.replicate (w * h) 0) := by
  rw [decodeBlockOJ_eqG]; exact decodeBlockG_zero ojR w h orient style mbd hS

end T1
