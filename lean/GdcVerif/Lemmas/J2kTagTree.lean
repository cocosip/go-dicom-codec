import GdcVerif.Model.J2kTagTree
import GdcVerif.Lemmas.Radix
/-! Tag tree.  Encoder and decoder in lock step (`Inv`: the decoder holds a node's value once the encoder has signalled
    it, the sentinel before) through the two loops at one node, one node, a root→leaf path, a leaf query (`loops_sync`,
    `node_sync`, `path_sync`, `leaf_sync`), given that the encoder's values do not decrease from root to leaf; SetValue keeps
    that and the lock step (`GlobalHeap`, `setValue_globalHeap`, `setValue_inv`), and so does a pass of conditional SetValue
    over distinct leaves (`setLeaves_spec`).  All four let the decoder read under a threshold of its own, equal to the
    encoder's (`query_sync`) or with the value below both (`query_sync_thr`: the zero-bit-plane trees are written with 999
    and read with 32). -/
namespace J2kTT

def NodeInv (se : TTEnc) (sd : TTDec) (n : Node) : Prop :=
  se.low n ≤ se.val n ∧ (se.known n = true → se.low n = se.val n) ∧ se.val n ≤ sentinel ∧
  sd.low n = se.low n ∧ sd.val n = (if se.known n then se.val n else sentinel)

def Inv (se : TTEnc) (sd : TTDec) : Prop := ∀ n, NodeInv se sd n

theorem inv_init : Inv TTEnc.init TTDec.init := by
  intro n; unfold NodeInv TTEnc.init TTDec.init sentinel; simp

/-- what SetValue's minimum propagation gives along a root→leaf path -/
def HeapPath (val : Node → Nat) (path : List Node) : Prop := path.Pairwise fun a b => val a ≤ val b

theorem upd_same {β : Type} (f : Node → β) (n : Node) (b : β) : upd f n b n = b := by simp [upd]

theorem upd_other {β : Type} (f : Node → β) (n m : Node) (b : β) (h : m ≠ n) : upd f n b m = f m := by simp [upd, h]

theorem inv_upd (se : TTEnc) (sd : TTDec) (n : Node) (lo v : Nat) (k : Bool) (hinv : Inv se sd)
    (h1 : lo ≤ se.val n) (h2 : k = true → lo = se.val n) (hv : v = if k then se.val n else sentinel) :
    Inv { se with low := upd se.low n lo, known := upd se.known n k } { val := upd sd.val n v, low := upd sd.low n lo } := by
  intro m
  unfold NodeInv
  by_cases hm : m = n
  · subst hm
    simp only [upd_same]
    exact ⟨h1, h2, (hinv m).2.2.1, trivial, hv⟩
  · simp only [upd_other _ _ _ _ hm]
    exact hinv m

theorem encNode_val (s : TTEnc) (n : Node) (lowIn t : Nat) : (encNode s n lowIn t).1.val = s.val := rfl

theorem encodePath_val (t : Nat) : ∀ (path : List Node) (s : TTEnc) (lowIn : Nat), (s.encodePath t path lowIn).1.val = s.val := by
  intro path
  induction path with
  | nil => intro s lowIn; rfl
  | cons n tl ih => intro s lowIn; unfold TTEnc.encodePath; simp only []; rw [ih]; rfl

theorem encodeAll_val : ∀ (qs : List (List Node × Nat)) (s : TTEnc), (s.encodeAll qs).1.val = s.val
  | [], _ => rfl
  | (p, t) :: qs, s => by unfold TTEnc.encodeAll; simp only []; rw [encodeAll_val qs, encodePath_val]

theorem encode_val (s : TTEnc) (w h x y t : Nat) : (s.encode w h x y t).1.val = s.val := encodePath_val t _ s 0

/-- the two loops at one node, in the shape of `NodeInv`: the decoder goes in holding the value if it was signalled (then
    `low` stands at it) and the sentinel if not, and comes out the same way.  It runs on its own threshold `td` and fuel, and
    reads what the encoder wrote under `te` provided the loops cannot tell the thresholds apart: they are equal, or the value
    lies below both. -/
theorem loops_sync (v te td : Nat) (htd : td ≤ sentinel) (hthr : te = td ∨ (v < te ∧ v < td)) :
    ∀ k fe fd low (rest : List Bool), low ≤ v → (k = true → low = v) → te + 1 ≤ fe + low → td + 1 ≤ fd + low →
      let r := encLoop v te fe low k
      decLoop td (fd + 1) (if k then v else sentinel) low (r.1 ++ rest) =
        some ((if r.2.2 then v else sentinel), r.2.1, rest) ∧
      r.2.1 ≤ v ∧ (r.2.2 = true → r.2.1 = v) ∧ (r.2.2 = false → td ≤ v) := by
  intro k
  cases k with
  | true =>
    intro fe fd low rest _ hk _ _
    obtain rfl := hk rfl
    have he : encLoop low te fe low true = ([], low, true) := by cases fe <;> simp [encLoop]
    simp [he, decLoop]
  | false =>
    have stop : ∀ fe fd low (rest : List Bool), low ≤ v → ¬ low < te →
        let r := encLoop v te fe low false
        decLoop td (fd + 1) sentinel low (r.1 ++ rest) = some ((if r.2.2 then v else sentinel), r.2.1, rest) ∧
        r.2.1 ≤ v ∧ (r.2.2 = true → r.2.1 = v) ∧ (r.2.2 = false → td ≤ v) := by
      intro fe fd low rest hl hlt
      have he : encLoop v te fe low false = ([], low, false) := by
        cases fe <;> simp [encLoop, hlt]
      have hd : ¬ low < td := by omega
      simp only [he, decLoop, hd, false_and, if_false, List.nil_append, Bool.false_eq_true]
      exact ⟨trivial, hl, by simp, fun _ => by omega⟩
    intro fe
    induction fe with
    | zero => exact fun fd low rest hl _ hf _ => stop 0 fd low rest hl (by omega)
    | succ fe ih =>
      intro fd low rest hl _ hf hfd
      by_cases hlt : low < te
      · have hd : low < td ∧ low < sentinel := ⟨by omega, by omega⟩
        by_cases hge : low ≥ v
        · have hlv : low = v := by omega
          subst hlv
          simp only [encLoop, hlt, if_true, ge_iff_le, Nat.le_refl, Bool.not_false, decLoop, hd, and_self,
            List.cons_append, List.nil_append, Bool.false_eq_true, if_false]
          cases fd <;> simp [decLoop]
        · obtain ⟨fd, rfl⟩ : ∃ f, fd = f + 1 := ⟨fd - 1, by omega⟩
          simp only [encLoop, hlt, if_true, hge, if_false, decLoop, hd, and_self, List.cons_append,
            Bool.false_eq_true]
          exact ih fd (low + 1) rest (by omega) nofun (by omega) (by omega)
      · exact stop _ fd low rest hl hlt

/-- what the decoder knows about node `n` after a query with threshold `t` -/
structure Resolved (val : Node → Nat) (sd' : TTDec) (t : Nat) (n : Node) : Prop where
  below : val n < t → sd'.val n = val n
  cases : sd'.val n = val n ∨ (sd'.val n = sentinel ∧ t ≤ val n)

theorem Resolved.of_cases {val : Node → Nat} {sd' : TTDec} {t : Nat} {n : Node}
    (h : sd'.val n = val n ∨ (sd'.val n = sentinel ∧ t ≤ val n)) : Resolved val sd' t n :=
  ⟨fun hlt => h.elim id fun h2 => absurd h2.2 (by omega), h⟩

theorem node_sync (se : TTEnc) (sd : TTDec) (n : Node) (lowIn te td : Nat)
    (hinv : Inv se sd) (hin : lowIn ≤ se.val n) (htd : td ≤ sentinel)
    (hthr : te = td ∨ (se.val n < te ∧ se.val n < td)) :
    ∃ sd', (∀ rest, decNode sd n lowIn td ((encNode se n lowIn te).2.1 ++ rest) =
        some (sd', (encNode se n lowIn te).2.2, rest)) ∧
      Inv (encNode se n lowIn te).1 sd' ∧
      (encNode se n lowIn te).2.2 ≤ se.val n ∧
      Resolved se.val sd' td n := by
  obtain ⟨h1, h2, -, h4, h5⟩ := hinv n
  unfold encNode decNode
  simp only [h4, h5]
  generalize hl0 : (if lowIn > se.low n then lowIn else se.low n) = low0
  have hl0v : se.low n ≤ low0 ∧ low0 ≤ se.val n := by rw [← hl0]; split <;> constructor <;> omega
  have L := fun rest => loops_sync (se.val n) te td htd hthr (se.known n) (te + 1 - low0) (td + 1 - low0) low0 rest
    hl0v.2 (fun hk => by have := h2 hk; omega) (by omega) (by omega)
  -- only the decoder's equation depends on what follows the bits
  obtain ⟨-, a1, a2, a3⟩ := L []
  refine ⟨_, fun rest => by rw [(L rest).1], inv_upd se sd n _ _ _ hinv a1 a2 rfl, a1, Resolved.of_cases ?_⟩
  simp only [upd_same]
  cases hr : (encLoop (se.val n) te (te + 1 - low0) low0 (se.known n)).2.2 with
  | true => exact Or.inl rfl
  | false => exact Or.inr ⟨rfl, a3 hr⟩

/-- `HeapPath` and `lowIn ≤ val`: `low` is handed down the path and never passes a value -/
theorem path_sync (te td : Nat) (htd : td ≤ sentinel) :
    ∀ (path : List Node) (se : TTEnc) (sd : TTDec) (lowIn : Nat),
      Inv se sd → HeapPath se.val path → (∀ n ∈ path, lowIn ≤ se.val n) →
      (te = td ∨ ∀ n ∈ path, se.val n < te ∧ se.val n < td) →
      ∃ sd', (∀ rest, sd.decodePath td path lowIn ((se.encodePath te path lowIn).2 ++ rest) = some (sd', rest)) ∧
        Inv (se.encodePath te path lowIn).1 sd' ∧
        (∀ n, path.getLast? = some n → Resolved se.val sd' td n) := by
  intro path
  induction path with
  | nil =>
    intro se sd lowIn hinv _ _ _
    exact ⟨sd, by simp [TTDec.decodePath, TTEnc.encodePath], by simpa [TTEnc.encodePath] using hinv, by simp⟩
  | cons n tl ih =>
    intro se sd lowIn hinv hheap hlow hthr
    unfold TTEnc.encodePath TTDec.decodePath
    obtain ⟨sd1, hd, hinv1, hle, hres1⟩ :=
      node_sync se sd n lowIn te td hinv (hlow n (List.mem_cons_self ..)) htd (hthr.imp_right fun h => h n (List.mem_cons_self ..))
    simp only [List.append_assoc, hd]
    obtain ⟨hh1, hh2⟩ := List.pairwise_cons.mp hheap
    obtain ⟨sd2, hd2, hinv2, hlast⟩ := ih (encNode se n lowIn te).1 sd1 (encNode se n lowIn te).2.2 hinv1
      hh2 (fun m hm => Nat.le_trans hle (hh1 m hm)) (hthr.imp_right fun h m hm => h m (List.mem_cons_of_mem _ hm))
    refine ⟨sd2, hd2, hinv2, fun m hm => ?_⟩
    cases tl with
    | nil =>
      -- the path ends here: sd2 = sd1
      obtain rfl : n = m := by simpa using hm
      obtain ⟨rfl, _⟩ : sd1 = sd2 ∧ _ := by simpa [TTDec.decodePath] using hd2 []
      exact hres1
    | cons m' tl' => exact hlast m (by simpa using hm)

/-- what a correct answer to query `(path, t)` is: the leaf value if it is below the threshold (or already
    known), otherwise the sentinel together with the fact `t ≤ value` -/
def Answer (val : Node → Nat) (q : List Node × Nat) (r : Nat) : Prop :=
  ∀ n, q.1.getLast? = some n → (val n < q.2 → r = val n) ∧ (r = val n ∨ (r = sentinel ∧ q.2 ≤ val n))

def AnswersAll (val : Node → Nat) : List (List Node × Nat) → List Nat → Prop
  | [], [] => True
  | q :: qs, r :: rs => Answer val q r ∧ AnswersAll val qs rs
  | _, _ => False

theorem all_sync : ∀ (qs : List (List Node × Nat)) (se : TTEnc) (sd : TTDec) (rest : List Bool),
    Inv se sd → (∀ q ∈ qs, q.2 ≤ sentinel ∧ HeapPath se.val q.1) →
    ∃ sd' rs, sd.decodeAll qs ((se.encodeAll qs).2 ++ rest) = some (sd', rs, rest) ∧
      Inv (se.encodeAll qs).1 sd' ∧ AnswersAll se.val qs rs := by
  intro qs
  induction qs with
  | nil =>
    intro se sd rest hinv _
    exact ⟨sd, [], by simp [TTDec.decodeAll, TTEnc.encodeAll], by simpa [TTEnc.encodeAll] using hinv, trivial⟩
  | cons q qs ih =>
    intro se sd rest hinv hq
    obtain ⟨p, t⟩ := q
    have hq0 := hq (p, t) (by simp)
    unfold TTEnc.encodeAll TTDec.decodeAll
    simp only [List.append_assoc]
    have hval1 := encodePath_val t p se 0
    obtain ⟨sd1, hd1, hinv1, hres⟩ :=
      path_sync t t hq0.1 p se sd 0 hinv hq0.2 (fun n _ => Nat.zero_le _) (Or.inl rfl)
    rw [hd1]
    simp only []
    have hq' : ∀ q ∈ qs, q.2 ≤ sentinel ∧ HeapPath (se.encodePath t p 0).1.val q.1 := by
      intro q hqm; rw [hval1]; exact hq q (by simp [hqm])
    obtain ⟨sd2, rs, hd2, hinv2, hans⟩ := ih (se.encodePath t p 0).1 sd1 rest hinv1 hq'
    rw [hd2]
    refine ⟨sd2, _, rfl, hinv2, ?_⟩
    refine ⟨?_, by rw [hval1] at hans; exact hans⟩
    intro n hn
    simp only [] at hn
    rw [hn]
    exact ⟨(hres n hn).below, (hres n hn).cases⟩

def par (n : Node) : Node := (n.1 + 1, n.2.1 / 2, n.2.2 / 2)

def GlobalHeap (val : Node → Nat) (L : Nat) : Prop := ∀ c : Node, c.1 + 1 < L → val (par c) ≤ val c

theorem globalHeap_init (L : Nat) : GlobalHeap TTEnc.init.val L := by intro c _; exact Nat.le_refl _

theorem ttStack_level : ∀ (k lvl px py : Nat) (n : Node), n ∈ ttStack k lvl px py →
    lvl ≤ n.1 ∧ (n.1 = lvl → n = (lvl, px, py)) := by
  intro k
  induction k with
  | zero => intro lvl px py n h; simp [ttStack] at h
  | succ k ih =>
    intro lvl px py n h
    unfold ttStack at h
    rcases List.mem_cons.mp h with h | h
    · subst h; exact ⟨Nat.le_refl _, fun _ => rfl⟩
    · have := ih (lvl + 1) (px / 2) (py / 2) n h
      exact ⟨by omega, fun e => by omega⟩

theorem ttStack_nodup : ∀ (k lvl px py : Nat), (ttStack k lvl px py).Nodup
  | 0, _, _, _ => List.nodup_nil
  | k + 1, lvl, px, py => by
    rw [ttStack]
    refine List.nodup_cons.mpr ⟨fun h => ?_, ttStack_nodup k (lvl + 1) (px / 2) (py / 2)⟩
    have := (ttStack_level k (lvl + 1) (px / 2) (py / 2) _ h).1
    exact absurd this (Nat.not_succ_le_self lvl)

theorem par_mem_ttStack : ∀ (k lvl px py : Nat) (c : Node), c ∈ ttStack k lvl px py → c.1 + 1 < lvl + k →
    par c ∈ ttStack k lvl px py
  | 0, _, _, _, _, h, _ => by simp [ttStack] at h
  | k + 1, lvl, px, py, c, h, hl => by
    rw [ttStack] at h ⊢
    rcases List.mem_cons.mp h with rfl | h'
    · obtain ⟨k', rfl⟩ : ∃ k', k = k' + 1 := ⟨k - 1, by simp at hl; omega⟩
      rw [ttStack]
      exact List.mem_cons_of_mem _ (List.mem_cons_self ..)
    · exact List.mem_cons_of_mem _ (par_mem_ttStack k (lvl + 1) _ _ c h' (by omega))

theorem desc_stack (val : Node → Nat) (L : Nat) (hh : GlobalHeap val L) :
    ∀ (k level px py : Nat), level + k ≤ L → (ttStack k level px py).Pairwise (fun a b => val b ≤ val a) ∧
      ∀ a ∈ ttStack k level px py, val a ≤ val (level, px, py) := by
  intro k
  induction k with
  | zero => intro level px py _; exact ⟨List.Pairwise.nil, fun a ha => absurd ha (by simp [ttStack])⟩
  | succ k ih =>
    intro level px py hL
    obtain ⟨hp, hle⟩ := ih (level + 1) (px / 2) (py / 2) (by omega)
    have hedge : ∀ a ∈ ttStack k (level + 1) (px / 2) (py / 2), val a ≤ val (level, px, py) := by
      intro a ha
      cases k with
      | zero => simp [ttStack] at ha
      | succ k' => exact Nat.le_trans (hle a ha) (hh (level, px, py) (by simp; omega))
    rw [ttStack]
    refine ⟨List.pairwise_cons.mpr ⟨hedge, hp⟩, fun a ha => ?_⟩
    rcases List.mem_cons.mp ha with rfl | ha'
    · exact Nat.le_refl _
    · exact hedge a ha'

theorem heapPath_ttPath (val : Node → Nat) (w h x y : Nat) (hh : GlobalHeap val (ttNumLevels w h)) :
    HeapPath val (ttPath w h x y) :=
  List.pairwise_reverse.mpr (desc_stack val _ hh _ 0 x y (by omega)).1

theorem ttNumLevels_pos (w h : Nat) : 1 ≤ ttNumLevels w h := by
  unfold ttNumLevels
  cases hh : w + h with
  | zero => simp [ttLevels]
  | succ f => unfold ttLevels; split <;> simp

theorem ttPath_last (w h x y : Nat) : (ttPath w h x y).getLast? = some (0, x, y) := by
  unfold ttPath
  obtain ⟨k, hk⟩ : ∃ k, ttNumLevels w h = k + 1 := ⟨ttNumLevels w h - 1, by have := ttNumLevels_pos w h; omega⟩
  rw [hk, ttStack, List.getLast?_reverse]; rfl

/-- if the leaf's value lies below both thresholds, so does every value above it on the path (`GlobalHeap`) -/
theorem leaf_sync (w h x y te td : Nat) (htd : td ≤ sentinel) (se : TTEnc) (sd : TTDec)
    (hinv : Inv se sd) (hheap : GlobalHeap se.val (ttNumLevels w h))
    (hthr : te = td ∨ (se.val (0, x, y) < te ∧ se.val (0, x, y) < td)) :
    ∃ sd', (∀ rest, sd.decode w h x y td ((se.encode w h x y te).2 ++ rest) = some (sd', sd'.val (0, x, y), rest)) ∧
      Inv (se.encode w h x y te).1 sd' ∧ Resolved se.val sd' td (0, x, y) := by
  have hle : ∀ n ∈ ttPath w h x y, se.val n ≤ se.val (0, x, y) := fun n hn =>
    (desc_stack se.val _ hheap _ 0 x y (by omega)).2 n (List.mem_reverse.mp hn)
  obtain ⟨sd', hd, hinv', hres⟩ :=
    path_sync te td htd (ttPath w h x y) se sd 0 hinv (heapPath_ttPath se.val w h x y hheap) (fun n _ => Nat.zero_le _)
      (hthr.imp_right fun hv n hn => have := hle n hn; ⟨by omega, by omega⟩)
  refine ⟨sd', fun rest => ?_, hinv', hres (0, x, y) (ttPath_last w h x y)⟩
  unfold TTDec.decode TTEnc.encode
  rw [hd]

theorem query_sync (w h x y t : Nat) (ht : t ≤ sentinel) (se : TTEnc) (sd : TTDec)
    (hinv : Inv se sd) (hheap : GlobalHeap se.val (ttNumLevels w h)) :
    ∃ sd', (∀ rest, sd.decode w h x y t ((se.encode w h x y t).2 ++ rest) = some (sd', sd'.val (0, x, y), rest)) ∧
      Inv (se.encode w h x y t).1 sd' ∧ Resolved se.val sd' t (0, x, y) :=
  leaf_sync w h x y t t ht se sd hinv hheap (Or.inl rfl)

theorem query_sync_thr (w h x y te td : Nat) (htd : td ≤ sentinel) (se : TTEnc) (sd : TTDec)
    (hinv : Inv se sd) (hheap : GlobalHeap se.val (ttNumLevels w h))
    (hv1 : se.val (0, x, y) < te) (hv2 : se.val (0, x, y) < td) :
    ∃ sd', (∀ rest, sd.decode w h x y td ((se.encode w h x y te).2 ++ rest) = some (sd', se.val (0, x, y), rest)) ∧
      Inv (se.encode w h x y te).1 sd' := by
  obtain ⟨sd', hd, hinv', hr⟩ := leaf_sync w h x y te td htd se sd hinv hheap (Or.inr ⟨hv1, hv2⟩)
  exact ⟨sd', fun rest => by rw [hd, hr.below hv2], hinv'⟩

theorem encLoop_low_le (v t : Nat) : ∀ fuel low k, (encLoop v t fuel low k).2.1 ≤ max low t := by
  intro fuel
  induction fuel with
  | zero => intro low k; simp [encLoop]; omega
  | succ f ih =>
    intro low k
    unfold encLoop
    by_cases h1 : low < t
    · by_cases h2 : low ≥ v
      · cases k <;> simp [h1, h2] <;> omega
      · have := ih (low + 1) k
        simp only [h1, if_true, h2, if_false]
        omega
    · simp [h1]; omega

theorem encodePath_low_bound (t B : Nat) (ht : t ≤ B) : ∀ (path : List Node) (s : TTEnc) (lowIn : Nat),
    (∀ n, s.low n ≤ B) → lowIn ≤ B → ∀ n, (s.encodePath t path lowIn).1.low n ≤ B := by
  intro path
  induction path with
  | nil => intro s lowIn h _ n; exact h n
  | cons a tl ih =>
    intro s lowIn h hl
    unfold TTEnc.encodePath encNode
    simp only []
    generalize hl0 : (if lowIn > s.low a then lowIn else s.low a) = low0
    have h0 : low0 ≤ B := by have := h a; rw [← hl0]; split <;> omega
    have hb := encLoop_low_le (s.val a) t (t + 1 - low0) low0 (s.known a)
    refine ih _ _ (fun m => ?_) (by omega)
    show upd s.low a _ m ≤ B
    unfold upd
    split
    · omega
    · exact h m

theorem inv_lower (se : TTEnc) (sd : TTDec) (val' : Node → Nat) (hinv : Inv se sd)
    (h : ∀ n, val' n = se.val n ∨ (se.known n = false ∧ se.low n ≤ val' n ∧ val' n ≤ sentinel)) :
    Inv { se with val := val' } sd := by
  intro n
  obtain ⟨h1, h2, h3, h4, h5⟩ := hinv n
  unfold NodeInv
  simp only []
  rcases h n with e | ⟨hk, hl, hs⟩
  · rw [e]; exact ⟨h1, h2, h3, h4, h5⟩
  · refine ⟨hl, fun hkt => by rw [hk] at hkt; exact absurd hkt (by decide), hs, h4, ?_⟩
    rw [h5, hk]; simp

/-- the early exit of SetValue's loop loses nothing: beyond it the values are already ≤ `v` -/
theorem setValueStack_min (v : Nat) : ∀ (st : List Node) (val : Node → Nat), st.Nodup →
    st.Pairwise (fun a b => val b ≤ val a) → ∀ n, setValueStack val v st n = if n ∈ st then min (val n) v else val n := by
  intro st
  induction st with
  | nil => intro val _ _ n; simp [setValueStack]
  | cons a tl ih =>
    intro val hnd hp n
    obtain ⟨hat, hnd'⟩ := List.nodup_cons.mp hnd
    obtain ⟨hle, hp'⟩ := List.pairwise_cons.mp hp
    unfold setValueStack
    by_cases hgt : val a > v
    · have hne : ∀ b ∈ tl, b ≠ a := fun b hb e => hat (e ▸ hb)
      rw [if_pos hgt, ih (upd val a v) hnd' (hp'.imp_of_mem fun {b c} hb hc h => by
        rw [upd_other _ _ _ _ (hne b hb), upd_other _ _ _ _ (hne c hc)]; exact h) n]
      by_cases hna : n = a
      · subst hna; simp only [hat, if_false, upd_same, List.mem_cons_self, if_true]; omega
      · simp only [upd_other _ _ _ _ hna, List.mem_cons, hna, false_or]
    · rw [if_neg hgt]
      split
      · next hm =>
        rcases List.mem_cons.mp hm with rfl | hm'
        · omega
        · have := hle n hm'; omega
      · rfl

theorem lowered_fold (v : Nat) : ∀ (st : List Node) (val : Node → Nat),
    (loweredNodes val v st).foldl (fun f n => upd f n v) val = setValueStack val v st := by
  intro st
  induction st with
  | nil => intro val; rfl
  | cons a tl ih =>
    intro val
    unfold loweredNodes setValueStack
    by_cases hgt : val a > v
    · simp only [hgt, if_true, List.foldl_cons]; exact ih _
    · simp only [hgt, if_false, List.foldl_nil]

theorem setValue_val_eq (s : TTEnc) (w h x y v : Nat) :
    (s.setValue w h x y v).val = setValueStack s.val v (ttStack (ttNumLevels w h) 0 x y) := by
  unfold TTEnc.setValue; exact lowered_fold v _ _

theorem setValue_val (s : TTEnc) (w h x y v : Nat) (hh : GlobalHeap s.val (ttNumLevels w h)) (n : Node) :
    (s.setValue w h x y v).val n = if n ∈ ttStack (ttNumLevels w h) 0 x y then min (s.val n) v else s.val n := by
  rw [setValue_val_eq]
  exact setValueStack_min v _ s.val (ttStack_nodup ..) (desc_stack s.val _ hh _ 0 x y (by omega)).1 n

theorem setValue_globalHeap (s : TTEnc) (w h x y v : Nat) (hh : GlobalHeap s.val (ttNumLevels w h)) :
    GlobalHeap (s.setValue w h x y v).val (ttNumLevels w h) := by
  intro c hc
  have := hh c hc
  rw [setValue_val s w h x y v hh, setValue_val s w h x y v hh]
  by_cases hm : c ∈ ttStack (ttNumLevels w h) 0 x y
  · rw [if_pos (par_mem_ttStack _ 0 x y c hm (by omega)), if_pos hm]; omega
  · rw [if_neg hm]; split <;> omega

/-- `hlow` for inclusion: `low` never passes a threshold, and every earlier threshold, an earlier layer + 1, is ≤ the
    current layer -/
theorem setValue_inv (se : TTEnc) (sd : TTDec) (w h x y v : Nat) (hinv : Inv se sd)
    (hheap : GlobalHeap se.val (ttNumLevels w h)) (hlow : ∀ n, se.low n ≤ v) (hv : v ≤ sentinel) :
    Inv (se.setValue w h x y v) sd := by
  refine inv_lower se sd (se.setValue w h x y v).val hinv fun n => ?_
  rw [setValue_val se w h x y v hheap]
  by_cases hc : n ∈ ttStack (ttNumLevels w h) 0 x y ∧ v < se.val n
  · right
    rw [if_pos hc.1, Nat.min_eq_right (Nat.le_of_lt hc.2)]
    refine ⟨?_, hlow n, hv⟩
    obtain ⟨_, a2, _, _, _⟩ := hinv n
    cases hk : se.known n with
    | false => rfl
    | true => have := a2 hk; have := hlow n; omega
  · left
    split
    · next hm => exact Nat.min_eq_left (Nat.le_of_not_lt fun hlt => hc ⟨hm, hlt⟩)
    · rfl

theorem setValue_leaf (s : TTEnc) (w h x y v : Nat) (hheap : GlobalHeap s.val (ttNumLevels w h)) :
    (s.setValue w h x y v).val (0, x, y) = min (s.val (0, x, y)) v ∧
    ∀ x' y', (x', y') ≠ (x, y) → (s.setValue w h x y v).val (0, x', y') = s.val (0, x', y') := by
  refine ⟨?_, fun x' y' hne => ?_⟩
  · obtain ⟨k, hk⟩ : ∃ k, ttNumLevels w h = k + 1 := ⟨ttNumLevels w h - 1, by have := ttNumLevels_pos w h; omega⟩
    rw [setValue_val s w h x y v hheap, if_pos (by rw [hk, ttStack]; exact List.mem_cons_self ..)]
  · rw [setValue_val s w h x y v hheap, if_neg fun hm => ?_]
    have := (ttStack_level _ 0 x y (0, x', y') hm).2 rfl
    simp at this; exact hne (by simp [this.1, this.2])

theorem setValue_if (b : Bool) (se s' : TTEnc) (sd : TTDec) (w h x y v : Nat)
    (hs : (if b then se.setValue w h x y v else se) = s') (hinv : Inv se sd)
    (hheap : GlobalHeap se.val (ttNumLevels w h)) (hlow : b = true → ∀ n, se.low n ≤ v) (hv : v ≤ sentinel) :
    Inv s' sd ∧ GlobalHeap s'.val (ttNumLevels w h) ∧ s'.low = se.low ∧
    s'.val (0, x, y) = (if b then min (se.val (0, x, y)) v else se.val (0, x, y)) ∧
    ∀ x' y', (x', y') ≠ (x, y) → s'.val (0, x', y') = se.val (0, x', y') := by
  subst hs
  cases b with
  | false => exact ⟨hinv, hheap, rfl, rfl, fun _ _ _ => rfl⟩
  | true =>
    exact ⟨setValue_inv se sd w h x y v hinv hheap (hlow rfl) hv,
      setValue_globalHeap se w h x y v hheap,
      rfl, (setValue_leaf se w h x y v hheap).1, (setValue_leaf se w h x y v hheap).2⟩

/-- SetValue of `v a` at the leaf `(x a, y a)` for those `a` of a list that `b` selects: what `J2kPH.prepare` does to either
    of its two trees (`J2kPH.prepare_eq`) -/
def setLeaves {α : Type} (w h : Nat) (b : α → Bool) (x y v : α → Nat) (l : List α) (s : TTEnc) : TTEnc :=
  l.foldl (fun s a => if b a then s.setValue w h (x a) (y a) (v a) else s) s

/-- `Nodup`: no leaf is named twice, so a selected leaf ends as ONE minimum and the others as they were -/
theorem setLeaves_spec {α : Type} (w h : Nat) (b : α → Bool) (x y v : α → Nat) (sd : TTDec) :
    ∀ (l : List α) (s s' : TTEnc), setLeaves w h b x y v l s = s' → (l.map fun a => (x a, y a)).Nodup →
      Inv s sd → GlobalHeap s.val (ttNumLevels w h) →
      (∀ a ∈ l, b a = true → ∀ n, s.low n ≤ v a) → (∀ a ∈ l, v a ≤ sentinel) →
      Inv s' sd ∧ GlobalHeap s'.val (ttNumLevels w h) ∧ s'.low = s.low ∧
      (∀ a ∈ l, s'.val (0, x a, y a) = if b a then min (s.val (0, x a, y a)) (v a) else s.val (0, x a, y a)) ∧
      ∀ x' y', (x', y') ∉ l.map (fun a => (x a, y a)) → s'.val (0, x', y') = s.val (0, x', y') := by
  intro l
  induction l with
  | nil => exact fun s _ hs _ hi hh _ _ => hs ▸ ⟨hi, hh, rfl, fun _ ha => absurd ha (by simp), fun _ _ _ => rfl⟩
  | cons a l ih =>
    intro s s' hs hnd hi hh hlow hv
    obtain ⟨hna, hnd'⟩ := List.nodup_cons.mp (List.map_cons ▸ hnd)
    obtain ⟨i1, i2, i3, i4, i5⟩ :=
      setValue_if (b a) s _ sd w h (x a) (y a) (v a) rfl hi hh (hlow a (by simp)) (hv a (by simp))
    obtain ⟨r1, r2, r3, r4, r5⟩ := ih _ s' hs hnd' i1 i2 (fun a' ha' hb => i3 ▸ hlow a' (by simp [ha']) hb)
      (fun a' ha' => hv a' (by simp [ha']))
    refine ⟨r1, r2, r3.trans i3, fun a' ha' => ?_, fun x' y' hq => ?_⟩
    · rcases List.mem_cons.mp ha' with rfl | hl
      · exact (r5 _ _ hna).trans i4
      · rw [r4 a' hl, i5 _ _ fun heq => hna (heq ▸ List.mem_map.mpr ⟨a', hl, rfl⟩)]
    · rw [List.map_cons, List.mem_cons, not_or] at hq
      exact (r5 x' y' hq.2).trans (i5 x' y' hq.1)

theorem setValue_low_known (s : TTEnc) (w h x y v : Nat) :
    (s.setValue w h x y v).low = s.low ∧ (s.setValue w h x y v).known = s.known := ⟨rfl, rfl⟩

theorem flatten_inj (lw : Nat) (a b : Node) (ha : a.2.1 < lw) (hb : b.2.1 < lw) (hl : a.1 = b.1)
    (h : flatten lw a = flatten lw b) : a = b := by
  obtain ⟨e2, e1⟩ := Radix.inj ha hb h
  exact Prod.ext hl (Prod.ext e1 e2)

theorem flatten_in_range (lw lh : Nat) (n : Node) (hx : n.2.1 < lw) (hy : n.2.2 < lh) : flatten lw n < lw * lh :=
  Nat.mul_comm lw lh ▸ Radix.lt hy hx

end J2kTT
