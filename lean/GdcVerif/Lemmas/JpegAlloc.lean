import GdcVerif.Lemmas.ParsersTotal
/-!
  C09: allocation bounds of the JPEG-family header walks.  The loop invariants say that the unread
  bytes fit the input length (`Fits`) and that every allocation so far is small (`AllBnd N 0`) or within
  the frame (`AllBnd N B`); per decoder the invariant, that it holds behind SOI (`.init`), and one turn
  theorem `(step st bs).Post Good Final`.
-/
namespace JM
open PC

def IsBytes (bs : Bytes) : Prop := ∀ b ∈ bs, b < 256

theorem isBytes_drop {bs : Bytes} (h : IsBytes bs) (k : Nat) : IsBytes (bs.drop k) :=
  fun b hb => h b (List.mem_of_mem_drop hb)

theorem readSegmentAlloc_le {bs : Bytes} (hb : IsBytes bs) : readSegmentAlloc bs ≤ 65533 := by
  match bs with
  | [] => simp [readSegmentAlloc]
  | [_] => simp [readSegmentAlloc]
  | hi :: lo :: r =>
    have h1 := hb hi (by simp)
    have h2 := hb lo (by simp)
    unfold readSegmentAlloc
    simp only
    split <;> omega

def Fits (N : Nat) (bs : Bytes) : Prop := IsBytes bs ∧ bs.length ≤ N

theorem Fits.drop {N : Nat} {bs : Bytes} (hf : Fits N bs) (k : Nat) : Fits N (bs.drop k) :=
  ⟨isBytes_drop hf.1 k, by rw [List.length_drop]; exact Nat.le_trans (Nat.sub_le _ _) hf.2⟩

theorem Fits.readMarker {N m : Nat} {bs rest : Bytes} (hf : Fits N bs) (h : readMarker bs = some (m, rest)) :
    Fits N rest := by
  obtain ⟨k, _, _, rfl⟩ := readMarker_drop h
  exact hf.drop k

theorem Fits.init {m : Nat} {bs rest : Bytes} (hb : IsBytes bs) (hm : JM.readMarker bs = some (m, rest)) :
    Fits bs.length rest :=
  Fits.readMarker ⟨hb, Nat.le_refl _⟩ hm

theorem Fits.readSegment {N : Nat} {bs pl r : Bytes} (hf : Fits N bs) (h : readSegment bs = some (pl, r)) :
    Fits N r ∧ pl.length ≤ N := by
  obtain ⟨k, _, hk, rfl, hp⟩ := readSegment_drop h
  exact ⟨hf.drop k, by have := hf.2; omega⟩

theorem Fits.segTurn {σ : Type} {N : Nat} {M : σ → Bytes → Prop} {D : σ → Res → Prop} {st : σ} {rest : Bytes}
    {fail : σ → Nat → σ} {h : Bytes → Nat → H σ} (hf : Fits N rest) (hfail : D (fail st (readSegmentAlloc rest)) .err)
    (hh : ∀ pl r, Fits N r → pl.length ≤ N → (h pl r.length).Post (M · r) D) : (segTurn st rest fail h).Post M D :=
  segTurn_post hfail fun pl r hr => And.elim (hh pl r) (hf.readSegment hr)

/-- an allocation is at most the input length `N`, or 65533 — the most a failing ReadSegment may have
    allocated, which also covers the constant-size tables (component table ≤ 24 bytes, `ctxAlloc`) —, or the
    frame-dependent bound `B` -/
def Bnd (N B a : Nat) : Prop := a ≤ N ∨ a ≤ 65533 ∨ a ≤ B

def AllBnd (N B : Nat) (l : List Nat) : Prop := ∀ a ∈ l, Bnd N B a

theorem AllBnd.nil {N B : Nat} : AllBnd N B [] := fun _ h => nomatch h

theorem AllBnd.append {N B : Nat} {l xs : List Nat} (hl : AllBnd N B l) (hx : AllBnd N B xs) : AllBnd N B (l ++ xs) :=
  List.forall_mem_append.mpr ⟨hl, hx⟩

theorem AllBnd.cons {N B a : Nat} {l : List Nat} (ha : a ≤ N) (hl : AllBnd N B l) : AllBnd N B (a :: l) :=
  List.forall_mem_cons.mpr ⟨.inl ha, hl⟩

theorem AllBnd.frame {N B a : Nat} {l : List Nat} (ha : a ≤ B) (hl : AllBnd N B l) : AllBnd N B (a :: l) :=
  List.forall_mem_cons.mpr ⟨.inr (.inr ha), hl⟩

theorem AllBnd.of_zero {N B : Nat} {l : List Nat} (hl : AllBnd N 0 l) : AllBnd N B l :=
  fun a ha => (hl a ha).imp_right fun h => h.imp_right fun h => Nat.le_trans h (Nat.zero_le B)

theorem AllBnd.of_small {N B : Nat} {l : List Nat} (h : ∀ a ∈ l, a ≤ 24 ∨ a ≤ B) : AllBnd N B l :=
  fun a ha => (h a ha).elim (fun h => Or.inr (Or.inl (by omega))) fun h => Or.inr (Or.inr h)

theorem Fits.alloc {N B : Nat} {bs : Bytes} (hf : Fits N bs) : AllBnd N B [readSegmentAlloc bs] :=
  List.forall_mem_singleton.mpr (.inr (.inl (readSegmentAlloc_le hf.1)))

theorem outBytes_le (w h c p : Nat) (hc : c ≤ 3) (hp : p ≤ 16) : w * h * c * ((p + 7) / 8) ≤ 8 * (w * h) := by
  have h16 : (p + 7) / 8 ≤ 2 := by omega
  calc w * h * c * ((p + 7) / 8) ≤ w * h * 3 * 2 := Nat.mul_le_mul (Nat.mul_le_mul_left _ hc) h16
    _ ≤ 8 * (w * h) := by omega

/-- before a frame header is accepted only payload-sized buffers exist; afterwards the planes of that
    one header are there as well -/
def FrameGood (N B : Nat) (noFrame : Prop) (allocs : List Nat) : Prop :=
  (noFrame → AllBnd N 0 allocs) ∧ AllBnd N B allocs

theorem FrameGood.keep {N B : Nat} {p : Prop} {al xs : List Nat} (hg : FrameGood N B p al) (hxs : ∀ {B}, AllBnd N B xs) :
    FrameGood N B p (al ++ xs) :=
  ⟨fun he => (hg.1 he).append hxs, hg.2.append hxs⟩

section lossless14sv1

def Sv1Good (N : Nat) (st : Sv1) (bs : Bytes) : Prop :=
  Fits N bs ∧ st.comps.length ≤ 3 ∧ st.precision ≤ 16 ∧
  FrameGood N (8 * (st.width * st.height)) (st.comps.length = 0) st.allocs

theorem Sv1Good.init {bs rest : Bytes} {m : Nat} (hb : IsBytes bs) (hm : readMarker bs = some (m, rest)) :
    Sv1Good bs.length {} rest :=
  ⟨.init hb hm, by decide, by decide, fun _ => .nil, .nil⟩

def Sv1Final (N : Nat) (p : Sv1 × Res) : Prop :=
  AllBnd N (8 * (p.1.width * p.1.height)) p.1.allocs

theorem sv1Step_allocs {N : Nat} {st : Sv1} {bs : Bytes} (hg : Sv1Good N st bs) :
    (sv1Step st bs).Post (Sv1Good N) fun st' o => Sv1Final N (st', o) := by
  have ⟨hf, hc, hp, h0, ha⟩ := hg
  have hfg : FrameGood N (8 * (st.width * st.height)) (st.comps.length = 0) st.allocs := ⟨h0, ha⟩
  unfold sv1Step
  refine markerTurn_post ha fun m rest hm => ?_
  have hfr := hf.readMarker hm
  have hfail : AllBnd N (8 * (st.width * st.height)) (st.allocs ++ [readSegmentAlloc rest]) :=
    ha.append hfr.alloc
  refine .ite (fun _ => ?_) fun _ => .ite (fun _ => ?_) fun _ => .ite (fun _ => ?_) fun _ =>
    .ite (fun _ => ?_) fun _ => .ite (fun _ => ?_) fun _ => ⟨hfr, hc, hp, h0, ha⟩
  · refine hfr.segTurn hfail fun pl r hr' hpl => ?_
    rcases sv1SOF3_spec st pl with h | ⟨hcs, hal, htrue⟩
    · rw [h]
      exact (ha.append (.cons hpl .nil)).append .nil
    · have hall := (((h0 hcs).of_zero).append (.cons hpl .nil)).append (.of_small hal)
      split
      · rename_i hs
        rw [hs] at hall
        exact hall
      · rename_i st2 al hs
        rw [hs] at hall htrue
        obtain ⟨h1, h3, hp2, _⟩ : 1 ≤ st2.comps.length ∧ st2.comps.length ≤ 3 ∧ st2.precision ≤ 16 ∧ _ := htrue rfl
        exact ⟨hr', h3, hp2, fun he => absurd he (Nat.ne_of_gt h1), hall⟩
  · refine hfr.segTurn hfail fun pl r hr' hpl => ?_
    split
    · exact ⟨hr', hc, hp, hfg.keep (.cons hpl (.cons hpl .nil))⟩
    · exact ha.append (.cons hpl (.cons hpl .nil))
  · refine hfr.segTurn hfail fun pl r hr' hpl => ?_
    split
    · exact ha.append (.cons hpl .nil)
    · rename_i st2 hs
      obtain ⟨cs, rfl, e4, _⟩ := sv1SOS_some hs
      have hbase : AllBnd N (8 * (st.width * st.height)) (st.allocs ++ [pl.length, r.length]) :=
        ha.append (.cons hpl (.cons hr'.2 .nil))
      split
      · exact hbase.append (.frame (outBytes_le _ _ _ _ (e4 ▸ hc) hp) .nil)
      · exact hbase
  · exact ha.append (.frame (outBytes_le _ _ _ _ hc hp) .nil)
  · refine hfr.segTurn hfail fun pl r hr' hpl => ?_
    exact ⟨hr', hc, hp, hfg.keep (.cons hpl .nil)⟩

end lossless14sv1

section lossless

/-- `JllInv` for its `comps ≤ 3` (the output buffer), and because `jllSOS_spec` is stated under it -/
def JllGood (N : Nat) (st : Jll) (bs : Bytes) : Prop :=
  Fits N bs ∧ JllInv st ∧ st.precision ≤ 16 ∧ AllBnd N 0 st.allocs

theorem JllGood.init {bs rest : Bytes} {m : Nat} (hb : IsBytes bs) (hm : readMarker bs = some (m, rest)) :
    JllGood bs.length {} rest :=
  ⟨.init hb hm, .init, by decide, .nil⟩

def JllFinal (N : Nat) (p : Jll × Res) : Prop :=
  AllBnd N (8 * (p.1.width * p.1.height)) p.1.allocs

theorem jllStep_allocs {N : Nat} {st : Jll} {bs : Bytes} (hg : JllGood N st bs) :
    (jllStep st bs).Post (JllGood N) fun st' o => JllFinal N (st', o) := by
  obtain ⟨hf, hi, hp, ha⟩ := hg
  unfold jllStep
  refine markerTurn_post (ha.of_zero) fun m rest hm => ?_
  have hfr := hf.readMarker hm
  have hfail : AllBnd N (8 * (st.width * st.height)) (st.allocs ++ [readSegmentAlloc rest]) :=
    (ha.of_zero).append hfr.alloc
  refine .ite (fun _ => ?_) fun _ => .ite (fun _ => ?_) fun _ => .ite (fun _ => ?_) fun _ =>
    .ite (fun _ => ha.of_zero) fun _ => .ite (fun _ => ?_) fun _ => ⟨hfr, hi, hp, ha⟩
  · refine hfr.segTurn hfail fun pl r hr' hpl => ?_
    have ha' : AllBnd N 0 (st.allocs ++ [pl.length]) := ha.append (.cons hpl .nil)
    split
    · exact ha'.of_zero
    · rename_i st2 hs
      exact ⟨hr', (jllSOF3_inv hi hs : JllInv st2), (jllSOF3_some hs).2.1, ha'⟩
  · refine hfr.segTurn hfail fun pl r hr' hpl => ?_
    have ha' : AllBnd N 0 (st.allocs ++ [pl.length, pl.length]) := ha.append (.cons hpl (.cons hpl .nil))
    split
    · exact ⟨hr', hi, hp, ha'⟩
    · exact ha'.of_zero
  · refine hfr.segTurn hfail fun pl r hr' hpl => ?_
    split
    · exact (ha.append (.cons hpl .nil)).of_zero
    · rename_i st2 hs
      obtain ⟨s, rfl, _⟩ := (jllSOS_spec hi).of_ok hs
      have hbase : AllBnd N (8 * (st.width * st.height)) (st.allocs ++ [pl.length, r.length] ++
          List.replicate st.comps (8 * (st.width * st.height))) :=
        ((ha.of_zero).append (.cons hpl (.cons hr'.2 .nil))).append
          fun a h => Or.inr (Or.inr (Nat.le_of_eq (List.eq_of_mem_replicate h)))
      split
      · exact hbase.append (.frame (outBytes_le _ _ _ _ hi.1 hp) .nil)
      · exact hbase
  · refine hfr.segTurn hfail fun pl r hr' hpl => ?_
    exact ⟨hr', hi, hp, ha.append (.cons hpl .nil)⟩

end lossless

section baseline

def BlGood (N : Nat) (st : Bl) (bs : Bytes) : Prop :=
  Fits N bs ∧ FrameGood N (64 * (st.width * st.height)) (st.comps.length = 0) st.allocs

theorem BlGood.init {bs rest : Bytes} {m : Nat} (hb : IsBytes bs) (hm : readMarker bs = some (m, rest)) :
    BlGood bs.length {} rest :=
  ⟨.init hb hm, fun _ => .nil, .nil⟩

def BlFinal (N : Nat) (p : Bl × Res) : Prop :=
  AllBnd N (64 * (p.1.width * p.1.height)) p.1.allocs

theorem blStep_allocs {N : Nat} {st : Bl} {bs : Bytes} (hg : BlGood N st bs) :
    (blStep st bs).Post (BlGood N) fun st' o => BlFinal N (st', o) := by
  have ⟨hf, h0, ha⟩ := hg
  have hfg : FrameGood N (64 * (st.width * st.height)) (st.comps.length = 0) st.allocs := ⟨h0, ha⟩
  unfold blStep
  refine markerTurn_post ha fun m rest hm => ?_
  have hfr := hf.readMarker hm
  have hfail : AllBnd N (64 * (st.width * st.height)) (st.allocs ++ [readSegmentAlloc rest]) :=
    ha.append hfr.alloc
  refine .ite (fun _ => ?_) fun _ => .ite (fun _ => ?_) fun _ => .ite (fun _ => ?_) fun _ =>
    .ite (fun _ => ?_) fun _ => .ite (fun _ => ?_) fun _ => .ite (fun _ => ha) fun _ =>
    .ite (fun _ => ?_) fun _ => ⟨hfr, h0, ha⟩
  · refine hfr.segTurn hfail fun pl r hr' hpl => ?_
    split
    · rename_i st2 al hs
      obtain ⟨hcs, hne, _, hal⟩ := (blSOF_spec st pl).of_ok hs
      exact ⟨hr', fun he => absurd he hne,
        (((h0 hcs).of_zero).append (.cons hpl .nil)).append (.of_small hal)⟩
    · exact ha.append (.cons hpl .nil)
  · refine hfr.segTurn hfail fun pl r hr' hpl => ?_
    split
    · exact ⟨hr', hfg.keep (.cons hpl .nil)⟩
    · exact ha.append (.cons hpl .nil)
  · refine hfr.segTurn hfail fun pl r hr' hpl => ?_
    split
    · exact ⟨hr', hfg.keep (.cons hpl (.cons hpl .nil))⟩
    · exact ha.append (.cons hpl (.cons hpl .nil))
  · refine hfr.segTurn hfail fun pl r hr' hpl => ?_
    split
    · exact ha.append (.cons hpl .nil)
    · exact ⟨hr', hfg.keep (.cons hpl .nil)⟩
  · refine hfr.segTurn hfail fun pl r hr' hpl => ?_
    split
    · exact ha.append (.cons hpl .nil)
    · rename_i st2 hs
      obtain ⟨cs, rfl, _⟩ := blSOS_some hs
      exact ha.append (.cons hpl (.cons hr'.2 .nil))
  · refine hfr.segTurn hfail fun pl r hr' hpl => ?_
    exact ⟨hr', hfg.keep (.cons hpl .nil)⟩

end baseline

end JM

namespace JlsH
open PC JM

def Good (N : Nat) (st : St) (bs : Bytes) : Prop := Fits N bs ∧ AllBnd N 0 st.allocs

theorem Good.init {bs rest : Bytes} {m : Nat} (hb : IsBytes bs) (hm : readMarker bs = some (m, rest)) :
    Good bs.length {} rest :=
  ⟨.init hb hm, .nil⟩

def Final (N : Nat) (p : St × Res) : Prop :=
  AllBnd N (8 * (p.1.width * p.1.height * p.1.comps)) p.1.allocs

theorem ctxAlloc_bnd {N B : Nat} : AllBnd N B [ctxAlloc] :=
  List.forall_mem_singleton.mpr (.inr (.inl (by decide)))

theorem scanAllocs_bnd {N u : Nat} (st : St) (hu : u ≤ N) :
    AllBnd N (8 * (st.width * st.height * st.comps)) (scanAllocs st u) :=
  .cons hu (.frame (Nat.le_refl _) .nil)

section jpegls_lossless

theorem sof55_allocs {N : Nat} {st : St} {data : Bytes} (ha : AllBnd N 0 st.allocs) :
    (sof55 st data).Post (fun st' => AllBnd N 0 st'.allocs) fun st' _ => AllBnd N 0 st'.allocs := by
  unfold sof55
  split
  · exact ha
  · unfold sof55Core
    split
    · exact ha
    · split
      · exact ha
      · exact ha.append ctxAlloc_bnd

theorem lse_allocs {N : Nat} {st : St} {data : Bytes} (ha : AllBnd N 0 st.allocs) :
    (lse st data).Post (fun st' => AllBnd N 0 st'.allocs) fun st' _ => AllBnd N 0 st'.allocs := by
  unfold lse
  split
  · exact ha
  · split
    · exact ha
    · split
      · exact ha
      · simp only
        split
        · exact ha
        · exact ha.append ctxAlloc_bnd

theorem step_allocs {N : Nat} {st : St} {bs : Bytes} (hg : Good N st bs) :
    (step st bs).Post (Good N) fun st' o => Final N (st', o) := by
  obtain ⟨hf, ha⟩ := hg
  unfold step
  refine markerTurn_post (ha.of_zero) fun m rest hm => ?_
  have hfr := hf.readMarker hm
  have hfail : AllBnd N (8 * (st.width * st.height * st.comps)) (st.allocs ++ [readSegmentAlloc rest]) :=
    (ha.of_zero).append hfr.alloc
  refine .ite (fun _ => ?_) fun _ => .ite (fun _ => ?_) fun _ => .ite (fun _ => ?_) fun _ =>
    .ite (fun _ => ha.of_zero) fun _ => .ite (fun _ => ?_) fun _ => ⟨hfr, ha⟩
  · refine hfr.segTurn hfail fun pl r hr' hpl => ?_
    exact (sof55_allocs (ha.append (.cons hpl .nil))).imp (fun _ h => ⟨hr', h⟩)
      fun _ _ h => h.of_zero
  · refine hfr.segTurn hfail fun pl r hr' hpl => ?_
    exact (lse_allocs (ha.append (.cons hpl .nil))).imp (fun _ h => ⟨hr', h⟩)
      fun _ _ h => h.of_zero
  · refine hfr.segTurn hfail fun pl r hr' hpl => ?_
    have ha' : AllBnd N (8 * (st.width * st.height * st.comps)) (st.allocs ++ [pl.length]) :=
      (ha.append (.cons hpl .nil)).of_zero
    split
    · exact ha'.append (scanAllocs_bnd st hr'.2)
    · exact ha'
  · refine hfr.segTurn hfail fun pl r hr' hpl => ?_
    exact ⟨hr', ha.append (.cons hpl .nil)⟩

end jpegls_lossless

section jpegls_nearlossless

theorem nsof55_allocs {N : Nat} {st : St} {data : Bytes} (ha : AllBnd N 0 st.allocs) :
    (nsof55 st data).Post (fun st' => AllBnd N 0 st'.allocs) fun st' _ => AllBnd N 0 st'.allocs := by
  unfold nsof55
  split
  · exact ha
  · unfold nsof55Core
    split
    · exact ha
    · exact ha

theorem nlse_allocs {N : Nat} {st : St} {data : Bytes} (ha : AllBnd N 0 st.allocs) :
    (nlse st data).Post (fun st' => AllBnd N 0 st'.allocs) fun st' _ => AllBnd N 0 st'.allocs := by
  unfold nlse
  split
  · exact ha
  · split
    · exact ha
    · exact ha

theorem nsos_allocs {N u : Nat} {st : St} {data : Bytes} {C : St → Prop} (hu : u ≤ N) (ha : AllBnd N 0 st.allocs) :
    (nsos st data u).Post C fun st' _ => AllBnd N (8 * (st'.width * st'.height * st'.comps)) st'.allocs := by
  have ha' : AllBnd N (8 * (st.width * st.height * st.comps)) st.allocs := ha.of_zero
  unfold nsos
  split
  · simp only
    split
    · exact ha'
    · exact (ha'.append ctxAlloc_bnd).append (scanAllocs_bnd st hu)
  · exact ha'

theorem nstep_allocs {N : Nat} {st : St} {bs : Bytes} (hg : Good N st bs) :
    (nstep st bs).Post (Good N) fun st' o => Final N (st', o) := by
  obtain ⟨hf, ha⟩ := hg
  unfold nstep
  refine markerTurn_post (ha.of_zero) fun m rest hm => ?_
  have hfr := hf.readMarker hm
  have hfail : AllBnd N (8 * (st.width * st.height * st.comps)) (st.allocs ++ [readSegmentAlloc rest]) :=
    (ha.of_zero).append hfr.alloc
  refine .ite (fun _ => ?_) fun _ => .ite (fun _ => ?_) fun _ => .ite (fun _ => ?_) fun _ =>
    .ite (fun _ => ha.of_zero) fun _ => .ite (fun _ => ?_) fun _ => ⟨hfr, ha⟩
  · refine hfr.segTurn hfail fun pl r hr' hpl => ?_
    exact (nsof55_allocs (ha.append (.cons hpl .nil))).imp (fun _ h => ⟨hr', h⟩)
      fun _ _ h => h.of_zero
  · refine hfr.segTurn hfail fun pl r hr' hpl => ?_
    exact (nlse_allocs (ha.append (.cons hpl .nil))).imp (fun _ h => ⟨hr', h⟩)
      fun _ _ h => h.of_zero
  · refine hfr.segTurn hfail fun pl r hr' hpl => ?_
    exact nsos_allocs (st := { st with allocs := st.allocs ++ [pl.length] }) hr'.2
      (ha.append (.cons hpl .nil))
  · refine hfr.segTurn hfail fun pl r hr' hpl => ?_
    exact ⟨hr', ha.append (.cons hpl .nil)⟩

end jpegls_nearlossless

end JlsH
