import GdcVerif.Model.Dct
import GdcVerif.Lemmas.Dct
import GdcVerif.Lemmas.DctPass
/-!
  2-D combination of the per-pass bounds into a block-level theorem for the 8-bit greyscale path.

  Every pass is `out = (row of a constant matrix)·in` followed by one rounding.  A small error calculus on 8-term linear
  forms (`near_sum8`: an approximation of the inputs of a linear form is an approximation of its value, weighted by the
  absolute coefficients; `near_diag`: a linear form whose coefficient row is `D` at one place up to a defect row is `D` times that input up to
  the defect; used with the rows of `invMatrix · fwdMatrix`, which are 2^29 on the diagonal) gives
  `stage_roundtrip`, and the vertical stage (`vbound`) and the horizontal stage (`block_int`) are its two instances.
  The literal matrices enter through finite table facts (`Gabs_spec`, `Fm_rowsum`, `Acon_spec`, `Ccon_spec`,
  `budget_le`, `Gabs_le`) and through `rowF_facts`, `colF_facts`, `icolF_facts`, `irowF_facts`: the pass theorems of DctPass
  with their literal rows read as the rows of `Fm`, `Gm`.
-/
namespace Dct
open Gen.JpegStd Gen.JpegBaseline

theorem sel8_mk (a b c d e f g h : Int) :
    sel8 (a, b, c, d, e, f, g, h) 0 = a ∧ sel8 (a, b, c, d, e, f, g, h) 1 = b ∧ sel8 (a, b, c, d, e, f, g, h) 2 = c ∧
    sel8 (a, b, c, d, e, f, g, h) 3 = d ∧ sel8 (a, b, c, d, e, f, g, h) 4 = e ∧ sel8 (a, b, c, d, e, f, g, h) 5 = f ∧
    sel8 (a, b, c, d, e, f, g, h) 6 = g ∧ sel8 (a, b, c, d, e, f, g, h) 7 = h := ⟨rfl, rfl, rfl, rfl, rfl, rfl, rfl, rfl⟩

def sum8 (f : Nat → Int) : Int := f 0 + f 1 + f 2 + f 3 + f 4 + f 5 + f 6 + f 7

theorem forall_lt8 {P : Nat → Prop} : (∀ i, i < 8 → P i) ↔ P 0 ∧ P 1 ∧ P 2 ∧ P 3 ∧ P 4 ∧ P 5 ∧ P 6 ∧ P 7 := by
  refine ⟨fun h => ⟨h 0 (by decide), h 1 (by decide), h 2 (by decide), h 3 (by decide), h 4 (by decide), h 5 (by decide),
    h 6 (by decide), h 7 (by decide)⟩, fun ⟨h0, h1, h2, h3, h4, h5, h6, h7⟩ i hi => ?_⟩
  have hc : i = 0 ∨ i = 1 ∨ i = 2 ∨ i = 3 ∨ i = 4 ∨ i = 5 ∨ i = 6 ∨ i = 7 := by omega
  rcases hc with rfl | rfl | rfl | rfl | rfl | rfl | rfl | rfl <;> assumption

theorem near_mul {a ab x y e : Int} (ha : a.natAbs ≤ ab) (h : near e x y) : near (ab * e) (a * x) (a * y) := by
  unfold near at *
  rw [← Int.mul_sub]
  generalize x - y = d at h
  -- |a| ≤ ab and |d| ≤ e: the four products (ab ± a)(e ± d) are non-negative, and their sums give ab·e ± a·d ≥ 0
  have h1 : 0 ≤ (ab - a) * (e - d) := Int.mul_nonneg (by omega) (by omega)
  have h2 : 0 ≤ (ab + a) * (e + d) := Int.mul_nonneg (by omega) (by omega)
  have h3 : 0 ≤ (ab - a) * (e + d) := Int.mul_nonneg (by omega) (by omega)
  have h4 : 0 ≤ (ab + a) * (e - d) := Int.mul_nonneg (by omega) (by omega)
  grind

theorem near_sum8 (a ab x y e : Nat → Int) (ha : ∀ j, j < 8 → (a j).natAbs ≤ ab j)
    (h : ∀ j, j < 8 → near (e j) (x j) (y j)) :
    near (sum8 fun j => ab j * e j) (sum8 fun j => a j * x j) (sum8 fun j => a j * y j) := by
  have := forall_lt8.1 fun j hj => near_mul (ha j hj) (h j hj)
  simp only [near, sum8] at *
  omega

theorem sum8_swap (g r : Nat → Int) (F : Nat → Nat → Int) :
    sum8 (fun v => g v * sum8 (fun j => F v j * r j)) = sum8 (fun j => sum8 (fun v => g v * F v j) * r j) := by
  simp only [sum8]; grind

theorem sum8_scale (a e : Nat → Int) (c : Int) :
    sum8 (fun j => a j * (c * e j)) = c * sum8 (fun j => a j * e j) := by
  simp only [sum8]; grind

theorem sum8_affine (a e : Nat → Int) (b c : Int) :
    sum8 (fun j => a j * (b + c * e j)) = b * sum8 a + c * sum8 (fun j => a j * e j) := by
  simp only [sum8]; grind

theorem sum8_sub (f g : Nat → Int) : sum8 (fun j => f j - g j) = sum8 f - sum8 g := by
  simp only [sum8]; omega

theorem sum8_unit (f : Nat → Int) (a : Int) (i : Nat) (hi : i < 8) :
    sum8 (fun j => (if j = i then a else 0) * f j) = a * f i := by
  revert i
  refine forall_lt8.2 ⟨?_, ?_, ?_, ?_, ?_, ?_, ?_, ?_⟩ <;> simp [sum8]

theorem sum8_bound (a r : Nat → Int) (R : Int) (hr : ∀ j, j < 8 → near R (r j) 0) :
    near (sum8 fun j => (a j).natAbs * R) (sum8 fun j => a j * r j) 0 := by
  simpa only [sum8, Int.mul_zero, Int.add_zero] using
    near_sum8 a (fun j => (a j).natAbs) r (fun _ => 0) (fun _ => R) (fun _ _ => Int.le_refl _) hr

theorem near_diag (P r : Nat → Int) (D R : Int) (i : Nat) (hi : i < 8) (hr : ∀ j, j < 8 → near R (r j) 0) :
    near (sum8 fun j => (P j - if j = i then D else 0).natAbs * R) (sum8 fun j => P j * r j) (D * r i) := by
  have n := sum8_bound (fun j => P j - if j = i then D else 0) r R hr
  have e1 : sum8 (fun j => (P j - if j = i then D else 0) * r j) =
      sum8 (fun j => P j * r j) - sum8 (fun j => (if j = i then D else 0) * r j) := by
    rw [← sum8_sub]; simp only [Int.sub_mul]
  rw [e1, sum8_unit r D i hi] at n
  unfold near at *; omega

theorem near_scale {k e a b : Int} (hk : 0 ≤ k) (h : near e a b) : near (k * e) (k * a) (k * b) :=
  near_mul (by omega) h

/-- Both stages of the 2-D transform pair have this shape: `x` the stage's input, `c` its forward pass (`h1`), `p` the
    dequantised coefficients (`h2`), `w` the inverse pass at place `i` (`h3`); `hd` comes from `near_diag`, `g·F` being `D` on
    the diagonal up to a defect row. -/
theorem stage_roundtrip {g gabs x c p e : Nat → Int} {F : Nat → Nat → Int} {w S1 H1 A B S2 H2 D Δ : Int} {i : Nat}
    (hS1 : 0 ≤ S1) (hA : 0 ≤ A) (hB : 0 ≤ B)
    (hg : ∀ v, v < 8 → (g v).natAbs ≤ gabs v)
    (hd : near Δ (sum8 fun j => (sum8 fun v => g v * F v j) * x j) (D * x i))
    (h1 : ∀ v, v < 8 → near H1 (S1 * c v) (sum8 fun j => F v j * x j))
    (h2 : ∀ v, v < 8 → near (e v) (B * p v) (A * c v))
    (h3 : near H2 (S2 * w) (sum8 fun v => g v * p v)) :
    near (S1 * (B * H2) + S1 * (sum8 fun v => gabs v * e v) + A * (sum8 fun v => gabs v * H1) + A * Δ)
      (S1 * (B * (S2 * w))) (A * (D * x i)) := by
  have n3 := near_scale hS1 (near_scale hB h3)
  have n2 := near_scale hS1 (near_sum8 g gabs (fun v => B * p v) (fun v => A * c v) e hg h2)
  have n1 := near_scale hA (near_sum8 g gabs (fun v => S1 * c v) _ (fun _ => H1) hg h1)
  have n0 := near_scale hA hd
  rw [sum8_scale, sum8_scale] at n2
  -- the one place where two scales pass each other: `B·p ≈ A·c` times `S1` meets `S1·c ≈ F·x` times `A`
  rw [sum8_scale, sum8_swap, Int.mul_left_comm A S1] at n1
  unfold near at *
  omega

def Fm (k j : Nat) : Int := (fwdMatrix.getD k []).getD j 0
def Gm (i v : Nat) : Int := (invMatrix.getD i []).getD v 0
def GF (i j : Nat) : Int := sum8 fun v => Gm i v * Fm v j

/-- |invMatrix[i][j]|, as a closed table (not `(Gm i v).natAbs`) so that the budgets `Acon_spec`, `Ccon_spec`, `budget_le`
    evaluate on literals; `Gabs_spec` ties it to the matrix -/
def Gabs : Nat → Nat → Int
  | 0, 0 => 8192
  | 0, 1 => 11363
  | 0, 2 => 10703
  | 0, 3 => 9633
  | 0, 4 => 8192
  | 0, 5 => 6437
  | 0, 6 => 4433
  | 0, 7 => 2260
  | 1, 0 => 8192
  | 1, 1 => 9633
  | 1, 2 => 4433
  | 1, 3 => 2259
  | 1, 4 => 8192
  | 1, 5 => 11362
  | 1, 6 => 10704
  | 1, 7 => 6436
  | 2, 0 => 8192
  | 2, 1 => 6437
  | 2, 2 => 4433
  | 2, 3 => 11362
  | 2, 4 => 8192
  | 2, 5 => 2261
  | 2, 6 => 10704
  | 2, 7 => 9633
  | 3, 0 => 8192
  | 3, 1 => 2260
  | 3, 2 => 10703
  | 3, 3 => 6436
  | 3, 4 => 8192
  | 3, 5 => 9633
  | 3, 6 => 4433
  | 3, 7 => 11363
  | 4, 0 => 8192
  | 4, 1 => 2260
  | 4, 2 => 10703
  | 4, 3 => 6436
  | 4, 4 => 8192
  | 4, 5 => 9633
  | 4, 6 => 4433
  | 4, 7 => 11363
  | 5, 0 => 8192
  | 5, 1 => 6437
  | 5, 2 => 4433
  | 5, 3 => 11362
  | 5, 4 => 8192
  | 5, 5 => 2261
  | 5, 6 => 10704
  | 5, 7 => 9633
  | 6, 0 => 8192
  | 6, 1 => 9633
  | 6, 2 => 4433
  | 6, 3 => 2259
  | 6, 4 => 8192
  | 6, 5 => 11362
  | 6, 6 => 10704
  | 6, 7 => 6436
  | 7, 0 => 8192
  | 7, 1 => 11363
  | 7, 2 => 10703
  | 7, 3 => 9633
  | 7, 4 => 8192
  | 7, 5 => 6437
  | 7, 6 => 4433
  | 7, 7 => 2260
  | _, _ => 0

/-- rounding budget of the vertical stage (units 2^-29) -/
def Acon : Nat → Int
  | 0 => 1812029440
  | 1 => 1748819968
  | 2 => 1653964800
  | 3 => 1587118080
  | 4 => 1587118080
  | 5 => 1653964800
  | 6 => 1748819968
  | 7 => 1812029440
  | _ => 0

/-- rounding budget of the horizontal stage (units 2^-58) -/
def Ccon : Nat → Int
  | 0 => 186838499079487488
  | 1 => 185777470358683648
  | 2 => 184186889350152192
  | 3 => 183064837734006784
  | 4 => 183064837734006784
  | 5 => 184186889350152192
  | 6 => 185777470358683648
  | 7 => 186838499079487488
  | _ => 0

theorem Gabs_spec : ∀ i, i < 8 → ∀ v, v < 8 → ((Gm i v).natAbs : Int) = Gabs i v := by decide

/-- samples of size ≤ 128 against a row of `fwdMatrix`: at most `2^23 = 8388608`, so the row pass stays within 4096 -/
theorem Fm_rowsum : ∀ k, k < 8 → (sum8 fun j => ((Fm k j).natAbs : Int) * 128) ≤ 8388608 := by decide

/-- the budget of the vertical stage: one rounding of the inverse pass (2^28), one rounding of each forward column output
    (2^14 each), and the defect of `invMatrix · fwdMatrix` from 2^29·I applied to row-pass values of size ≤ 4096 -/
theorem Acon_spec : ∀ y, y < 8 → 268435456 + (sum8 fun v => Gabs y v * 16384) +
    (sum8 fun j => ((GF y j - if j = y then 536870912 else 0).natAbs : Int) * 4096) = Acon y := by decide

theorem Gabs_le : ∀ i, i < 8 → Gabs i 0 = 8192 ∧ ∀ k, k < 8 → Gabs i k ≤ 11363 := by decide

/-- the budget of the horizontal stage: one rounding of the inverse row pass (2^57), one rounding of each forward row output,
    and the defect of `invMatrix · fwdMatrix` applied to samples of size ≤ 128 -/
theorem Ccon_spec : ∀ x, x < 8 → 144115188075855872 + 536870912 * (sum8 fun k => Gabs x k * 1024) +
    536870912 * (sum8 fun j => ((GF x j - if j = x then 536870912 else 0).natAbs : Int) * 128) = Ccon x := by decide

/-- both stages together stay below 1.44 (units 2^-58) whatever the position -/
theorem budget_le : ∀ x, x < 8 → ∀ y, y < 8 → Ccon x + 2048 * (Acon y * sum8 (Gabs x)) ≤ 415051741658464912 := by decide

theorem Fm_row0 (x : Nat → Int) :
    sum8 (fun j => Fm 0 j * x j) = 8192 * (1 * x 0 + 1 * x 1 + 1 * x 2 + 1 * x 3 + 1 * x 4 + 1 * x 5 + 1 * x 6 + 1 * x 7) := by
  show 8192 * _ + 8192 * _ + 8192 * _ + 8192 * _ + 8192 * _ + 8192 * _ + 8192 * _ + 8192 * _ = _
  omega

theorem Fm_row4 (x : Nat → Int) :
    sum8 (fun j => Fm 4 j * x j) = 8192 * (1 * x 0 + -1 * x 1 + -1 * x 2 + 1 * x 3 + 1 * x 4 + -1 * x 5 + -1 * x 6 + 1 * x 7) := by
  show 8192 * _ + -8192 * _ + -8192 * _ + 8192 * _ + 8192 * _ + -8192 * _ + -8192 * _ + 8192 * _ = _
  omega

theorem near_of_exact {v S : Int} (h : v = 4 * S) : near 1024 (2048 * v) (8192 * S) := by
  unfold near; omega

theorem near_of_quarter {v S : Int} (h : -2 ≤ 4 * v - S ∧ 4 * v - S ≤ 2) : near 16384 (32768 * v) (8192 * S) := by
  unfold near; omega

/-! The pass theorems of `DctPass` list their conjuncts in the order the Go code stores its outputs (`fwdPos`, `invPos`);
here each is named by its frequency resp. position `k`, and is accepted as the fact about `rowF d y k` etc. because that
unfolds to the component of the tuple and the literal row to row `k` of `Fm`, `Gm`. -/

theorem rowF_facts (d : Blk) (y : Nat) :
    ∀ k, k < 8 → near 1024 (2048 * rowF d y k) (sum8 fun j => Fm k j * d y j) := by
  obtain ⟨e0, e4, h2, h6, h7, h5, h3, h1⟩ := fdct_row_pass y (d y 0) (d y 1) (d y 2) (d y 3) (d y 4) (d y 5) (d y 6) (d y 7)
  have h0 : near 1024 (2048 * rowF d y 0) (sum8 fun j => Fm 0 j * d y j) := Fm_row0 (d y) ▸ near_of_exact e0
  have h4 : near 1024 (2048 * rowF d y 4) (sum8 fun j => Fm 4 j * d y j) := Fm_row4 (d y) ▸ near_of_exact e4
  exact forall_lt8.2 ⟨h0, h1, h2, h3, h4, h5, h6, h7⟩

theorem colF_facts (r : Blk) (k : Nat) :
    ∀ v, v < 8 → near 16384 (32768 * colF r v k) (sum8 fun j => Fm v j * r j k) := by
  obtain ⟨e0, e4, h2, h6, h7, h5, h3, h1⟩ :=
    fdct_col_pass k (r 0 k) (r 1 k) (r 2 k) (r 3 k) (r 4 k) (r 5 k) (r 6 k) (r 7 k) 0 0 0 0 0 0 0 0
  have h0 : near 16384 (32768 * colF r 0 k) (sum8 fun j => Fm 0 j * r j k) :=
    Fm_row0 (fun j => r j k) ▸ near_of_quarter e0
  have h4 : near 16384 (32768 * colF r 4 k) (sum8 fun j => Fm 4 j * r j k) :=
    Fm_row4 (fun j => r j k) ▸ near_of_quarter e4
  exact forall_lt8.2 ⟨h0, h1, h2, h3, h4, h5, h6, h7⟩

theorem icolF_facts (qc q : Blk) (k : Nat) :
    ∀ y, y < 8 → near 1024 (2048 * icolF qc q y k) (sum8 fun v => Gm y v * (qc v k * q v k)) := by
  obtain ⟨h0, h7, h1, h6, h2, h5, h3, h4⟩ := idct_col_pass k (qc 0 k) (qc 1 k) (qc 2 k) (qc 3 k) (qc 4 k) (qc 5 k) (qc 6 k) (qc 7 k) (q 0 k) (q 1 k) (q 2 k) (q 3 k) (q 4 k) (q 5 k) (q 6 k) (q 7 k) 0 0 0 0 0 0 0 0 _ _ _ _ _ _ _ _ rfl rfl rfl rfl rfl rfl rfl rfl
  exact forall_lt8.2 ⟨h0, h1, h2, h3, h4, h5, h6, h7⟩

theorem irowF_facts (ws : Blk) (y : Nat) :
    ∀ x, x < 8 → ∃ t, irowF ws y x = Go.uwrap8 (Clamp (t + 128) 0 255) ∧
      near 131072 (262144 * t) (sum8 fun k => Gm x k * ws y k) := by
  obtain ⟨h0, h7, h1, h6, h2, h5, h3, h4⟩ :=
    idct_row_pass y (ws y 0) (ws y 1) (ws y 2) (ws y 3) (ws y 4) (ws y 5) (ws y 6) (ws y 7) 0 0 0 0 0 0 0 0
  exact forall_lt8.2 ⟨h0, h1, h2, h3, h4, h5, h6, h7⟩

theorem quant_facts (i q c : Int) (hq : 1 ≤ q) :
    near (4 * q) (8 * (quantizeBlock.entry default 0 0 0 0 i q c * q)) (1 * c) := by
  have h := symQuant_bound c (q * 8) (by omega)
  rw [quant8_is_symQuant]
  have e : q * 8 * symQuant c (q * 8) = 8 * (symQuant c (q * 8) * q) := by
    rw [Int.mul_comm q 8, Int.mul_assoc, Int.mul_comm q]
  rw [e] at h
  unfold near
  generalize symQuant c (q * 8) * q = P at h ⊢
  omega

theorem fwdPos_lt8 (k : Nat) : ∃ k', k' < 8 ∧ fwdPos k = fwdPos k' := by
  by_cases h : k < 8
  · exact ⟨k, h, rfl⟩
  · refine ⟨1, by omega, ?_⟩
    show fwdPos k = 7
    unfold fwdPos
    split <;> omega

theorem rowF_bound (d : Blk) (hd : ∀ y j, -128 ≤ d y j ∧ d y j ≤ 127) (j k : Nat) :
    near 4096 (rowF d j k) 0 := by
  obtain ⟨k', hk, e⟩ := fwdPos_lt8 k
  have e' : rowF d j k = rowF d j k' := by simp only [rowF, e]
  rw [e']
  have hr := rowF_facts d j k' hk
  have n := sum8_bound (Fm k') (d j) 128 (fun i _ => by have := hd j i; unfold near; omega)
  have := Fm_rowsum k' hk
  unfold near at *; omega

def colQ (q : Blk) (y k : Nat) : Int := sum8 (fun v => Gabs y v * q v k)

/-- vertical stage at column k: the inverse column pass applied to the dequantised forward column pass returns the row-pass
    values up to the quantisation residual and the budget `Acon` -/
theorem vbound (d q : Blk) (hd : ∀ y j, -128 ≤ d y j ∧ d y j ≤ 127) (hq : ∀ v k, 1 ≤ q v k) (k y : Nat) (hy : y < 8) :
    -(Acon y + 131072 * sum8 (fun v => Gabs y v * q v k)) ≤
      536870912 * (icolF (quantF (colF (rowF d)) q) q y k - rowF d y k) ∧
    536870912 * (icolF (quantF (colF (rowF d)) q) q y k - rowF d y k) ≤
      Acon y + 131072 * sum8 (fun v => Gabs y v * q v k) := by
  have h := stage_roundtrip (by omega) (by omega) (by omega) (fun v hv => Int.le_of_eq (Gabs_spec y hy v hv))
    (near_diag _ _ 536870912 4096 y hy fun j _ => rowF_bound d hd j k) (colF_facts (rowF d) k)
    (fun v _ => quant_facts _ (q v k) (colF (rowF d) v k) (hq v k))
    (icolF_facts (quantF (colF (rowF d)) q) q k y hy)
  have hA := Acon_spec y hy
  have e := sum8_scale (Gabs y) (fun v => q v k) 4
  simp only [near, GF] at *
  omega

/-- horizontal stage + vertical stage: the value `t` the inverse row pass produces for pixel (y,x) before +128/clamp -/
theorem block_int (d q : Blk) (hd : ∀ y j, -128 ≤ d y j ∧ d y j ≤ 127) (hq : ∀ v k, 1 ≤ q v k) (y x : Nat) (hy : y < 8) (hx : x < 8) :
    ∃ t, irowF (icolF (quantF (colF (rowF d)) q) q) y x = Go.uwrap8 (Clamp (t + 128) 0 255) ∧
      -(415051741658464912 + 268435456 * sum8 (fun k => Gabs x k * colQ q y k)) ≤ 288230376151711744 * (t - d y x) ∧
      288230376151711744 * (t - d y x) ≤ 415051741658464912 + 268435456 * sum8 (fun k => Gabs x k * colQ q y k) := by
  obtain ⟨t, ht, n3⟩ := irowF_facts (icolF (quantF (colF (rowF d)) q) q) y x hx
  refine ⟨t, ht, ?_⟩
  have h := stage_roundtrip (A := 536870912) (B := 536870912) (e := fun k => Acon y + 131072 * colQ q y k)
    (by omega) (by omega) (by omega) (fun k hk => Int.le_of_eq (Gabs_spec x hx k hk))
    (near_diag _ _ 536870912 128 x hx fun j _ => by have := hd y j; unfold near; omega) (rowF_facts d y)
    (fun k _ => by have := vbound d q hd hq k y hy; unfold near colQ; omega) n3
  have e := sum8_affine (Gabs x) (colQ q y) (Acon y) 131072
  have hC := Ccon_spec x hx
  have hB := budget_le x hx y hy
  simp only [near, GF] at *
  omega

/-- +128, clamp to 0..255 and byte() move the value towards any in-range target -/
theorem clamp_bound (t b D : Int) (hb : 0 ≤ b ∧ b ≤ 255)
    (h : -D ≤ 288230376151711744 * (t - (b - 128)) ∧ 288230376151711744 * (t - (b - 128)) ≤ D) :
    -D ≤ 288230376151711744 * (Go.uwrap8 (Clamp (t + 128) 0 255) - b) ∧
    288230376151711744 * (Go.uwrap8 (Clamp (t + 128) 0 255) - b) ≤ D := by
  rw [(clamp_byte _).2.2]; omega

theorem sum7_nonneg (f : Nat → Int) (h : ∀ k, 0 ≤ f k) : 0 ≤ sum7 f := by
  have := h 1; have := h 2; have := h 3; have := h 4; have := h 5; have := h 6; have := h 7
  simp only [sum7]; omega

/-- row i of |invMatrix| is 8192 = 2^13 in column 0 and at most 11363 elsewhere;
    11363² ≤ 2·8192² says 11363/8192 ≤ √2, i.e. |inv[i][j]| ≤ 2^13·√2·C(j) with C(0) = 1/√2, C(j≥1) = 1 -/
theorem rowS (i : Nat) (hi : i < 8) (f : Nat → Int) (hf : ∀ k, 0 ≤ f k) :
    sum8 (fun k => Gabs i k * f k) ≤ 8192 * f 0 + 11363 * sum7 f := by
  obtain ⟨h0, hg⟩ := Gabs_le i hi
  have := forall_lt8.1 fun k hk => Int.mul_le_mul_of_nonneg_right (hg k hk) (hf k)
  simp only [sum8, sum7, h0]; omega

theorem rowMono (i : Nat) (hi : i < 8) (a b : Nat → Int) (h : ∀ k, a k ≤ b k) :
    sum8 (fun k => Gabs i k * a k) ≤ sum8 (fun k => Gabs i k * b k) := by
  have := forall_lt8.1 fun k hk =>
    Int.mul_le_mul_of_nonneg_left (h k) (Gabs_spec i hi k hk ▸ Int.natCast_nonneg _)
  simp only [sum8]; omega

theorem weights_sq : (11363 : Int) * 11363 ≤ 2 * (8192 * 8192) := by decide

theorem sum7_lin (a b : Int) (f g : Nat → Int) : sum7 (fun k => a * f k + b * g k) = a * sum7 f + b * sum7 g := by
  simp only [sum7, Int.mul_add]; omega

theorem sum7_swap (q : Nat → Nat → Int) :
    sum7 (fun k => sum7 (fun v => q v k)) = sum7 (fun v => sum7 (fun k => q v k)) := by
  simp only [sum7]; omega

/-- 2^26·(Q00/2) + 2^26·0.6935·M + 2^26·0.962·R (×2): the table part of the block bound with the integer weights of the
    inverse matrix; LinB q / 2^30 ≤ (1/8)·Σ C(u)C(v)·Q[u,v] since 93085696/2^27 ≤ 1/√2 and 129117769/2^27 ≤ 1 -/
def LinB (q : Blk) : Int := 67108864 * q 0 0 + 93085696 * Mq q + 129117769 * Rq q

theorem S_le (q : Blk) (hq : ∀ v k, 1 ≤ q v k) (y x : Nat) (hy : y < 8) (hx : x < 8) :
    sum8 (fun k => Gabs x k * colQ q y k) ≤ LinB q := by
  let u : Nat → Int := fun k => 8192 * q 0 k + 11363 * sum7 (fun v => q v k)
  have h1 : ∀ k, colQ q y k ≤ u k := fun k => rowS y hy (fun v => q v k) (fun v => by have := hq v k; omega)
  have hu : ∀ k, 0 ≤ u k := fun k => by
    have := hq 0 k
    have := sum7_nonneg (fun v => q v k) (fun v => by have := hq v k; omega)
    simp only [u]; omega
  have e : 8192 * u 0 + 11363 * sum7 u = LinB q := by
    have := sum7_lin 8192 11363 (fun k => q 0 k) (fun k => sum7 (fun v => q v k))
    have := sum7_swap q
    simp only [u, LinB, Mq, Rq] at *; omega
  exact Int.le_trans (rowMono x hx (colQ q y) u h1) (e ▸ rowS x hx u hu)

theorem sq_le_two (X M : Int) (hX : 0 < X) (h : 8192 * X ≤ 11363 * M) : X * X ≤ 2 * (M * M) := by
  have hM : 0 ≤ 11363 * M := by omega
  have h1 : (8192 * X) * (8192 * X) ≤ (11363 * M) * (11363 * M) :=
    Int.mul_le_mul h h (by omega) hM
  have e1 : (8192 * X) * (8192 * X) = 67108864 * (X * X) := by
    rw [Int.mul_assoc, Int.mul_left_comm X, ← Int.mul_assoc]; rfl
  have e2 : (11363 * M) * (11363 * M) = 129117769 * (M * M) := by
    rw [Int.mul_assoc, Int.mul_left_comm M, ← Int.mul_assoc]; rfl
  rw [e1, e2] at h1
  have hM0 : 0 ≤ M := by omega
  have := Int.mul_nonneg hM0 hM0
  generalize X * X = a at *
  generalize M * M = b at *
  -- `weights_sq`: 129117769 = 11363² ≤ 2·8192² = 2·67108864
  omega

theorem block_bound_lin (blk q : Blk) (hb : ∀ y j, 0 ≤ blk y j ∧ blk y j ≤ 255) (hq : ∀ v k, 1 ≤ q v k)
    (y x : Nat) (hy : y < 8) (hx : x < 8) :
    -(415051741658464912 + 268435456 * LinB q) ≤ 288230376151711744 * (blockF blk q y x - blk y x) ∧
    288230376151711744 * (blockF blk q y x - blk y x) ≤ 415051741658464912 + 268435456 * LinB q := by
  obtain ⟨t, ht1, ht2⟩ := block_int (fun y j => blk y j - 128) q (fun y j => by have := hb y j; constructor <;> omega) hq y x hy hx
  have hout : blockF blk q y x = Go.uwrap8 (Clamp (t + 128) 0 255) := ht1
  have hc := clamp_bound t (blk y x) _ (hb y x) ht2
  rw [← hout] at hc
  have hS := S_le q hq y x hy hx
  omega

theorem block_bound (blk q : Blk) (hb : ∀ y j, 0 ≤ blk y j ∧ blk y j ≤ 255) (hq : ∀ v k, 1 ≤ q v k)
    (y x : Nat) (hy : y < 8) (hx : x < 8) :
    withinF (blockF blk q y x - blk y x) q := by
  have h := block_bound_lin blk q hb hq y x hy hx
  have hR : 0 ≤ Rq q := sum7_nonneg _ (fun v => sum7_nonneg _ (fun k => by have := hq v k; omega))
  generalize blockF blk q y x - blk y x = delta at h ⊢
  simp only [withinF, LinB] at h ⊢
  by_cases hX : 16 * (Go.abs delta - 2) - q 0 0 - 2 * Rq q ≤ 0
  · exact Or.inl hX
  · right
    apply sq_le_two _ _ (by omega)
    simp only [Go.abs] at hX ⊢
    split <;> omega

theorem invPos_lt8 (x : Nat) : ∃ x', x' < 8 ∧ invPos x = invPos x' := by
  by_cases h : x < 8
  · exact ⟨x, h, rfl⟩
  · refine ⟨4, by omega, ?_⟩
    show invPos x = 7
    unfold invPos
    split <;> omega

theorem blockF_byte (blk q : Blk) (y x : Nat) : 0 ≤ blockF blk q y x ∧ blockF blk q y x ≤ 255 := by
  obtain ⟨x', hx, e⟩ := invPos_lt8 x
  obtain ⟨t, ht, _⟩ := irowF_facts (icolF (quantF (fdctF blk) q) q) y x' hx
  have e' : blockF blk q y x = irowF (icolF (quantF (fdctF blk) q) q) y x' := by simp only [blockF, idctF, irowF, e]
  rw [e', ht]
  exact ⟨(clamp_byte _).1, (clamp_byte _).2.1⟩

theorem edgeIdx_inside (X w : Nat) (hX : X < w) : edgeIdx ((X / 8 : Nat) : Int) ((X % 8 : Nat) : Int) (w : Int) = (X : Int) := by
  have := (edge_idx ((X / 8 : Nat) : Int) ((X % 8 : Nat) : Int) (w : Int) (by omega) (by omega) (by omega)).2.2
  omega

theorem image_bound (img q : Blk) (w h : Nat) (hb : ∀ y j, 0 ≤ img y j ∧ img y j ≤ 255) (hq : ∀ v k, 1 ≤ q v k)
    (X Y : Nat) (hX : X < w) (hY : Y < h) :
    withinF (decodedPixel img w h q X Y - img Y X) q := by
  have hbb := block_bound (extractBlock img w h (X / 8) (Y / 8)) q (fun y j => hb _ _) hq (Y % 8) (X % 8)
    (Nat.mod_lt _ (by decide)) (Nat.mod_lt _ (by decide))
  have e : extractBlock img w h (X / 8) (Y / 8) (Y % 8) (X % 8) = img Y X := by
    simp only [extractBlock, edgeIdx_inside X w hX, edgeIdx_inside Y h hY, Int.toNat_natCast]
  rw [e] at hbb
  exact hbb
end Dct
