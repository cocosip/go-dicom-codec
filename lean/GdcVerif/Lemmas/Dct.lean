import GdcVerif.Model.Dct
/-!
  The scalar facts of C11: rounding division and the symmetric quantiser (the generated 8-bit and 12-bit
  quantiser bodies are `symQuant`), the range of `ScaleQuantTable`'s entries, the edge replication index, clamp and byte().
  `near e a b` (`|a - b| ≤ e`) is the form of the bounds that DctColour and the error calculus of DctBlock combine.
-/
namespace Dct
open Gen.JpegStd Gen.JpegBaseline Gen.JpegExtended

def near (e a b : Int) : Prop := -e ≤ a - b ∧ a - b ≤ e


theorem round_div (a d : Int) (ha : 0 ≤ a) (hd : 0 < d) :
    2 * (a - d * Int.tdiv (a + Int.tdiv d 2) d) ≤ d ∧ -d ≤ 2 * (a - d * Int.tdiv (a + Int.tdiv d 2) d) := by
  have e1 : Int.tdiv d 2 = d / 2 := Int.tdiv_eq_ediv_of_nonneg (by omega)
  have e2 : Int.tdiv (a + Int.tdiv d 2) d = (a + d / 2) / d := by
    simp only [e1]; exact Int.tdiv_eq_ediv_of_nonneg (by omega)
  have h1 := Int.mul_ediv_add_emod (a + d / 2) d
  have h2 := Int.emod_nonneg (a + d / 2) (Int.ne_of_gt hd)
  have h3 := Int.emod_lt_of_pos (a + d / 2) hd
  rw [e2]
  generalize (a + d / 2) / d = k at *
  generalize (a + d / 2) % d = m at *
  generalize d * k = t at *
  omega

/-- the symmetric quantiser `c < 0 ? -((-c + d/2)/d) : (c + d/2)/d` -/
def symQuant (c d : Int) : Int :=
  if c < 0 then -(Int.tdiv (-c + Int.tdiv d 2) d) else Int.tdiv (c + Int.tdiv d 2) d

theorem symQuant_bound (c d : Int) (hd : 0 < d) :
    2 * (c - d * symQuant c d) ≤ d ∧ -d ≤ 2 * (c - d * symQuant c d) := by
  by_cases hc : c < 0
  · have := round_div (-c) d (by omega) hd
    simp only [symQuant, hc, if_true]
    generalize Int.tdiv (-c + Int.tdiv d 2) d = r at *
    rw [Int.mul_neg]
    generalize d * r = t at *
    omega
  · have := round_div c d (by omega) hd
    simp only [symQuant, hc, if_false]
    generalize Int.tdiv (c + Int.tdiv d 2) d = r at *
    generalize d * r = t at *
    omega

theorem seq12_is_symQuant (c d : Int) : sequential12Quantize c d = symQuant c d := by
  simp [sequential12Quantize, symQuant]

theorem quant8_is_symQuant (enc : Encoder) (bx bY s t i q c : Int) : quantizeBlock.entry enc bx bY s t i q c = symQuant c (q * 8) := by
  simp [quantizeBlock.entry, symQuant]

theorem quant12_entry (bx bY i c q r : Int) : quantizeBlock12.entry bx bY i c q r = symQuant c (q * 8) := by
  simp [quantizeBlock12.entry, seq12_is_symQuant, Go.shl]

theorem scale_entry_eq (quality i b r : Int) :
    ScaleQuantTable.entry quality i b r = min 255 (max 1 (Int.tdiv
      (b * Go.wrap32 (if quality < 50 then Int.tdiv 5000 quality else 200 - quality * 2) + 50) 100)) := by
  simp only [ScaleQuantTable.entry, decide_eq_true_eq]
  generalize Int.tdiv _ 100 = v
  (repeat' split) <;> omega

theorem scale_entry_range (quality i b r : Int) :
    1 ≤ ScaleQuantTable.entry quality i b r ∧ ScaleQuantTable.entry quality i b r ≤ 255 := by
  rw [scale_entry_eq]; omega

theorem edge_idx (b x w : Int) (hb : 0 ≤ b) (hx : 0 ≤ x) (hw : 1 ≤ w) :
    0 ≤ edgeIdx b x w ∧ edgeIdx b x w < w ∧ (b * 8 + x < w → edgeIdx b x w = b * 8 + x) := by
  simp only [edgeIdx]; omega

theorem clamp_byte (v : Int) : 0 ≤ Go.uwrap8 (Clamp v 0 255) ∧ Go.uwrap8 (Clamp v 0 255) ≤ 255 ∧
    Go.uwrap8 (Clamp v 0 255) = max 0 (min 255 v) := by
  simp only [Clamp, Go.uwrap8]
  split <;> (try split) <;> simp_all <;> omega

end Dct
