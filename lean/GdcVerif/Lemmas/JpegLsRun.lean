import GdcVerif.Lemmas.JlsRunBound
import GdcVerif.Lemmas.GolombFit
/-!
  Run-mode theorems over `Model/JpegLsRun.lean`: run-length code round trip
  (`EncodeRunLength` ↦ bits ↦ `DecodeRunLength`: same run length, same RUNindex, rest of the bit
  stream untouched) for every RUNindex, run length and line remainder; the `WriteBits` calls of
  `EncodeRunLength` are well-formed (`Golomb.WritesFit`).
-/
namespace JpegLsRun
open Golomb

theorem encRunLoop_chunk (f : Nat) (idx rl : Int) (acc : List (Nat × Int)) (hidx : 0 ≤ idx ∧ idx ≤ 31)
    (h : 2 ^ (Jv idx.toNat).toNat ≤ rl) :
    encRunLoop (f + 1) idx rl acc =
      encRunLoop f (incRunIndex idx) (rl - 2 ^ (Jv idx.toNat).toNat) (acc ++ [(1, 1)]) := by
  rw [encRunLoop]
  simp only [J?_eq idx hidx, bind, Except.bind]
  rw [if_pos h]

theorem encRunLoop_stop (f : Nat) (idx rl : Int) (acc : List (Nat × Int)) (hidx : 0 ≤ idx ∧ idx ≤ 31)
    (h : rl < 2 ^ (Jv idx.toNat).toNat) : encRunLoop (f + 1) idx rl acc = .ok (idx, rl, acc) := by
  rw [encRunLoop]
  simp only [J?_eq idx hidx, bind, Except.bind]
  rw [if_neg (by omega)]

/-- what `EncodeRunLength` appends after its loop -/
def final (idx' rl' : Int) (eol : Bool) : List (Nat × Int) :=
  if eol then (if rl' != 0 then [(1, 1)] else []) else [(rl'.toNat % Golomb.M32, Jv idx'.toNat + 1)]

/-- `DecodeRunLength` on a 1 bit: a chunk of `c = min(2^J[RUNindex], remaining − runLength)` pixels -/
theorem decodeFrom_true (rest : List Bool) (idx sofar remaining c : Int) (hidx : 0 ≤ idx ∧ idx ≤ 31)
    (hc : min (2 ^ (Jv idx.toNat).toNat) (remaining - sofar) = c) :
    decodeRunLengthFrom (true :: rest) idx sofar remaining =
      if sofar + c ≥ remaining then
        .ok (remaining, if c = 2 ^ (Jv idx.toNat).toNat then incRunIndex idx else idx, rest)
      else
        decodeRunLengthFrom rest (if c = 2 ^ (Jv idx.toNat).toNat then incRunIndex idx else idx) (sofar + c) remaining := by
  conv => lhs; unfold decodeRunLengthFrom decRunLoop
  simp only [J?_eq idx hidx, bind, Except.bind, hc]
  by_cases hge : sofar + c ≥ remaining
  · simp only [hge, if_true]
  · simp only [hge, if_false]
    rfl

/-- `DecodeRunLength` on a 0 bit: the `J[RUNindex]` bits behind it are the rest of the run (none for `J = 0`) -/
theorem decodeFrom_false (rest : List Bool) (idx sofar remaining : Int) (v : Nat) (hidx : 0 ≤ idx ∧ idx ≤ 31)
    (hv : v < 2 ^ (Jv idx.toNat).toNat) (hle : sofar + v ≤ remaining) :
    decodeRunLengthFrom (false :: (bitsOf v (Jv idx.toNat).toNat ++ rest)) idx sofar remaining =
      .ok (sofar + v, idx, rest) := by
  have hjr := Jv_range idx.toNat (by omega)
  unfold decodeRunLengthFrom decRunLoop
  simp only [J?_eq idx hidx, bind, Except.bind]
  generalize Jv idx.toNat = j at *
  by_cases hjp : j > 0
  · rw [if_pos hjp, takeBits_bitsOf, Nat.mod_eq_of_lt hv]
    simp only [if_neg (by omega : ¬ sofar + (v : Int) > remaining)]
  · have hj0 : j = 0 := by omega
    subst hj0
    have hv0 : v = 0 := by simpa using hv
    subst hv0
    simp only [if_neg hjp, if_neg (by omega : ¬ sofar > remaining)]
    simp [bitsOf]

theorem fit_final (idx' rl' : Int) (eol : Bool) (hidx : 0 ≤ idx' ∧ idx' ≤ 31) (hr : 0 ≤ rl' ∧ rl' < 2 ^ (Jv idx'.toNat).toNat) :
    WritesFit (final idx' rl' eol) := by
  have hjr := Jv_range idx'.toNat (by omega)
  unfold final
  split
  · split
    · exact fit_unary 1 (by decide) (by decide)
    · exact fit_nil
  · refine fit_single _ _ (by omega) (by omega) ?_
    have e : (Jv idx'.toNat + 1).toNat = (Jv idx'.toNat).toNat + 1 := by omega
    rw [e, Nat.pow_succ]
    have := Int.toNat_lt_two_pow hr.1 hr.2
    exact Nat.lt_of_le_of_lt (Nat.mod_le _ _) (by omega)

/-- The decoder is started with `sofar` pixels of the run already counted (`decodeRunLengthFrom`; the code starts at 0):
    the induction peels one `2^J` chunk off the front, after which both sides are in that position. -/
theorem runloop_roundtrip (remaining : Int) : ∀ (f : Nat) (idx rl sofar : Int) (acc : List (Nat × Int)),
    0 ≤ idx ∧ idx ≤ 31 → 0 ≤ rl → rl < (f : Int) → sofar < remaining → sofar + rl ≤ remaining →
    ∃ idx' rl' ws, encRunLoop f idx rl acc = .ok (idx', rl', acc ++ ws) ∧ (0 ≤ idx' ∧ idx' ≤ 31) ∧
      WritesFit ws ∧ (0 ≤ rl' ∧ rl' < 2 ^ (Jv idx'.toNat).toNat) ∧
      ∀ rest, decodeRunLengthFrom (writesBits (ws ++ final idx' rl' (sofar + rl == remaining)) ++ rest) idx sofar remaining
        = .ok (sofar + rl, idx', rest)
  | 0, _, _, _, _, _, _, hf, _, _ => by omega
  | f + 1, idx, rl, sofar, acc, hidx, hrl, hf, hs, htot => by
    have hjr := Jv_range idx.toNat (by omega)
    have hstep := fun rest c => decodeFrom_true rest idx sofar remaining c hidx
    have hzero := fun rest v => decodeFrom_false rest idx sofar remaining v hidx
    have hchunk := encRunLoop_chunk f idx rl acc hidx
    have hstop := encRunLoop_stop f idx rl acc hidx
    generalize hj : Jv idx.toNat = j at *
    have one11 : WritesFit [(1, 1)] := fit_unary 1 (by decide) (by decide)
    have hP : (0 : Int) < 2 ^ j.toNat := Int.pow_pos (by decide)
    by_cases hge : 2 ^ j.toNat ≤ rl
    · rw [hchunk hge]
      have hi := inc_range idx hidx
      by_cases hdone : sofar + 2 ^ j.toNat ≥ remaining
      · -- the run ends exactly at the line end with this chunk: the encoder's loop stops and nothing follows, the
        -- decoder returns from inside its loop
        obtain ⟨f', rfl⟩ : ∃ f', f = f' + 1 := ⟨f - 1, by omega⟩
        refine ⟨incRunIndex idx, 0, [(1, 1)], ?_, hi, one11, ⟨Int.le_refl 0, Int.pow_pos (by decide)⟩, fun rest => ?_⟩
        · rw [show rl - 2 ^ j.toNat = 0 by omega]
          exact encRunLoop_stop f' _ 0 _ hi (Int.pow_pos (by decide))
        · rw [show (sofar + rl == remaining) = true by simp; omega]
          show decodeRunLengthFrom (true :: rest) idx sofar remaining = _
          rw [hstep rest _ (by omega : min (2 ^ j.toNat) (remaining - sofar) = 2 ^ j.toNat), if_pos hdone, if_pos rfl,
            show remaining = sofar + rl by omega]
      · obtain ⟨idx', rl', ws, he, hi', hw, hr', hd⟩ :=
          runloop_roundtrip remaining f (incRunIndex idx) (rl - 2 ^ j.toNat) (sofar + 2 ^ j.toNat) (acc ++ [(1, 1)])
            hi (by omega) (by omega) (by omega) (by omega)
        refine ⟨idx', rl', (1, 1) :: ws, ?_, hi', fit_append one11 hw, hr', fun rest => ?_⟩
        · rw [he, List.append_assoc]
          rfl
        · have hd := hd rest
          rw [show sofar + 2 ^ j.toNat + (rl - 2 ^ j.toNat) = sofar + rl by omega] at hd
          show decodeRunLengthFrom (true :: (writesBits (ws ++ final idx' rl' (sofar + rl == remaining)) ++ rest))
            idx sofar remaining = _
          rw [hstep _ _ (by omega : min (2 ^ j.toNat) (remaining - sofar) = 2 ^ j.toNat), if_neg hdone, if_pos rfl]
          exact hd
    · refine ⟨idx, rl, [], by rw [hstop (by omega), List.append_nil], hidx, fit_nil, ⟨hrl, by rw [hj]; omega⟩, fun rest => ?_⟩
      rw [List.nil_append]
      unfold final
      rw [hj]
      by_cases heol : sofar + rl = remaining
      · -- the run ends at the line end inside a chunk: one more 1 bit
        rw [show (sofar + rl == remaining) = true by simp [heol], show (rl != 0) = true by simp; omega]
        show decodeRunLengthFrom (true :: rest) idx sofar remaining = _
        rw [hstep rest rl (by omega), if_pos (by omega), if_neg (by omega), heol]
      · -- interrupted: a 0 bit and `rl` in `J` bits, written as one field of `J + 1` bits
        have hrlt : rl.toNat < 2 ^ j.toNat := Int.toNat_lt_two_pow hrl (by omega)
        have h15 : (2 : Nat) ^ j.toNat ≤ 2 ^ 15 := Nat.pow_le_pow_right (by decide) (by omega)
        have hlt : rl.toNat < Golomb.M32 := by unfold Golomb.M32; simp only [Nat.reducePow] at h15; omega
        rw [show (sofar + rl == remaining) = false by simp [heol]]
        simp only [Bool.false_eq_true, if_false]
        rw [writesBits_single, Nat.mod_eq_of_lt hlt, show (j + 1).toNat = j.toNat + 1 by omega]
        show decodeRunLengthFrom (Nat.testBit rl.toNat j.toNat :: (bitsOf rl.toNat j.toNat ++ rest)) idx sofar remaining = _
        rw [Nat.testBit_lt_two_pow hrlt, hzero rest rl.toNat hrlt (by omega), Int.toNat_of_nonneg hrl]

theorem runlength_roundtrip (idx rl remaining : Int)
    (hidx : 0 ≤ idx ∧ idx ≤ 31) (hrl : 0 ≤ rl ∧ rl ≤ remaining) (hrem : 1 ≤ remaining) :
    ∃ idx' ws, encodeRunLength idx rl (rl == remaining) = .ok (idx', ws) ∧ (0 ≤ idx' ∧ idx' ≤ 31) ∧
      (∀ rest, decodeRunLength (writesBits ws ++ rest) idx remaining = .ok (rl, idx', rest)) ∧ WritesFit ws := by
  obtain ⟨idx', rl', ws, he, hi', hw, hr', hd⟩ :=
    runloop_roundtrip remaining (rl.toNat + 1) idx rl 0 [] hidx hrl.1 (by omega) (by omega) (by omega)
  simp only [Int.zero_add] at hd
  refine ⟨idx', ws ++ final idx' rl' (rl == remaining), ?_, hi', hd, fit_append hw (fit_final _ _ _ hi' hr')⟩
  unfold encodeRunLength
  simp only [he, bind, Except.bind, final]
  cases rl == remaining <;> cases rl' != 0 <;> simp [J?_eq idx' hi']

end JpegLsRun
