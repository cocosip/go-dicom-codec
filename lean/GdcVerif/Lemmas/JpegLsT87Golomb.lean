import GdcVerif.Model.JpegLsScan
import GdcVerif.Model.JpegLsRun
import GdcVerif.Lemmas.JpegLsT87Ctx
import GdcVerif.Spec.T87
import GdcVerif.Lemmas.JpegLsScanStep
import GdcVerif.Lemmas.JpegLsRunInt
/-!
  The Golomb parameter loops (`Context.ComputeGolombParameter` = model `JpegLsScan.golombParam`,
  `RunModeContext.GetGolombCode` = model `JpegLsRun.getGolombCode`) compute T.87's `k`
  (code segments A.10 and A.20: the least `k` with `N·2^k ≥ A` resp. `≥ TEMP`) whenever the caps
  the code adds to the loops (k < 16, k > 32) are not what stops them.
-/
namespace JpegLsT87
open Gen.JpegLs JpegLsScan JpegLsRun

/-- both loops search upwards for the least exponent and give up at a cap -/
theorem isGolombK_of_capped {N A r : Int} (cap : Nat) (h0 : 0 ≤ r) (hlt : ∀ j : Nat, (j : Int) < r → N * 2 ^ j < A)
    (hge : r < cap → A ≤ N * 2 ^ r.toNat) (hcap : A ≤ N * 2 ^ cap) :
    ∃ k : Nat, r = (k : Int) ∧ T87.IsGolombK N A k := by
  refine ⟨r.toNat, by omega, ?_, fun j hj => hlt j (by omega)⟩
  rcases Int.lt_trichotomy r cap with hc | rfl | hc
  · exact hge hc
  · rwa [Int.toNat_natCast]
  · exact absurd (hlt cap hc) (by omega)

theorem golombParam_eq (ctx : Context) (hA : ctx.A ≤ ctx.N * 2 ^ 16) :
    ∃ k : Nat, golombParam ctx 17 0 = (k : Int) ∧ T87.IsGolombK ctx.N ctx.A k :=
  have h := golombParam_inv ctx 17 0 (by omega) (by omega) (by simp) (by intro j hj; omega)
  isGolombK_of_capped 16 h.1.1 h.2.1 h.2.2 hA

theorem getGolombCode_eq (c : RunModeContext) (hrit : c.runInterruptionType = 0 ∨ c.runInterruptionType = 1)
    (hA : c.A + c.N / 2 * c.runInterruptionType ≤ c.N * 2 ^ 32) :
    ∃ k : Nat, getGolombCode c = (k : Int) ∧
      T87.IsGolombK c.N (if c.runInterruptionType = 1 then c.A + c.N / 2 else c.A) k := by
  have ht : (if c.runInterruptionType = 1 then c.A + c.N / 2 else c.A) = c.A + c.N / 2 * c.runInterruptionType := by
    rcases hrit with h | h <;> simp [h]
  rw [ht]
  unfold getGolombCode
  rw [Go.shr_one]
  have h := golombLoop_least c.N (c.A + c.N / 2 * c.runInterruptionType)
  exact isGolombK_of_capped 32 h.1.1 h.2.1 (fun hr => h.2.2 (by omega)) hA

theorem riEM_eq (c : RunModeContext) (e k : Int) : riEM c e k = T87.riEMErrval (riSpec c) k e := by
  unfold T87.riEMErrval riEM
  rw [riMap_eq]
  generalize T87.riMap (riSpec c) k e = b
  cases b <;> simp [Go.abs, riSpec]

theorem encodeRunInterruption_eq (t : Traits) (idx : Int) (c : RunModeContext) (e : Int)
    (hidx : 0 ≤ idx ∧ idx ≤ 31)
    (hrit : c.runInterruptionType = 0 ∨ c.runInterruptionType = 1)
    (hA : c.A + c.N / 2 * c.runInterruptionType ≤ c.N * 2 ^ 32) :
    ∃ (k : Nat) (j : Int),
      T87.IsGolombK c.N (if c.runInterruptionType = 1 then c.A + c.N / 2 else c.A) k ∧
      J? idx = .ok j ∧
      encodeRunInterruption t idx c e =
        .ok (Golomb.encodeWrites k (T87.riEMErrval (riSpec c) k e) (t.Limit - j - 1) t.Qbpp,
             RunModeContext.UpdateVariables c e (T87.riEMErrval (riSpec c) k e) t.Reset) ∧
      riSpec (RunModeContext.UpdateVariables c e (T87.riEMErrval (riSpec c) k e) t.Reset) =
        T87.riUpdate (specOf t) (riSpec c) e (T87.riEMErrval (riSpec c) k e) := by
  obtain ⟨k, hk, hK⟩ := getGolombCode_eq c hrit hA
  refine ⟨k, _, hK, J?_eq idx hidx, ?_, riUpdate_eq c e _ t.Reset (specOf t) rfl⟩
  rw [encodeRunInterruption_ok t idx c e hidx, hk, riEM_eq]

end JpegLsT87
