import GdcVerif.GoPrelude
import GdcVerif.Lemmas.Basics
/-!
  Rewrite lemmas for the Go bitwise operators of `GoPrelude` (64-bit two's complement through
  `BitVec 64`) in the three shapes the codecs use:

  * `Go.and x (2^k − 1) = x % 2^k`      masks (`MaxVal`, `1`, `0xFF`, `(1<<k)−1`)
  * `Go.xor x 0 = x`, `Go.xor 0 x = x`   sign application with sign = 0
  * `Go.xor x (−1) = −x − 1`, `Go.xor (−1) x = −x − 1`   sign application with sign = −1

  the xor shapes for every `x` in the int64 range (`−2^63 ≤ x < 2^63`), the mask for every `x` and `k ≤ 62`;
  `Go.or` of two naturals below `2^63`, an addition when the bits are disjoint (`or_add`); and the shifts, the int32
  conversion and the absolute value as arithmetic: `Go.shr x k = x / 2^k`, `Go.shl 1 k = 2^k`, `Go.wrap32 x = x` on
  the int32 range, `abs_cases`.
-/
namespace Go

def I64 (x : Int) : Prop := -9223372036854775808 ≤ x ∧ x < 9223372036854775808

instance (x : Int) : Decidable (I64 x) := by unfold I64; infer_instance

theorem bmod_of_I64 {x : Int} (h : I64 x) : x.bmod (2 ^ 64) = x := by
  unfold I64 at h
  unfold Int.bmod
  simp only [Nat.reducePow]
  split <;> omega

theorem toInt_ofInt_of_I64 {x : Int} (h : I64 x) : (BitVec.ofInt 64 x).toInt = x := by
  rw [BitVec.toInt_ofInt, bmod_of_I64 h]

theorem toInt_natOp {f : BitVec 64 → BitVec 64 → BitVec 64} {g : Nat → Nat → Nat}
    (hfg : ∀ x y : BitVec 64, (f x y).toNat = g x.toNat y.toNat) {a b : Nat} (ha : a < 2 ^ 64) (hb : b < 2 ^ 64)
    (h : g a b < 2 ^ 63) : (f (BitVec.ofInt 64 a) (BitVec.ofInt 64 b)).toInt = ((g a b : Nat) : Int) := by
  rw [BitVec.ofInt_natCast, BitVec.ofInt_natCast, BitVec.toInt_eq_toNat_cond, hfg, BitVec.toNat_ofNat,
    BitVec.toNat_ofNat, Nat.mod_eq_of_lt ha, Nat.mod_eq_of_lt hb, if_pos (by omega)]

theorem and_nat (a b : Nat) (ha : a < 2 ^ 63) (hb : b < 2 ^ 63) : Go.and a b = ((a &&& b : Nat) : Int) :=
  toInt_natOp (fun _ _ => BitVec.toNat_and ..) (by omega) (by omega) (Nat.lt_of_le_of_lt Nat.and_le_left ha)

theorem or_nat (a c : Nat) (ha : a < 2 ^ 63) (hc : c < 2 ^ 63) : Go.or a c = ((a ||| c : Nat) : Int) :=
  toInt_natOp (fun _ _ => BitVec.toNat_or ..) (by omega) (by omega) (Nat.or_lt_two_pow ha hc)

/-- No range hypothesis on `x` is needed: `BitVec.ofInt` reduces modulo `2^64` first, the residue and the mask are
    naturals, `a &&& (2^k − 1) = a % 2^k`, and `2^k ∣ 2^64`. -/
theorem and_mask (x : Int) (k : Nat) (hk : k ≤ 62) : Go.and x ((2 : Int) ^ k - 1) = x % (2 : Int) ^ k := by
  have hp : (2 : Nat) ^ k ≤ 2 ^ 62 := Nat.pow_le_pow_right (by decide) hk
  have hnn : 0 ≤ x % 2 ^ 64 := Int.emod_nonneg _ (by decide)
  have hx : BitVec.ofInt 64 x = BitVec.ofInt 64 ((x % 2 ^ 64).toNat : Int) := by
    rw [Int.toNat_of_nonneg hnn]
    exact BitVec.eq_of_toInt_eq (by rw [BitVec.toInt_ofInt, BitVec.toInt_ofInt]; exact (Int.emod_bmod x (2 ^ 64)).symm)
  have hm : (2 : Int) ^ k - 1 = ((2 ^ k - 1 : Nat) : Int) := by
    have := Nat.one_le_two_pow (n := k)
    rw [Int.ofNat_sub this]; simp
  unfold Go.and
  rw [hx, hm, toInt_natOp (fun _ _ => BitVec.toNat_and ..) (by omega) (by omega)
      (Nat.lt_of_le_of_lt Nat.and_le_right (by omega)),
    Nat.and_two_pow_sub_one_eq_mod, Int.natCast_emod, Int.toNat_of_nonneg hnn, Int.natCast_two_pow]
  exact Int.emod_emod_of_dvd x ⟨2 ^ (64 - k), by rw [← Int.pow_add, show k + (64 - k) = 64 by omega]⟩

theorem and_one (x : Int) : Go.and x 1 = x % 2 := by
  have := and_mask x 1 (by decide); simpa using this

theorem and_255 (x : Int) : Go.and x 255 = x % 256 := by
  have := and_mask x 8 (by decide); simpa using this

theorem xor_zero (x : Int) (h : I64 x) : Go.xor x 0 = x := by
  unfold Go.xor
  have : BitVec.ofInt 64 0 = 0#64 := rfl
  rw [this, BitVec.xor_zero]; exact toInt_ofInt_of_I64 h

theorem xor_comm (x y : Int) : Go.xor x y = Go.xor y x := by unfold Go.xor; rw [BitVec.xor_comm]

theorem zero_xor (x : Int) (h : I64 x) : Go.xor 0 x = x := (xor_comm 0 x).trans (xor_zero x h)

/-- xor with all ones is the complement, and `~~~x = -x - 1`, which is in range when `x` is -/
theorem xor_neg_one (x : Int) (h : I64 x) : Go.xor x (-1) = -x - 1 := by
  unfold Go.xor
  have e : BitVec.ofInt 64 (-1) = BitVec.allOnes 64 := by decide
  have e1 : (1#64).toInt = 1 := by decide
  rw [e, BitVec.xor_allOnes, BitVec.not_eq_neg_add, BitVec.toInt_sub, BitVec.toInt_neg, toInt_ofInt_of_I64 h,
    Int.bmod_sub_bmod, e1]
  exact bmod_of_I64 (by unfold I64 at *; omega)

theorem neg_one_xor (x : Int) (h : I64 x) : Go.xor (-1) x = -x - 1 := (xor_comm (-1) x).trans (xor_neg_one x h)

theorem or_comm (x y : Int) : Go.or x y = Go.or y x := by unfold Go.or; rw [BitVec.or_comm]

theorem or_add {x y : Nat} (k : Nat) (hk : k ≤ 63) (hx : x < 2 ^ 63) (h : 2 ^ k ∣ x) (hy : y < 2 ^ k) :
    Go.or (x : Int) (y : Int) = (x : Int) + y := by
  have := Nat.pow_le_pow_right (n := 2) (by decide) hk
  rw [or_nat x y hx (by omega), Nat.or_eq_add_of_dvd h hy, Int.natCast_add]

theorem or_shl8 (lo hi : Nat) (hlo : lo < 256) (hhi : hi < 256) :
    Go.or (lo : Int) (Go.shl (hi : Int) 8) = (lo : Int) + 256 * (hi : Int) := by
  have e : Go.shl (hi : Int) 8 = ((hi * 256 : Nat) : Int) := by simp [Go.shl]
  rw [e, or_comm, or_add 8 (by decide) (by omega) (Nat.dvd_mul_left _ _) hlo]
  omega

theorem shr_eq (x k : Int) : Go.shr x k = x / 2 ^ k.toNat := by
  unfold Go.shr; simp [Int.shiftRight_eq_div_pow]

theorem shr_one (x : Int) : Go.shr x 1 = x / 2 := by simpa using shr_eq x 1
theorem shr_two (x : Int) : Go.shr x 2 = x / 4 := by simpa using shr_eq x 2
theorem shr_eight (x : Int) : Go.shr x 8 = x / 256 := by simpa using shr_eq x 8

theorem shr_eight_natCast (n : Nat) : Go.shr (n : Int) 8 = ((n / 256 : Nat) : Int) :=
  (shr_eight n).trans (Int.natCast_ediv n 256).symm

theorem shl_one (k : Nat) : Go.shl 1 (k : Int) = 2 ^ k := by simp [Go.shl]

theorem shl_eq_mul_two (x : Int) : Go.shl x 1 = x * 2 := by simp [Go.shl]

theorem wrap32_id {x : Int} (h1 : -2147483648 ≤ x) (h2 : x < 2147483648) : Go.wrap32 x = x := by
  unfold Go.wrap32; omega

/-- `Go.abs` in the shape `omega` can use -/
theorem abs_cases (x : Int) : (0 ≤ x ∧ Go.abs x = x) ∨ (x < 0 ∧ Go.abs x = -x) := by
  unfold Go.abs
  split <;> omega

end Go
