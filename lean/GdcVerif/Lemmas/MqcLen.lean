import GdcVerif.Lemmas.MqcTerm
/-!
  C20 — a crude length bound for MQ output: every `Encode` shifts the code register by at most 15 bits
  (`Qe ≥ 1`), a byte leaves the register every 7 or 8 shifts, and `Flush` adds at most three bytes.
-/
namespace Mqc

/-- `S` shifts so far: 12 went into the start-up budget, then 7 or 8 per byte -/
def LenInv (e : Enc) (S : Nat) : Prop := 1 ≤ e.ct ∧ 7 * e.bp + 5 ≤ S + e.ct.toNat

theorem LenInv.mono {e : Enc} {S : Nat} (h : LenInv e S) (k : Nat) : LenInv e (S + k) := ⟨h.1, by have := h.2; omega⟩

theorem renormeLoop_len (fuel : Nat) (e e' : Enc) (S k : Nat) (h : RegOk e) (he : renormeLoop fuel e = some e')
    (hL : LenInv e S) (hk : 0x8000 ≤ e.a * 2 ^ k) : LenInv e' (S + k) := by
  refine renormeLoop_induct (P := fun _ e => ∀ S k, LenInv e S → 0x8000 ≤ e.a * 2 ^ k → LenInv e' (S + k)) e'
    (fun _ _ S k hL _ => hL.mono k) ?_ fuel e h he S k hL hk
  intro _ e e2 h hlt hs ih S k hL hk
  cases k with
  | zero => rw [Nat.pow_zero, Nat.mul_one] at hk; omega
  | succ k =>
    have hL2 : LenInv e2 (S + 1) := by
      have h1 := hL.1; have h2 := hL.2
      rcases hs.out with ⟨_, rfl⟩ | ⟨hct, w, nb, δ, hE⟩
      · exact ⟨by show 1 ≤ e.ct - 1; omega, by show 7 * e.bp + 5 ≤ S + 1 + (e.ct - 1).toNat; omega⟩
      · have hbp : e2.bp = e.bp + 1 := hE.bp
        have hct2 := hE.ct78
        exact ⟨by omega, by rw [hbp]; omega⟩
    rw [show S + (k + 1) = S + 1 + k by omega]
    exact ih (S + 1) k hL2 (by rw [hs.a, Nat.mul_assoc, ← Nat.pow_succ']; exact hk)

theorem renorme_len (e e' : Enc) (S : Nat) (h : RegOk e) (he : renorme e = some e') (hL : LenInv e S) :
    LenInv e' (S + 15) :=
  renormeLoop_len 16 e e' S 15 h he hL (Nat.le_mul_of_pos_left _ h.apos)

theorem encode_len (e e1 : Enc) (bit cx S : Nat) (h : RegOk e) (hn : 0x8000 ≤ e.a) (hcx : cx < e.ctx.size)
    (he : encode e bit cx = some e1) (hL : LenInv e S) : LenInv e1 (S + 15) := by
  obtain ⟨a', c', ctx', _, _, _, hr, he'⟩ := encode_sub e bit cx h hn hcx
  exact renorme_len _ e1 S hr (he'.symm.trans he) hL

theorem encodeAll_len (ds : List (Nat × Nat)) (e e' : Enc) (S : Nat) (h : RegOk e) (hn : 0x8000 ≤ e.a)
    (hds : ∀ d ∈ ds, d.2 < e.ctx.size) (he : encodeAll e ds = some e') (hL : LenInv e S) :
    LenInv e' (S + 15 * ds.length) := by
  refine encodeAll_induct (P := fun e ds => ∀ S, LenInv e S → LenInv e' (S + 15 * ds.length)) e' (fun S hL => hL) ?_
    ds e h hn hds he S hL
  intro e e1 bit cx ds h hn hcx he1 ih S hL
  have := ih (S + 15) (encode_len e e1 bit cx S h hn hcx he1 hL)
  rw [List.length_cons, show S + 15 * (ds.length + 1) = S + 15 + 15 * ds.length by omega]
  exact this

theorem mq_len_bound (n : Nat) (ds : List (Nat × Nat)) (hds : ∀ d ∈ ds, d.2 < n) :
    ∃ bytes, encodeBytes n ds = some bytes ∧ bytes.length ≤ (15 * ds.length + 8) / 7 + 2 := by
  obtain ⟨h0, hn0, hs0⟩ := new_ok n
  obtain ⟨e, he, hr, hn⟩ := encodeAll_new n ds hds
  have hL0 : LenInv (Enc.new n) 0 := ⟨by show (1 : Int) ≤ 12; omega, by show 7 * 0 + 5 ≤ 0 + (12 : Int).toNat; decide⟩
  have hL := encodeAll_len ds (Enc.new n) e 0 h0 hn0 (by rw [hs0]; exact hds) he hL0
  obtain ⟨e', bytes, hfl, _, hlen⟩ := flush_spec e hr hn
  refine ⟨bytes, ?_, ?_⟩
  · unfold encodeBytes
    rw [he]
    simp only [hfl, Option.map_some]
  · have h13 := hr.cthi
    have h2 := hL.2
    have h1 := hL.1
    omega

end Mqc
