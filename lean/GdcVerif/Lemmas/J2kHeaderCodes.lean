import GdcVerif.Model.J2kSample
import GdcVerif.Lemmas.BitList
/-!
  The codes of a JPEG 2000 packet header on bit lists (C04): number of coding passes (Annex B.10.6), comma code,
  fixed-width fields, the Lblock length code.  Each decoder, run on what its encoder wrote followed by any `rest`,
  returns the value and leaves `rest`.
-/
namespace J2k

theorem readBitsL_append (rest : List Bool) : ∀ (n acc : Nat) (bs : List Bool) {v : Nat} {r : List Bool},
    readBitsL n acc bs = some (v, r) → readBitsL n acc (bs ++ rest) = some (v, r ++ rest)
  | 0, _, _, _, _, h => by
    simp only [readBitsL, Option.some.injEq, Prod.mk.injEq] at h ⊢
    exact ⟨h.1, by rw [h.2]⟩
  | _ + 1, _, [], _, _, h => by simp [readBitsL] at h
  | n + 1, _, _ :: bs, _, _, h => by
    simp only [List.cons_append, readBitsL] at h ⊢
    exact readBitsL_append rest n _ bs h

/-- one stage of `decNumPasses` -/
def npStage (w : Nat) (c : Nat → Bool) (g : Nat → Nat) (k : List Bool → Option (Nat × List Bool)) (bs : List Bool) :
    Option (Nat × List Bool) :=
  match readBitsL w 0 bs with
  | none => none
  | some (v, r) => if c v then some (g v, r) else k r

theorem decNumPasses_stages : decNumPasses =
    npStage 1 (· == 0) (fun _ => 1) (npStage 1 (· == 0) (fun _ => 2) (npStage 2 (· != 3) (3 + ·)
      (npStage 5 (· != 31) (6 + ·) (npStage 7 (fun _ => true) (37 + ·) fun _ => none)))) := by
  funext bs
  rfl

theorem npStage_append (rest : List Bool) (w : Nat) (c : Nat → Bool) (g : Nat → Nat)
    (k : List Bool → Option (Nat × List Bool))
    (hk : ∀ bs n r, k bs = some (n, r) → k (bs ++ rest) = some (n, r ++ rest)) (bs : List Bool) (n : Nat) (r : List Bool)
    (h : npStage w c g k bs = some (n, r)) : npStage w c g k (bs ++ rest) = some (n, r ++ rest) := by
  unfold npStage at h ⊢
  cases h1 : readBitsL w 0 bs with
  | none => simp only [h1] at h; cases h
  | some x =>
    rw [readBitsL_append rest _ _ _ h1]
    simp only [h1] at h ⊢
    by_cases hc : c x.1 = true
    · rw [if_pos hc] at h ⊢; cases h; rfl
    · rw [if_neg hc] at h ⊢; exact hk _ _ _ h

theorem decNumPasses_append (rest : List Bool) {bs r : List Bool} {n : Nat} (h : decNumPasses bs = some (n, r)) :
    decNumPasses (bs ++ rest) = some (n, r ++ rest) := by
  rw [decNumPasses_stages] at h ⊢
  exact npStage_append rest _ _ _ _ (npStage_append rest _ _ _ _ (npStage_append rest _ _ _ _
    (npStage_append rest _ _ _ _ (npStage_append rest _ _ _ _ fun _ _ _ h => by cases h)))) _ _ _ h

/-- the table of Annex B.10.6 -/
theorem numPasses_codes : ∀ n, n < 165 → 1 ≤ n → (encNumPasses n).bind decNumPasses = some (n, []) := by
  decide +kernel

theorem numPasses_roundtrip' (n : Nat) (h1 : 1 ≤ n) (h164 : n ≤ 164) (rest : List Bool) :
    ∃ code, encNumPasses n = some code ∧ decNumPasses (code ++ rest) = some (n, rest) := by
  have h := numPasses_codes n (by omega) h1
  cases hc : encNumPasses n with
  | none => simp [hc] at h
  | some code =>
    rw [hc] at h
    exact ⟨code, rfl, decNumPasses_append rest h⟩

theorem numPasses_none (n : Nat) (h : 164 < n) : encNumPasses n = none := by
  unfold encNumPasses
  have c1 : (n == 1) = false := by simp; omega
  have c2 : (n == 2) = false := by simp; omega
  have c3 : ¬ n ≤ 5 := by omega
  have c4 : ¬ n ≤ 36 := by omega
  have c5 : ¬ n ≤ 164 := by omega
  simp [c1, c2, c3, c4, c5]

theorem comma_roundtrip' (n : Nat) (rest : List Bool) : decComma (encComma n ++ rest) = some (n, rest) := by
  induction n with
  | zero => rfl
  | succ n ih => simp only [encComma, List.cons_append, decComma, ih]

theorem writeBitsL_eq : @writeBitsL = @Bits.msb := by
  funext v n; induction n with
  | zero => rfl
  | succ n ih => rw [writeBitsL, ih, Bits.msb, Bits.testBit_eq_beq]

theorem readBitsL_eq : ∀ (n acc : Nat) (bs : List Bool), n ≤ bs.length →
    readBitsL n acc bs = some (acc * 2 ^ n + Bits.val (bs.take n), bs.drop n)
  | 0, acc, bs, _ => by simp [readBitsL, Bits.val]
  | n + 1, acc, b :: bs, h => by
    rw [readBitsL, readBitsL_eq n _ bs (by simpa using h), List.take_succ_cons, List.drop_succ_cons, Bits.val,
      List.length_take_of_le (by simpa using h), Bits.ite_eq_toNat, Nat.pow_succ, Nat.add_mul, Nat.mul_comm 2 acc,
      Nat.mul_assoc, Nat.mul_comm 2, Nat.add_assoc]

theorem bits_roundtrip' (n v : Nat) (hv : v < 2 ^ n) (rest : List Bool) :
    readBitsL n 0 (writeBitsL v n ++ rest) = some (v, rest) := by
  have hl : (Bits.msb v n).length = n := Bits.length_msb v n
  rw [writeBitsL_eq, readBitsL_eq n 0 _ (by simp), List.take_left' hl, List.drop_left' hl, Bits.val_msb,
    Nat.mod_eq_of_lt hv]
  simp

theorem floorLog2F_eq : ∀ (f n : Nat), n ≤ f → floorLog2F f n = Nat.log2 n
  | 0, n, h => by
    have : n = 0 := by omega
    subst this; rfl
  | f + 1, n, h => by
    unfold floorLog2F
    rw [Nat.log2_def]
    by_cases h1 : n ≤ 1
    · rw [if_pos h1, if_neg (by omega)]
    · rw [if_neg h1, if_pos (by omega), floorLog2F_eq f (n / 2) (by omega), Nat.add_comm]

theorem floorLog2_eq (n : Nat) : floorLog2 n = Nat.log2 n := floorLog2F_eq n n (Nat.le_refl _)

theorem lt_pow_floorLog2 (n : Nat) : n < 2 ^ (floorLog2 n + 1) := floorLog2_eq n ▸ Nat.lt_log2_self

theorem floorLog2_le (n k : Nat) (h : n < 2 ^ (k + 1)) : floorLog2 n ≤ k := by
  rw [floorLog2_eq]
  by_cases h0 : n = 0
  · subst h0; exact Nat.zero_le _
  · exact Nat.lt_succ_iff.mp ((Nat.log2_lt h0).mpr h)

theorem lblock_roundtrip' (numLenBits dataLen newPasses : Nat) (rest : List Bool)
    (hw : (encLen numLenBits dataLen newPasses).1 + floorLog2 newPasses ≤ 32) :
    decLen numLenBits newPasses ((encLen numLenBits dataLen newPasses).2 ++ rest) =
      some (dataLen, (encLen numLenBits dataLen newPasses).1, rest) ∧
    dataLen < 2 ^ ((encLen numLenBits dataLen newPasses).1 + floorLog2 newPasses) := by
  unfold encLen decLen at *
  simp only [] at *
  generalize hl : (if (numLenBits == 0) = true then 3 else numLenBits) = l at *
  have hl3 : 1 ≤ l := by
    rw [← hl]; split
    · omega
    · next h => simp at h; omega
  generalize hinc : floorLog2 dataLen + 1 - (l + floorLog2 newPasses) = inc at *
  have hwide : floorLog2 dataLen + 1 ≤ l + inc + floorLog2 newPasses := by omega
  have hlt : dataLen < 2 ^ (l + inc + floorLog2 newPasses) :=
    Nat.lt_of_lt_of_le (lt_pow_floorLog2 _) (Nat.pow_le_pow_right (by decide) hwide)
  refine ⟨?_, hlt⟩
  rw [List.append_assoc, comma_roundtrip']
  simp only []
  have c : (l + inc + floorLog2 newPasses == 0 || decide (l + inc + floorLog2 newPasses > 32)) = false := by
    simp; omega
  simp only [c, Bool.false_eq_true, if_false]
  rw [bits_roundtrip' _ _ hlt]

end J2k
