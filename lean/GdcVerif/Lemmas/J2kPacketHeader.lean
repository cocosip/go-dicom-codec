import GdcVerif.Model.J2kPacketHeader
import GdcVerif.Lemmas.J2kTagTree
import GdcVerif.Lemmas.J2kHeaderCodes
/-! Packet header: encoder / decoder lock step over the code-blocks of a band, the bands of a packet, and layers.
    Per band, `prepare` is one pass of conditional SetValue over each of the two trees (`setLeaves`, `prepare_eq`) and
    leaves the leaves as `LeafOK` says; the code-block loop then changes no tree value, and what it threads is `TreesInv`
    (`cb_sync`: the four branches of encodePacketHeaderCodeBlock; `cbs_sync`).  `BandInv` is what holds between packets. -/
namespace J2kPH
open J2k J2kTT

def All2 {α β : Type} (R : α → β → Prop) : List α → List β → Prop
  | [], [] => True
  | a :: as, b :: bs => R a b ∧ All2 R as bs
  | _, _ => False

theorem all2_imp {α β : Type} {R R' : α → β → Prop} : ∀ (l : List α) (m : List β),
    (∀ a ∈ l, ∀ b, R a b → R' a b) → All2 R l m → All2 R' l m
  | [], [], _, _ => trivial
  | [], _ :: _, _, h => h
  | _ :: _, [], _, h => h
  | a :: l, b :: m, hi, h =>
    ⟨hi a (by simp) b h.1, all2_imp l m (fun a' ha' => hi a' (by simp [ha'])) h.2⟩

theorem all2_map_map {α β γ : Type} {R : β → γ → Prop} (f : α → β) (g : α → γ) : ∀ (l : List α),
    (∀ a ∈ l, R (f a) (g a)) → All2 R (l.map f) (l.map g)
  | [], _ => trivial
  | a :: l, h => ⟨h a (by simp), all2_map_map f g l (fun a' ha' => h a' (by simp [ha']))⟩

/-- encoder and decoder record of a code-block between packets.  `lblock ≤ 25` is what keeps the length field within
    the 32 bits of bioReader.readBits: 25 + ⌊log2 164⌋ = 32, and lengths below 2^24 never push Lblock past 25
    (`encLen_bounds`).  Before the first inclusion the encoder holds 0 where the decoder assumes 3. -/
def CbSync (e : CbE) (d : CbD) : Prop :=
  d.x = e.x ∧ d.y = e.y ∧ d.included = e.included ∧
  (e.included = true → d.zbp = e.zbp ∧ d.lblock = e.lblock ∧ e.lblock ≠ 0) ∧
  (e.included = false → e.lblock = 0) ∧ e.lblock ≤ 25

def COk (c : Contrib) : Prop := ∀ np len, c = some (np, len) → 1 ≤ np ∧ np ≤ 164 ∧ len < 2 ^ 24

/-- tag-tree leaf values as `prepare` leaves them, for a code-block and its contribution in this layer; with `none` for
    the contribution, the leaf facts of `BandInv` after the packet (`unset`, `zset`, `zbp32`) -/
def LeafOK (layer : Nat) (ival zval : Node → Nat) (e : CbE) (c : Contrib) : Prop :=
  (e.included = false → ival (0, e.x, e.y) = (if c.isSome then layer else sentinel)) ∧
  zval (0, e.x, e.y) = e.zbp ∧ e.zbp < 32

def expIncl (e : CbE) (c : Contrib) : Incl :=
  match c with
  | none => ⟨false, 0, 0, 0⟩
  | some (np, len) => ⟨true, np, len, e.zbp⟩

theorem encLen_bounds (l len np : Nat) (hl : l ≤ 25) (hnp : np ≤ 164) (hlen : len < 2 ^ 24) :
    (encLen l len np).1 ≤ 25 ∧ (encLen l len np).1 + floorLog2 np ≤ 32 ∧ (encLen l len np).1 ≠ 0 := by
  have h1 : floorLog2 len ≤ 23 := floorLog2_le len 23 hlen
  have h2 : floorLog2 np ≤ 7 := floorLog2_le np 7 (by omega)
  unfold encLen
  simp only []
  by_cases h0 : l = 0
  · subst h0; simp; omega
  · have : (l == 0) = false := by simp [h0]
    simp only [this, Bool.false_eq_true, if_false]; omega

theorem encNumPasses_ok (np : Nat) (h1 : 1 ≤ np) (h2 : np ≤ 164) (rest : List Bool) :
    decNumPasses ((encNumPasses np).getD [] ++ rest) = some (np, rest) := by
  obtain ⟨code, hc, hd⟩ := numPasses_roundtrip' np h1 h2 rest
  rw [hc]; exact hd

def stepCb (e : CbE) (c : Contrib) : CbE :=
  match c with
  | none => e
  | some (np, len) => { e with included := true, lblock := (encLen e.lblock len np).1 }

-- encodePacketHeaderCodeBlock for one code-block is `encCbs` on `[e] [c]`.  `H`, `R` name a term by an equation so that the
-- statement says it once (so `E`, `P` below); callers pass `_ rfl`.
theorem encCbs_cons (layer w h : Nat) (e : CbE) (es : List CbE) (c : Contrib) (cs : List Contrib) (incl zt : TTEnc)
    (H R : List CbE × TTEnc × TTEnc × List Bool) (hH : encCbs layer w h [e] [c] incl zt = H)
    (hR : encCbs layer w h es cs H.2.1 H.2.2.1 = R) :
    encCbs layer w h (e :: es) (c :: cs) incl zt = (stepCb e c :: R.1, R.2.1, R.2.2.1, H.2.2.2 ++ R.2.2.2) := by
  subst hH hR
  simp only [encCbs, List.append_nil]
  obtain ⟨x, y, zbp, inc, lb⟩ := e
  cases inc <;> rcases c with _ | ⟨np, len⟩ <;> rfl

/-- the two trees of a band while its code-blocks are coded.  Encode changes no value, so the values are parameters
    (`ival`, `zval`: those `prepare` left) and what is known of them (`LeafOK`, the heap order) is not transported. -/
structure TreesInv (layer w h : Nat) (ival zval : Node → Nat) (incl zt : TTEnc) (incld ztd : TTDec) : Prop where
  iInv : Inv incl incld
  zInv : Inv zt ztd
  iVal : incl.val = ival
  zVal : zt.val = zval
  iHeap : GlobalHeap ival (ttNumLevels w h)
  zHeap : GlobalHeap zval (ttNumLevels w h)
  iLow : ∀ n, incl.low n ≤ layer + 1

theorem cb_sync (layer w h : Nat) (hlayer : layer + 1 ≤ sentinel) (e : CbE) (d : CbD) (c : Contrib)
    (ival zval : Node → Nat) (incl zt : TTEnc) (incld ztd : TTDec) (ds : List CbD)
    (H : List CbE × TTEnc × TTEnc × List Bool) (hH : encCbs layer w h [e] [c] incl zt = H)
    (hs : CbSync e d) (hleaf : LeafOK layer ival zval e c) (hokc : COk c)
    (ht : TreesInv layer w h ival zval incl zt incld ztd) :
    ∃ d' incld' ztd',
      (∀ tail, decCbs layer w h (d :: ds) incld ztd (H.2.2.2 ++ tail) =
        (match decCbs layer w h ds incld' ztd' tail with
          | none => none
          | some (cbs', i2, z2, outs, rest) => some (d' :: cbs', i2, z2, expIncl e c :: outs, rest))) ∧
      CbSync (stepCb e c) d' ∧ TreesInv layer w h ival zval H.2.1 H.2.2.1 incld' ztd' := by
  subst hH
  obtain ⟨hi, hz, rfl, rfl, hih, hzh, hlow⟩ := ht
  obtain ⟨sx, sy, sinc, s1, s0, sl⟩ := hs
  obtain ⟨l1, l2, l3⟩ := hleaf
  cases hinc : e.included with
  | false =>
    have hdinc : d.included = false := by rw [sinc, hinc]
    have hl0 := s0 hinc
    have hv1 := encode_val incl w h e.x e.y (layer + 1)
    have hlow1 : ∀ n, (incl.encode w h e.x e.y (layer + 1)).1.low n ≤ layer + 1 :=
      encodePath_low_bound (layer + 1) (layer + 1) (Nat.le_refl _) _ incl 0 hlow (Nat.zero_le _)
    cases c with
    | none =>
      simp only [encCbs, hinc, Bool.not_false, if_true, stepCb, List.append_nil]
      obtain ⟨incld1, hq, hi1, hr1, hr2⟩ := query_sync w h e.x e.y (layer + 1) hlayer incl incld hi hih
      generalize incld1.val (0, e.x, e.y) = r at hq hr1 hr2
      have hval : incl.val (0, e.x, e.y) = sentinel := by simpa using l1 hinc
      have hr : r > layer := by rw [hval] at hr2; unfold sentinel at *; omega
      refine ⟨d, incld1, ztd, fun tail => ?_, ⟨sx, sy, sinc, s1, s0, sl⟩, hi1, hz, hv1, rfl, hih, hzh, hlow1⟩
      simp only [decCbs, hdinc, Bool.not_false, if_true, sx, sy, hq, hr, expIncl]
      rfl
    | some q =>
      obtain ⟨np, len⟩ := q
      simp only [encCbs, hinc, Bool.not_false, if_true, stepCb, List.append_nil, List.append_assoc]
      obtain ⟨hnp1, hnp2, hlen⟩ := hokc np len rfl
      obtain ⟨incld1, hq, hi1, hr1, hr2⟩ := query_sync w h e.x e.y (layer + 1) hlayer incl incld hi hih
      generalize incld1.val (0, e.x, e.y) = r at hq hr1 hr2
      have hval : incl.val (0, e.x, e.y) = layer := by simpa using l1 hinc
      have hr : ¬ r > layer := by rw [hr1 (by rw [hval]; omega), hval]; omega
      obtain ⟨ztd1, hqz, hz1⟩ :=
        query_sync_thr w h e.x e.y 999 32 (by decide) zt ztd hz hzh (by rw [l2]; omega) (by rw [l2]; exact l3)
      have hb := encLen_bounds e.lblock len np sl hnp2 hlen
      have hlb := fun tail => (lblock_roundtrip' e.lblock len np tail hb.2.1).1
      have hl3 : decLen 3 np = decLen e.lblock np := by unfold decLen; rw [hl0]; rfl
      refine ⟨{ d with included := true, lblock := (encLen e.lblock len np).1, zbp := e.zbp }, incld1, ztd1, fun tail => ?_,
        ⟨sx, sy, rfl, fun _ => ⟨rfl, rfl, hb.2.2⟩, fun hf => by simp at hf, hb.1⟩,
        hi1, hz1, hv1, encode_val zt w h e.x e.y 999, hih, hzh, hlow1⟩
      simp only [decCbs, hdinc, Bool.not_false, if_true, sx, sy, hq, hr, if_false, hqz, encNumPasses_ok np hnp1 hnp2, hl3, hlb,
        expIncl, l2]
      rfl
  | true =>
    have hdinc : d.included = true := by rw [sinc, hinc]
    obtain ⟨sz, slb, -⟩ := s1 hinc
    cases c with
    | none =>
      simp only [encCbs, hinc, Bool.not_true, Bool.false_eq_true, if_false, stepCb, List.append_nil]
      refine ⟨d, incld, ztd, fun tail => ?_, ⟨sx, sy, sinc, s1, s0, sl⟩, hi, hz, rfl, rfl, hih, hzh, hlow⟩
      simp only [decCbs, hdinc, Bool.not_true, Bool.false_eq_true, if_false, List.cons_append, List.nil_append, expIncl]
      rfl
    | some q =>
      obtain ⟨np, len⟩ := q
      simp only [encCbs, hinc, Bool.not_true, Bool.false_eq_true, if_false, stepCb, List.append_nil]
      obtain ⟨hnp1, hnp2, hlen⟩ := hokc np len rfl
      have hb := encLen_bounds e.lblock len np sl hnp2 hlen
      have hlb := fun tail => (lblock_roundtrip' e.lblock len np tail hb.2.1).1
      refine ⟨{ d with lblock := (encLen e.lblock len np).1 }, incld, ztd, fun tail => ?_,
        ⟨sx, sy, sinc.trans hinc, fun _ => ⟨sz, rfl, hb.2.2⟩, fun hf => by simp at hf, hb.1⟩, hi, hz, rfl, rfl, hih, hzh, hlow⟩
      simp only [decCbs, hdinc, Bool.not_true, Bool.false_eq_true, if_false, List.cons_append, List.append_assoc,
        encNumPasses_ok np hnp1 hnp2, slb, hlb, expIncl, sz]
      rfl

theorem cbs_sync (layer w h : Nat) (hlayer : layer + 1 ≤ sentinel) (ival zval : Node → Nat) :
    ∀ (ecbs : List CbE) (dcbs : List CbD) (cs : List Contrib) (incl zt : TTEnc) (incld ztd : TTDec)
      (E : List CbE × TTEnc × TTEnc × List Bool), encCbs layer w h ecbs cs incl zt = E → cs.length = ecbs.length →
      All2 CbSync ecbs dcbs → (∀ e c, (e, c) ∈ ecbs.zip cs → LeafOK layer ival zval e c) → (∀ c ∈ cs, COk c) →
      TreesInv layer w h ival zval incl zt incld ztd →
      ∃ dcbs' incld' ztd',
        (∀ rest, decCbs layer w h dcbs incld ztd (E.2.2.2 ++ rest) =
          some (dcbs', incld', ztd', List.zipWith expIncl ecbs cs, rest)) ∧
        All2 CbSync E.1 dcbs' ∧ TreesInv layer w h ival zval E.2.1 E.2.2.1 incld' ztd' := by
  intro ecbs
  induction ecbs with
  | nil =>
    intro dcbs cs incl zt incld ztd E hE _ hs _ _ ht
    subst hE
    cases dcbs with
    | nil => exact ⟨[], incld, ztd, by simp [encCbs, decCbs], trivial, ht⟩
    | cons d ds => exact hs.elim
  | cons e es ih =>
    intro dcbs cs incl zt incld ztd E hE hlen hs hleaf hok ht
    subst hE
    cases dcbs with
    | nil => exact hs.elim
    | cons d ds =>
      cases cs with
      | nil => simp at hlen
      | cons c cs' =>
        rw [encCbs_cons (hH := rfl) (hR := rfl)]
        generalize hR : encCbs layer w h es cs' _ _ = R
        obtain ⟨d', incld1, ztd1, hd1, hs1, ht1⟩ :=
          cb_sync layer w h hlayer e d c ival zval incl zt incld ztd ds _ rfl
            hs.1 (hleaf e c (by simp)) (hok c (by simp)) ht
        obtain ⟨ds', i2, z2, hd2, hs2, ht2⟩ :=
          ih ds cs' _ _ incld1 ztd1 R hR (by simpa using hlen) hs.2
            (fun e' c' hp => hleaf e' c' (by simp [hp])) (fun c hc => hok c (by simp [hc])) ht1
        refine ⟨d' :: ds', i2, z2, fun rest => ?_, ⟨hs1, hs2⟩, ht2⟩
        simp only [List.append_assoc, hd1, hd2, List.zipWith_cons_cons]

def pos (e : CbE) : Nat × Nat := (e.x, e.y)

theorem prepare_eq (layer w h : Nat) : ∀ (ecbs : List CbE) (cs : List Contrib) (incl zt : TTEnc),
    prepare layer w h ecbs cs incl zt =
      (setLeaves w h (fun p => !p.1.included && p.2.isSome) (fun p => p.1.x) (fun p => p.1.y) (fun _ => layer)
          (ecbs.zip cs) incl,
       setLeaves w h (fun _ => layer == 0) (fun p => p.1.x) (fun p => p.1.y) (fun p => p.1.zbp) (ecbs.zip cs) zt)
  | [], _, _, _ => by simp [prepare, setLeaves]
  | _ :: _, [], _, _ => by simp [prepare, setLeaves]
  | e :: es, c :: cs, incl, zt => by rw [prepare, prepare_eq layer w h es cs]; rfl

theorem stepCb_fields (e : CbE) (c : Contrib) : (stepCb e c).x = e.x ∧ (stepCb e c).y = e.y ∧
    (stepCb e c).zbp = e.zbp ∧ (stepCb e c).included = (e.included || c.isSome) := by
  cases c <;> simp [stepCb]

theorem LeafOK.step {layer : Nat} {ival zval : Node → Nat} {e : CbE} {c : Contrib} (layer' : Nat)
    (hl : LeafOK layer ival zval e c) : LeafOK layer' ival zval (stepCb e c) none := by
  obtain ⟨fx, fy, fz, fi⟩ := stepCb_fields e c
  unfold LeafOK
  rw [fx, fy, fz, fi]
  refine ⟨fun hinc => ?_, hl.2⟩
  obtain ⟨hei, hcn⟩ := Bool.or_eq_false_iff.mp hinc
  rw [hl.1 hei, hcn]; rfl

theorem encCbs_cbs (layer w h : Nat) : ∀ (ecbs : List CbE) (cs : List Contrib) (incl zt : TTEnc),
    cs.length = ecbs.length → (encCbs layer w h ecbs cs incl zt).1 = List.zipWith stepCb ecbs cs
  | [], cs, _, _, hl => by cases cs <;> simp_all [encCbs]
  | _ :: _, [], _, _, hl => by simp at hl
  | e :: es, c :: cs, _, _, hl => by
    rw [encCbs_cons (hH := rfl) (hR := rfl), List.zipWith_cons_cons, encCbs_cbs layer w h es cs _ _ (by simpa using hl)]

theorem map_pos_zipWith : ∀ (es : List CbE) (cs : List Contrib), cs.length = es.length →
    (List.zipWith stepCb es cs).map pos = es.map pos
  | [], _, _ => by simp
  | _ :: _, [], h => by simp at h
  | e :: es, c :: cs, h => by
    simp only [List.zipWith_cons_cons, List.map_cons, map_pos_zipWith es cs (by simpa using h), pos,
      (stepCb_fields e c).1, (stepCb_fields e c).2.1]

/-- invariant of a band between packets (before the packet of layer `layer`) -/
structure BandInv (layer : Nat) (be : BandE) (bd : BandD) : Prop where
  hw : bd.w = be.w
  hh : bd.h = be.h
  sync : All2 CbSync be.cbs bd.cbs
  iInv : Inv be.incl bd.incl
  zInv : Inv be.zbpT bd.zbpT
  iHeap : GlobalHeap be.incl.val (ttNumLevels be.w be.h)
  zHeap : GlobalHeap be.zbpT.val (ttNumLevels be.w be.h)
  iLow : ∀ n, be.incl.low n ≤ layer
  nodup : (be.cbs.map pos).Nodup
  zbp32 : ∀ e ∈ be.cbs, e.zbp < 32
  unset : ∀ e ∈ be.cbs, e.included = false → be.incl.val (0, e.x, e.y) = sentinel
  z0 : layer = 0 → (∀ n, be.zbpT.low n = 0) ∧ ∀ e ∈ be.cbs, be.zbpT.val (0, e.x, e.y) = sentinel
  zset : layer ≠ 0 → ∀ e ∈ be.cbs, be.zbpT.val (0, e.x, e.y) = e.zbp

theorem prepare_spec (layer : Nat) (hl : layer ≤ sentinel) (be : BandE) (bd : BandD) (cs : List Contrib)
    (hinv : BandInv layer be bd) (hlen : cs.length = be.cbs.length) (P : TTEnc × TTEnc)
    (hP : prepare layer be.w be.h be.cbs cs be.incl be.zbpT = P) :
    TreesInv layer be.w be.h P.1.val P.2.val P.1 P.2 bd.incl bd.zbpT ∧
    ∀ e c, (e, c) ∈ be.cbs.zip cs → LeafOK layer P.1.val P.2.val e c := by
  subst hP
  rw [prepare_eq]
  have hnd : ((be.cbs.zip cs).map fun p => (p.1.x, p.1.y)).Nodup := by
    show ((be.cbs.zip cs).map (pos ∘ Prod.fst)).Nodup
    rw [← List.map_map, List.map_fst_zip (Nat.le_of_eq hlen.symm)]; exact hinv.nodup
  obtain ⟨i1, i2, i3, i4, -⟩ := setLeaves_spec be.w be.h (fun p => !p.1.included && p.2.isSome) _ _ (fun _ => layer)
    bd.incl (be.cbs.zip cs) be.incl _ rfl hnd hinv.iInv hinv.iHeap (fun _ _ _ => hinv.iLow) (fun _ _ => hl)
  obtain ⟨z1, z2, -, z4, -⟩ := setLeaves_spec be.w be.h (fun _ => layer == 0) _ _ (fun p => p.1.zbp)
    bd.zbpT (be.cbs.zip cs) be.zbpT _ rfl hnd hinv.zInv hinv.zHeap
    (fun _ _ h0 n => by rw [(hinv.z0 (by simpa using h0)).1 n]; exact Nat.zero_le _)
    (fun p hp => by have := hinv.zbp32 _ (List.of_mem_zip hp).1; unfold sentinel; omega)
  refine ⟨⟨i1, z1, rfl, rfl, i2, z2, fun n => i3 ▸ Nat.le_succ_of_le (hinv.iLow n)⟩, fun e c hp => ?_⟩
  have he := (List.of_mem_zip hp).1
  have hz := hinv.zbp32 e he
  refine ⟨fun hinc => ?_, ?_, hz⟩
  · rw [i4 _ hp, hinv.unset e he hinc, hinc]
    cases c <;> simp [sentinel] at hl ⊢; omega
  · rw [z4 _ hp]
    by_cases h0 : layer = 0
    · simp only [h0, beq_self_eq_true, if_true, (hinv.z0 h0).2 e he]; unfold sentinel; omega
    · simp only [beq_iff_eq, h0, if_false]; exact hinv.zset h0 e he

theorem band_sync (layer : Nat) (hlayer : layer + 1 ≤ sentinel) (be : BandE) (bd : BandD) (cs : List Contrib)
    (hinv : BandInv layer be bd) (hlen : cs.length = be.cbs.length) (hok : ∀ c ∈ cs, COk c) :
    ∃ dcbs' i2 z2,
      (∀ rest, decCbs layer bd.w bd.h bd.cbs bd.incl bd.zbpT ((encBand layer be cs).2 ++ rest) =
        some (dcbs', i2, z2, List.zipWith expIncl be.cbs cs, rest)) ∧
      BandInv (layer + 1) (encBand layer be cs).1 { bd with cbs := dcbs', incl := i2, zbpT := z2 } := by
  obtain ⟨pt, pl⟩ := prepare_spec layer (by omega) be bd cs hinv hlen _ rfl
  obtain ⟨dcbs', i2, z2, hd, hs, ht⟩ :=
    cbs_sync layer be.w be.h hlayer _ _ be.cbs bd.cbs cs _ _ bd.incl bd.zbpT _ rfl hlen hinv.sync pl hok pt
  refine ⟨dcbs', i2, z2, by rw [hinv.hw, hinv.hh]; exact hd, ?_⟩
  have hcbs : (encBand layer be cs).1.cbs = List.zipWith stepCb be.cbs cs := encCbs_cbs layer be.w be.h be.cbs cs _ _ hlen
  -- every new record is a `stepCb` of an old one
  have hleaf : ∀ e' ∈ (encBand layer be cs).1.cbs,
      LeafOK layer (encBand layer be cs).1.incl.val (encBand layer be cs).1.zbpT.val e' none := by
    intro e' he'
    rw [hcbs, ← List.map_uncurry_zip_eq_zipWith] at he'
    obtain ⟨p, hp, rfl⟩ := List.mem_map.mp he'
    exact ht.iVal ▸ ht.zVal ▸ (pl p.1 p.2 hp).step layer
  exact {
    hw := hinv.hw, hh := hinv.hh, sync := hs, iInv := ht.iInv, zInv := ht.zInv
    iHeap := ht.iVal ▸ ht.iHeap
    zHeap := ht.zVal ▸ ht.zHeap
    iLow := ht.iLow
    nodup := by rw [hcbs, map_pos_zipWith be.cbs cs hlen]; exact hinv.nodup
    zbp32 := fun e he => (hleaf e he).2.2
    unset := fun e he => (hleaf e he).1
    z0 := fun h0 => absurd h0 (by omega)
    zset := fun _ e he => (hleaf e he).2.1 }

def BandsInv (layer : Nat) : List BandE → List BandD → Prop := All2 (BandInv layer)

def CsOk : List BandE → List (List Contrib) → Prop
  | [], [] => True
  | b :: bs, c :: cs => c.length = b.cbs.length ∧ (∀ x ∈ c, COk x) ∧ CsOk bs cs
  | _, _ => False

def expBands : List BandE → List (List Contrib) → List (List Incl)
  | b :: bs, c :: cs => List.zipWith expIncl b.cbs c :: expBands bs cs
  | _, _ => []

theorem bands_sync (layer : Nat) (hlayer : layer + 1 ≤ sentinel) :
    ∀ (bes : List BandE) (bds : List BandD) (css : List (List Contrib)),
      BandsInv layer bes bds → CsOk bes css →
      ∃ bds', (∀ rest, decBands layer bds ((encBands layer bes css).2 ++ rest) = some (bds', expBands bes css, rest)) ∧
        BandsInv (layer + 1) (encBands layer bes css).1 bds' := by
  intro bes
  induction bes with
  | nil =>
    intro bds css hinv hok
    cases bds with
    | nil => cases css <;> exact ⟨[], by simp [encBands, decBands, expBands], trivial⟩
    | cons d ds => simp [BandsInv, All2] at hinv
  | cons be bes ih =>
    intro bds css hinv hok
    cases bds with
    | nil => simp [BandsInv, All2] at hinv
    | cons bd bds =>
      cases css with
      | nil => simp [CsOk] at hok
      | cons c cs =>
        obtain ⟨hb, hbs⟩ := hinv
        obtain ⟨hlen, hcok, hok'⟩ := hok
        obtain ⟨bds', hd', hinv'⟩ := ih bds cs hbs hok'
        obtain ⟨dcbs', i2, z2, hd, hbi⟩ := band_sync layer hlayer be bd c hb hlen hcok
        refine ⟨{ bd with cbs := dcbs', incl := i2, zbpT := z2 } :: bds', fun rest => ?_, ⟨hbi, hinv'⟩⟩
        unfold encBands decBands
        simp only [List.append_assoc]
        rw [hd]
        simp only [hd', expBands]

theorem bandsInv_empty (layer : Nat) (bes : List BandE) (bds : List BandD) (h : BandsInv layer bes bds)
    (hall : bes.all (fun b => b.cbs.isEmpty) = true) : BandsInv (layer + 1) bes bds := by
  refine all2_imp bes bds (fun be hbe bd hb => ?_) h
  have hemp : be.cbs = [] := by simpa using List.all_eq_true.mp hall be hbe
  exact { hb with
    iLow := fun n => Nat.le_succ_of_le (hb.iLow n)
    z0 := fun h0 => absurd h0 (by omega)
    zset := fun _ e he => by rw [hemp] at he; simp at he }

theorem encHeader_ne_nil (layer : Nat) (bes : List BandE) (css : List (List Contrib)) : (encHeader layer bes css).2 ≠ [] := by
  unfold encHeader; split <;> simp

theorem header_sync (layer : Nat) (hlayer : layer + 1 ≤ sentinel) (bes : List BandE) (bds : List BandD)
    (css : List (List Contrib)) (rest : List Bool) (hinv : BandsInv layer bes bds) (hok : CsOk bes css) :
    ∃ bds', decHeader layer bds ((encHeader layer bes css).2 ++ rest) =
        some (bds', (if bes.all (fun b => b.cbs.isEmpty) then none else some (expBands bes css)), rest) ∧
      BandsInv (layer + 1) (encHeader layer bes css).1 bds' := by
  unfold encHeader
  by_cases hall : bes.all (fun b => b.cbs.isEmpty) = true
  · simp only [hall, if_true]
    exact ⟨bds, by simp [decHeader], bandsInv_empty layer bes bds hinv hall⟩
  · simp only [hall]
    obtain ⟨bds', hd, hinv'⟩ := bands_sync layer hlayer bes bds css hinv hok
    refine ⟨bds', ?_, hinv'⟩
    show decHeader layer bds (true :: ((encBands layer bes css).2 ++ rest)) = _
    unfold decHeader
    simp only [hd]
    simp

/-- fresh bands (PacketEncoder.ResetState / a decoder that has not seen the precinct) are in lock step -/
theorem bandInv_fresh (w h : Nat) (cbs : List (Nat × Nat × Nat)) (hnd : (cbs.map fun c => (c.1, c.2.1)).Nodup)
    (hz : ∀ c ∈ cbs, c.2.2 < 32) : BandInv 0 (BandE.fresh w h cbs) (BandD.fresh w h cbs) := by
  exact {
    hw := rfl, hh := rfl, iInv := inv_init, zInv := inv_init
    sync := all2_map_map _ _ cbs fun _ _ => ⟨rfl, rfl, rfl, fun hf => by simp at hf, fun _ => rfl, Nat.zero_le _⟩
    iHeap := globalHeap_init _, zHeap := globalHeap_init _
    iLow := fun _ => Nat.le_refl _
    nodup := by
      show ((cbs.map fun c => ({ x := c.1, y := c.2.1, zbp := c.2.2, included := false, lblock := 0 } : CbE)).map pos).Nodup
      rw [List.map_map]; exact hnd
    zbp32 := by
      intro e he
      obtain ⟨c, hc, rfl⟩ := List.mem_map.mp he
      exact hz c hc
    unset := fun _ _ _ => rfl
    z0 := fun _ => ⟨fun _ => rfl, fun _ _ => rfl⟩
    zset := fun h0 => absurd rfl h0 }

def encLayers : Nat → List BandE → List (List (List Contrib)) → List (List Bool)
  | _, _, [] => []
  | layer, bes, css :: more => (encHeader layer bes css).2 :: encLayers (layer + 1) (encHeader layer bes css).1 more

/-- what the decoder must report for each packet (`none` = empty packet) -/
def expLayers : Nat → List BandE → List (List (List Contrib)) → List (Option (List (List Incl)))
  | _, _, [] => []
  | layer, bes, css :: more =>
    (if bes.all (fun b => b.cbs.isEmpty) then none else some (expBands bes css)) ::
      expLayers (layer + 1) (encHeader layer bes css).1 more

/-- decoder over the same packets; every header is followed by arbitrary further bits `tail` (packet body, next packet) -/
def decLayers (tail : List Bool) : Nat → List BandD → List (List Bool) → Option (List (Option (List (List Incl))))
  | _, _, [] => some []
  | layer, bds, bits :: more =>
    match decHeader layer bds (bits ++ tail) with
    | none => none
    | some (bds', out, rest) =>
      if rest = tail then
        match decLayers tail (layer + 1) bds' more with
        | none => none
        | some outs => some (out :: outs)
      else none

theorem csOk_next (layer : Nat) : ∀ (bes : List BandE) (css css' : List (List Contrib)),
    CsOk bes css → CsOk bes css' → CsOk (encBands layer bes css).1 css' := by
  intro bes
  induction bes with
  | nil => intro css css' _ h; cases css <;> simpa [encBands] using h
  | cons b bs ih =>
    intro css css' h0 h
    cases css with
    | nil => simpa [encBands] using h
    | cons c cs =>
      cases css' with
      | nil => simp [CsOk] at h
      | cons c' cs' =>
        obtain ⟨h1, h2, h3⟩ := h
        refine ⟨?_, h2, ih cs cs' h0.2.2 h3⟩
        show c'.length = (encCbs layer b.w b.h b.cbs c _ _).1.length
        rw [encCbs_cbs _ _ _ _ _ _ _ h0.1, List.length_zipWith, h0.1, Nat.min_self]; exact h1

theorem csOk_header (layer : Nat) (bes : List BandE) (css css' : List (List Contrib)) (h0 : CsOk bes css)
    (h : CsOk bes css') : CsOk (encHeader layer bes css).1 css' := by
  unfold encHeader
  split
  · exact h
  · exact csOk_next layer bes css css' h0 h

theorem layers_sync (tail : List Bool) : ∀ (lss : List (List (List Contrib))) (layer : Nat) (bes : List BandE) (bds : List BandD),
    BandsInv layer bes bds → (∀ css ∈ lss, CsOk bes css) → layer + lss.length ≤ sentinel →
    decLayers tail layer bds (encLayers layer bes lss) = some (expLayers layer bes lss) := by
  intro lss
  induction lss with
  | nil => intro layer bes bds _ _ _; rfl
  | cons css more ih =>
    intro layer bes bds hinv hok hlen
    have hl : layer + 1 ≤ sentinel := by simp at hlen; omega
    obtain ⟨bds', hd, hinv'⟩ := header_sync layer hl bes bds css tail hinv (hok css (by simp))
    unfold encLayers decLayers expLayers
    rw [hd]
    simp only [if_true]
    rw [ih (layer + 1) _ bds' hinv' (fun c hc => csOk_header layer bes css c (hok css (by simp)) (hok c (by simp [hc]))) (by simp at hlen ⊢; omega)]

end J2kPH
