import GdcVerif.Lemmas.T1Sched
import GdcVerif.Model.T1Layered
/-!
  C20 — one iteration of the pass loops of `EncodeLayered` / `DecodeLayeredWithMode` for any code-block style: under
  LAZY the significance and refinement passes below plane `mb - 3` are raw (bypass), and raw and MQ codeword segments
  alternate.  The iteration is written with the `raw` switch and the termination flag as parameters (`encLoopL_stepG`
  over `startG`, `termG`, `rateG`; `decLoopL_stepG` over `coderG`, the decoder's choice of coder for a pass), so that
  the segment lemmas fix them case by case.  `EncodeLayered`'s loop is the fold of its iteration over the pass indices
  (`encLoopL_run`); without LAZY it is `Encode`'s loop plus one record per pass (`encLoopL_noLazy`).
-/
namespace T1
open Gen

/-- `startG`, `termG`, `rateG`: the coder (re)start in front of a pass of `EncodeLayered`, its termination behind the pass,
and the rate it records, each with the `raw` switch and the termination flag as parameters (the three `if`s of
`encLoopL`'s body) -/
def startG (raw prevT : Bool) (st : EncSt) : EncSt :=
  if prevT = true then { st with mq := if raw = true then Mqc.bypassInitEnc st.mq else Mqc.restartInitEnc st.mq } else st

def termG (style : Nat) (raw term : Bool) (st : EncSt) : Option EncSt :=
  if term = true then
    (if raw = true then Mqc.bypassFlushEnc st.mq (styPterm style) else termMq style st.mq).map (fun m => ({ st with mq := m } : EncSt))
  else some st

def rateG (style : Nat) (raw term : Bool) (st : EncSt) : Option Nat :=
  if term = true then some (numBytes st.mq)
  else if raw = true then (bypassExtraBytes st.mq (styPterm style)).map (numBytes st.mq + ·) else some (numBytes st.mq + 3)

theorem startG_false (prevT : Bool) (st : EncSt) : startG false prevT st = restartIf prevT st := by
  unfold startG restartIf; simp

theorem termG_false (style : Nat) (term : Bool) : termG style false term = termE style term := by
  funext st; unfold termG termE termMq; rfl

theorem cv_startG (raw : Bool) (pi pt : Nat) (prevT : Bool) (es : EncSt) :
    startG raw prevT (cvE pi pt es) = cvE pi pt (startG raw prevT es) := by
  unfold startG cvE
  cases prevT <;> simp only [Bool.false_eq_true, if_false, if_true] <;> split <;> rfl

theorem encLoopL_stepG (w h orient style : Nat) (V : Array Int) (mb np f : Nat) (st : EncSt) (n pi pt : Nat)
    (prevT : Bool) (acc : List PassRec) (hpt : pt ≤ 2) (hc : pi < np) {raw term : Bool}
    (hraw : J2kT1.isLazyRawPass (n : Int) (mb : Int) (pt : Int) (style : Int) = raw)
    (hterm : J2kT1.isTerminatingPass (n : Int) (mb : Int) (pt : Int) (style : Int) = term) :
    encLoopL w h orient style V mb np (f + 1) st (n : Int) pi pt prevT acc =
      (passER raw w h orient V n pt (startG raw prevT (cvE pi pt st))).bind fun st =>
        (segE style pt st).bind fun st =>
          (termG style raw term st).bind fun st =>
            (resetE style st).bind fun st =>
              (rateG style raw term st).bind fun rate =>
                if pt = 2 then encLoopL w h orient style V mb np f st ((n : Int) - 1) (pi + 1) 0 term (acc ++ [(rate, term)])
                else encLoopL w h orient style V mb np f st (n : Int) (pi + 1) (pt + 1) term (acc ++ [(rate, term)]) := by
  conv => lhs; unfold encLoopL
  rw [if_pos ⟨by omega, hc⟩, ← Option.bind_assoc]
  simp only [Int.toNat_natCast, hraw, hterm]
  clear hraw hterm
  unfold termG resetE rateG termMq
  -- as in `decLoopG_step`: `rw` does not see the model's `match` in that of `passSegE_eq`, `Eq.trans` does
  have hps := passSegE_eq raw w h orient style V n pt (startG raw prevT (cvE pi pt st)) hpt
  split
  · rw [hps.symm.trans ‹_›]; rfl
  · rw [hps.symm.trans ‹_›, Option.bind_some]
    split
    · simp only [*, Option.bind_none]
    · simp only [*, Option.bind_some]
      split
      · simp only [*, Option.bind_none]
      · simp only [*, Option.bind_some]; split <;> simp only [*, Option.bind_none, Option.bind_some]

theorem encLoopL_exit (w h orient style : Nat) (V : Array Int) (mb np fuel : Nat) (st : EncSt) (bp : Int) (pi pt : Nat)
    (t : Bool) (acc : List PassRec) (hx : bp < 0 ∨ np ≤ pi) :
    encLoopL w h orient style V mb np fuel st bp pi pt t acc = some (st, t, acc) := by
  cases fuel with
  | zero => rfl
  | succ f => unfold encLoopL; rw [if_neg (by omega)]

/-- one iteration of `EncodeLayered`'s loop; the state is `(st, prevTerminated, records)` -/
def encStepL (w h orient style : Nat) (V : Array Int) (mb i : Nat) (s : EncSt × Bool × List PassRec) :
    Option (EncSt × Bool × List PassRec) :=
  (passER (rawAt style mb i) w h orient V (planeOf mb i) (typeOf i)
      (startG (rawAt style mb i) s.2.1 (cvE i (typeOf i) s.1))).bind fun st =>
    (segE style (typeOf i) st).bind fun st =>
      (termG style (rawAt style mb i)
          (termAt style mb i) st).bind fun st =>
        (resetE style st).bind fun st =>
          (rateG style (rawAt style mb i)
              (termAt style mb i) st).bind fun rate =>
            some (st, termAt style mb i,
              s.2.2 ++ [(rate, termAt style mb i)])

theorem encLoopL_run (w h orient style : Nat) (V : Array Int) (mb np : Nat) (n f : Nat) (s : EncSt × Bool × List PassRec)
    (i : Nat) (hn : i + n ≤ np) (hm : i + n ≤ 3 * mb + 1) :
    encLoopL w h orient style V mb np (f + n) s.1 (planeI mb i) i (typeOf i) s.2.1 s.2.2 =
      ((List.range' i n).foldlM (fun s i => encStepL w h orient style V mb i s) s).bind fun s' =>
        encLoopL w h orient style V mb np f s'.1 (planeI mb (i + n)) (i + n) (typeOf (i + n)) s'.2.1 s'.2.2 := by
  refine Loop.run_fold (fun f s i => encLoopL w h orient style V mb np f s.1 (planeI mb i) i (typeOf i) s.2.1 s.2.2)
    (encStepL w h orient style V mb) (min np (3 * mb + 1)) ?_ n f s i (by omega)
  intro f s i hi
  obtain ⟨hp, hpt, h2, h3⟩ := idx_next mb i (by omega)
  show encLoopL w h orient style V mb np (f + 1) s.1 (planeI mb i) i (typeOf i) s.2.1 s.2.2 = _
  rw [hp, encLoopL_stepG (raw := rawAt style mb i) (term := termAt style mb i) w h orient style V mb np f s.1 _ i _ s.2.1 s.2.2
    hpt (by omega) rfl rfl]
  unfold encStepL
  simp only [Option.bind_eq_bind, Option.bind_assoc, Option.bind_some]
  by_cases ht : typeOf i = 2
  · simp only [if_pos ht, (h2 ht).1, (h2 ht).2]
  · simp only [if_neg ht, (h3 ht).1, (h3 ht).2]

theorem encStepL_noLazy (w h orient style : Nat) (V : Array Int) (mb i : Nat)
    (hL : Go.and (style : Int) J2kT1.CblkStyleLazy = 0) (s : EncSt × Bool × List PassRec) :
    encStep w h orient style V mb i (s.1, s.2.1) =
      (encStepL w h orient style V mb i s).map fun s => (s.1, s.2.1) := by
  unfold encStep encStepL rawAt rateG
  rw [notLazy _ _ _ _ hL, passER_false, startG_false, termG_false]
  -- the projection goes through the binds, and an MQ pass always has a rate
  cases termAt style mb i <;>
    simp only [Option.map_bind, Function.comp_def, Option.map_some, Bool.false_eq_true, if_true, if_false, Option.bind_some]

theorem encFoldL_recs (w h orient style : Nat) (V : Array Int) (mb : Nat) : ∀ (n i : Nat) (s s' : EncSt × Bool × List PassRec),
    (List.range' i n).foldlM (fun s i => encStepL w h orient style V mb i s) s = some s' →
    ∃ recs, s'.2.2 = s.2.2 ++ recs ∧ recs.length = n := by
  intro n
  induction n with
  | zero => intro i s s' he; obtain rfl : s = s' := Option.some.inj he; exact ⟨[], (List.append_nil _).symm, rfl⟩
  | succ n ih =>
    intro i s s' he
    rw [List.range'_succ, List.foldlM_cons] at he
    obtain ⟨s1, h1, he⟩ := Option.bind_eq_some_iff.mp he
    obtain ⟨recs, hr, hl⟩ := ih (i + 1) s1 s' he
    unfold encStepL at h1
    simp only [Option.bind_eq_some_iff] at h1
    obtain ⟨_, _, _, _, _, _, _, _, rate, _, h1⟩ := h1
    rw [← Option.some.inj h1] at hr
    exact ⟨_ :: recs, by rw [hr, List.append_assoc]; rfl, by rw [List.length_cons, hl]⟩

/-- the first `n` passes of a block, behind which both loops stop -/
theorem encLoopL_noLazy (w h orient style : Nat) (V : Array Int) (mb np : Nat)
    (hL : Go.and (style : Int) J2kT1.CblkStyleLazy = 0) (n f : Nat) (st : EncSt) (acc : List PassRec) (r : EncSt × Bool)
    (hn : n ≤ np) (hm : n ≤ 3 * mb + 1) (hx : n = np ∨ n = 3 * mb + 1)
    (he : encLoop w h orient style V mb np (f + n) st (mb : Int) 0 2 false = some r) :
    ∃ recs, encLoopL w h orient style V mb np (f + n) st (mb : Int) 0 2 false acc = some (r.1, r.2, acc ++ recs) ∧
      recs.length = n := by
  have hstop : planeI mb (0 + n) < 0 ∨ np ≤ 0 + n := by unfold planeI; omega
  have e1 := encLoop_run w h orient style V mb np n f (st, false) 0 (by omega) (by omega)
  have e2 := encLoopL_run w h orient style V mb np n f (st, false, acc) 0 (by omega) (by omega)
  rw [planeI_zero] at e1 e2
  rw [show (2 : Nat) = typeOf 0 from rfl] at he ⊢
  rw [e1, Loop.foldlM_sim _ _ (fun s : EncSt × Bool × List PassRec => (s.1, s.2.1)) _
    (fun i _ s => encStepL_noLazy w h orient style V mb i hL s) (st, false, acc)] at he
  rw [e2]
  cases hf : (List.range' 0 n).foldlM (fun s i => encStepL w h orient style V mb i s) (st, false, acc) with
  | none => rw [hf] at he; exact absurd he (by simp)
  | some s2 =>
    rw [hf] at he
    obtain ⟨recs, hr, hl⟩ := encFoldL_recs w h orient style V mb n 0 _ s2 hf
    have hexit := encLoop_exit w h orient style V mb np f s2.1 (planeI mb (0 + n)) (0 + n) (typeOf (0 + n)) s2.2.1 hstop
    have he' : some (s2.1, s2.2.1) = some r := hexit.symm.trans he
    rw [← Option.some.inj he']
    exact ⟨recs, by rw [Option.bind_some, encLoopL_exit _ _ _ _ _ _ _ _ _ _ _ _ _ _ hstop, hr], hl⟩

theorem segLast_term (term : Int → Nat → Bool) (np fuel last : Nat) (bp : Int) (pt : Nat) (h : term bp pt = true) :
    segLast term np fuel last bp pt = last := by
  cases fuel with
  | zero => rfl
  | succ f => unfold segLast; rw [if_neg (by rw [h]; simp)]

theorem segLast_next (term : Int → Nat → Bool) (np fuel last : Nat) (bp : Int) (pt : Nat) (h : term bp pt = false)
    (hl : last + 1 < np) :
    segLast term np (fuel + 1) last bp pt =
      if pt = 2 then segLast term np fuel (last + 1) (bp - 1) 0 else segLast term np fuel (last + 1) bp (pt + 1) := by
  conv => lhs; unfold segLast
  rw [if_pos ⟨by omega, by rw [h]; simp⟩]

/-- the MQ decoder a new segment gets -/
def segDecoder (pi : Nat) (reset : Bool) (passData : List Nat) (prevCtx : Array Nat) : Option Mqc.Dec :=
  if pi = 0 ∨ reset = true then (Mqc.Dec.new passData NUMCONTEXTS).bind initCtxDec else decWithContexts passData prevCtx

/-- the coder `DecodeLayeredWithMode` uses for a pass: a new raw or MQ decoder on the bytes of the segment that
starts here, or the running one (contexts reset under RESET) -/
def coderG (reset raw : Bool) (term : Int → Nat → Bool) (PL bytes : List Nat) (s : LDec) (mq : Mqc.Dec) (n : Int)
    (pi pt : Nat) : LOut (Mqc.Dec × Nat) :=
  if s.newSegment = true then
    match PL[segLast term PL.length PL.length pi n pt]? with
    | none => .panic
    | some currentEnd =>
      if currentEnd < s.prevEnd ∨ currentEnd > bytes.length then .err
      else
        match (if raw = true then some (Mqc.Dec.newRaw ((bytes.take currentEnd).drop s.prevEnd))
               else segDecoder pi reset ((bytes.take currentEnd).drop s.prevEnd) s.prevCtx) with
        | none => .panic
        | some d => .ok (d, currentEnd)
  else if reset = true ∧ ¬ raw = true then
    match resetCtxDec mq with
    | none => .panic
    | some d => .ok (d, s.prevEnd)
  else .ok (mq, s.prevEnd)

theorem coderG_open (reset raw : Bool) (term : Int → Nat → Bool) (PL bytes : List Nat) (s : LDec) (mq : Mqc.Dec) (n : Int)
    (pi pt j ce : Nat) (hns : s.newSegment = true) (hj : segLast term PL.length PL.length pi n pt = j)
    (hPL : PL[j]? = some ce) (hlo : s.prevEnd ≤ ce) (hhi : ce ≤ bytes.length) :
    coderG reset raw term PL bytes s mq n pi pt =
      match (if raw = true then some (Mqc.Dec.newRaw ((bytes.take ce).drop s.prevEnd))
             else segDecoder pi reset ((bytes.take ce).drop s.prevEnd) s.prevCtx) with
      | none => .panic
      | some d => .ok (d, ce) := by
  unfold coderG
  rw [if_pos hns, hj, hPL]
  simp only []
  rw [if_neg (by omega)]

theorem coderG_cont (style : Nat) (term : Int → Nat → Bool) (PL bytes : List Nat) (s : LDec) (hns : s.newSegment = false)
    (n : Int) (pi pt : Nat) :
    coderG (styReset style) false term PL bytes s s.st.mq n pi pt =
      match resetD style s.st with
      | none => .panic
      | some st => .ok (st.mq, s.prevEnd) := by
  unfold coderG resetD
  rw [if_neg (by rw [hns]; simp)]
  by_cases hr : styReset style = true
  · rw [if_pos ⟨hr, by simp⟩, if_pos hr]
    cases resetCtxDec s.st.mq <;> rfl
  · rw [if_neg (fun hh => hr hh.1), if_neg hr]

theorem coderG_raw_cont (reset : Bool) (term : Int → Nat → Bool) (PL bytes : List Nat) (s : LDec) (mq : Mqc.Dec) (n : Int)
    (pi pt : Nat) (hns : s.newSegment = false) : coderG reset true term PL bytes s mq n pi pt = .ok (mq, s.prevEnd) := by
  unfold coderG
  rw [if_neg (by rw [hns]; simp), if_neg (by simp)]

theorem cvD_mq (pi pt : Nat) (ds : DecSt) (d : Mqc.Dec) :
    cvD pi pt { ds with mq := d } = { cvD pi pt ds with mq := d } := by
  unfold cvD; split <;> rfl

theorem resetD_mq (style : Nat) (st st' : DecSt) (h : resetD style st = some st') : st' = { st with mq := st'.mq } := by
  unfold resetD at h
  split at h
  · cases hd : resetCtxDec st.mq with
    | none => rw [hd] at h; exact absurd h (by simp)
    | some m => rw [hd] at h; rw [← Option.some.inj h]
  · rw [← Option.some.inj h]

theorem decLoopL_stepG (w h orient style : Nat) (u reset : Bool) (mbI : Int) (PL : List Nat) (bytes : List Nat)
    (f : Nat) (s : LDec) (n pi pt : Nat) (hpt : pt ≤ 2) (hc : pi < PL.length) {raw : Bool}
    (hraw : J2kT1.isLazyRawPass (n : Int) mbI (pt : Int) (style : Int) = raw) :
    decLoopL w h orient style u reset mbI PL bytes (f + 1) s (n : Int) pi pt =
      match coderG reset raw
          (fun b p => u || J2kT1.isTerminatingPass b mbI (p : Int) (style : Int)) PL bytes s s.st.mq (n : Int) pi pt with
      | .err => .err
      | .panic => .panic
      | .ok (d, pe) =>
        match (passDV plainR raw w h orient n pt
            { cvD pi pt s.st with mq := d }).bind (segD style pt) with
        | none => .panic
        | some st' =>
          let s' : LDec := { st := st', prevEnd := pe,
                             prevCtx := if ¬ raw = true ∧ ¬ reset = true then st'.mq.ctx else s.prevCtx,
                             newSegment := u || J2kT1.isTerminatingPass (n : Int) mbI (pt : Int) (style : Int) }
          if pt = 2 then decLoopL w h orient style u reset mbI PL bytes f s' ((n : Int) - 1) (pi + 1) 0
          else decLoopL w h orient style u reset mbI PL bytes f s' (n : Int) (pi + 1) (pt + 1) := by
  conv => lhs; unfold decLoopL
  simp only []
  rw [if_pos ⟨by omega, hc⟩]
  have hmq : (if pt = 0 ∨ pt = 2 ∧ pi = 0 then ({ flags := clearVisit s.st.flags, data := s.st.data, mq := s.st.mq } : DecSt) else s.st).mq = s.st.mq := by
    split <;> rfl
  -- with the coder's register and the `switch passType` named, the two sides are one text up to `coderG`, `cvD`
  simp only [Int.toNat_natCast, hraw, hmq, ← passSegDV_eq plainR raw w h orient style n pt _ hpt]
  rfl

theorem decLoopL_exit (w h orient style : Nat) (u r : Bool) (mbI : Int) (PL bytes : List Nat) (fuel : Nat) (s : LDec)
    (bp : Int) (pi pt : Nat) (hbp : bp < 0) :
    decLoopL w h orient style u r mbI PL bytes fuel s bp pi pt = .ok s.st := by
  cases fuel with
  | zero => rfl
  | succ f => unfold decLoopL; simp only []; rw [if_neg (by omega)]

end T1
