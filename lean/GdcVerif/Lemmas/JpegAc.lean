import GdcVerif.Model.JpegAc
import GdcVerif.Model.JpegScan
import GdcVerif.Lemmas.DctHuff
/-! decodeBlock's AC loop inverts encodeBlock's AC loop (`dec_enc`); the DC difference survives its
  category coding (`dc_roundtrip`). -/
namespace JpegAc
open Dct List

theorem emitZRL_spec : ∀ f run, run ≤ f → emitZRL f run = (replicate (run / 16) ZRL, run % 16)
  | 0, run, h => by
    have : run = 0 := by omega
    subst this; simp [emitZRL]
  | f + 1, run, h => by
    by_cases h16 : run ≥ 16
    · have ih := emitZRL_spec f (run - 16) (by omega)
      have e1 : run / 16 = (run - 16) / 16 + 1 := by omega
      have e2 : run % 16 = (run - 16) % 16 := by omega
      simp only [emitZRL, h16, if_true, ih, e1, e2, List.replicate_succ]
    · have e1 : run / 16 = 0 := by omega
      have e2 : run % 16 = run := by omega
      simp [emitZRL, h16, e1, e2]

theorem pad63_zeros (out : List Int) (run : Nat) (h : out.length + run = 63) : pad63 out = out ++ replicate run 0 := by
  simp only [pad63]
  have : replicate 63 (0 : Int) = replicate run 0 ++ replicate (63 - run) 0 := by
    rw [List.replicate_append_replicate]; congr 1; omega
  rw [this, ← List.append_assoc, List.take_append_of_le_length (by simp; omega)]
  rw [List.take_of_length_le (by simp; omega)]

theorem dec_zrls : ∀ (n fuel : Nat) (rest : List Sym) (out : List Int), (n ≥ 1 → out.length + 16 * (n - 1) + 1 < 64) →
    decAC (fuel + n) (replicate n ZRL ++ rest) out = decAC fuel rest (out ++ replicate (16 * n) 0)
  | 0, fuel, rest, out, _ => by simp
  | n + 1, fuel, rest, out, h => by
    have hk : out.length + 1 < 64 := by have := h (by omega); omega
    have e : fuel + (n + 1) = (fuel + n) + 1 := by omega
    rw [e, List.replicate_succ, List.cons_append]
    simp only [decAC, hk, if_true, ZRL]
    have ih := dec_zrls n fuel rest (out ++ replicate 16 0) (by
      intro hn; have := h (by omega); simp; omega)
    simp only [ZRL] at ih
    rw [ih, List.append_assoc, List.replicate_append_replicate]
    congr 3; omega

theorem category_le_15 (v : Int) (hv : v ≠ 0) (hvb : v.natAbs < 2 ^ 15) : (encodeCategory v).1 ≤ 15 := by
  have : (encodeCategory v).1 = catLoop v.natAbs 64 1 := by simp [encodeCategory, hv]
  rw [this]
  exact (category_spec v.natAbs 15 (by omega) (by decide) hvb).2.1

theorem dec_sym (f r cat : Nat) (bits : Int) (rest : List Sym) (out : List Int) (hr : r < 16)
    (hc : 1 ≤ cat ∧ cat ≤ 15) (hk : out.length + 1 + r < 64) :
    decAC (f + 1) ((r * 16 + cat, bits) :: rest) out = decAC f rest (out ++ replicate r 0 ++ [extend cat bits]) := by
  have e1 : (r * 16 + cat) / 16 = r := by omega
  have e2 : (r * 16 + cat) % 16 = cat := by omega
  have hk1 : out.length + 1 < 64 := by omega
  have hc0 : ¬ cat = 0 := by omega
  have hk2 : ¬ (out.length + 1 + r ≥ 64) := by omega
  simp only [decAC, hk1, if_true, e1, e2, hc0, if_false, hk2]

/-- `out` = decoded prefix, `run` zeros pending in the encoder -/
theorem dec_enc : ∀ (suf : List Int) (out : List Int) (run fuel : Nat),
    out.length + run + suf.length = 63 →
    (∀ v ∈ suf, v.natAbs < 2 ^ 15) →
    (encAC suf run).length + 1 ≤ fuel →
    decAC fuel (encAC suf run) out = some (out ++ replicate run 0 ++ suf)
  | [], out, run, fuel, hl, _, hf => by
    obtain ⟨f, rfl⟩ : ∃ f, fuel = f + 1 := ⟨fuel - 1, by omega⟩
    have hl : out.length + run = 63 := by simpa using hl
    -- with zeros pending the decoder stops at EOB, with none at k = 64: either way it pads what it has
    have hd : decAC (f + 1) (encAC [] run) out = some (pad63 out) := by
      by_cases hr : run > 0
      · have hk : out.length + 1 < 64 := by omega
        simp [encAC, hr, decAC, hk, EOB]
      · have hk : ¬ (out.length + 1 < 64) := by omega
        simp [decAC, hk]
    rw [hd, pad63_zeros out run hl, List.append_nil]
  | v :: t, out, run, fuel, hl, hb, hf => by
    by_cases hv : v = 0
    · subst hv
      have ih := dec_enc t out (run + 1) fuel (by simp at hl ⊢; omega) (fun x hx => hb x (by simp [hx]))
        (by simpa [encAC] using hf)
      simp only [encAC, if_true]
      rw [ih, List.replicate_succ']
      simp
    · have hvb := hb v (by simp)
      obtain ⟨c1, _, _, cext⟩ := category_roundtrip v hv (by omega)
      have hc15 := category_le_15 v hv hvb
      simp only [encAC, hv, if_false, emitZRL_spec run run (Nat.le_refl _)] at hf ⊢
      simp only [List.length_append, List.length_replicate, List.length_cons] at hf
      obtain ⟨f, rfl⟩ : ∃ f, fuel = f + 1 + run / 16 := ⟨fuel - 1 - run / 16, by omega⟩
      have hlen : out.length + run + (t.length + 1) = 63 := by simpa using hl
      rw [dec_zrls (run / 16) (f + 1) _ out (by intro hn; omega),
        dec_sym f _ _ _ _ _ (by omega) ⟨c1, hc15⟩ (by simp; omega), cext,
        dec_enc t _ 0 f (by simp; omega) (fun x hx => hb x (by simp [hx])) (by omega)]
      have : replicate run (0 : Int) = replicate (16 * (run / 16)) 0 ++ replicate (run % 16) 0 := by
        rw [List.replicate_append_replicate]; congr 1; omega
      rw [this]; simp

end JpegAc

namespace JpegScan
open Dct JpegAc

theorem dc_roundtrip (d : Int) (hb : d.natAbs < 2 ^ 62) :
    extend (encodeCategory d).1 (encodeCategory d).2 = d := by
  by_cases h : d = 0
  · subst h; simp [encodeCategory, extend]
  · exact (category_roundtrip d h hb).2.2.2

end JpegScan
