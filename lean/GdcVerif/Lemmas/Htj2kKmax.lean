import GdcVerif.Model.Htj2k
/-!
  `calculateMaxLevels`, and whether Kmax magnitude bits suffice: the BIBO gain table against `biboLog2`, and
  interval bounds for one and two passes of the 5/3 lifting steps.
-/
namespace Htj2k

theorem maxLevelsLoop_spec (minDim : Int) : ∀ (f l : Nat), minDim ≤ 2 ^ (l + f) →
    let r := maxLevelsLoop minDim f l
    l ≤ r ∧ ¬ ((2 : Int) ^ r < minDim) ∧ (r > l → (2 : Int) ^ (r - 1) < minDim) := by
  intro f
  induction f with
  | zero =>
    intro l h
    simp only [maxLevelsLoop, Nat.add_zero] at h ⊢
    omega
  | succ f ih =>
    intro l h
    simp only [maxLevelsLoop]
    by_cases hc : (2 : Int) ^ l < minDim
    · simp only [hc, if_true]
      have h' : minDim ≤ 2 ^ (l + 1 + f) := by
        rw [show l + 1 + f = l + (f + 1) by omega]; exact h
      obtain ⟨h1, h2, h3⟩ := ih (l + 1) h'
      refine ⟨by omega, h2, ?_⟩
      intro _
      by_cases hr : maxLevelsLoop minDim f (l + 1) > l + 1
      · exact h3 hr
      · have : maxLevelsLoop minDim f (l + 1) = l + 1 := by omega
        rw [this]; simpa using hc
    · simp only [hc, if_false]
      exact ⟨Nat.le_refl _, not_false, fun hgt => absurd hgt (Nat.lt_irrefl _)⟩

theorem biboLog2_le (nl res band : Nat) : biboLog2 nl res band ≤ 4 := by
  unfold biboLog2
  dsimp only
  split
  · split <;> omega
  · split
    · split
      · omega
      · split <;> omega
    · split <;> omega

theorem gain_strict : ∀ nl : Fin 7, ∀ res : Fin 7, ∀ band : Fin 4, 1 ≤ nl.val → res.val ≤ nl.val →
    ¬ (band.val = 3 ∧ res.val = nl.val) →
    bandGain nl res band < 2 ^ biboLog2 nl res band * 10 ^ 8 := by decide +kernel

/-- a bound `a ≤ (g/s)·m` by a gain below `k`, in integers scaled by `s` -/
theorem lt_of_scaled (a g k m s : Nat) (hm : 0 < m) (hg : g < k * s) (h : a * s ≤ g * m) : a < k * m := by
  have h2 : g * m < k * s * m := Nat.mul_lt_mul_of_pos_right hg hm
  rw [Nat.mul_right_comm] at h2
  exact Nat.lt_of_mul_lt_mul_right (Nat.lt_of_le_of_lt h h2)

theorem htExpn_eq (nl bd : Nat) (rct : Bool) (res band : Nat) :
    htExpn nl bd rct res band = (bd : Int) + rct.toNat + if nl = 0 then 0 else (biboLog2 nl res band : Int) - 1 := by
  unfold htExpn
  by_cases h : nl = 0 <;> cases rct <;> simp [h] <;> omega

/-- with one guard bit the band precision handed to `SetKMax` is the exponent itself -/
theorem encBandNumbps_eq (nl bd : Nat) (rct : Bool) (res band : Nat) :
    encBandNumbps nl bd rct res band = (bd : Int) + rct.toNat + if nl = 0 then 0 else (biboLog2 nl res band : Int) - 1 := by
  rw [← htExpn_eq]; unfold encBandNumbps htGuardBits; omega

theorem kmax_toNat (nl bd : Nat) (rct : Bool) (res band : Nat) (hp : 1 ≤ bd + rct.toNat) :
    (encBandNumbps nl bd rct res band).toNat =
      (bd + rct.toNat - 1) + if nl = 0 then 1 else biboLog2 nl res band := by
  rw [encBandNumbps_eq]; split <;> omega

theorem kmax_pow (nl bd : Nat) (rct : Bool) (res band : Nat) {X : Nat} (hp : 1 ≤ bd + rct.toNat)
    (hX : (if nl = 0 then 1 else biboLog2 nl res band) = X) :
    ((2 ^ (encBandNumbps nl bd rct res band).toNat : Nat) : Int) = 2 ^ X * 2 ^ (bd + rct.toNat - 1) := by
  rw [kmax_toNat nl bd rct res band hp, hX, Nat.pow_add]
  simp [Int.natCast_pow, Int.mul_comm]

/-- level-shifted samples, `[-M, M-1]`; `inLow1`, `inHigh1`: where the first lifting pass (one direction) puts them -/
def inSamples (M x : Int) : Prop := -M ≤ x ∧ x ≤ M - 1
def inLow1 (M x : Int) : Prop := (-(6 * M + 1)) / 4 ≤ x ∧ x ≤ (6 * M - 1) / 4
def inHigh1 (M x : Int) : Prop := -(2 * M - 1) ≤ x ∧ x ≤ 2 * M - 1

/-- LL band after one decomposition (both directions): gain 9/4 plus rounding -/
def inLL1 (M x : Int) : Prop := (-(9 * M + 8)) / 4 ≤ x ∧ x ≤ (9 * M + 4) / 4
/-- first pass of the second decomposition on LL1 values: low (gain 27/8) and high (gain 9/2) -/
def inLow2a (M x : Int) : Prop := (-(27 * M + 32)) / 8 ≤ x ∧ x ≤ (27 * M + 24) / 8
def inHigh2a (M x : Int) : Prop := -((9 * M + 8) / 2) ≤ x ∧ x ≤ (9 * M + 8) / 2

theorem lift53High_bounds (lo hi a b c : Int) (ha : lo ≤ a ∧ a ≤ hi) (hb : lo ≤ b ∧ b ≤ hi) (hc : lo ≤ c ∧ c ≤ hi) :
    lo - hi ≤ lift53High a b c ∧ lift53High a b c ≤ hi - lo := by
  unfold lift53High; omega

/-- the update step after two predict steps widens an interval by a quarter of its width at either end (gain 3/2);
    the exact ends are these, or one nearer when `lo + hi` is odd -/
theorem lift53Low_bounds (lo hi a b c d e : Int) (ha : lo ≤ a ∧ a ≤ hi) (hb : lo ≤ b ∧ b ≤ hi) (hc : lo ≤ c ∧ c ≤ hi)
    (hd : lo ≤ d ∧ d ≤ hi) (he : lo ≤ e ∧ e ≤ hi) :
    lo - (hi - lo + 1) / 4 ≤ lift53Low (lift53High a b c) c (lift53High c d e) ∧
    lift53Low (lift53High a b c) c (lift53High c d e) ≤ hi + (hi - lo + 3) / 4 := by
  unfold lift53Low lift53High; omega

end Htj2k
