import GdcVerif.Lemmas.Htj2kBits
import GdcVerif.Model.Htj2kBlock
/-!
  The U-VLC pair code: every code is one of five shapes (`clsOf`), and `decodeUVLC` on a window that starts with two
  prefixes and two suffixes returns what the table entry for the prefixes dictates (`decodeUVLC_window`); the table
  facts are kernel-checked per shape pair.
  `decodeUVLC_items` is the round trip on the items the encoder writes, for both kinds of quad row.
-/
namespace Htj2k

/-- the five code shapes of `ojphUVLC`: class 0 = no code (u = 0), 1: `1`, 2: `01`, 3: `001`+1 suffix bit, 4: `000`+5 suffix bits -/
def clsOf (u : Nat) : Nat := if u = 0 then 0 else if u = 1 then 1 else if u = 2 then 2 else if u ≤ 4 then 3 else 4

/-- of a class: prefix value `cPre` and length `cP`, suffix length `cS`, least value `cBase` -/
def cPre : Nat → Nat | 1 => 1 | 2 => 2 | 3 => 4 | _ => 0
def cP : Nat → Nat | 0 => 0 | 1 => 1 | 2 => 2 | _ => 3
def cS : Nat → Nat | 3 => 1 | 4 => 5 | _ => 0
def cBase : Nat → Nat | 0 => 0 | 1 => 1 | 2 => 2 | 3 => 3 | _ => 5

theorem uvlcCode_form : ∀ u : Fin 33,
    uvlcCode u = ((cPre (clsOf u), cP (clsOf u)), (u - cBase (clsOf u), cS (clsOf u))) ∧
    cBase (clsOf u) ≤ u ∧ u - cBase (clsOf u) < 2 ^ cS (clsOf u) ∧ clsOf u < 5 ∧ (clsOf u = 0 ↔ u.val = 0) ∧
    (clsOf u ≥ 3 ↔ u.val > 2) := by decide +kernel

theorem code_of (u : Nat) (hu : u ≤ 32) : ∃ c s, c < 5 ∧ s < 2 ^ cS c ∧ u = cBase c + s ∧ (c = 0 ↔ u = 0) ∧
    (c ≥ 3 ↔ u > 2) ∧ uvlcCode u = ((cPre c, cP c), (s, cS c)) := by
  have h := uvlcCode_form ⟨u, by omega⟩
  simp only at h
  exact ⟨clsOf u, u - cBase (clsOf u), h.2.2.2.1, h.2.2.1, by omega, h.2.2.2.2.1, h.2.2.2.2.2, h.1⟩

theorem uvlcPack_fields (lp ls u0suf p0 p1 : Nat)
    (hlp : lp < 8) (hls : ls < 16) (hsuf : u0suf < 8) (hp0 : p0 < 8) (hp1 : p1 < 8) :
    uvlcPack lp ls u0suf p0 p1 % 8 = lp ∧ uvlcPack lp ls u0suf p0 p1 / 8 % 16 = ls ∧
    uvlcPack lp ls u0suf p0 p1 / 128 % 8 = u0suf ∧ uvlcPack lp ls u0suf p0 p1 / 1024 % 8 = p0 ∧
    uvlcPack lp ls u0suf p0 p1 / 8192 % 8 = p1 := by
  unfold uvlcPack; omega

/-- `hlp`: the prefixes lie inside the 6 bits that index the table; `hls`, `hS0`, `hp0`, `hp1`: the values fit the
    fields of `uvlcPack` (4, 3, 3, 3 bits) -/
theorem decodeUVLC_window (initial : Bool) (mode : Nat) (pre : List (Nat × Nat)) (s0 S0 s1 S1 rest p0 p1 : Nat)
    (hs0 : s0 < 2 ^ S0) (hs1 : s1 < 2 ^ S1)
    (hlp : (vlcConcat pre).2 ≤ 6) (hls : S0 + S1 < 16) (hS0 : S0 < 8) (hp0 : p0 < 8) (hp1 : p1 < 8)
    (he : ∀ i : Fin 64, i.val % 2 ^ (vlcConcat pre).2 = (vlcConcat pre).1 →
      (if initial then uvlcTbl0 (mode + i) else uvlcTbl1 (mode + i)) = uvlcPack (vlcConcat pre).2 (S0 + S1) S0 p0 p1) :
    decodeUVLC initial mode (winOf (pre ++ [(s0, S0), (s1, S1)]) rest) =
      (p0 + s0, p1 + s1, (vlcConcat (pre ++ [(s0, S0), (s1, S1)])).2) := by
  have he := he ⟨winOf (pre ++ [(s0, S0), (s1, S1)]) rest % 64, Nat.mod_lt _ (by decide)⟩
    (winOf_append_mod pre _ rest 6 hlp)
  obtain ⟨e1, e2, e3, e4, e5⟩ := uvlcPack_fields _ _ _ _ _ (Nat.lt_of_le_of_lt hlp (by decide)) hls hS0 hp0 hp1
  unfold decodeUVLC
  simp only [he]
  rw [e1, e2, e3, e4, e5, winOf_append, winOf_div,
    Nat.mod_mod_of_dvd _ (Nat.pow_dvd_pow 2 (Nat.le_add_right S0 S1)), vlcConcat_append_snd]
  simp only [winOf, Nat.mod_eq_of_lt hs0, Nat.mod_eq_of_lt hs1]
  rw [add_mul_pow_mod _ hs0, Nat.pow_add, Nat.mod_mul_right_div_self, add_mul_pow_div _ hs0, add_mul_pow_mod _ hs1]
  rfl

def clsPre (c0 c1 : Nat) : List (Nat × Nat) := [(cPre c0, cP c0), (cPre c1, cP c1)]
def clsMode (c0 c1 : Nat) : Nat := (if c0 = 0 then 0 else 64) + (if c1 = 0 then 0 else 128)

theorem cls_le (c : Nat) : cP c ≤ 3 ∧ cS c ≤ 5 ∧ cBase c ≤ 5 := by
  refine ⟨?_, ?_, ?_⟩
  · unfold cP; split <;> omega
  · unfold cS; split <;> omega
  · unfold cBase; split <;> omega

/-- two whole codes of classes `c0`, `c1`, on a table row that adds `d` to both values (`d = 2` under the MEL event of the first row) -/
theorem cls_core (initial : Bool) (mode d c0 c1 s0 s1 rest : Nat) (hd : d ≤ 2) (hs0 : s0 < 2 ^ cS c0) (hs1 : s1 < 2 ^ cS c1)
    (he : ∀ i : Fin 64, i.val % 2 ^ (vlcConcat (clsPre c0 c1)).2 = (vlcConcat (clsPre c0 c1)).1 →
      (if initial then uvlcTbl0 (mode + i) else uvlcTbl1 (mode + i)) =
        uvlcPack (vlcConcat (clsPre c0 c1)).2 (cS c0 + cS c1) (cS c0) (cBase c0 + d) (cBase c1 + d)) :
    decodeUVLC initial mode (winOf (clsPre c0 c1 ++ [(s0, cS c0), (s1, cS c1)]) rest) =
      (cBase c0 + d + s0, cBase c1 + d + s1, (vlcConcat (clsPre c0 c1 ++ [(s0, cS c0), (s1, cS c1)])).2) := by
  have b0 := cls_le c0
  have b1 := cls_le c1
  have hlp : (vlcConcat (clsPre c0 c1)).2 = cP c0 + cP c1 := rfl
  exact decodeUVLC_window initial _ _ _ _ _ _ rest _ _ hs0 hs1 (by omega) (by omega) (by omega) (by omega) (by omega) he

theorem uvlcTbl1_entry : ∀ c0 c1 : Fin 5, ∀ i : Fin 64,
    i.val % 2 ^ (vlcConcat (clsPre c0 c1)).2 = (vlcConcat (clsPre c0 c1)).1 →
    uvlcTbl1 (clsMode c0 c1 + i) =
      uvlcPack (vlcConcat (clsPre c0 c1)).2 (cS c0 + cS c1) (cS c0) (cBase c0) (cBase c1) := by decide +kernel

theorem uvlcTbl0_entries : ∀ c0 c1 : Fin 5, ∀ i : Fin 64,
    i.val % 2 ^ (vlcConcat (clsPre c0 c1)).2 = (vlcConcat (clsPre c0 c1)).1 →
    (¬ (c0.val ≥ 3 ∧ c1.val ≥ 1) →
      uvlcTbl0 (clsMode c0 c1 + i) =
        uvlcPack (vlcConcat (clsPre c0 c1)).2 (cS c0 + cS c1) (cS c0) (cBase c0) (cBase c1)) ∧
    (c0.val ≠ 0 → c1.val ≠ 0 →
      uvlcTbl0 (256 + i) =
        uvlcPack (vlcConcat (clsPre c0 c1)).2 (cS c0 + cS c1) (cS c0) (cBase c0 + 2) (cBase c1 + 2)) := by
  decide +kernel

theorem uvlcTbl0_special : ∀ c0 : Fin 5, ∀ bit : Fin 2, ∀ i : Fin 64, c0.val ≥ 3 →
    i.val % 2 ^ (vlcConcat [(cPre c0, cP c0), (bit.val, 1)]).2 = (vlcConcat [(cPre c0, cP c0), (bit.val, 1)]).1 →
    uvlcTbl0 (192 + i) =
      uvlcPack (vlcConcat [(cPre c0, cP c0), (bit.val, 1)]).2 (cS c0 + 0) (cS c0) (cBase c0) (bit + 1) := by
  decide +kernel

/-- `u0 > 2`, `u1 ∈ {1, 2}`: one bit for `u1` between prefix and suffix of `u0`; the second suffix is empty -/
theorem initial_core_special (c0 s0 bit rest : Nat) (hc0 : c0 < 5) (h3 : c0 ≥ 3) (hs0 : s0 < 2 ^ cS c0) (hbit : bit < 2) :
    decodeUVLC true 192 (winOf [(cPre c0, cP c0), (bit, 1), (s0, cS c0)] rest) =
      (cBase c0 + s0, bit + 1, (vlcConcat [(cPre c0, cP c0), (bit, 1), (s0, cS c0)]).2) := by
  have b0 := cls_le c0
  have hlp : (vlcConcat [(cPre c0, cP c0), (bit, 1)]).2 = cP c0 + 1 := rfl
  have h := decodeUVLC_window true 192 [(cPre c0, cP c0), (bit, 1)] s0 (cS c0) 0 0 rest (cBase c0) (bit + 1) hs0
    Nat.one_pos (by omega) (by omega) (by omega) (by omega) (by omega)
    (fun i hi => (if_pos rfl).trans (uvlcTbl0_special ⟨c0, hc0⟩ ⟨bit, hbit⟩ i h3 hi))
  have hw : ∀ X, winOf [(0, 0)] X = X := fun X => by simp [winOf]
  simpa [winOf_append, winOf, vlcConcat, hw] using h

theorem mode_flags (u0 u1 c0 c1 : Nat) (hz0 : c0 = 0 ↔ u0 = 0) (hz1 : c1 = 0 ↔ u1 = 0) :
    (if u0 > 0 then 64 else 0) + (if u1 > 0 then 128 else 0) = clsMode c0 c1 := by
  unfold clsMode
  have e0 : (u0 > 0) ↔ ¬ c0 = 0 := by rw [hz0]; omega
  have e1 : (u1 > 0) ↔ ¬ c1 = 0 := by rw [hz1]; omega
  simp only [e0, e1, ite_not]

theorem uvlcItems_concat (initial : Bool) (u0 u1 : Nat) :
    vlcConcat (uvlcItems initial u0 u1) = if initial then encodeInitialUVLC u0 u1 else encodeNonInitialUVLC u0 u1 := by
  cases initial
  · simp [uvlcItems, encodeNonInitialUVLC]
  · show vlcConcat (uvlcItems true u0 u1) = encodeInitialUVLC u0 u1
    unfold uvlcItems encodeInitialUVLC
    by_cases h1 : u0 > 2 ∧ u1 > 2
    · simp only [h1, and_self, true_and, if_true]
    · by_cases h2 : u0 > 2 ∧ u1 > 0
      · have h3 : ¬ u1 > 2 := fun h => h1 ⟨h2.1, h⟩
        simp only [h2, h3, and_self, true_and, if_true, if_false]
      · simp only [h1, h2, true_and, if_false]

theorem decodeUVLC_items (initial : Bool) (u0 u1 rest : Nat) (h0 : u0 ≤ 32) (h1 : u1 ≤ 32) :
    decodeUVLC initial (uvlcMode initial u0 u1) (winOf (uvlcItems initial u0 u1) rest) =
      (u0, u1, (vlcConcat (uvlcItems initial u0 u1)).2) := by
  by_cases hboth : initial = true ∧ u0 > 2 ∧ u1 > 2
  · -- first row, both above 2: MEL event 1, codes of u-2
    obtain ⟨hi, hb0, hb1⟩ := hboth
    subst hi
    obtain ⟨c0, s0, hc0, hs0, hu0, hz0, _, hcode0⟩ := code_of (u0 - 2) (by omega)
    obtain ⟨c1, s1, hc1, hs1, hu1, hz1, _, hcode1⟩ := code_of (u1 - 2) (by omega)
    have hitems : uvlcItems true u0 u1 = clsPre c0 c1 ++ [(s0, cS c0), (s1, cS c1)] := by
      rw [uvlcItems, if_pos ⟨rfl, hb0, hb1⟩]
      simp only [hcode0, hcode1]
      rfl
    have hmode : uvlcMode true u0 u1 = 256 := by
      rw [uvlcMode, if_pos (by omega), if_pos (by omega), if_pos ⟨rfl, hb0, hb1⟩]
    have n0 : c0 ≠ 0 := fun h => by have := hz0.mp h; omega
    have n1 : c1 ≠ 0 := fun h => by have := hz1.mp h; omega
    -- `if_pos rfl` by hand: left to the unifier, the choice of table is made by unfolding the table function
    rw [hitems, hmode, cls_core true 256 2 c0 c1 s0 s1 rest (Nat.le_refl 2) hs0 hs1 fun i hi =>
        (if_pos rfl).trans ((uvlcTbl0_entries ⟨c0, hc0⟩ ⟨c1, hc1⟩ i hi).2 n0 n1),
      Nat.add_right_comm, ← hu0, Nat.sub_add_cancel (Nat.le_of_lt hb0), Nat.add_right_comm, ← hu1,
      Nat.sub_add_cancel (Nat.le_of_lt hb1)]
  · by_cases hspec : initial = true ∧ u0 > 2 ∧ u1 > 0
    · obtain ⟨hi, hb0, hb1⟩ := hspec
      subst hi
      obtain ⟨c0, s0, hc0, hs0, hu0, _, h30, hcode0⟩ := code_of u0 h0
      have hitems : uvlcItems true u0 u1 = [(cPre c0, cP c0), (u1 - 1, 1), (s0, cS c0)] := by
        rw [uvlcItems, if_neg hboth, if_pos ⟨rfl, hb0, hb1⟩]
        simp only [hcode0]
      have hmode : uvlcMode true u0 u1 = 192 := by
        rw [uvlcMode, if_pos (by omega), if_pos hb1, if_neg hboth]
      have hb2 : ¬ u1 > 2 := fun h => hboth ⟨rfl, hb0, h⟩
      rw [hitems, hmode, initial_core_special c0 s0 (u1 - 1) rest hc0 (h30.mpr hb0) hs0 (by omega), ← hu0,
        Nat.sub_add_cancel hb1]
    · obtain ⟨c0, s0, hc0, hs0, hu0, hz0, h30, hcode0⟩ := code_of u0 h0
      obtain ⟨c1, s1, hc1, hs1, hu1, hz1, _, hcode1⟩ := code_of u1 h1
      have hitems : uvlcItems initial u0 u1 = clsPre c0 c1 ++ [(s0, cS c0), (s1, cS c1)] := by
        rw [uvlcItems, if_neg hboth, if_neg hspec]
        simp only [hcode0, hcode1]
        rfl
      have hmode : uvlcMode initial u0 u1 = clsMode c0 c1 := by
        rw [uvlcMode, mode_flags u0 u1 c0 c1 hz0 hz1, if_neg hboth, Nat.add_zero]
      have hn : initial = true → ¬ (c0 ≥ 3 ∧ c1 ≥ 1) := fun hi ⟨a, b⟩ => by
        have : u1 ≠ 0 := fun h => by have := hz1.mpr h; omega
        exact hspec ⟨hi, h30.mp a, by omega⟩
      rw [hitems, hmode, cls_core initial _ 0 c0 c1 s0 s1 rest (Nat.zero_le 2) hs0 hs1 fun i hi => ?_, Nat.add_zero,
        Nat.add_zero, ← hu0, ← hu1]
      cases initial
      · exact (if_neg Bool.false_ne_true).trans (uvlcTbl1_entry ⟨c0, hc0⟩ ⟨c1, hc1⟩ i hi)
      · exact (if_pos rfl).trans ((uvlcTbl0_entries ⟨c0, hc0⟩ ⟨c1, hc1⟩ i hi).1 (hn rfl))

end Htj2k
