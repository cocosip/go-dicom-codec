import GdcVerif.Lemmas.RleEnc
import GdcVerif.Spec.PackBits
/-! Both PackBits readers (`Rle.decodeLoop`, `AnnexG.unpack`) invert `Enc`. -/
namespace Rle

theorem writeStrided_size (buf : Array Byte) (pos stride : Nat) (l : List Byte) :
    (writeStrided buf pos stride l).size = buf.size := by
  induction l generalizing buf pos with
  | nil => rfl
  | cons b bs ih => simp [writeStrided, ih]

theorem writeStrided_append (buf : Array Byte) (pos stride : Nat) (l1 l2 : List Byte) :
    writeStrided buf pos stride (l1 ++ l2) =
      writeStrided (writeStrided buf pos stride l1) (pos + l1.length * stride) stride l2 := by
  induction l1 generalizing buf pos with
  | nil => simp [writeStrided]
  | cons b bs ih =>
    simp only [List.cons_append, writeStrided, List.length_cons, ih]
    congr 1
    rw [Nat.add_mul]; omega

/-- The continuation test (`rem.length ≤ 1` ends the loop: at most the pad byte is left) is part of the
    statement because the loop itself would take a pad byte for a control byte. -/
theorem decodeLoop_enc_test {out d : List Byte} (h : Enc out d) :
    ∀ (stride : Nat) (buf : Array Byte) (pos : Nat) (pad : List Byte), pad.length ≤ 1 →
      (∀ k, k < d.length → pos + k * stride < buf.size) →
      (if (out ++ pad).length ≤ 1 then .ok buf else decodeLoop stride buf pos (out ++ pad)) =
        .ok (writeStrided buf pos stride d) := by
  have shift : ∀ {p n pos stride size : Nat}, (∀ k, k < p + n → pos + k * stride < size) →
      ∀ k, k < n → pos + p * stride + k * stride < size := by
    intro p n pos stride size hb k hk
    have := hb (p + k) (by omega)
    rw [Nat.add_mul] at this
    omega
  induction h with
  | nil => intro _ _ _ _ hpad _; simp [hpad, writeStrided]
  | lit l out d hl1 hl2 henc ih =>
    intro stride buf pos pad hpad hb
    rw [List.length_append] at hb
    have hpos : ¬ pos ≥ buf.size := by have := hb 0 (by omega); omega
    have h2 : ¬ (pos + (l.length - 1) * stride ≥ buf.size) := by have := hb (l.length - 1) (by omega); omega
    have hc : l.length - 1 < 128 := by omega
    have hc1 : l.length - 1 + 1 = l.length := by omega
    rw [if_neg (by simp only [List.length_cons, List.length_append]; omega), List.cons_append, decodeLoop]
    simp only [hpos, hc, ↓reduceIte, hc1]
    have h1 : ¬ ((l ++ out ++ pad).length < l.length) := by simp
    simp only [h1, h2, ↓reduceIte]
    have ht : (l ++ out ++ pad).take l.length = l := by simp [List.append_assoc]
    have hd : (l ++ out ++ pad).drop l.length = out ++ pad := by simp [List.append_assoc]
    rw [ht, hd, writeStrided_append]
    exact ih _ _ _ _ hpad (by rw [writeStrided_size]; exact shift hb)
  | run n b out d hn1 hn2 henc ih =>
    intro stride buf pos pad hpad hb
    rw [List.length_append, List.length_replicate] at hb
    have hpos : ¬ pos ≥ buf.size := by have := hb 0 (by omega); omega
    have h2 : ¬ (pos + (n - 1) * stride ≥ buf.size) := by have := hb (n - 1) (by omega); omega
    have hc : ¬ (257 - n < 128) := by omega
    have hc' : 257 - n ≥ 129 := by omega
    have hc1 : 257 - (257 - n) = n := by omega
    rw [if_neg (by simp), List.cons_append, List.cons_append, decodeLoop]
    simp only [hpos, hc, hc', ↓reduceIte, hc1, h2]
    rw [writeStrided_append, List.length_replicate]
    exact ih _ _ _ _ hpad (by rw [writeStrided_size]; exact shift hb)

theorem decodeLoop_enc {out d : List Byte} (h : Enc out d) (stride : Nat) (buf : Array Byte) (pos : Nat)
    (pad : List Byte) (hpad : pad.length ≤ 1) (hd : 1 ≤ d.length)
    (hb : ∀ k, k < d.length → pos + k * stride < buf.size) :
    decodeLoop stride buf pos (out ++ pad) = .ok (writeStrided buf pos stride d) := by
  have := decodeLoop_enc_test h stride buf pos pad hpad hb
  rwa [if_neg] at this
  have := h.two_le hd
  simp; omega

theorem unpack_enc {out d : List Byte} (h : Enc out d) (pad : List Byte) :
    AnnexG.unpack (out ++ pad) d.length = some d := by
  induction h with
  | nil => rw [AnnexG.unpack.eq_def]; simp
  | lit l out d hl1 hl2 henc ih =>
    have hne : ¬ ((l ++ d).length = 0) := by simp only [List.length_append]; omega
    have hc : l.length - 1 < 128 := by omega
    have hc1 : l.length - 1 + 1 = l.length := by omega
    rw [List.cons_append, AnnexG.unpack.eq_def]
    simp only [hne, hc, ↓reduceIte, hc1]
    have h1 : ¬ ((l ++ out ++ pad).length < l.length ∨ (l ++ d).length < l.length) := by simp
    have ht : (l ++ out ++ pad).take l.length = l := by simp [List.append_assoc]
    have hd : (l ++ out ++ pad).drop l.length = out ++ pad := by simp [List.append_assoc]
    have hn : (l ++ d).length - l.length = d.length := by simp
    simp only [h1, ↓reduceIte, ht, hd, hn, ih, Option.map_some]
  | run n b out d hn1 hn2 henc ih =>
    have hne : ¬ ((List.replicate n b ++ d).length = 0) := by
      simp only [List.length_append, List.length_replicate]; omega
    have hc : ¬ (257 - n < 128) := by omega
    have hc' : ¬ (257 - n = 128) := by omega
    have hc1 : 257 - (257 - n) = n := by omega
    rw [List.cons_append, List.cons_append, AnnexG.unpack.eq_def]
    simp only [hne, hc, hc', ↓reduceIte, hc1]
    have h1 : ¬ ((List.replicate n b ++ d).length < n) := by simp
    have hn : (List.replicate n b ++ d).length - n = d.length := by simp
    simp only [h1, ↓reduceIte, hn, ih, Option.map_some]

end Rle
