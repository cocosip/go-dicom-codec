import GdcVerif.Lemmas.JpegContainer
import GdcVerif.Spec.StrictJ2kTiles
import GdcVerif.Lemmas.Basics
/-!
  C16, JPEG 2000 container level: the layout of a tile-part (SOT segment, header, SOD, data) and its
  length Psot; the scan loop of `writeTLM` and the strict A.4.2 walker, each consuming exactly one
  tile-part per round; total length; the layout of SIZ; TPsot/TNsot consistency.
-/
namespace JpegC
open Gen.C16J2kMarkers

theorem mSOT : be16 MarkerSOT.toNat = [0xFF, 0x90] := by decide
theorem mSOD : be16 MarkerSOD.toNat = [0xFF, 0x93] := by decide
theorem mEOC : be16 MarkerEOC.toNat = [0xFF, 0xD9] := by decide
theorem mTLM : be16 MarkerTLM.toNat = [0xFF, 0x55] := by decide
theorem mSOC : be16 MarkerSOC.toNat = [0xFF, 0x4F] := by decide
theorem mSIZ : be16 MarkerSIZ.toNat = [0xFF, 0x51] := by decide

def TilePart.Fits (t : TilePart) : Prop := 0 ≤ t.isot ∧ t.isot < 65536 ∧ t.psot < 4294967296

instance (t : TilePart) : Decidable t.Fits := by unfold TilePart.Fits; infer_instance

theorem writeTilePart_length (t : TilePart) : (writeTilePart t).length = t.psot := by
  simp [writeTilePart, be16, be32, TilePart.psot]; omega

theorem writeTileParts_cons (t : TilePart) (r : List TilePart) :
    writeTileParts (t :: r) = writeTilePart t ++ writeTileParts r := rfl

theorem writeTileParts_length (ts : List TilePart) : (writeTileParts ts).length = (ts.map TilePart.psot).sum := by
  induction ts with
  | nil => rfl
  | cons t r ih => rw [writeTileParts_cons, List.length_append, writeTilePart_length, ih, List.map_cons, List.sum_cons]

theorem be32_decode (v : Nat) (h : v < 4294967296) :
    ((v / 16777216 % 256 * 256 + v / 65536 % 256) * 256 + v / 256 % 256) * 256 + v % 256 = v := by omega

theorem be16_decode (v : Nat) (h : v < 65536) : v / 256 % 256 * 256 + v % 256 = v := by omega

theorem writeTilePart_layout (t : TilePart) (ht : t.Fits) :
    writeTilePart t = [0xFF, 0x90, 0, 10] ++ be16 t.isot.toNat ++ be32 t.psot ++ [byteOf t.tpsot, byteOf t.tnsot] ++
      (t.header ++ [0xFF, 0x93] ++ t.body) := by
  rw [writeTilePart, mSOT, mSOD, u16Of_toNat ht.1 ht.2.1, u32Of_small _ ht.2.2]
  simp only [be16, List.append_assoc, List.cons_append, List.nil_append]

theorem psot_ge (t : TilePart) : 14 ≤ t.psot := Nat.le_add_left _ _

theorem psot_eq (t : TilePart) : (t.header ++ [0xFF, 0x93] ++ t.body).length + 12 = t.psot := by
  simp only [List.length_append, List.length_cons, List.length_nil, TilePart.psot]; omega

theorem tlmScan_sot (pre tail rest : List Nat) (isot psot tp tn fuel : Nat) (hi : isot < 65536)
    (hp : psot < 4294967296) (h14 : 14 ≤ psot) (hlen : tail.length + 12 = psot) :
    tlmScan (fuel + 1) (pre ++ ([0xFF, 0x90, 0, 10] ++ be16 isot ++ be32 psot ++ [tp, tn] ++ tail ++ rest)) pre.length =
      (tlmScan fuel (pre ++ ([0xFF, 0x90, 0, 10] ++ be16 isot ++ be32 psot ++ [tp, tn] ++ tail ++ rest))
        (pre.length + psot)).map ((isot, psot) :: ·) := by
  have hl : (pre ++ ([0xFF, 0x90, 0, 10] ++ be16 isot ++ be32 psot ++ [tp, tn] ++ tail ++ rest)).length
      = pre.length + psot + rest.length := by
    simp only [List.length_append, List.length_cons, List.length_nil, be16_length, be32_length]; omega
  have h0 := List.getD_append_add pre ([0xFF, 0x90, 0, 10] ++ be16 isot ++ be32 psot ++ [tp, tn] ++ tail ++ rest) 0 0
  rw [Nat.add_zero] at h0
  rw [tlmScan, if_pos (by omega)]
  simp only [rd32, rd16, Nat.add_assoc, Nat.reduceAdd, List.getD_append_add, hl]
  rw [h0]
  simp only [be16, be32, List.cons_append, List.nil_append, List.getD_cons_succ, List.getD_cons_zero,
    be16_decode isot hi, be32_decode psot hp]
  rw [if_neg, if_neg]
  · omega
  · simp only [ne_eq, not_true_eq_false, or_false]
    omega

theorem tlmScan_step (t : TilePart) (ht : t.Fits) (pre rest : List Nat) (fuel : Nat) :
    tlmScan (fuel + 1) (pre ++ (writeTilePart t ++ rest)) pre.length =
      (tlmScan fuel ((pre ++ writeTilePart t) ++ rest) (pre ++ writeTilePart t).length).map
        ((t.isot.toNat, t.psot) :: ·) := by
  have e2 : (pre ++ writeTilePart t).length = pre.length + t.psot := by rw [List.length_append, writeTilePart_length]
  rw [List.append_assoc pre, e2, writeTilePart_layout t ht]
  exact tlmScan_sot pre _ rest _ _ _ _ fuel (by have := ht.1; have := ht.2.1; omega) ht.2.2 (psot_ge t) (psot_eq t)

theorem tlmScan_parts (ts : List TilePart) : ∀ (pre : List Nat) (fuel : Nat),
    (∀ t ∈ ts, t.Fits) → ts.length ≤ fuel →
    tlmScan fuel (pre ++ writeTileParts ts) pre.length = some (ts.map fun t => (t.isot.toNat, t.psot)) := by
  induction ts with
  | nil =>
    intro pre fuel _ _
    cases fuel <;> simp [tlmScan, writeTileParts]
  | cons t r ih =>
    intro pre fuel hfit hfuel
    obtain ⟨f, rfl⟩ : ∃ f, fuel = f + 1 := ⟨fuel - 1, by simp at hfuel; omega⟩
    rw [writeTileParts_cons, tlmScan_step t (hfit t (by simp)),
      ih (pre ++ writeTilePart t) f (fun x hx => hfit x (by simp [hx])) (by simp at hfuel; omega)]
    rfl

theorem tlmScan_writeTileParts (ts : List TilePart) (hfit : ∀ t ∈ ts, t.Fits) :
    tlmScan (writeTileParts ts).length (writeTileParts ts) 0 = some (ts.map fun t => (t.isot.toNat, t.psot)) := by
  refine tlmScan_parts ts [] _ hfit ?_
  rw [writeTileParts_length]
  clear hfit
  induction ts with
  | nil => exact Nat.le_refl _
  | cons t r ih => simp only [List.length_cons, List.map_cons, List.sum_cons, TilePart.psot]; omega

theorem tlmSegments_single (es : List (Nat × Nat)) (h0 : es.length ≠ 0) (h1 : es.length ≤ 10921) :
    tlmSegments es.length 0 es =
      [0xFF, 0x55] ++ be16 (4 + es.length * 6) ++ [0, 0x60] ++ (es.flatMap fun e => be16 e.1 ++ be32 e.2) := by
  have hu : u16Of (4 + (es.length : Int) * 6) = 4 + es.length * 6 := by
    simpa using u16Of_small (4 + es.length * 6) (by omega)
  cases hl : es.length with
  | zero => exact absurd hl h0
  | succ n =>
    simp only [tlmSegments]
    rw [if_neg h0, List.take_of_length_le h1, List.drop_of_length_le (by omega), mTLM, hu, hl]
    cases n <;> simp [tlmSegments]

/-- `writeTLM` on the tile-part writer's output (at most 10921 tile-parts, `hn`): one segment, `Ltlm = 4 + 6n`,
    `Ztlm = 0`, `Stlm = 0x60`, and the n entries are exactly `(Isot, Psot)` of the n tile-parts, in order.
    (Beyond `hn` the code — since fix htj2k-tlm-length-overflow — and the model continue with further segments.) -/
theorem writeTLM_parts (ts : List TilePart) (hne : ts ≠ []) (hfit : ∀ t ∈ ts, t.Fits) (hn : 4 + ts.length * 6 < 65536) :
    writeTLM true (writeTileParts ts) =
      .ok ([0xFF, 0x55] ++ be16 (4 + ts.length * 6) ++ [0, 0x60] ++
        ts.flatMap fun t => be16 t.isot.toNat ++ be32 t.psot) := by
  have hl : ts.length ≠ 0 := by cases ts <;> simp_all
  have hseg := tlmSegments_single (ts.map fun t => (t.isot.toNat, t.psot)) (by simpa using hl) (by simp; omega)
  simp only [List.length_map] at hseg
  simp [writeTLM, tlmScan_writeTileParts ts hfit, hl, hseg, List.flatMap_map]
  omega

theorem j2k_total_length (p : J2kParams) (info : QcdInfo) (ts : List TilePart) (hht : p.htj2k = false) :
    ∃ bytes, j2kStream p info ts = .ok bytes ∧
      bytes.length = (j2kMainHeader p info).length + (ts.map TilePart.psot).sum + 2 ∧
      bytes.drop (bytes.length - 2) = [0xFF, 0xD9] := by
  refine ⟨j2kMainHeader p info ++ (writeTileParts ts ++ [0xFF, 0xD9]), ?_, ?_, ?_⟩
  · simp [j2kStream, j2kTail, writeTLM, hht, Outcome.map, mEOC]
  · simp [writeTileParts_length]; omega
  · have e : j2kMainHeader p info ++ (writeTileParts ts ++ [0xFF, 0xD9])
        = (j2kMainHeader p info ++ writeTileParts ts) ++ [0xFF, 0xD9] := by simp
    rw [e]
    apply List.drop_left'
    simp only [List.length_append, List.length_cons, List.length_nil]
    omega

/-- arguments within the ranges Table A.9 gives the SIZ fields: 32-bit sizes, Csiz 1..16384, depth 1..38 -/
structure J2kParams.Fits (p : J2kParams) : Prop where
  w : 0 < p.width ∧ p.width < 4294967296
  h : 0 < p.height ∧ p.height < 4294967296
  c : 1 ≤ p.components ∧ p.components ≤ 16384
  d : 1 ≤ p.bitDepth ∧ p.bitDepth ≤ 38

theorem replicate_flatten_len (n : Nat) (x : List Nat) : (List.replicate n x).flatten.length = n * x.length := by
  induction n with
  | zero => simp
  | succ k ih => simp [List.replicate_succ, ih]; rw [Nat.add_mul]; omega

theorem writeSIZ_layout (p : J2kParams) (hp : p.Fits) :
    writeSIZ p = [0xFF, 0x51] ++ be16 (38 + 3 * p.components.toNat) ++ be16 (if p.htj2k then 0x4000 else 0) ++
      be32 p.width.toNat ++ be32 p.height.toNat ++ be32 0 ++ be32 0 ++
      be32 (u32Of (if p.tileWidth = 0 then p.width else p.tileWidth)) ++
      be32 (u32Of (if p.tileHeight = 0 then p.height else p.tileHeight)) ++ be32 0 ++ be32 0 ++
      be16 p.components.toNat ++
      (List.replicate p.components.toNat
        [if p.isSigned then byteOf (p.bitDepth - 1) ||| 0x80 else byteOf (p.bitDepth - 1), 1, 1]).flatten := by
  simp only [writeSIZ]
  obtain ⟨hw, hh, hc, -⟩ := hp
  rw [j2kSegment_eq _ _ (38 + 3 * p.components.toNat), mSIZ, u32Of_toNat (Int.le_of_lt hw.1) hw.2,
    u32Of_toNat (Int.le_of_lt hh.1) hh.2, u16Of_toNat (by omega) (by omega)]
  · simp only [List.append_assoc]
  · simp only [List.length_append, be16_length, be32_length, replicate_flatten_len, List.length_cons, List.length_nil]
    omega
  · omega

open StrictJ2k in
def sotOf (t : TilePart) : Sot := { isot := t.isot.toNat, psot := t.psot, tpsot := byteOf t.tpsot, tnsot := byteOf t.tnsot }

open StrictJ2k in
theorem tileWalk_sot (isot psot tp tn : Nat) (tail rest : List Nat) (fuel : Nat) (hi : isot < 65536)
    (hp : psot < 4294967296) (h14 : 14 ≤ psot) (hlen : tail.length + 12 = psot) :
    tileWalk (fuel + 1) ([0xFF, 0x90, 0, 10] ++ be16 isot ++ be32 psot ++ [tp, tn] ++ tail ++ rest) =
      (tileWalk fuel rest).map ({ isot := isot, psot := psot, tpsot := tp, tnsot := tn } :: ·) := by
  have hd := List.drop_left' (l₁ := [0xFF, 0x90, 0, 10] ++ be16 isot ++ be32 psot ++ [tp, tn] ++ tail) (l₂ := rest) (i := psot)
    (by simp only [List.length_append, List.length_cons, List.length_nil, be16_length, be32_length]; omega)
  simp only [be16, be32, List.cons_append, List.nil_append] at hd ⊢
  rw [tileWalk]
  simp only [List.take_succ_cons, List.take_zero, b16, b32, List.drop_succ_cons, List.drop_zero, List.getD_cons_succ,
    List.getD_cons_zero, be16_decode isot hi, be32_decode psot hp, List.length_cons, List.length_append]
  rw [hd, if_neg (by simp), if_neg (by simp <;> omega), if_neg (by omega)]

open StrictJ2k in
theorem tileWalk_step (t : TilePart) (ht : t.Fits) (rest : List Nat) (fuel : Nat) :
    tileWalk (fuel + 1) (writeTilePart t ++ rest) = (tileWalk fuel rest).map (sotOf t :: ·) := by
  rw [writeTilePart_layout t ht]
  exact tileWalk_sot _ _ _ _ _ rest fuel (by have := ht.1; have := ht.2.1; omega) ht.2.2 (psot_ge t) (psot_eq t)

open StrictJ2k in
theorem tileWalk_parts (ts : List TilePart) : ∀ (fuel : Nat), (∀ t ∈ ts, t.Fits) → ts.length < fuel →
    tileWalk fuel (writeTileParts ts ++ [0xFF, 0xD9]) = some (ts.map sotOf) := by
  induction ts with
  | nil =>
    intro fuel _ hf
    obtain ⟨f, rfl⟩ : ∃ f, fuel = f + 1 := ⟨fuel - 1, by simp at hf; omega⟩
    simp [tileWalk, writeTileParts]
  | cons t r ih =>
    intro fuel hfit hf
    obtain ⟨f, rfl⟩ : ∃ f, fuel = f + 1 := ⟨fuel - 1, by simp at hf; omega⟩
    rw [writeTileParts_cons, List.append_assoc, tileWalk_step t (hfit t (by simp)), ih f (fun x hx => hfit x (by simp [hx])) (by simp at hf; omega)]
    rfl

section
open StrictJ2k
theorem filter_blocks (G : Nat → List Sot) (hG : ∀ i, ∀ s ∈ G i, s.isot = i) (t : Nat) : ∀ n : Nat,
    ((List.range n).flatMap G).filter (fun s => decide (s.isot = t)) = if t < n then G t else [] := by
  intro n
  induction n with
  | zero => simp
  | succ k ih =>
    rw [List.range_succ, List.flatMap_append, List.filter_append, ih]
    simp only [List.flatMap_cons, List.flatMap_nil, List.append_nil]
    by_cases h2 : t = k
    · subst h2
      have : (G t).filter (fun s => decide (s.isot = t)) = G t := by
        rw [List.filter_eq_self]; intro a ha; simp [hG t a ha]
      simp [this]
    · have : (G k).filter (fun s => decide (s.isot = t)) = [] := by
        rw [List.filter_eq_nil_iff]; intro a ha; have := hG k a ha; simp; omega
      rw [this, List.append_nil]
      by_cases h1 : t < k
      · rw [if_pos h1, if_pos (by omega)]
      · rw [if_neg h1, if_neg (by omega)]

theorem partsConsistent_blocks (n : Nat) (G : Nat → List Sot) (hG : ∀ i, ∀ s ∈ G i, s.isot = i)
    (hne : ∀ i, i < n → G i ≠ [])
    (hnum : ∀ i, i < n → ∀ (k : Nat) (s : Sot), (G i)[k]? = some s → s.tpsot = k ∧ s.tnsot = (G i).length) :
    partsConsistent n ((List.range n).flatMap G) = true := by
  unfold partsConsistent
  rw [List.all_eq_true]
  intro t ht
  have htn : t < n := by simpa using ht
  simp only [filter_blocks G hG t n, htn, if_true]
  simp only [Bool.and_eq_true, Bool.not_eq_true', List.all_eq_true, decide_eq_true_eq]
  refine ⟨⟨?_, ?_⟩, ?_⟩
  · cases h : G t with
    | nil => exact absurd h (hne t htn)
    | cons a r => rfl
  · rintro ⟨s, k⟩ hm
    rw [List.mk_mem_zipIdx_iff_getElem?] at hm
    obtain ⟨h1, h2⟩ := hnum t htn k s hm
    simp [h1, h2]
  · intro s hs
    simp only [List.mem_flatMap, List.mem_range] at hs
    obtain ⟨i, hi, hsi⟩ := hs
    have := hG i s hsi
    omega

end

end JpegC
