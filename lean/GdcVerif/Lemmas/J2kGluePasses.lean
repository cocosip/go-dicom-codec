import GdcVerif.Model.J2kGlue
/-!
  C09, claimed coding passes: `buildAndDecodeCodeBlocks` treats a code-block whose accumulated pass count makes
  `estimateMaxBitplane` return 31 or more as corrupt (`info.maxBitplane = -1`): the T1 decoder is not called, the
  block is zero.  With 91 or more claimed passes `(totalPasses + 2) / 3 ≥ 31`, whatever QCD and the zero-bit-plane
  count say, so the T1 decoder never runs more than 3·31 passes over a code-block — for every list of packet headers.
  The closed form `estimate_eq` also gives the hand-over of C04 (J2kGlueT1: the estimate is the encoder's `numbps`).
-/
namespace J2kGlue
open J2k J2kPH

/-- once a pass is claimed, `estimateMaxBitplane` is the larger of its two readings (from the pass count, from QCD),
    a reading that is not positive counting as 0 -/
theorem estimate_eq (np zbp nb : Nat) (h : 0 < np) :
    estimateMaxBitplane np zbp nb = ((max ((np + 2) / 3) (nb - zbp) : Nat) : Int) := by
  unfold estimateMaxBitplane
  have h2 : ¬ ((np + 2) / 3 ≤ 0) := by omega
  simp only [gt_iff_lt, h, h2, if_true, if_false]
  -- the `split`s are the comparisons of the two readings
  repeat' split
  all_goals omega

theorem estimate_ge_of_passes (np zbp nb : Nat) (h : 91 ≤ np) : estimateMaxBitplane np zbp nb ≥ 31 := by
  rw [estimate_eq np zbp nb (by omega)]; omega

theorem t1Decode_corrupt {w h orient nb : Nat} {i : Incl} {data : List Nat}
    (he : estimateMaxBitplane i.numPasses i.zbp nb ≥ 31) :
    t1Decode w h orient nb i data = some (List.replicate (w * h) 0) := by
  unfold t1Decode
  simp [he]

end J2kGlue
