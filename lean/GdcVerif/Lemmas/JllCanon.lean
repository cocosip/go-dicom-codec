import GdcVerif.Model.JpegLossless
import GdcVerif.Lemmas.Basics
/-!
  Layer L5 of C02: canonical Huffman lemmas about the hand model of
  `standard/huffman.go` (Build, Decode) and `standard/huffman_encoder.go` (BuildHuffmanCodes).

  `specCodes` is the clean T.81 Annex C code assignment (no wrap-around), `KInv` is the
  Kraft invariant carried through every loop: the two builders go code by code (`KInv_one`,
  and `KInv_step` at an exhausted count), DECODE goes length by length (`KInv_step`).
  `buildHuffmanCodes` is shown to be the sequence of writes `values[j] ↦ specCodes[j]`,
  `buildCodes` is the decoder's view of the same recursion (`buildCodes_cons`), and the DECODE
  loop is followed bit by bit.
-/
namespace JLL

/-- Kraft sum of BITS scaled to length 16: Σ bits[l] * 2^(15-l) -/
def kraft : List Nat → Nat → Nat
  | [], _ => 0
  | n :: rest, l => n * 2 ^ (15 - l) + kraft rest (l + 1)

/-- validity of a DHT table; the last conjunct is the Kraft inequality -/
def ValidTable (bits : List Nat) (values : Array Nat) : Bool :=
  bits.length == 16 && bits.sum == values.size && decide values.toList.Nodup
    && values.toList.all (· < 256) && decide (kraft bits 0 ≤ 65536)

/-- T.81's stronger condition: the all-ones code of the longest length is unused (strict Kraft) -/
def KraftStrict (bits : List Nat) : Bool := decide (kraft bits 0 < 65536)

def specLen (code l : Nat) : Nat → List (Nat × Nat)
  | 0 => []
  | i + 1 => (code, l + 1) :: specLen (code + 1) l i

/-- (code, length) of the symbols in `HUFFVAL` order; `code` is the first code of length `l+1` -/
def specCodes : List Nat → Nat → Nat → List (Nat × Nat)
  | [], _, _ => []
  | n :: rest, l, code => specLen code l n ++ specCodes rest (l + 1) ((code + n) * 2)

/-- Kraft sum indexed from the end: the last count has weight 1 -/
def kraftR : List Nat → Nat
  | [] => 0
  | n :: rest => n * 2 ^ rest.length + kraftR rest

/-- Kraft invariant of the code-assignment recursion, about the arguments of `specCodes rest l F`:
    `rest` are the counts of the lengths `l+1 .. 16`, and the codes of length `l+1` from `F` on
    leave room for them.  At the start (`l = 0`, `F = 0`) it is `kraftR bits ≤ 2^16`, the Kraft
    inequality of `ValidTable` (`ValidTable.unpack`). -/
def KInv (rest : List Nat) (l F : Nat) : Prop :=
  l + rest.length = 16 ∧ F * 2 ^ rest.length + 2 * kraftR rest ≤ 2 ^ 17

theorem kraft_eq_kraftR : ∀ (bits : List Nat) (l : Nat), l + bits.length = 16 →
    kraft bits l = kraftR bits
  | [], _, _ => rfl
  | n :: rest, l, h => by
    simp only [List.length_cons] at h
    simp only [kraft, kraftR]
    rw [kraft_eq_kraftR rest (l + 1) (by omega)]
    have : 15 - l = rest.length := by omega
    rw [this]

theorem KInv_step {n : Nat} {rest : List Nat} {l F : Nat} (h : KInv (n :: rest) l F) :
    KInv rest (l + 1) ((F + n) * 2) := by
  obtain ⟨hl, h⟩ := h
  simp only [List.length_cons, kraftR, Nat.pow_succ] at hl h
  have e : (F + n) * 2 * 2 ^ rest.length = F * (2 ^ rest.length * 2) + 2 * (n * 2 ^ rest.length) := by
    grind
  exact ⟨by omega, by omega⟩

theorem KInv_one {i : Nat} {rest : List Nat} {l F : Nat} (h : KInv ((i + 1) :: rest) l F) :
    KInv (i :: rest) l (F + 1) := by
  refine ⟨h.1, ?_⟩
  have h := h.2
  simp only [List.length_cons, kraftR, Nat.pow_succ, Nat.add_mul, Nat.one_mul] at *
  omega

theorem KInv_le_pow {n : Nat} {rest : List Nat} {l F : Nat} (h : KInv (n :: rest) l F) :
    F + n ≤ 2 ^ (l + 1) := by
  -- after the step, without the Kraft sum: `(F + n) · 2 · 2^|rest| ≤ 2^17 = 2^(l+1) · 2^(|rest|+1)`
  obtain ⟨hl, h⟩ := KInv_step h
  have e17 : (2 : Nat) ^ 17 = 2 ^ (l + 1) * 2 ^ (rest.length + 1) := by
    rw [← Nat.pow_add]; congr 1; omega
  refine Nat.le_of_mul_le_mul_right ?_ (Nat.two_pow_pos (rest.length + 1))
  rw [← e17, Nat.pow_succ, Nat.mul_comm _ 2, ← Nat.mul_assoc]
  omega

/-- no 16-bit wrap-around in `BuildHuffmanCodes`, no int32 wrap-around in `Build` -/
theorem KInv_le_65536 {n : Nat} {rest : List Nat} {l F : Nat} (h : KInv (n :: rest) l F) :
    F + n ≤ 65536 := by
  have hl := h.1
  simp only [List.length_cons] at hl
  exact Nat.le_trans (KInv_le_pow h) (Nat.pow_le_pow_right (n := 2) (j := 16) (by omega) (by omega))

theorem specLen_length (code l : Nat) : ∀ n, (specLen code l n).length = n := by
  intro n
  induction n generalizing code with
  | zero => rfl
  | succ i ih => simp [specLen, ih]

theorem specLen_getElem? (l : Nat) : ∀ (n code j : Nat),
    (specLen code l n)[j]? = if j < n then some (code + j, l + 1) else none
  | 0, _, _ => by simp [specLen]
  | i + 1, code, 0 => by simp [specLen]
  | i + 1, code, j + 1 => by
    simp only [specLen, List.getElem?_cons_succ, specLen_getElem? l i (code + 1) j]
    by_cases h : j < i
    · simp [h]; omega
    · simp [h]

theorem specCodes_length : ∀ (rest : List Nat) (l F : Nat), (specCodes rest l F).length = rest.sum
  | [], _, _ => rfl
  | n :: rest, l, F => by
    simp [specCodes, specLen_length, specCodes_length rest]

theorem specCodes_cons_getElem? (n : Nat) (rest : List Nat) (l F j : Nat) :
    (specCodes (n :: rest) l F)[j]? =
      if j < n then some (F + j, l + 1) else (specCodes rest (l + 1) ((F + n) * 2))[j - n]? := by
  simp only [specCodes, List.getElem?_append, specLen_length, specLen_getElem?]
  split <;> rfl

/-- last conjunct: the first `l + 1` bits of the code are not below `F` -/
theorem specCodes_entry : ∀ (rest : List Nat) (l F j c len : Nat),
    KInv rest l F → (specCodes rest l F)[j]? = some (c, len) →
    l + 1 ≤ len ∧ len ≤ 16 ∧ c < 2 ^ len ∧ F ≤ c >>> (len - (l + 1))
  | [], _, _, _, _, _, _, h => by simp [specCodes] at h
  | n :: rest, l, F, j, c, len, hk, h => by
    rw [specCodes_cons_getElem?] at h
    split at h
    · obtain ⟨rfl, rfl⟩ := Prod.mk.inj (Option.some.inj h)
      have := KInv_le_pow hk
      have hl := hk.1
      simp only [List.length_cons] at hl
      exact ⟨by omega, by omega, by omega, by simp⟩
    · obtain ⟨h1, h2, h3, h4⟩ :=
        specCodes_entry rest (l + 1) ((F + n) * 2) (j - n) c len (KInv_step hk) h
      refine ⟨by omega, h2, h3, ?_⟩
      rw [show len - (l + 1) = len - (l + 1 + 1) + 1 by omega, Nat.shiftRight_succ]
      omega

def writeAllC (cs : Array (Nat × Nat)) : List (Nat × (Nat × Nat)) → Array (Nat × Nat)
  | [] => cs
  | (k, v) :: ws => writeAllC (cs.setIfInBounds k v) ws

theorem writeAllC_size : ∀ (ws : List (Nat × (Nat × Nat))) (cs : Array (Nat × Nat)),
    (writeAllC cs ws).size = cs.size
  | [], _ => rfl
  | (k, v) :: ws, cs => by simp [writeAllC, writeAllC_size ws]

theorem writeAllC_not_mem : ∀ (ws : List (Nat × (Nat × Nat))) (cs : Array (Nat × Nat)) (k : Nat),
    k ∉ ws.map Prod.fst → (writeAllC cs ws)[k]? = cs[k]?
  | [], _, _, _ => rfl
  | (k0, v0) :: ws, cs, k, h => by
    simp only [List.map_cons, List.mem_cons, not_or] at h
    simp only [writeAllC]
    rw [writeAllC_not_mem ws _ k h.2, Array.getElem?_setIfInBounds_ne (Ne.symm h.1)]

theorem writeAllC_mem : ∀ (ws : List (Nat × (Nat × Nat))) (cs : Array (Nat × Nat)) (k : Nat)
    (v : Nat × Nat), (ws.map Prod.fst).Nodup → (k, v) ∈ ws → k < cs.size →
    (writeAllC cs ws)[k]? = some v
  | [], _, _, _, _, h, _ => by simp at h
  | (k0, v0) :: ws, cs, k, v, hn, hm, hk => by
    simp only [List.map_cons, List.nodup_cons] at hn
    simp only [writeAllC]
    rcases List.mem_cons.1 hm with h | h
    · simp only [Prod.mk.injEq] at h
      obtain ⟨rfl, rfl⟩ := h
      rw [writeAllC_not_mem ws _ k hn.1, Array.getElem?_setIfInBounds_self_of_lt hk]
    · exact writeAllC_mem ws _ k v hn.2 h (by simpa using hk)

/-- `BuildHuffmanCodes` symbol by symbol: `(i + 1) :: rest` writes one code and goes on as `i :: rest`,
    `0 :: rest` doubles the code and goes on as `rest`; the uint16 `code` never wraps -/
theorem huffGo_spec (values : Array Nat) :
    ∀ (rest : List Nat) (l : Nat) (cs : Array (Nat × Nat)) (F p : Nat),
    KInv rest l F → p + rest.sum ≤ values.size →
    buildHuffmanCodesGo values rest l cs (F % 65536) p =
      writeAllC cs ((values.toList.drop p).zip (specCodes rest l F))
  | [], _, _, _, _, _, _ => by simp [buildHuffmanCodesGo, specCodes, writeAllC]
  | n :: rest, l, cs, F, p, hk, hp => by
    induction n generalizing cs F p with
    | zero =>
      have := huffGo_spec values rest (l + 1) cs (F * 2) p (by simpa using KInv_step hk)
        (by simpa using hp)
      simp only [buildHuffmanCodesGo, buildHuffmanCodesLen, specCodes, specLen, List.nil_append,
        Nat.add_zero]
      rw [← this]
      congr 1
      omega
    | succ i ih =>
      simp only [List.sum_cons] at hp
      have hp' : p < values.size := by omega
      have hb := KInv_le_65536 hk
      have := ih (cs.setIfInBounds values[p] (F, l + 1)) (F + 1) (p + 1) (KInv_one hk)
        (by simp only [List.sum_cons]; omega)
      -- unfolded, `Go ((i + 1) :: rest)` here and `Go (i :: rest)` in `this` are `Go rest` after the same `Len i`
      simp only [buildHuffmanCodesGo, buildHuffmanCodesLen, hp', dite_true,
        Nat.mod_eq_of_lt (show F < 65536 by omega)] at this ⊢
      rw [List.drop_eq_getElem_cons (by simpa using hp'), this]
      simp only [specCodes, specLen, List.cons_append, List.zip_cons_cons, writeAllC,
        Array.getElem_toList, show F + 1 + i = F + (i + 1) by omega]

theorem ValidTable.unpack {bits : List Nat} {values : Array Nat} (hv : ValidTable bits values = true) :
    bits.length = 16 ∧ bits.sum = values.size ∧ values.toList.Nodup ∧
    (∀ x ∈ values.toList, x < 256) ∧ KInv bits 0 0 := by
  simp only [ValidTable, Bool.and_eq_true, beq_iff_eq, decide_eq_true_eq, List.all_eq_true] at hv
  obtain ⟨⟨⟨⟨h1, h2⟩, h3⟩, h4⟩, h5⟩ := hv
  rw [kraft_eq_kraftR bits 0 (by omega)] at h5
  exact ⟨h1, h2, h3, h4, by omega, by omega⟩

theorem validTable_length_le (bits : List Nat) (values : Array Nat) (hv : ValidTable bits values = true) :
    values.size ≤ 256 := by
  obtain ⟨_, _, hnd, h256, _⟩ := ValidTable.unpack hv
  have := hnd.length_le_of_forall_lt h256
  simpa using this

theorem huff_at {bits : List Nat} {values : Array Nat} (hv : ValidTable bits values = true)
    {j sym : Nat} (hj : values[j]? = some sym) :
    ∃ c len, (specCodes bits 0 0)[j]? = some (c, len) ∧
      (buildHuffmanCodes bits values)[sym]? = some (c, len) := by
  obtain ⟨hl, hs, hnd, h256, hk⟩ := ValidTable.unpack hv
  obtain ⟨hjlt, rfl⟩ := Array.getElem?_eq_some_iff.1 hj
  have hlen : (specCodes bits 0 0).length = values.size := by rw [specCodes_length, hs]
  obtain ⟨⟨c, len⟩, h1⟩ : ∃ x, (specCodes bits 0 0)[j]? = some x :=
    ⟨_, List.getElem?_eq_getElem (by omega)⟩
  refine ⟨c, len, h1, ?_⟩
  have e := huffGo_spec values bits 0 (Array.replicate 256 (0, 0)) 0 0 hk (by omega)
  simp only [Nat.zero_mod, List.drop_zero] at e
  unfold buildHuffmanCodes
  rw [e]
  apply writeAllC_mem
  · rw [List.map_fst_zip (by simp [hlen])]; exact hnd
  · apply List.mem_of_getElem? (i := j)
    rw [List.getElem?_zip_eq_some]
    exact ⟨by simp [hjlt], h1⟩
  · simp only [Array.size_replicate]
    exact h256 _ (by simp)

theorem codes_wf (bits : List Nat) (values : Array Nat) (hv : ValidTable bits values = true)
    (sym : Nat) (hs : sym ∈ values.toList) :
    ∃ c len, (buildHuffmanCodes bits values)[sym]? = some (c, len) ∧ 1 ≤ len ∧ len ≤ 16 ∧ c < 2 ^ len := by
  obtain ⟨j, hj⟩ := List.mem_iff_getElem?.1 hs
  obtain ⟨c, len, h1, h2⟩ := huff_at hv (j := j) (sym := sym) (by simpa using hj)
  obtain ⟨hl, _, _, _, hk⟩ := ValidTable.unpack hv
  have := specCodes_entry bits 0 0 j c len hk h1
  exact ⟨c, len, h2, by omega, this.2.1, this.2.2.1⟩

theorem huffLen_absent (values : Array Nat) (l sym : Nat) (hs : sym ∉ values.toList) :
    ∀ (n : Nat) (cs : Array (Nat × Nat)) (code p : Nat),
    (buildHuffmanCodesLen values l n cs code p).1[sym]? = cs[sym]?
  | 0, _, _, _ => rfl
  | i + 1, cs, code, p => by
    unfold buildHuffmanCodesLen
    by_cases hp : p < values.size
    · simp only [hp, dite_true]
      rw [huffLen_absent values l sym hs i]
      apply Array.getElem?_setIfInBounds_ne
      intro h
      apply hs
      rw [← h]
      simp
    · simp only [hp, dite_false]
      exact huffLen_absent values l sym hs i cs code p

theorem huffGo_absent (values : Array Nat) (sym : Nat) (hs : sym ∉ values.toList) :
    ∀ (rest : List Nat) (l : Nat) (cs : Array (Nat × Nat)) (code p : Nat),
    (buildHuffmanCodesGo values rest l cs code p)[sym]? = cs[sym]?
  | [], _, _, _, _ => rfl
  | n :: rest, l, cs, code, p => by
    simp only [buildHuffmanCodesGo]
    rw [huffGo_absent values sym hs rest, huffLen_absent values l sym hs]

/-- the guard of `Build`'s lookup loop never fires: the loop indexes the table by the value index
    `p`, which is at most the first code `F` of the length, so `p + 1 ≤ 2^(l+1)` and the span ends
    at `(p + 1) · 2^(7-l) ≤ 256` -/
theorem buildLookup_ok (values : Array Nat) :
    ∀ (rest : List Nat) (l : Nat) (lk : Array Int) (p F : Nat),
    KInv rest l F → p ≤ F → p + rest.sum ≤ values.size →
    ∃ lk', buildLookup values rest l lk p = some lk'
  | [], _, lk, _, _, _, _, _ => ⟨lk, rfl⟩
  | n :: rest, l, lk, p, F, hk, hpF, hp => by
    by_cases h8 : l < 8
    · induction n generalizing lk p F with
      | zero =>
        simp only [buildLookup, h8, if_true, buildLookupLen]
        exact buildLookup_ok values rest (l + 1) lk p (F * 2) (by simpa using KInv_step hk) (by omega)
          (by simpa using hp)
      | succ i ih =>
        have hb := KInv_le_pow hk
        simp only [List.sum_cons] at hp
        have hp' : p < values.size := by omega
        have hspan : p <<< (7 - l) + 1 <<< (7 - l) ≤ 256 := by
          simp only [Nat.shiftLeft_eq]
          have e : (256 : Nat) = 2 ^ (l + 1) * 2 ^ (7 - l) := by
            rw [← Nat.pow_add, show l + 1 + (7 - l) = 8 by omega]
          have h1 : (p + 1) * 2 ^ (7 - l) ≤ 2 ^ (l + 1) * 2 ^ (7 - l) :=
            Nat.mul_le_mul_right _ (by omega)
          rw [Nat.add_mul] at h1
          omega
        -- unfolded, `buildLookup ((i + 1) :: rest)` after one passed guard is `buildLookup (i :: rest)` of `ih`
        simp only [buildLookup, h8, if_true] at ih ⊢
        simp only [buildLookupLen, hp', dite_true, hspan]
        exact ih _ (p + 1) (F + 1) (KInv_one hk) (by omega) (by simp only [List.sum_cons]; omega)
    · exact ⟨lk, by simp [buildLookup, h8]⟩

theorem build_ok (bits : List Nat) (values : Array Nat) (hv : ValidTable bits values = true) :
    ∃ t, Table.build bits values = .ok t ∧ t.values = values ∧ t.codes = buildCodes bits 0 0 := by
  obtain ⟨hl, hs, _, _, hk⟩ := ValidTable.unpack hv
  obtain ⟨lk, h⟩ := buildLookup_ok values bits 0 (Array.replicate 256 (-1)) 0 0 hk (by omega)
    (by omega)
  exact ⟨{ bits := bits, values := values, codes := buildCodes bits 0 0, lookup := lk },
    by simp only [Table.build, h], rfl, rfl⟩

theorem wrap32_nat (x : Nat) (h : x < 2147483648) : Go.wrap32 (x : Int) = x := by
  unfold Go.wrap32; omega

/-- the shift register update of the DECODE loop -/
def stepCode (code : Nat) (bit : Bool) : Nat := u32 (u32 (code <<< 1) ||| (if bit then 1 else 0))

theorem decodeLoop_cons {σ : Type} (values : Array Nat) (rd : σ → Option (Bool × σ))
    (minC maxC vp : Int) (rest : List (Int × Int × Int)) (code : Nat) (s : σ) :
    decodeLoop values rd ((minC, maxC, vp) :: rest) code s =
      match rd s with
      | none => .err
      | some (bit, s') =>
        if Go.wrap32 (stepCode code bit) ≤ maxC ∧ maxC ≥ 0 then
          if h : Go.wrap32 (vp + Go.wrap32 (stepCode code bit) - minC) ≥ 0 ∧
              (Go.wrap32 (vp + Go.wrap32 (stepCode code bit) - minC)).toNat < values.size then
            .ok (values[(Go.wrap32 (vp + Go.wrap32 (stepCode code bit) - minC)).toNat], s')
          else decodeLoop values rd rest (stepCode code bit) s'
        else decodeLoop values rd rest (stepCode code bit) s' := rfl

/-- `code = (code << 1) | bit` does not leave the uint32 register -/
theorem stepCode_eq (acc : Nat) (b : Bool) (h : acc < 2147483648) :
    stepCode acc b = 2 * acc + b.toNat := by
  have hb : (if b then 1 else 0) = b.toNat := by cases b <;> rfl
  have h1 : u32 (acc <<< 1) = acc <<< 1 := by
    unfold u32; rw [Nat.shiftLeft_eq]; omega
  unfold stepCode
  rw [hb, h1, ← Nat.shiftLeft_add_eq_or_of_lt (Bool.toNat_lt b), Nat.shiftLeft_eq]
  have := Bool.toNat_lt b
  unfold u32
  omega

theorem shift_step (c m : Nat) (hc : c < 4294967296) :
    stepCode (c >>> (m + 1)) (c.testBit m) = c >>> m := by
  have := Nat.shiftRight_le c m
  rw [stepCode_eq _ _ (by rw [Nat.shiftRight_succ]; omega), Nat.toNat_testBit, Nat.shiftRight_succ,
    Nat.shiftRight_eq_div_pow]
  omega

/-- no int32 wrap-around in the second loop of `Build` -/
theorem buildCodes_cons (n : Nat) (rest : List Nat) (F p : Nat) (h : F + n ≤ 65536) :
    buildCodes (n :: rest) F p =
      (if n = 0 then (0, -1, 0) else ((F : Int), (F : Int) + n - 1, (p : Int))) ::
        buildCodes rest ((F + n) * 2 : Nat) (p + n : Nat) := by
  have hw := wrap32_nat ((F + n) * 2) (by omega)
  push_cast at hw ⊢
  by_cases hn : n = 0
  · subst hn
    simp only [buildCodes, if_true]
    simp only [Int.natCast_zero, Int.add_zero] at hw ⊢
    rw [hw]
  · simp only [buildCodes, hn, if_false, hw]

/-- DECODE at the length whose `n` codes start at `F` and whose values start at `p` -/
theorem decodeLoop_hit (values : Array Nat) (n : Nat) (rest : List Nat) (F p acc : Nat) (b : Bool)
    (s : List Bool) {j v : Nat} (hF : F + n ≤ 65536) (hsz : values.size ≤ 65536)
    (ha : stepCode acc b = F + j) (hj : j < n) (hv : values[p + j]? = some v) :
    decodeLoop values listBit (buildCodes (n :: rest) F p) acc (b :: s) = .ok (v, s) := by
  obtain ⟨hlt, rfl⟩ := Array.getElem?_eq_some_iff.1 hv
  have hk : (p : Int) + (F + j : Nat) - F = (p + j : Nat) := by omega
  rw [buildCodes_cons n rest F p hF, if_neg (by omega), decodeLoop_cons]
  simp only [listBit, ha, wrap32_nat (F + j) (by omega), hk, wrap32_nat (p + j) (by omega),
    Int.toNat_natCast]
  rw [if_pos (by omega), dif_pos ⟨Int.natCast_nonneg _, hlt⟩]

theorem decodeLoop_miss (values : Array Nat) (n : Nat) (rest : List Nat) (F p acc : Nat) (b : Bool)
    (s : List Bool) {a : Nat} (hF : F + n ≤ 65536) (ha : stepCode acc b = a) (han : F + n ≤ a)
    (h31 : a < 2147483648) :
    decodeLoop values listBit (buildCodes (n :: rest) F p) acc (b :: s) =
      decodeLoop values listBit (buildCodes rest ((F + n) * 2 : Nat) (p + n : Nat)) a s := by
  rw [buildCodes_cons n rest F p hF]
  -- `maxC` is `-1` or `F + n - 1`
  split
  all_goals
    rw [decodeLoop_cons]
    simp only [listBit, ha, wrap32_nat a h31]
    rw [if_neg (by omega)]

/-- the DECODE loop, started in the middle: `l` bits of the code `c` have been consumed, the
    remaining table is that of the lengths `l+1 ..`, and `c` is the `j`-th code from here -/
theorem decode_spec (values : Array Nat) (tail : List Bool) (hsz : values.size ≤ 65536) :
    ∀ (rest : List Nat) (l F p j c len v : Nat),
    KInv rest l F → (specCodes rest l F)[j]? = some (c, len) → values[p + j]? = some v →
    decodeLoop values listBit (buildCodes rest F p) (c >>> (len - l))
      (bitsOf c (len - l) ++ tail) = .ok (v, tail)
  | [], _, _, _, _, _, _, _, _, h, _ => by simp [specCodes] at h
  | n :: rest, l, F, p, j, c, len, v, hk, h, hv => by
    obtain ⟨hlen1, hlen16, hc, _⟩ := specCodes_entry _ _ _ _ _ _ hk h
    have hc16 : c < 65536 :=
      Nat.lt_of_lt_of_le hc (Nat.pow_le_pow_right (n := 2) (by omega) hlen16)
    have hle := Nat.shiftRight_le c (len - (l + 1))
    have hstep := shift_step c (len - (l + 1)) (by omega)
    rw [show len - l = len - (l + 1) + 1 by omega, bitsOf, List.cons_append]
    rw [specCodes_cons_getElem?] at h
    split at h
    · obtain ⟨rfl, rfl⟩ := Prod.mk.inj (Option.some.inj h)
      rw [Nat.sub_self] at hstep ⊢
      exact decodeLoop_hit values n rest F p _ _ _ (KInv_le_65536 hk) hsz hstep ‹j < n› hv
    · obtain ⟨h2, _, _, hF'⟩ :=
        specCodes_entry rest (l + 1) ((F + n) * 2) (j - n) c len (KInv_step hk) h
      have e : c >>> (len - (l + 1)) = c >>> (len - (l + 1 + 1)) / 2 := by
        rw [show len - (l + 1) = len - (l + 1 + 1) + 1 by omega, Nat.shiftRight_succ]
      rw [decodeLoop_miss values n rest F p _ _ _ (KInv_le_65536 hk) hstep (by omega) (by omega)]
      exact decode_spec values tail hsz rest (l + 1) ((F + n) * 2) (p + n) (j - n) c len v
        (KInv_step hk) h (by rw [← hv]; congr 1; omega)

/-- L5: the decoder's slow path on the encoder's code of `sym` followed by anything -/
theorem canonical_decode_encode (bits : List Nat) (values : Array Nat) (hv : ValidTable bits values = true)
    (sym : Nat) (hs : sym ∈ values.toList) (c len : Nat)
    (hc : (buildHuffmanCodes bits values)[sym]? = some (c, len)) (rest : List Bool) :
    decodeLoop values listBit (buildCodes bits 0 0) 0 (bitsOf c len ++ rest) = .ok (sym, rest) := by
  obtain ⟨j, hj⟩ := List.mem_iff_getElem?.1 hs
  have hj' : values[j]? = some sym := by simpa using hj
  obtain ⟨c', len', h1, h2⟩ := huff_at hv hj'
  obtain ⟨rfl, rfl⟩ := Prod.mk.inj (Option.some.inj (hc.symm.trans h2))
  obtain ⟨hl, _, _, _, hk⟩ := ValidTable.unpack hv
  have hsz : values.size ≤ 65536 := Nat.le_trans (validTable_length_le bits values hv) (by decide)
  have hwf := specCodes_entry bits 0 0 j c len hk h1
  have := decode_spec values rest hsz bits 0 0 0 j c len sym hk h1 (by simpa using hj')
  have hz : c >>> len = 0 := by
    rw [Nat.shiftRight_eq_div_pow]; exact Nat.div_eq_of_lt hwf.2.2.1
  simpa [hz] using this

/-- prefix-freeness: the decoder is a function of the bit string and returns either symbol -/
theorem code_prefix_unique (bits : List Nat) (values : Array Nat) (hv : ValidTable bits values = true)
    (sym sym' : Nat) (hs : sym ∈ values.toList) (hs' : sym' ∈ values.toList) (c len c' len' : Nat)
    (hc : (buildHuffmanCodes bits values)[sym]? = some (c, len))
    (hc' : (buildHuffmanCodes bits values)[sym']? = some (c', len')) (rest rest' : List Bool)
    (h : bitsOf c len ++ rest = bitsOf c' len' ++ rest') : sym = sym' ∧ rest = rest' := by
  have d1 := canonical_decode_encode bits values hv sym hs c len hc rest
  have d2 := canonical_decode_encode bits values hv sym' hs' c' len' hc' rest'
  rw [h, d2] at d1
  simpa [eq_comm] using d1

/-! The 12-symbol table in the examples below is the standard luminance DC table, T.81 Table K.3. -/

example : ValidTable [0,1,5,1,1,1,1,1,1,0,0,0,0,0,0,0] #[0,1,2,3,4,5,6,7,8,9,10,11] = true := by decide

example : KraftStrict [0,1,5,1,1,1,1,1,1,0,0,0,0,0,0,0] = true := by decide

/-- a complete code (every leaf used) is valid for the lemmas but not `KraftStrict` -/
example : ValidTable [2,0,0,0,0,0,0,0,0,0,0,0,0,0,0,0] #[7,9] = true ∧
    KraftStrict [2,0,0,0,0,0,0,0,0,0,0,0,0,0,0,0] = false := by decide

example : (buildHuffmanCodes [0,1,5,1,1,1,1,1,1,0,0,0,0,0,0,0] #[0,1,2,3,4,5,6,7,8,9,10,11])[6]?
    = some (14, 4) := by decide +kernel

example : decodeLoop #[0,1,2,3,4,5,6,7,8,9,10,11] listBit
    (buildCodes [0,1,5,1,1,1,1,1,1,0,0,0,0,0,0,0] 0 0) 0 (bitsOf 14 4 ++ [true, false])
    = .ok (6, [true, false]) := by decide

end JLL
