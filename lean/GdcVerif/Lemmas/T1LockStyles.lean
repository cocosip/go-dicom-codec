import GdcVerif.Lemmas.T1Lock
import GdcVerif.Model.T1Pipe
/-!
  The pieces of one iteration of the pass loops of `Encode` and `DecodeWithBitplane` for the styles built from RESET,
  VSC (not read by the code) and SEGSYM, each in lock-step: `clearVisit`, the coding pass of `Lemmas/T1Lock.lean`, the
  segmentation symbol behind a cleanup pass, the context reset (which asks of the coder what `CoderCtx` says); and the
  iteration written in these pieces (`decLoopG_step`; `encLoopF_stepG`, which also has the restart `restartIf` in front
  of the pass and the termination `termE` behind it, neither with a lock-step here; `Encode`'s loop is the loop with
  fractional bits of `Model/T1Pipe.lean` at 0, `encLoop_eqF`).  What holds between two passes is `PInv`, what a pass
  establishes `Post`.  `lowpass_lock` is over any bit coder, so that the raw passes of the layered loops use it too.
-/
namespace T1
open Gen

/-- `clearVisit` at the start of a bit-plane -/
def cvE (pi pt : Nat) (st : EncSt) : EncSt :=
  if pt = 0 ∨ (pt = 2 ∧ pi = 0) then { st with flags := clearVisit st.flags } else st

def cvD (pi pt : Nat) (st : DecSt) : DecSt :=
  if pt = 0 ∨ (pt = 2 ∧ pi = 0) then { st with flags := clearVisit st.flags } else st

theorem cvE_one (pi : Nat) (st : EncSt) : cvE pi 1 st = st := by
  unfold cvE; rw [if_neg (by omega)]

theorem cvD_one (pi : Nat) (st : DecSt) : cvD pi 1 st = st := by
  unfold cvD; rw [if_neg (by omega)]

def passE (w h orient : Nat) (V : Array Int) (bp pt : Nat) (st : EncSt) : Option EncSt :=
  match pt with
  | 0 => encSigProp w h orient bp V st
  | 1 => encMagRef w h bp V st
  | _ => encCleanup w h orient bp V st

def passDV (rc : Recon) (raw : Bool) (w h orient : Nat) (bp pt : Nat) (st : DecSt) : Option DecSt :=
  match pt with
  | 0 => decSigPropG rc raw w h orient bp st
  | 1 => decMagRefG rc raw w h bp st
  | _ => decCleanupG rc w h orient bp st

/-- the coding pass of `EncodeLayered`: significance propagation and magnitude refinement have the `raw` switch -/
def passER (raw : Bool) (w h orient : Nat) (V : Array Int) (n pt : Nat) (st : EncSt) : Option EncSt :=
  match pt with
  | 0 => encSigPropR raw w h orient n V st
  | 1 => encMagRefR raw w h n V st
  | _ => encCleanup w h orient n V st

theorem passER_false (w h orient : Nat) (V : Array Int) (n pt : Nat) (st : EncSt) :
    passER false w h orient V n pt st = passE w h orient V n pt st := by
  unfold passER passE
  match pt with
  | 0 => rfl
  | 1 => rfl
  | _ + 2 => rfl

def segE (style pt : Nat) (st : EncSt) : Option EncSt :=
  if pt = 2 ∧ stySegsym style = true then (Mqc.segmarkEnc st.mq).map (fun m => { st with mq := m }) else some st

def segD (style pt : Nat) (st : DecSt) : Option DecSt :=
  if pt = 2 ∧ stySegsym style = true then (segmarkDec st.mq).map (fun m => { st with mq := m }) else some st

def resetE (style : Nat) (st : EncSt) : Option EncSt :=
  if styReset style = true then (initCtx (Mqc.resetContexts st.mq)).map (fun m => { st with mq := m }) else some st

def resetD (style : Nat) (st : DecSt) : Option DecSt :=
  if styReset style = true then (resetCtxDec st.mq).map (fun m => { st with mq := m }) else some st

/-- `if prevTerminated { RestartInitEnc() }` in front of a pass -/
def restartIf (prevT : Bool) (st : EncSt) : EncSt :=
  if prevT then { st with mq := Mqc.restartInitEnc st.mq } else st

theorem cv_restart (pi pt : Nat) (prevT : Bool) (es : EncSt) :
    restartIf prevT (cvE pi pt es) = cvE pi pt (restartIf prevT es) := by
  unfold restartIf cvE
  cases prevT <;> simp only [Bool.false_eq_true, if_false, if_true] <;> split <;> rfl

/-- termination of a pass in `Encode` / `EncodeLayered` without raw passes -/
def termE (style : Nat) (term : Bool) (st : EncSt) : Option EncSt :=
  if term = true then
    (if styPterm style = true then Mqc.ertermEnc st.mq else Mqc.flushToOutput st.mq).map (fun m => ({ st with mq := m } : EncSt))
  else some st

theorem segE_low (style pt : Nat) (hpt : pt ≤ 1) (st : EncSt) : segE style pt st = some st := by
  unfold segE; rw [if_neg (fun hh => by omega)]

theorem segD_low (style pt : Nat) (hpt : pt ≤ 1) (st : DecSt) : segD style pt st = some st := by
  unfold segD; rw [if_neg (fun hh => by omega)]

/-- the `switch passType` of the encoder loops is the pass and, behind a cleanup pass, the segmentation symbol -/
theorem passSegE_eq (raw : Bool) (w h orient style : Nat) (V : Array Int) (n pt : Nat) (st : EncSt) : pt ≤ 2 →
    (match pt with
      | 0 => encSigPropR raw w h orient n V st
      | 1 => encMagRefR raw w h n V st
      | _ => (encCleanup w h orient n V st).bind fun st =>
               if stySegsym style then (Mqc.segmarkEnc st.mq).map (fun m => { st with mq := m }) else some st) =
      (passER raw w h orient V n pt st).bind (segE style pt) := by
  intro hpt
  rcases (show pt = 0 ∨ pt = 1 ∨ pt = 2 by omega) with rfl | rfl | rfl
  · rw [funext (segE_low style 0 (by omega))]; exact (Option.bind_fun_some _).symm
  · rw [funext (segE_low style 1 (by omega))]; exact (Option.bind_fun_some _).symm
  · unfold passER segE; simp only [true_and]

theorem passSegDV_eq (rc : Recon) (raw : Bool) (w h orient style : Nat) (n pt : Nat) (st : DecSt) : pt ≤ 2 →
    (match pt with
      | 0 => decSigPropG rc raw w h orient n st
      | 1 => decMagRefG rc raw w h n st
      | _ => (decCleanupG rc w h orient n st).bind fun st =>
               if stySegsym style then (segmarkDec st.mq).map (fun m => { st with mq := m }) else some st) =
      (passDV rc raw w h orient n pt st).bind (segD style pt) := by
  intro hpt
  rcases (show pt = 0 ∨ pt = 1 ∨ pt = 2 by omega) with rfl | rfl | rfl
  · rw [funext (segD_low style 0 (by omega))]; exact (Option.bind_fun_some _).symm
  · rw [funext (segD_low style 1 (by omega))]; exact (Option.bind_fun_some _).symm
  · unfold passDV segD; simp only [true_and]

theorem decLoopG_exit (r : Recon) (w h orient style np fuel : Nat) (st : DecSt) (bp : Int) (pi pt : Nat)
    (hx : bp < 0 ∨ np ≤ pi) : decLoopG r w h orient style np fuel st bp pi pt = some st := by
  cases fuel with
  | zero => rfl
  | succ f => unfold decLoopG; rw [if_neg (by omega)]

theorem encLoop_exit (w h orient style : Nat) (data : Array Int) (mb np fuel : Nat) (st : EncSt) (bp : Int) (pi pt : Nat) (t : Bool)
    (hx : bp < 0 ∨ np ≤ pi) : encLoop w h orient style data mb np fuel st bp pi pt t = some (st, t) := by
  cases fuel with
  | zero => rfl
  | succ f => unfold encLoop; rw [if_neg (by omega)]

theorem decLoopG_step (rc : Recon) (w h orient style np f : Nat) (ds : DecSt) (bp pi pt : Nat) (hpt : pt ≤ 2) (hc : pi < np) :
    decLoopG rc w h orient style np (f + 1) ds (bp : Int) pi pt =
      (passDV rc false w h orient bp pt (cvD pi pt ds)).bind fun st =>
        (segD style pt st).bind fun st =>
          (if styReset style = true ∧ pi + 1 < np then (resetCtxDec st.mq).map (fun m => ({ st with mq := m } : DecSt))
            else some st).bind fun st =>
            if pt = 2 then decLoopG rc w h orient style np f st ((bp : Int) - 1) (pi + 1) 0
            else decLoopG rc w h orient style np f st (bp : Int) (pi + 1) (pt + 1) := by
  conv => lhs; unfold decLoopG
  rw [if_pos ⟨by omega, hc⟩, ← Option.bind_assoc]
  simp only [Int.toNat_natCast]
  -- the model's `match` and that of `passSegDV_eq` are two auxiliary definitions with one body, so `rw` does not see
  -- the one in the other: the equation goes through `Eq.trans`, which compares them by unfolding
  have hps := passSegDV_eq rc false w h orient style bp pt (cvD pi pt ds) hpt
  split
  · rw [hps.symm.trans ‹_›]; rfl
  · rw [hps.symm.trans ‹_›, Option.bind_some]
    split <;> simp only [*, Option.bind_none, Option.bind_some]

theorem encLoop_eqF (w h orient style : Nat) (V : Array Int) (mb np : Nat) :
    ∀ (fuel : Nat) (st : EncSt) (b : Int) (pi pt : Nat) (t : Bool),
    encLoop w h orient style V mb np fuel st b pi pt t = encLoopF 0 w h orient style V mb np fuel st b pi pt t := by
  intro fuel
  induction fuel with
  | zero => intro st b pi pt t; rfl
  | succ f ih =>
    intro st b pi pt t
    unfold encLoop encLoopF
    simp only [ih]
    rfl

/-- one iteration of `Encode`'s loop (with `nmseDecFracBits = fb`), whether or not a restart is pending -/
theorem encLoopF_stepG (fb w h orient style : Nat) (V : Array Int) (mb np f : Nat) (es : EncSt) (bp pi pt : Nat)
    (prevT : Bool) (hpt : pt ≤ 2) (hc : pi < np) (hfb : fb ≤ bp) :
    encLoopF fb w h orient style V mb np (f + 1) es (bp : Int) pi pt prevT =
      (passE w h orient V bp pt (restartIf prevT (cvE pi pt es))).bind fun st =>
        (segE style pt st).bind fun st =>
          (termE style (J2kT1.isTerminatingPass (bp : Int) (mb : Int) (pt : Int) (style : Int)) st).bind fun st =>
            (resetE style st).bind fun st =>
              if pt = 2 then encLoopF fb w h orient style V mb np f st ((bp : Int) - 1) (pi + 1) 0
                (J2kT1.isTerminatingPass (bp : Int) (mb : Int) (pt : Int) (style : Int))
              else encLoopF fb w h orient style V mb np f st (bp : Int) (pi + 1) (pt + 1)
                (J2kT1.isTerminatingPass (bp : Int) (mb : Int) (pt : Int) (style : Int)) := by
  conv => lhs; unfold encLoopF
  rw [if_pos ⟨by omega, hc⟩, ← Option.bind_assoc]
  simp only [Int.toNat_natCast]
  unfold resetE termE
  have hps := passSegE_eq false w h orient style V bp pt (restartIf prevT (cvE pi pt es)) hpt
  rw [passER_false] at hps
  split
  · rw [hps.symm.trans ‹_›]; rfl
  · rw [hps.symm.trans ‹_›, Option.bind_some]
    split
    · simp only [*, Option.bind_none]
    · simp only [*, Option.bind_some]; split <;> simp only [*, Option.bind_none, Option.bind_some]

theorem LS.clearVisit {val : Nat → Int → Int} {w h : Nat} {V : Array Int} {R : Mqc.Enc → Mqc.Dec → Prop} {bp : Nat} {lev : Nat → Nat} {es : EncSt} {ds : DecSt}
    (hL : LS val w h V R bp lev es ds) :
    LS val w h V R bp lev { es with flags := T1.clearVisit es.flags } { ds with flags := T1.clearVisit ds.flags } := by
  refine ⟨by show T1.clearVisit ds.flags = T1.clearVisit es.flags; rw [hL.fl], hL.dsz, hL.rel, ?_⟩
  intro j hj
  exact (hL.smp j hj).frame rfl ((clearVisit_eff es.flags).1 j) rfl

theorem LS.replane {val : Nat → Int → Int} {w h : Nat} {V : Array Int} {R : Mqc.Enc → Mqc.Dec → Prop} {bp : Nat} {lev : Nat → Nat} {es : EncSt} {ds : DecSt}
    (hL : LS val w h V R bp lev es ds) (hall : ∀ j, InB w h j → lev j = bp) (hbp : 1 ≤ bp) :
    LS val w h V R (bp - 1) lev es ds := by
  refine ⟨hL.fl, hL.dsz, hL.rel, ?_⟩
  intro j hj
  have := hL.smp j hj
  exact ⟨Or.inr (by rw [hall j hj]; omega), this.value, this.sig⟩

/-- where plane `bp` stands: 0 in front of its significance pass (every sample still a plane up), 1 behind it,
2 behind the refinement pass, 3 behind the cleanup pass (every sample at `bp`) -/
def Stage (w h bp : Nat) (lev : Nat → Nat) (fl : Array Nat) : Nat → Prop
  | 0 => ∀ j, InB w h j → lev j = bp + 1
  | 1 => VisLev w h bp lev fl ∧ SigOld w h bp lev fl
  | 2 => VisLev w h bp lev fl ∧ SigDone w h bp lev fl
  | _ => ∀ j, InB w h j → lev j = bp

/-- what holds before a pass of type `pt` of plane `bp`.  Before the first pass of a block (a cleanup pass) no sample is
visited or significant yet, so that `VisLev` and `SigDone` hold there as they do behind a refinement pass -/
def PInv (val : Nat → Int → Int) (w h : Nat) (V : Array Int) (R : Mqc.Enc → Mqc.Dec → Prop) (bp pt : Nat)
    (es : EncSt) (ds : DecSt) : Prop :=
  ∃ lev, LS val w h V R bp lev es ds ∧ Stage w h bp lev es.flags pt

/-- what a pass of type `pt` establishes: what holds before a pass of type `pt + 1` -/
def Post (val : Nat → Int → Int) (w h : Nat) (V : Array Int) (R : Mqc.Enc → Mqc.Dec → Prop) (bp pt : Nat) (es : EncSt)
    (ds : DecSt) : Prop :=
  ∃ lev, LS val w h V R bp lev es ds ∧ Stage w h bp lev es.flags (pt + 1)

/-- what the decoder's data hold behind a pass of type `pt` of plane `bp`, with the encoder and the coder relation
forgotten: every coefficient is reconstructed from its planes down to `lev j`, which is `bp` or the plane above, and
`bp` throughout behind a cleanup pass -/
def Out (val : Nat → Int → Int) (w h : Nat) (V : Array Int) (bp pt : Nat) (ds : DecSt) : Prop :=
  ∃ lev : Nat → Nat, ds.data.size = (w + 2) * (h + 2) ∧
    ∀ j, InB w h j → gi ds.data j = val (lev j) (gi V j) ∧ (lev j = bp ∨ lev j = bp + 1) ∧ (pt = 2 → lev j = bp)

theorem Post.out {val : Nat → Int → Int} {w h : Nat} {V : Array Int} {R : Mqc.Enc → Mqc.Dec → Prop} {bp pt : Nat}
    {es : EncSt} {ds : DecSt} (hP : Post val w h V R bp pt es ds) : Out val w h V bp pt ds := by
  obtain ⟨lev, hL, q⟩ := hP
  exact ⟨lev, hL.dsz, fun j hj => ⟨(hL.smp j hj).value, (hL.smp j hj).plane, fun hh => by rw [hh] at q; exact q j hj⟩⟩

theorem post_succ {val : Nat → Int → Int} {w h : Nat} {V : Array Int} {R : Mqc.Enc → Mqc.Dec → Prop} {bp pt : Nat}
    {es : EncSt} {ds : DecSt} (hP : Post val w h V R bp pt es ds) : PInv val w h V R bp (pt + 1) es ds := hP

theorem post_plane {val : Nat → Int → Int} {w h : Nat} {V : Array Int} {R : Mqc.Enc → Mqc.Dec → Prop} {bp : Nat}
    {es : EncSt} {ds : DecSt} (hbp : 1 ≤ bp) (hP : Post val w h V R bp 2 es ds) :
    PInv val w h V R (bp - 1) 0 es ds := by
  obtain ⟨lev, hLS, hall⟩ := hP
  exact ⟨lev, hLS.replane hall hbp, fun j hj => by rw [hall j hj]; omega⟩

theorem visLev_clear {w h bp : Nat} (lev : Nat → Nat) (fl : Array Nat) : VisLev w h bp lev (clearVisit fl) := by
  intro j _ hv
  rw [(clearVisit_eff fl).2] at hv
  exact absurd hv (by simp)

theorem cvE_mq (pi pt : Nat) (es : EncSt) : (cvE pi pt es).mq = es.mq := by
  unfold cvE; split <;> rfl

theorem EncOkR.cv {w h : Nat} {V : Array Int} {P : Mqc.Enc → Prop} {es : EncSt} (hs : EncOkR w h V P es) (pi pt : Nat) :
    EncOkR w h V P (cvE pi pt es) := by
  unfold cvE; split
  · exact ⟨(clearVisit_size _).trans hs.fsz, hs.dsz, hs.coder⟩
  · exact hs

/-- `PInv` behind the `clearVisit` of the loop is the precondition of the pass lemmas of `Lemmas/T1Lock.lean`.
Where the flags are cleared `VisLev` holds of any `lev`; `SigOld` holds there because every sample is still a plane up,
`SigDone` because `clearVisit` leaves the significance flags alone -/
theorem PInv.pre {val : Nat → Int → Int} {w h : Nat} {V : Array Int} {R : Mqc.Enc → Mqc.Dec → Prop} {bp pi pt : Nat}
    {es : EncSt} {ds : DecSt} (hP : PInv val w h V R bp pt es ds) (hpt : pt ≤ 2) :
    ∃ lev, LS val w h V R bp lev (cvE pi pt es) (cvD pi pt ds) ∧ VisLev w h bp lev (cvE pi pt es).flags ∧
      if pt = 2 then SigDone w h bp lev (cvE pi pt es).flags else SigOld w h bp lev (cvE pi pt es).flags := by
  obtain ⟨lev, hL, q⟩ := hP
  unfold cvE cvD
  by_cases hc : pt = 0 ∨ (pt = 2 ∧ pi = 0)
  · rw [if_pos hc, if_pos hc]
    refine ⟨lev, hL.clearVisit, visLev_clear lev _, ?_⟩
    split
    · intro j hj hsj
      rw [(clearVisit_eff es.flags).1] at hsj
      rw [‹pt = 2›] at q
      exact q.2 j hj hsj
    · obtain rfl : pt = 0 := by omega
      exact fun j hj _ _ => q j hj
  · rw [if_neg hc, if_neg hc]
    rcases (show pt = 1 ∨ pt = 2 by omega) with rfl | rfl
    · exact ⟨lev, hL, q⟩
    · exact ⟨lev, hL, q⟩

/-- at the start every sample is at level `mb + 1`, above its top bit -/
theorem pinv_start {val : Nat → Int → Int} (hz0 : ∀ (p : Nat) (v : Int), v.natAbs / 2 ^ p = 0 → val p v = 0)
    (w h : Nat) (V : Array Int) (R : Mqc.Enc → Mqc.Dec → Prop) (mb : Nat)
    (hmb : findMaxBitplane V = some mb) (e : Mqc.Enc) (d : Mqc.Dec) (hR : R e d) :
    PInv val w h V R mb 2 { flags := Array.replicate ((w + 2) * (h + 2)) 0, mq := e }
      { flags := Array.replicate ((w + 2) * (h + 2)) 0, data := Array.replicate ((w + 2) * (h + 2)) 0, mq := d } := by
  have hz := maxbp_zero _ mb hmb
  exact ⟨fun _ => mb + 1, ⟨rfl, by simp, hR, fun j _ =>
      ⟨Or.inr rfl, by show gi (Array.replicate _ 0) j = _; rw [gi_replicate, hz0 _ _ (hz j)],
       by show has (gf (Array.replicate _ 0) j) fSig = true ↔ _; rw [gf_replicate, hz j]; simp [has]⟩⟩,
    ⟨fun j _ hv => by rw [show visA _ j = has (gf _ j) fVisit from rfl, gf_replicate] at hv; exact absurd hv (by decide),
      fun j _ hs => by rw [show sigA _ j = has (gf _ j) fSig from rfl, gf_replicate] at hs; exact absurd hs (by decide)⟩⟩

/-- the coder relation does not look at the context states beyond their equality -/
structure CoderCtx (F : Mqc.Enc → Prop) (R : Mqc.Enc → Mqc.Dec → Prop) : Prop where
  fctx : ∀ (e : Mqc.Enc) (c : Array Nat), F { e with ctx := c } → F e
  rsize : ∀ (e : Mqc.Enc) (d : Mqc.Dec), R e d → d.ctx.size = e.ctx.size
  rctx : ∀ (e : Mqc.Enc) (d : Mqc.Dec) (c : Array Nat), R e d → R { e with ctx := c } { d with ctx := c }

section SegReset
variable {w h : Nat} {V : Array Int} {F : Mqc.Enc → Prop} {R : Mqc.Enc → Mqc.Dec → Prop}
  (hC : Coder F R) (hX : CoderCtx F R) {val : Nat → Int → Int}

include hC in
theorem seg_lock (bp : Nat) (es : EncSt) (hs : EncOk w h V es) :
    ∃ m, Mqc.segmarkEnc es.mq = some m ∧ EncOk w h V { es with mq := m } ∧
      (F m → F es.mq) ∧
      (F m → ∀ (ds : DecSt) (lev : Nat → Nat), LS val w h V R bp lev es ds →
        ∃ d, segmarkDec ds.mq = some d ∧ LS val w h V R bp lev { es with mq := m } { ds with mq := d }) := by
  obtain ⟨m1, e1, h1, b1, l1⟩ := mqonly_lock hC (val := val) bp es hs 1 18 (by decide) (by decide)
  obtain ⟨m2, e2, h2, b2, l2⟩ := mqonly_lock hC (val := val) bp { es with mq := m1 } h1 0 18 (by decide) (by decide)
  obtain ⟨m3, e3, h3, b3, l3⟩ := mqonly_lock hC (val := val) bp { es with mq := m2 } h2 1 18 (by decide) (by decide)
  obtain ⟨m4, e4, h4, b4, l4⟩ := mqonly_lock hC (val := val) bp { es with mq := m3 } h3 0 18 (by decide) (by decide)
  refine ⟨m4, ?_, h4, b1 ∘ b2 ∘ b3 ∘ b4, ?_⟩
  · unfold Mqc.segmarkEnc
    simp only [Option.bind_eq_bind]
    rw [e1]; simp only [Option.bind_some]
    rw [e2]; simp only [Option.bind_some]
    rw [e3]; simp only [Option.bind_some]
    exact e4
  · intro hF ds lev hL
    have hF3 := b4 hF
    have hF2 := b3 hF3
    have hF1 := b2 hF2
    obtain ⟨d1, hd1, hL1⟩ := l1 hF1 ds lev hL
    obtain ⟨d2, hd2, hL2⟩ := l2 hF2 _ lev hL1
    obtain ⟨d3, hd3, hL3⟩ := l3 hF3 _ lev hL2
    obtain ⟨d4, hd4, hL4⟩ := l4 hF _ lev hL3
    refine ⟨d4, ?_, hL4⟩
    -- `Model/Mqc.lean` writes the context of `SegmarkEnc` as the literal 18, the T1 decoder as `CTXUNI`
    unfold segmarkDec CTXUNI
    simp only [Option.bind_eq_bind]
    rw [hd1]; simp only [Option.bind_some]
    rw [hd2]; simp only [Option.bind_some]
    rw [hd3]; simp only [Option.bind_some]
    rw [hd4]; simp only [Option.bind_some]

include hX in
theorem reset_lock (bp : Nat) (es : EncSt) (hs : EncOk w h V es) :
    ∃ m, initCtx (Mqc.resetContexts es.mq) = some m ∧ EncOk w h V { es with mq := m } ∧
      (F m → F es.mq) ∧
      (∀ (ds : DecSt) (lev : Nat → Nat), LS val w h V R bp lev es ds →
        ∃ d, resetCtxDec ds.mq = some d ∧ LS val w h V R bp lev { es with mq := m } { ds with mq := d }) := by
  refine ⟨_, resetInit_eq es.mq hs.nctx, ⟨hs.fsz, hs.dsz, hs.coder.setCtx _ ctx3_reset.1 ctx3_reset.2⟩,
    hX.fctx es.mq _, ?_⟩
  · intro ds lev hL
    have hdsz : ({ ds.mq with ctx := Array.replicate ds.mq.ctx.size 0 } : Mqc.Dec).ctx.size = 19 := by
      show (Array.replicate ds.mq.ctx.size 0).size = 19
      rw [Array.size_replicate, hX.rsize _ _ hL.rel]; exact hs.nctx
    refine ⟨{ ds.mq with ctx := ctx3 (Array.replicate ds.mq.ctx.size 0) },
      by unfold resetCtxDec; rw [initCtxDec_eq _ hdsz], hL.fl, hL.dsz, ?_, hL.smp⟩
    -- `rctx` puts the same array on both sides; the decoder's is built from `ds.mq.ctx.size`, which is 19 as well
    rw [hX.rsize _ _ hL.rel, hs.nctx]
    exact hX.rctx _ _ _ hL.rel

include hC in
theorem segE_lock (style bp pt pt' : Nat) (es : EncSt) (hs : EncOk w h V es) :
    ∃ es', segE style pt es = some es' ∧ EncOk w h V es' ∧ (F es'.mq → F es.mq) ∧
      (F es'.mq → ∀ (ds : DecSt), Post val w h V R bp pt' es ds →
        ∃ ds', segD style pt ds = some ds' ∧ Post val w h V R bp pt' es' ds') := by
  unfold segE segD
  by_cases hc : pt = 2 ∧ stySegsym style = true
  · rw [if_pos hc]
    obtain ⟨m, em, hm, hback, hlock⟩ := seg_lock hC (val := val) (R := R) bp es hs
    rw [em]
    refine ⟨_, rfl, hm, hback, ?_⟩
    intro hF ds ⟨lev, hL, p⟩
    obtain ⟨d, hd, hL'⟩ := hlock hF ds lev hL
    rw [if_pos hc, hd]
    exact ⟨_, rfl, lev, hL', p⟩
  · rw [if_neg hc]
    refine ⟨es, rfl, hs, id, ?_⟩
    intro _ ds hP
    rw [if_neg hc]
    exact ⟨ds, rfl, hP⟩

include hX in
theorem resetE_lock (style bp pt' : Nat) (es : EncSt) (hs : EncOk w h V es) :
    ∃ es', resetE style es = some es' ∧ EncOk w h V es' ∧ (F es'.mq → F es.mq) ∧
      (∀ (ds : DecSt), Post val w h V R bp pt' es ds →
        ∃ ds', resetD style ds = some ds' ∧ Post val w h V R bp pt' es' ds') := by
  unfold resetE resetD
  by_cases hc : styReset style = true
  · rw [if_pos hc]
    obtain ⟨m, em, hm, hback, hlock⟩ := reset_lock hX (val := val) bp es hs
    rw [em]
    refine ⟨_, rfl, hm, hback, ?_⟩
    intro ds ⟨lev, hL, p⟩
    obtain ⟨d, hd, hL'⟩ := hlock ds lev hL
    rw [if_pos hc, hd]
    exact ⟨_, rfl, lev, hL', p⟩
  · rw [if_neg hc]
    refine ⟨es, rfl, hs, id, ?_⟩
    intro ds hP
    rw [if_neg hc]
    exact ⟨ds, rfl, hP⟩

include hX in
theorem resetE_ok (style : Nat) (es : EncSt) (hs : EncOk w h V es) :
    ∃ es', resetE style es = some es' ∧ EncOk w h V es' ∧ (F es'.mq → F es.mq) := by
  obtain ⟨es', he, hok, hback, _⟩ := resetE_lock hX (val := fun _ _ => 0) style 0 0 es hs
  exact ⟨es', he, hok, hback⟩
end SegReset

section LowPass
variable {w h : Nat} {V : Array Int} {raw : Bool} {P F : Mqc.Enc → Prop} {R : Mqc.Enc → Mqc.Dec → Prop}
  (hC : BitCoder raw P F R) {rc : Recon} {δ bound : Nat} {val : Nat → Int → Int} (hT : rc.Holds δ bound val)
  (hV : ∀ j, (gi V j).natAbs < bound)
include hC hT hV

theorem lowpass_lock (orient bp pi pt : Nat) (hpt : pt ≤ 1) (es : EncSt) (hs : EncOkR w h V P es) :
    ∃ es2, passER raw w h orient V bp pt (cvE pi pt es) = some es2 ∧ EncOkR w h V P es2 ∧
      (F es2.mq → F es.mq) ∧
      (F es2.mq → ∀ (ds : DecSt), PInv val w h V R bp pt es ds →
        ∃ ds2, passDV rc raw w h orient (bp + δ) pt (cvD pi pt ds) = some ds2 ∧ Post val w h V R bp pt es2 ds2) := by
  rcases (show pt = 0 ∨ pt = 1 by omega) with rfl | rfl
  · obtain ⟨es2, he2, hok2, hback2, hlock2⟩ := spp_lock hC hT hV orient bp _ (hs.cv pi 0)
    refine ⟨es2, he2, hok2, hback2, fun hF ds hP => ?_⟩
    obtain ⟨ds2, hd2, lev2, hL2, hv2, hso2⟩ := hlock2 hF _ (hP.pre (by omega))
    exact ⟨ds2, hd2, lev2, hL2, hv2, hso2⟩
  · obtain ⟨es2, he2, hok2, hback2, hlock2⟩ := mrp_lock hC hT hV bp _ (hs.cv pi 1)
    refine ⟨es2, he2, hok2, hback2, fun hF ds hP => ?_⟩
    obtain ⟨ds2, hd2, lev2, hL2, hv2, hsd2⟩ := hlock2 hF _ (hP.pre (by omega))
    exact ⟨ds2, hd2, lev2, hL2, hv2, hsd2⟩
end LowPass

section Step
variable {w h : Nat} {V : Array Int} {F : Mqc.Enc → Prop} {R : Mqc.Enc → Mqc.Dec → Prop}
  (hC : Coder F R) {rc : Recon} {δ bound : Nat} {val : Nat → Int → Int} (hT : rc.Holds δ bound val)
  (hV : ∀ j, (gi V j).natAbs < bound)
include hC hT hV

theorem step_lock (orient bp pi pt : Nat) (hpt : pt ≤ 2) (es : EncSt) (hs : EncOk w h V es) :
    ∃ es2, passE w h orient V bp pt (cvE pi pt es) = some es2 ∧ EncOk w h V es2 ∧
      (F es2.mq → F es.mq) ∧
      (F es2.mq → ∀ (ds : DecSt), PInv val w h V R bp pt es ds →
        ∃ ds2, passDV rc false w h orient (bp + δ) pt (cvD pi pt ds) = some ds2 ∧ Post val w h V R bp pt es2 ds2) := by
  by_cases hlow : pt ≤ 1
  · obtain ⟨es2, he2, hlock2⟩ := lowpass_lock hC hT hV orient bp pi pt hlow es hs
    exact ⟨es2, by rw [← passER_false]; exact he2, hlock2⟩
  obtain rfl : pt = 2 := by omega
  obtain ⟨es2, he2, hok2, hback2, hlock2⟩ := cleanup_lock hC hT hV orient bp _ (hs.cv pi 2)
  refine ⟨es2, he2, hok2, fun hF => cvE_mq pi 2 es ▸ hback2 hF, fun hF ds hP => ?_⟩
  obtain ⟨ds2, hd2, lev2, hL2, hall2⟩ := hlock2 hF _ (hP.pre (Nat.le_refl 2))
  exact ⟨ds2, hd2, lev2, hL2, hall2⟩
end Step

/-- the encoder half of `step_lock`: it needs nothing of the decoder's reconstruction, so it is `step_lock` at the rule
that stores 0 everywhere -/
theorem passE_ok {F : Mqc.Enc → Prop} {R : Mqc.Enc → Mqc.Dec → Prop} (hC : Coder F R) (w h orient : Nat) (V : Array Int)
    (bp pi pt : Nat) (hpt : pt ≤ 2) (es : EncSt) (hs : EncOk w h V es) :
    ∃ es2, passE w h orient V bp pt (cvE pi pt es) = some es2 ∧ EncOk w h V es2 ∧ (F es2.mq → F es.mq) := by
  have hV : ∀ j, (gi V j).natAbs < V.foldl (fun m v => max m v.natAbs) 0 + 1 :=
    fun j => Nat.lt_succ_of_le ((maxAbs_le V _).mp (Nat.le_refl _) j)
  obtain ⟨es2, he, hok, hback, _⟩ := step_lock hC
    (rc := ⟨fun _ _ => 0, fun _ _ _ => 0⟩) (δ := 0) (val := fun _ _ => 0)
    ⟨fun _ _ _ => rfl, fun _ _ _ _ _ _ _ => rfl, fun _ _ _ _ => rfl⟩ hV orient bp pi pt hpt es hs
  exact ⟨es2, he, hok, hback⟩

/-- the start state of `Encode`: a fresh MQ coder after the three `SetContextState` calls, all flags clear -/
def es0 (w h : Nat) : EncSt :=
  { flags := Array.replicate ((w + 2) * (h + 2)) 0,
    mq := { Mqc.Enc.new NUMCONTEXTS with ctx := ctx3 (Mqc.Enc.new NUMCONTEXTS).ctx } }

theorem enc_start (w h : Nat) (V : Array Int) (hVsz : V.size = (w + 2) * (h + 2)) :
    initCtx (Mqc.Enc.new NUMCONTEXTS) = some (es0 w h).mq ∧ EncOk w h V (es0 w h) := by
  obtain ⟨h0, n0, s0⟩ := Mqc.new_ok NUMCONTEXTS
  obtain ⟨hok, hs3⟩ := ctx3_ok _ h0.ctx
  unfold es0
  exact ⟨initCtx_eq _ s0, by simp, hVsz, ⟨h0.buf, h0.apos, h0.ahi, h0.ctlo, h0.cthi, h0.A, h0.B, hok⟩, n0,
    by rw [← s0]; exact hs3⟩

end T1
