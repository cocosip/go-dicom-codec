import GdcVerif.Model.J2kQuant
import GdcVerif.Lemmas.GoBits
import GdcVerif.Lemmas.J2kSample
import GdcVerif.Lemmas.Basics
/-!
  The mantissa of `encodeFixed` is the fixed-point step truncated to the 11 bits below its leading bit (`mant_trunc`,
  exact below 2^11: `mant_small`); the dead-zone quantiser against the mid-point reconstruction for `x ≥ 0`, the
  other sign by oddness; the four generated clamp kernels of `GetPixelData` store one value, `loopSample`, which is
  `clampSpec` for depths up to 16 (`loopSample_eq`); the fixed-point value of a dyadic step (`fixed_floor`); the band
  walk reaches every band with the index `subbandIndex` gives it (`resLoop_spec`).
-/
namespace J2kQuant
open Gen.J2kQuant

theorem two_pow_split {k l : Nat} (h : k ≤ l) : (2:Nat) ^ l = 2 ^ k * 2 ^ (l - k) := by
  rw [← Nat.pow_add]; congr 1; omega

theorem mant_trunc (fixed l : Nat) (hl : 11 ≤ l) (h1 : 2 ^ l ≤ fixed) (h2 : fixed < 2 ^ (l + 1)) :
    (2048 + fixed / 2 ^ (l - 11) % 2048) * 2 ^ (l - 11) ≤ fixed ∧
    fixed < (2048 + fixed / 2 ^ (l - 11) % 2048 + 1) * 2 ^ (l - 11) := by
  have hp : 0 < 2 ^ (l - 11) := Nat.pow_pos (by decide)
  have e1 := two_pow_split hl
  have e2 : (2:Nat) ^ (l + 1) = 4096 * 2 ^ (l - 11) := by
    rw [Nat.pow_succ, e1]; generalize (2:Nat) ^ (l - 11) = z; omega
  have lo : 2048 ≤ fixed / 2 ^ (l - 11) := by
    rw [Nat.le_div_iff_mul_le hp]; simpa [e1] using h1
  have hi : fixed / 2 ^ (l - 11) < 4096 := by
    rw [Nat.div_lt_iff_lt_mul hp]; simpa [e2] using h2
  have hq : 2048 + fixed / 2 ^ (l - 11) % 2048 = fixed / 2 ^ (l - 11) := by omega
  rw [hq]
  exact Nat.div_mul_bounds fixed _ hp

theorem mant_small (fixed l : Nat) (hl : l ≤ 11) (h1 : 2 ^ l ≤ fixed) (h2 : fixed < 2 ^ (l + 1)) :
    2048 + fixed * 2 ^ (11 - l) % 2048 = fixed * 2 ^ (11 - l) := by
  have e1 : (2:Nat) ^ 11 = 2 ^ l * 2 ^ (11 - l) := two_pow_split hl
  have e2 : (2:Nat) ^ 12 = 2 ^ (l + 1) * 2 ^ (11 - l) := by rw [Nat.pow_succ (m := l), Nat.mul_right_comm, ← e1]
  have hp : 0 < 2 ^ (11 - l) := Nat.pow_pos (by decide)
  have lo : 2 ^ 11 ≤ fixed * 2 ^ (11 - l) := by rw [e1]; exact Nat.mul_le_mul_right _ h1
  have hi : fixed * 2 ^ (11 - l) < 2 ^ 12 := by rw [e2]; exact Nat.mul_lt_mul_of_pos_right h2 hp
  omega

theorem log2_bounds (x : Nat) (hx : x ≠ 0) : 2 ^ log2 x ≤ x ∧ x < 2 ^ (log2 x + 1) :=
  ⟨Nat.log2_self_le hx, Nat.lt_log2_self⟩

theorem deadzoneQ_neg (x delta : Int) : deadzoneQ (-x) delta = -deadzoneQ x delta := by
  unfold deadzoneQ
  by_cases h : x = 0
  · subst h; simp
  · by_cases hx : x < 0
    · rw [if_neg (by omega), if_pos hx, Int.neg_neg]
    · rw [if_pos (by omega), if_neg hx, Int.neg_neg]

theorem midpoint2_neg (q delta : Int) : midpoint2 (-q) delta = -midpoint2 q delta := by
  unfold midpoint2
  by_cases h : q = 0
  · subst h; simp
  · by_cases hq : q < 0
    · rw [if_neg (by omega), if_neg (by omega), if_neg h, if_pos hq, Int.neg_neg]
    · rw [if_neg (by omega), if_pos (by omega), if_neg h, if_neg hq, Int.neg_neg]

theorem deadzone_midpoint_nonneg (x delta : Int) (hx : 0 ≤ x) (hd : 0 < delta) :
    (deadzoneQ x delta ≠ 0 →
      (2 * x - midpoint2 (deadzoneQ x delta) delta ≤ delta ∧ -delta ≤ 2 * x - midpoint2 (deadzoneQ x delta) delta)) ∧
    (deadzoneQ x delta = 0 → (-delta < x ∧ x < delta)) := by
  have hq : deadzoneQ x delta = x / delta := by rw [deadzoneQ, if_neg (by omega)]
  have h1 := Int.mul_ediv_add_emod x delta
  have h2 := Int.emod_nonneg x (Int.ne_of_gt hd)
  have h3 := Int.emod_lt_of_pos x hd
  have h4 : 0 ≤ x / delta := Int.ediv_nonneg hx (by omega)
  rw [hq]
  generalize x / delta = k at *
  generalize x % delta = r at *
  constructor
  · intro hne
    rw [midpoint2, if_neg hne, if_neg (by omega), Int.add_mul, Int.mul_assoc, Int.mul_comm k delta]
    generalize delta * k = t at *
    omega
  · intro h0
    subst h0
    omega

/-- What the four generated output-loop bodies of `GetPixelData` (`clampGrey8`, `clampGrey16`, `clampInter8`,
    `clampInter16`) have in common: the value of `val` at the point where it is stored. -/
def loopSample (signed : Bool) (depth v : Int) : Int :=
  if signed then
    let lo := Go.wrap32 (-Go.shl 1 (depth - 1))
    let hi := Go.wrap32 (Go.shl 1 (depth - 1) - 1)
    let c := if v < lo then lo else if v > hi then hi else v
    if c < 0 then c + Go.shl 1 depth else c
  else
    let c := if v < 0 then 0 else v
    let hi := Go.wrap32 (Go.shl 1 depth - 1)
    if c > hi then hi else c

theorem clampGrey8_eq (d : Decoder) (v a : Int) :
    clampGrey8 d v a = Go.uwrap8 (loopSample d.isSigned d.bitDepth v) := by
  simp only [clampGrey8, loopSample, decide_eq_true_eq]

theorem clampInter8_eq (d : Decoder) (v a : Int) :
    clampInter8 d v a = Go.uwrap8 (loopSample d.isSigned d.bitDepth v) := by
  simp only [clampInter8, loopSample, decide_eq_true_eq]

theorem clampGrey16_eq (d : Decoder) (v a b : Int) :
    clampGrey16 d v a b =
      (Go.uwrap8 (loopSample d.isSigned d.bitDepth v), Go.uwrap8 (Go.shr (loopSample d.isSigned d.bitDepth v) 8)) := by
  simp only [clampGrey16, loopSample, decide_eq_true_eq]

theorem clampInter16_eq (d : Decoder) (i c v a b : Int) :
    clampInter16 d i c v a b =
      (Go.uwrap8 (loopSample d.isSigned d.bitDepth v), Go.uwrap8 (Go.shr (loopSample d.isSigned d.bitDepth v) 8)) := by
  simp only [clampInter16, loopSample, decide_eq_true_eq]

theorem clampSpec_range (P : Nat) (hP : 1 ≤ P) (s : Bool) (v : Int) :
    0 ≤ clampSpec P s v ∧ clampSpec P s v < 2 ^ P := by
  have hp : (0:Int) < 2 ^ (P - 1) := Int.pow_pos (by decide)
  have e := Int.two_pow_pred hP
  cases s <;> simp only [clampSpec, Bool.false_eq_true, if_false, if_true] <;> omega

theorem ite_clamp (lo hi v : Int) (h : lo ≤ hi) :
    (if v < lo then lo else if v > hi then hi else v) = max lo (min v hi) := by
  omega

/-- For declared depths up to 16 the bounds are far inside int32, so no `int32(...)` conversion in the loop
    body wraps, and what is left is the clamp; this holds for every integer `v`. -/
theorem loopSample_eq (P : Nat) (hP : 1 ≤ P ∧ P ≤ 16) (s : Bool) (v : Int) :
    loopSample s P v = clampSpec P s v := by
  obtain ⟨e, h1, h16, -, s2, s1⟩ := J2k.prec_facts P (by omega) (by omega)
  rw [Int.toNat_natCast] at *
  cases s
  · simp only [loopSample, clampSpec, s1, Bool.false_eq_true, if_false]
    rw [Go.wrap32_id (by omega) (by omega)]
    omega
  · simp only [loopSample, clampSpec, s1, s2, if_true]
    rw [Go.wrap32_id (by omega) (by omega), Go.wrap32_id (by omega) (by omega), ite_clamp _ _ v (by omega)]

theorem stored8 (P : Nat) (hP : 1 ≤ P ∧ P ≤ 8) (s : Bool) (v : Int) :
    Go.uwrap8 (loopSample s P v) = clampSpec P s v := by
  have r := clampSpec_range P hP.1 s v
  have : (2:Int) ^ P ≤ 2 ^ 8 := Int.two_pow_mono hP.2
  rw [loopSample_eq P (by omega), Go.uwrap8]
  omega

theorem stored16 (P : Nat) (hP : 1 ≤ P ∧ P ≤ 16) (s : Bool) (v : Int) :
    val16 (Go.uwrap8 (loopSample s P v), Go.uwrap8 (Go.shr (loopSample s P v) 8)) = clampSpec P s v := by
  have r := clampSpec_range P hP.1 s v
  have : (2:Int) ^ P ≤ 2 ^ 16 := Int.two_pow_mono hP.2
  rw [loopSample_eq P hP]
  simp only [val16, Go.uwrap8, Go.shr_eight]
  omega

theorem fixedOfDyadic_ne_zero (m : Nat) (e : Int) : fixedOfDyadic m e ≠ 0 := by
  simp only [fixedOfDyadic]
  generalize (if 0 ≤ e + 13 then m * 2 ^ (e + 13).toNat else m / 2 ^ (-(e + 13)).toNat) = f
  split <;> omega

/-- a step below 2^-13 is excluded (`hm`): there fixed is forced to 1 -/
theorem fixed_floor (m : Nat) (e : Int) (he : e + 13 < 0) (hm : 2 ^ (-(e + 13)).toNat ≤ m) :
    fixedOfDyadic m e * 2 ^ (-(e + 13)).toNat ≤ m ∧ m < (fixedOfDyadic m e + 1) * 2 ^ (-(e + 13)).toNat := by
  have hp : 0 < 2 ^ (-(e + 13)).toNat := Nat.pow_pos (by decide)
  have hne : ¬ (0 ≤ e + 13) := by omega
  have hq : 1 ≤ m / 2 ^ (-(e + 13)).toNat := (Nat.le_div_iff_mul_le hp).2 (by simpa using hm)
  have hf : fixedOfDyadic m e = m / 2 ^ (-(e + 13)).toNat := by
    simp only [fixedOfDyadic, hne, if_false]
    rw [if_neg (by omega)]
  rw [hf]
  exact Nat.div_mul_bounds m _ hp

theorem subbandIndex_eq (L res band : Int) (hr : 1 ≤ res ∧ res ≤ L) (hb : 1 ≤ band ∧ band ≤ 3) :
    subbandIndex L res band = 1 + (res - 1) * 3 + (band - 1) := by
  have h1 : ¬ (res < 0 ∨ L < res) := by omega
  have h2 : ¬ res = 0 := by omega
  have h3 : ¬ (band < 1 ∨ 3 < band) := by omega
  simp [subbandIndex, h2, h3]
  omega

theorem band_entry {L res b : Nat} {i : Int} (hr : 1 ≤ res ∧ res ≤ L) (hb : 1 ≤ b ∧ b ≤ 3)
    (hi : i = 1 + ((res : Int) - 1) * 3 + ((b : Int) - 1)) :
    let t : Nat × Nat × Int := (res, b, i)
    1 ≤ t.1 ∧ t.1 ≤ L ∧ 1 ≤ t.2.1 ∧ t.2.1 ≤ 3 ∧ t.2.2 = subbandIndex L t.1 t.2.1 :=
  ⟨hr.1, hr.2, hb.1, hb.2, by
    show i = subbandIndex L res b
    rw [subbandIndex_eq L res b (by omega) (by omega)]
    exact hi⟩

theorem resLoop_spec (step : Int → Int) (hs : ∀ i, step i = i + 1) : ∀ (n res : Nat) (idx : Int) (L : Nat), 1 ≤ res → res + n = L + 1 →
    idx = 1 + ((res : Int) - 1) * 3 →
    ∀ t ∈ resLoopWith step n res idx, 1 ≤ t.1 ∧ t.1 ≤ L ∧ 1 ≤ t.2.1 ∧ t.2.1 ≤ 3 ∧
      t.2.2 = subbandIndex L t.1 t.2.1
  | 0, _, _, _, _, _, _ => by intro t ht; simp [resLoopWith] at ht
  | n + 1, res, idx, L, h1, h2, h3 => by
    intro t ht
    simp only [resLoopWith, List.mem_cons, hs] at ht
    have hr : 1 ≤ res ∧ res ≤ L := by omega
    rcases ht with rfl | rfl | rfl | ht
    · exact band_entry hr (by decide) (by omega)
    · exact band_entry hr (by decide) (by omega)
    · exact band_entry hr (by decide) (by omega)
    · exact resLoop_spec step hs n (res + 1) (idx + 1 + 1 + 1) L (by omega) (by omega) (by omega) t ht

theorem resLoop_length (step : Int → Int) : ∀ n res idx, (resLoopWith step n res idx).length = 3 * n
  | 0, _, _ => rfl
  | n + 1, res, idx => by simp [resLoopWith, resLoop_length step n]; omega

end J2kQuant
