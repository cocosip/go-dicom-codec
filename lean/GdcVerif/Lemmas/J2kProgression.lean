import GdcVerif.Model.J2kProgression
import GdcVerif.Lemmas.J2kTileRect
namespace J2kProg
open J2k

theorem filterMap_true {α β : Type} (l : List α) (f : α → β) :
    (l.filterMap fun a => if true = true then some (f a) else none) = l.map f := by
  simp

theorem loops_agree (nL nR nC : Nat) (idx : Nat → Nat → List Nat) (m : PosMaps) :
    encLRCP nL nR nC idx (fun _ _ _ => true) = decLRCP nL nR nC idx ∧
    encRLCP nL nR nC idx (fun _ _ _ => true) = decRLCP nL nR nC idx ∧
    encRPCL nL nR nC m (fun _ _ _ => true) = decRPCL nL nR nC m ∧
    encPCRL nL nR nC m (fun _ _ _ => true) = decPCRL nL nR nC m ∧
    encCPRL nL nR nC m (fun _ _ _ => true) = decCPRL nL nR nC m := by
  have hf : ∀ l : List Nat, l.filter (fun _ => true) = l := fun l => List.filter_eq_self.mpr fun _ _ => rfl
  refine ⟨?_, ?_, ?_, ?_, ?_⟩
  · unfold encLRCP decLRCP; simp [hf]
  · unfold encRLCP decRLCP; simp [hf]
  -- position-driven orders: with `has` constantly true the encoder's `filterMap` over the layers is the decoder's `map`
  · unfold encRPCL decRPCL; simp
  · unfold encPCRL decPCRL; simp
  · unfold encCPRL decCPRL; simp

/-- the SIZ segment encoder.go writeSIZ writes (all offsets 0) -/
def sizOf (W H TW TH C : Int) : Gen.J2kTileClamp.SIZSegment :=
  { Rsiz := 0, Xsiz := W, Ysiz := H, XOsiz := 0, YOsiz := 0, XTsiz := TW, YTsiz := TH, XTOsiz := 0, YTOsiz := 0, Csiz := C }

theorem ceilDiv_one (x : Int) (h : 0 ≤ x) : Gen.J2kTileClamp.ceilDiv x 1 = x := by
  unfold Gen.J2kTileClamp.ceilDiv
  simp [h]

theorem decoder_rect_eq_enc (W H TW TH C t : Int) (hW : 1 ≤ W) (hH : 1 ≤ H) (hTW : 1 ≤ TW) (hTH : 1 ≤ TH) (h0 : 0 ≤ t)
    (hlt : t < encNumTiles W TW * encNumTiles H TH) :
    let td := Gen.J2kTileClamp.NewTileDecoder ⟨t⟩ (sizOf W H TW TH C) false
    encTileBounds W H TW TH t = (td.tileX0, td.tileY0, td.tileX1, td.tileY1) ∧
      0 ≤ td.tileX0 ∧ 0 ≤ td.tileY0 ∧ 0 ≤ td.tileX1 ∧ 0 ≤ td.tileY1 := by
  intro td
  have hok : SizOk (sizOf W H TW TH C) := by unfold SizOk sizOf; simp; omega
  have hasm := tileDecoder_rect_eq_assembler (sizOf W H TW TH C) t false hok h0 (by
    unfold b3NumX b3NumY sizOf
    simpa only [Int.sub_zero, encNumTiles_ediv (n := W) (by omega) hTW, encNumTiles_ediv (n := H) (by omega) hTH]
      using hlt)
  have hlay : layoutOf (sizOf W H TW TH C) = decLayout W H TW TH := rfl
  simp only [] at hasm
  rw [hlay] at hasm
  have hrect : encTileBounds W H TW TH t = (td.tileX0, td.tileY0, td.tileX1, td.tileY1) := by
    rw [enc_eq_dec W H TW TH t hW hH hTW hTH h0 hlt]; unfold decTileBounds; rw [hasm]; simp [sizOf, td]
  have hb := enc_in_image W H TW TH t hW (by omega) hTW hTH h0 hlt
  rw [hrect] at hb
  simp only [] at hb
  exact ⟨hrect, by omega, by omega, by omega, by omega⟩

theorem default_precinct (e : Gen.J2kTiles.Encoder) (r : Int)
    (h : ¬ (e.params.PrecinctWidth > 0 ∨ e.params.PrecinctHeight > 0))
    (h0 : 0 ≤ e.params.PrecinctWidth) (h1 : 0 ≤ e.params.PrecinctHeight) :
    Gen.J2kTiles.Encoder.getPrecinctSize e r = (Go.shl 1 15, Go.shl 1 15) := by
  have hw : e.params.PrecinctWidth = 0 := by omega
  have hh : e.params.PrecinctHeight = 0 := by omega
  have hl2 : J2kAux.log2 32768 = 15 := by decide
  unfold Gen.J2kTiles.Encoder.getPrecinctSize Gen.J2kTiles.Encoder.getPrecinctSizeExponents
  simp [hw, hh, hl2, Go.uwrap8, Go.shl]

theorem mem_insertPos (p x : Pos) (l : List Pos) : x ∈ insertPos p l ↔ x = p ∨ x ∈ l := by
  induction l with
  | nil => simp [insertPos]
  | cons q t ih =>
    unfold insertPos
    by_cases h : (p == q) = true
    · have hpq : p = q := by simpa using h
      subst hpq
      simp only [h, if_true, List.mem_cons]
      exact ⟨Or.inr, fun hx => hx.elim Or.inl id⟩
    · simp only [h, Bool.false_eq_true, if_false]
      by_cases h2 : posLt p q = true
      · simp only [h2, if_true, List.mem_cons]
      · simp only [h2, Bool.false_eq_true, if_false, List.mem_cons, ih]
        exact or_left_comm

theorem mem_sortedPositions (x : Pos) (l : List Pos) : x ∈ sortedPositions l ↔ x ∈ l := by
  induction l with
  | nil => simp [sortedPositions]
  | cons a t ih =>
    have : sortedPositions (a :: t) = insertPos a (sortedPositions t) := rfl
    rw [this, mem_insertPos, ih, List.mem_cons]

/-- buildPositionMaps is one shared function -/
theorem sequence_same_inputs (prog nL : Nat) (i : Inputs) : encSequence prog nL i = decSequence prog nL i := by
  have h := loops_agree nL i.numResolutions i.numComponents i.indices (buildMaps i)
  unfold encSequence decSequence
  match prog with
  | 0 => exact h.1
  | 1 => exact h.2.1
  | 2 => exact h.2.2.1
  | 3 => exact h.2.2.2.1
  | _ + 4 => exact h.2.2.2.2

end J2kProg
