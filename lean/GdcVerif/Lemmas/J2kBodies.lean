import GdcVerif.Spec.StrictJ2kTiles
import GdcVerif.Model.J2kSample
import GdcVerif.Lemmas.MqcTerm
import GdcVerif.Lemmas.J2kHeaderCodes
import GdcVerif.Lemmas.J2kBio
/-!
  C16, JPEG 2000 tile-part bodies: a body that is the concatenation of packet headers written by the
  bit writer of `t2/packet_header_bitio.go` (model `J2k.BioW`, C04) and code-block segments produced by
  `mqc.MQEncoder.Flush` (model `Mqc.encodeBytes`, C20) contains no byte pair in FF90..FFFF and does not
  end on 0xFF.  Concatenation lemma: every piece satisfies the pair predicate and no piece ends on 0xFF,
  so no marker straddles a boundary.
-/
namespace StrictJ2k

theorem PairBelow.mono {m n : Nat} (hmn : m ≤ n) : ∀ (l : List Nat), PairBelow m l → PairBelow n l
  | [], _ => trivial
  | [_], _ => trivial
  | _ :: b :: rest, h => ⟨fun ha => Nat.lt_of_lt_of_le (h.1 ha) hmn, PairBelow.mono hmn (b :: rest) h.2⟩

theorem PairBelow.tail {n a : Nat} {l : List Nat} (h : PairBelow n (a :: l)) : PairBelow n l := by
  cases l with
  | nil => trivial
  | cons b r => exact h.2

theorem PairBelow.append {n : Nat} : ∀ (a b : List Nat), PairBelow n a → PairBelow n b → a.getLast? ≠ some 255 →
    PairBelow n (a ++ b)
  | [], b, _, hb, _ => hb
  | [x], b, _, hb, hl => by
    cases b with
    | nil => trivial
    | cons y r => exact ⟨fun hx => absurd (by simp [hx]) hl, hb⟩
  | x :: y :: r, b, ha, hb, hl => by
    have ih := PairBelow.append (y :: r) b ha.2 hb (by simpa [List.getLast?_cons_cons] using hl)
    exact ⟨ha.1, ih⟩

theorem getLast_append_ne (a b : List Nat) (ha : a.getLast? ≠ some 255) (hb : b.getLast? ≠ some 255) :
    (a ++ b).getLast? ≠ some 255 := by
  rw [List.getLast?_append]
  cases h : b.getLast? with
  | none => simpa using ha
  | some v => simpa [h] using hb

theorem BodyOk.append {a b : List Nat} (ha : BodyOk a) (hb : BodyOk b) : BodyOk (a ++ b) :=
  ⟨PairBelow.append a b ha.1 hb.1 ha.2, getLast_append_ne a b ha.2 hb.2⟩

theorem bodyOk_flatten : ∀ (pieces : List (List Nat)), (∀ p ∈ pieces, BodyOk p) → BodyOk pieces.flatten
  | [], _ => ⟨trivial, by simp⟩
  | p :: ps, h => (h p (by simp)).append (bodyOk_flatten ps fun q hq => h q (by simp [hq]))

theorem PairBelow.drop {n : Nat} : ∀ (k : Nat) (l : List Nat), PairBelow n l → PairBelow n (l.drop k)
  | 0, l, h => by simpa using h
  | _ + 1, [], _ => by simp [PairBelow]
  | k + 1, _ :: r, h => by simpa using PairBelow.drop k r h.tail

theorem PairBelow.left {n : Nat} : ∀ (a b : List Nat), PairBelow n (a ++ b) → PairBelow n a
  | [], _, _ => trivial
  | [_], _, _ => trivial
  | _ :: y :: r, b, h => ⟨h.1, PairBelow.left (y :: r) b h.2⟩

theorem PairBelow.take {n : Nat} (k : Nat) (l : List Nat) (h : PairBelow n l) : PairBelow n (l.take k) :=
  PairBelow.left _ (l.drop k) (by rwa [List.take_append_drop])

end StrictJ2k

namespace JpegC
open StrictJ2k

theorem streamOk_pairBelow : ∀ (l : List Nat), Mqc.StreamOk l → PairBelow 0x90 l
  | [], _ => trivial
  | [_], _ => trivial
  | a :: b :: rest, h => by
    -- `StreamOk` speaks by index: the tail's index `j` is the list's `j + 1`
    refine ⟨fun ha => ?_, streamOk_pairBelow (b :: rest) ⟨fun j v hj => h.1 (j + 1) v hj, fun j hj => h.2 (j + 1) hj⟩⟩
    obtain ⟨v, hv, hle⟩ := h.2 0 (by rw [ha]; rfl)
    cases hv
    omega
theorem mq_segment_bodyOk (n : Nat) (ds : List (Nat × Nat)) (hds : ∀ d ∈ ds, d.2 < n) :
    ∃ bytes, Mqc.encodeBytes n ds = some bytes ∧ BodyOk bytes := by
  obtain ⟨bytes, h1, h2⟩ := Mqc.encoder_stream n ds hds
  exact ⟨bytes, h1, streamOk_pairBelow bytes h2, h2.no_trailing_ff⟩

open J2k

/-- after a byte 0xFF the next header byte holds 7 bits -/
theorem packed_pairBelow {p : Nat} {bs : List Bool} {bytes : List Nat} (h : Packed p bs bytes) :
    PairBelow 128 (p :: bytes) := by
  have hb : ∀ p c, c.length ≤ cap p → p = 255 → chunkByte p c < 128 := fun p c hc hp => by
    subst hp
    have := chunkByte_bound 255 c hc
    have := Nat.two_pow_pos (cap 255 - c.length)
    rw [show cap 255 = 7 from rfl] at *
    omega
  induction h with
  | last p c _ hc => exact ⟨hb p c hc, by split <;> simp [PairBelow]⟩
  | more p c rest bytes hc _ _ ih => exact ⟨hb p c (by omega), ih⟩

theorem bio_header_pairBelow (bits : List Bool) : PairBelow 128 (BioW.new.writeBitsList bits).flush := by
  by_cases hne : bits = []
  · subst hne; decide
  · obtain ⟨bytes, hp, hfl⟩ := header_packed bits hne
    have h := packed_pairBelow hp
    rw [hfl]
    cases bytes with
    | nil => trivial
    | cons b t => exact h.2

theorem bio_header_bodyOk (bits : List Bool) : BodyOk (BioW.new.writeBitsList bits).flush :=
  ⟨PairBelow.mono (m := 128) (by omega) _ (bio_header_pairBelow bits), J2k.flush_last_not_FF _⟩

/-- one piece of a tile-part body, as `t2.PacketEncoder` appends them: a packet header (the bits the header coder
    wrote, flushed) or a code-block contribution (here: the whole byte string of one MQ `Flush`) -/
inductive Piece where
  | header (bits : List Bool)
  | mqSegment (numContexts : Nat) (decisions : List (Nat × Nat))

def Piece.Wf : Piece → Prop
  | .header _ => True
  | .mqSegment n ds => ∀ d ∈ ds, d.2 < n

open J2k in
def Piece.bytes : Piece → List Nat
  | .header bits => (BioW.new.writeBitsList bits).flush
  | .mqSegment n ds => (Mqc.encodeBytes n ds).getD []

theorem piece_bodyOk (p : Piece) (h : p.Wf) : BodyOk p.bytes := by
  cases p with
  | header bits => exact bio_header_bodyOk bits
  | mqSegment n ds =>
    obtain ⟨bytes, h1, h2⟩ := mq_segment_bodyOk n ds h
    simpa [Piece.bytes, h1] using h2

end JpegC
