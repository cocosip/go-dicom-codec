import GdcVerif.Lemmas.Htj2kBits
import GdcVerif.Model.Htj2kBlock
/-!
  Context VLC tables: a row list that is well-formed and prefix-free per context (`rowsOk`) decodes each of its
  codewords to its own row, and one that is complete (`encComplete`) has a row for every index the encoder forms.
  Both properties of the two generated tables are checked by the kernel (`TableChecked`); `encSelect_decLookup` is
  what the block coder's lemmas take from this file.

  `rowClash`/`rowsPF`/`rowsOk`, `rowsKraft` say on rows what the model's `vlcClash`/`prefixFreeKeys`/`vlcTableOk`,
  `vlcKraft` say on keys: the encoder's and decoder's table builders (`encSelect`, `decLookup`) run on rows, so the
  round-trip lemmas need the row spelling, and one evaluation per table serves all. `vlcTableOk_of_rowsOk` and
  `vlcKraft_rows` carry it to the model's predicates; evaluating `vlcTableOk` as well would cost about as much again
  as the whole check of a table.
-/
namespace Htj2k

def rowClash (a b : VlcRow) : Bool :=
  let l := min a.len b.len
  a.cwd % 2 ^ l == b.cwd % 2 ^ l

def rowsPF : List VlcRow → Bool
  | [] => true
  | a :: rest => rest.all (fun b => !rowClash a b) && rowsPF rest

def rowWF (r : VlcRow) : Bool :=
  decide (1 ≤ r.len) && decide (r.len ≤ 7) && decide (r.cwd < 2 ^ r.len) && decide (r.cq < 8) && decide (r.rho < 16) &&
  decide (r.uoff < 2) && decide (r.ek < 16) && decide (r.e1 < 16) &&
  (decide (r.uoff = 1) || (decide (r.ek = 0) && decide (r.e1 = 0)))

def rowsOk (rows : List VlcRow) : Bool :=
  rows.all rowWF && (List.range 8).all fun c => rowsPF (rows.filter (fun r => r.cq == c))

theorem rowWF_iff (r : VlcRow) : rowWF r = true ↔
    (1 ≤ r.len ∧ r.len ≤ 7 ∧ r.cwd < 2 ^ r.len ∧ r.cq < 8 ∧ r.rho < 16 ∧ r.uoff < 2 ∧ r.ek < 16 ∧ r.e1 < 16) ∧
    (r.uoff = 1 ∨ r.ek = 0 ∧ r.e1 = 0) := by
  simp only [rowWF, Bool.and_eq_true, Bool.or_eq_true, decide_eq_true_eq, and_assoc]

theorem rowsOk_iff (rows : List VlcRow) : rowsOk rows = true ↔
    (∀ r ∈ rows, rowWF r = true) ∧ ∀ c < 8, rowsPF (rows.filter (fun r => r.cq == c)) = true := by
  simp only [rowsOk, Bool.and_eq_true, List.all_eq_true, List.mem_range]

def hasCand (rc : List VlcRow) (rho eps : Nat) : Bool :=
  if eps ≠ 0 then rc.any (fun r => decide (r.rho = rho) && decide (r.uoff = 1) && decide (eps &&& r.ek = r.e1))
  else rc.any (fun r => decide (r.rho = rho) && decide (r.uoff = 0))

/-- the rows of one `rho` are picked before the 16 values of `eps` are tried, which halves what the kernel evaluates -/
def ctxComplete (cq : Nat) (rc : List VlcRow) : Bool :=
  (List.range 16).all fun rho =>
    let rr := rc.filter (fun r => r.rho == rho)
    (List.range 16).all fun eps =>
      (decide (eps &&& rho ≠ eps) || (decide (rho = 0) && decide (cq = 0))) || hasCand rr rho eps

/-- every index the cleanup encoder can form — `eps ⊆ rho`, not (`rho = 0` in context 0) — has a candidate row -/
def encComplete (rows : List VlcRow) : Bool :=
  (List.range 8).all fun cq => ctxComplete cq (rows.filter (fun r => r.cq == cq))

/-- the Kraft sum of a context in units of 2^-7, on rows (`vlcKraft_rows`: the model's `vlcKraft`) -/
def rowsKraft (rows : List VlcRow) (cq : Nat) : Nat :=
  (rows.filter (fun r => r.cq == cq)).foldl (fun acc r => acc + 2 ^ (7 - r.len)) 0

/-- what the kernel evaluates, once for each generated table: no row is dropped, the rows are `rowsOk` and
    `encComplete`, and every context's Kraft sum is 1 (that walks the context lists `rowsOk` has already filtered
    out, so it comes almost free here). -/
def TableChecked (t : Array (Array Int)) : Prop :=
  rowsOk (vlcRows t) = true ∧ (vlcRows t).length = t.size ∧ encComplete (vlcRows t) = true ∧
  (List.range 8).map (rowsKraft (vlcRows t)) = List.replicate 8 128

instance (t : Array (Array Int)) : Decidable (TableChecked t) := inferInstanceAs (Decidable (_ ∧ _ ∧ _ ∧ _))

theorem tbl0_ok : TableChecked Gen.Htj2k.VLCTbl0 := by decide +kernel

theorem tbl1_ok : TableChecked Gen.Htj2k.VLCTbl1 := by decide +kernel

def rowKey (r : VlcRow) : Nat × Nat × Nat := (r.cq, r.cwd, r.len)

theorem vlcRowKey_of_row (a : Array Int) (r : VlcRow) (h : vlcRowOf a = some r) (hwf : rowWF r = true) :
    vlcRowKey a = some (rowKey r) := by
  unfold vlcRowOf at h
  split at h
  · rename_i cq rho uoff ek e1 cwd len heq
    split at h
    · rename_i h0
      cases h
      obtain ⟨⟨l1, l7, hc, hq, hr, _⟩, _⟩ := (rowWF_iff _).mp hwf
      dsimp only at l1 l7 hc hq hr
      have hc' : cwd < 2 ^ len.toNat := by
        have := Int.ofNat_lt.mpr hc
        rwa [Int.toNat_of_nonneg h0.2.2.2.2.2.1, Int.natCast_pow] at this
      have hk : 0 ≤ cq ∧ cq < 8 ∧ 0 ≤ rho ∧ rho < 16 ∧ 1 ≤ len ∧ len ≤ 7 ∧ 0 ≤ cwd ∧ cwd < 2 ^ len.toNat :=
        ⟨h0.1, by omega, h0.2.1, by omega, by omega, by omega, h0.2.2.2.2.2.1, hc'⟩
      unfold vlcRowKey
      rw [heq]
      exact if_pos hk
    · cases h
  · cases h

theorem mapM_vlcRowKey (l : List (Array Int)) (hl : (l.filterMap vlcRowOf).length = l.length)
    (hwf : ∀ r ∈ l.filterMap vlcRowOf, rowWF r = true) :
    l.mapM vlcRowKey = some ((l.filterMap vlcRowOf).map rowKey) := by
  induction l with
  | nil => rfl
  | cons a l ih =>
    cases ha : vlcRowOf a with
    | none =>
      have := List.length_filterMap_le vlcRowOf l
      simp [ha] at hl
      omega
    | some r =>
      simp only [List.filterMap_cons, ha, List.length_cons, Nat.add_right_cancel_iff] at hl hwf ⊢
      rw [List.mapM_cons, vlcRowKey_of_row a r ha (hwf r List.mem_cons_self),
        ih hl (fun x hx => hwf x (List.mem_cons_of_mem _ hx))]
      rfl

theorem noClashWith_keys (a : VlcRow) (l : List VlcRow) (hcq : ∀ r ∈ l, r.cq = a.cq) :
    noClashWith (rowKey a) (l.map rowKey) = l.all (fun b => !rowClash a b) := by
  induction l with
  | nil => rfl
  | cons b l ih =>
    have hb : (a.cq == b.cq) = true := by simp [hcq b List.mem_cons_self]
    simp only [List.map_cons, noClashWith, List.all_cons, ih (fun r hr => hcq r (List.mem_cons_of_mem _ hr))]
    simp only [vlcClash, rowKey, rowClash, hb, Bool.true_and]

theorem prefixFreeKeys_rows (c : Nat) (l : List VlcRow) (hcq : ∀ r ∈ l, r.cq = c) :
    prefixFreeKeys (l.map rowKey) = rowsPF l := by
  induction l with
  | nil => rfl
  | cons a l ih =>
    have ha := hcq a List.mem_cons_self
    simp only [List.map_cons, prefixFreeKeys, rowsPF, ih (fun r hr => hcq r (List.mem_cons_of_mem _ hr)),
      noClashWith_keys a l (fun r hr => (hcq r (List.mem_cons_of_mem _ hr)).trans ha.symm)]

theorem vlcTableOk_of_rowsOk (t : Array (Array Int)) (hok : rowsOk (vlcRows t) = true)
    (hl : (vlcRows t).length = t.size) : vlcTableOk t = true := by
  rw [rowsOk_iff] at hok
  unfold vlcTableOk
  rw [mapM_vlcRowKey t.toList (by rw [Array.length_toList]; exact hl) hok.1]
  simp only [List.all_eq_true, List.mem_range]
  intro c hc
  rw [List.filter_map, prefixFreeKeys_rows c _ (fun r hr => by simpa [rowKey] using (List.mem_filter.mp hr).2)]
  exact hok.2 c hc

theorem vlcKraft_rows (t : Array (Array Int)) (hok : rowsOk (vlcRows t) = true)
    (hl : (vlcRows t).length = t.size) (cq : Nat) : vlcKraft t cq = rowsKraft (vlcRows t) cq := by
  unfold vlcKraft rowsKraft
  rw [mapM_vlcRowKey t.toList (by rw [Array.length_toList]; exact hl) ((rowsOk_iff _).mp hok).1]
  simp only [List.filter_map, List.foldl_map]
  rfl

theorem TableChecked.kraft {t : Array (Array Int)} (h : TableChecked t) :
    (List.range 8).map (vlcKraft t) = List.replicate 8 128 :=
  h.2.2.2 ▸ List.map_congr_left fun cq _ => vlcKraft_rows t h.1 h.2.1 cq

theorem match_clash (a b : VlcRow) (w : Nat) (ha : a.cwd = w % 2 ^ a.len) (hb : b.cwd = w % 2 ^ b.len) :
    rowClash a b = true := by
  unfold rowClash
  simp only [beq_iff_eq]
  have h1 : 2 ^ min a.len b.len ∣ 2 ^ a.len := Nat.pow_dvd_pow 2 (Nat.min_le_left _ _)
  have h2 : 2 ^ min a.len b.len ∣ 2 ^ b.len := Nat.pow_dvd_pow 2 (Nat.min_le_right _ _)
  rw [ha, hb, Nat.mod_mod_of_dvd _ h1, Nat.mod_mod_of_dvd _ h2]

theorem pf_find (l : List VlcRow) (w : Nat) (hpf : rowsPF l = true) (r : VlcRow) (hr : r ∈ l)
    (hm : r.cwd = w % 2 ^ r.len) :
    l.find? (fun x => decide (x.cwd = w % 2 ^ x.len)) = some r := by
  induction l with
  | nil => cases hr
  | cons a rest ih =>
    simp only [rowsPF, Bool.and_eq_true] at hpf
    rw [List.find?_cons]
    by_cases hp : a.cwd = w % 2 ^ a.len
    · simp only [hp, decide_true]
      rcases List.mem_cons.mp hr with rfl | hrest
      · rfl
      · have h1 := List.all_eq_true.mp hpf.1 r hrest
        simp [match_clash a r w hp hm] at h1
    · simp only [hp, decide_false]
      rcases List.mem_cons.mp hr with rfl | hrest
      · exact absurd hm hp
      · exact ih hpf.2 hrest

theorem decLookup_eq_filter (rows : List VlcRow) (cq w : Nat) :
    decLookup rows cq w = (rows.filter (fun r => r.cq == cq)).find? (fun x => decide (x.cwd = w % 2 ^ x.len)) := by
  unfold decLookup
  rw [List.find?_filter]
  congr 1; funext r; simp

theorem decLookup_self (rows : List VlcRow) (hok : rowsOk rows = true) (r : VlcRow) (hr : r ∈ rows) (rest : Nat) :
    decLookup rows r.cq ((r.cwd + rest * 2 ^ r.len) % 128) = some r := by
  rw [rowsOk_iff] at hok
  obtain ⟨⟨_, hlen7, hcwd, hcq, _⟩, _⟩ := (rowWF_iff r).mp (hok.1 r hr)
  have hpf := hok.2 r.cq hcq
  rw [decLookup_eq_filter]
  apply pf_find _ _ hpf r
  · exact List.mem_filter.mpr ⟨hr, by simp⟩
  · have hd : 2 ^ r.len ∣ 128 := by
      have : (128 : Nat) = 2 ^ 7 := by decide
      rw [this]; exact Nat.pow_dvd_pow 2 hlen7
    rw [Nat.mod_mod_of_dvd _ hd, add_mul_pow_mod _ hcwd]

/-- the fold of `encSelect` keeps the last row of greatest weight among those satisfying `P`.  Stated of it: the result is
    the start value or such a row of `l`, and is a row as soon as `l` has one -/
theorem foldl_best {α : Type} (P : α → Prop) [DecidablePred P] (w : α → Nat) (l : List α) : ∀ acc : Option α × Nat,
    (∀ r, (l.foldl (fun acc r => if P r then (if w r + 1 ≥ acc.2 then (some r, w r + 1) else acc) else acc) acc).1 = some r →
      acc.1 = some r ∨ (r ∈ l ∧ P r)) ∧
    ((acc.1.isSome = true ∨ (acc.2 = 0 ∧ ∃ r ∈ l, P r)) →
      (l.foldl (fun acc r => if P r then (if w r + 1 ≥ acc.2 then (some r, w r + 1) else acc) else acc) acc).1.isSome = true) := by
  induction l with
  | nil => intro acc; exact ⟨fun r h => Or.inl h, fun h => h.elim id (fun ⟨_, r, hr, _⟩ => nomatch hr)⟩
  | cons a rest ih =>
    intro acc
    simp only [List.foldl_cons]
    have later : ∀ r, r ∈ rest ∧ P r → r ∈ a :: rest ∧ P r := fun r h => ⟨List.mem_cons_of_mem _ h.1, h.2⟩
    by_cases hc : P a
    · by_cases hb : w a + 1 ≥ acc.2
      · simp only [hc, hb, if_true]
        obtain ⟨i1, i2⟩ := ih (some a, w a + 1)
        refine ⟨fun r h => Or.inr ?_, fun _ => i2 (Or.inl rfl)⟩
        rcases i1 r h with h1 | h1
        · exact Option.some.inj h1 ▸ ⟨List.mem_cons_self, hc⟩
        · exact later r h1
      · simp only [hc, hb, if_true, if_false]
        obtain ⟨i1, i2⟩ := ih acc
        refine ⟨fun r h => (i1 r h).imp_right (later r), fun h => i2 ?_⟩
        rcases h with h | ⟨h0, _⟩
        · exact Or.inl h
        · omega
    · simp only [hc, if_false]
      obtain ⟨i1, i2⟩ := ih acc
      refine ⟨fun r h => (i1 r h).imp_right (later r), fun h => i2 ?_⟩
      rcases h with h | ⟨h0, r, hr, hp⟩
      · exact Or.inl h
      · rcases List.mem_cons.mp hr with rfl | hm
        · exact absurd hp hc
        · exact Or.inr ⟨h0, r, hm, hp⟩

theorem encSelect_some (rows : List VlcRow) (cq rho eps : Nat) (r : VlcRow) (h : encSelect rows cq rho eps = some r) :
    r ∈ rows ∧ r.cq = cq ∧ r.rho = rho ∧ (eps ≠ 0 → r.uoff = 1 ∧ eps &&& r.ek = r.e1) ∧ (eps = 0 → r.uoff = 0) := by
  unfold encSelect at h
  split at h
  · cases h
  · split at h
    · rename_i he
      rcases (foldl_best _ _ rows (none, 0)).1 r h with h1 | h1
      · cases h1
      · exact ⟨h1.1, h1.2.1, h1.2.2.1, fun _ => ⟨h1.2.2.2.1, h1.2.2.2.2⟩, fun h0 => absurd h0 he⟩
    · rename_i he
      have he0 : eps = 0 := by simpa using he
      have hm := List.mem_of_find?_eq_some h
      have hp := List.find?_some h
      simp only [decide_eq_true_eq] at hp
      exact ⟨hm, hp.1, hp.2.1, fun hne => absurd he0 hne, fun _ => hp.2.2⟩

theorem encSelect_isSome (rows : List VlcRow) (hc : encComplete rows = true) (cq rho eps : Nat)
    (hcq : cq < 8) (hrho : rho < 16) (heps : eps < 16) (hsub : eps &&& rho = eps) (hnz : ¬ (rho = 0 ∧ cq = 0)) :
    (encSelect rows cq rho eps).isSome = true := by
  simp only [encComplete, ctxComplete, List.all_eq_true, List.mem_range, Bool.or_eq_true, Bool.and_eq_true,
    decide_eq_true_eq] at hc
  have hv : ¬ (eps &&& rho ≠ eps ∨ (rho = 0 ∧ cq = 0)) := fun h => h.elim (fun h => h hsub) hnz
  unfold encSelect
  rw [if_neg hv]
  rcases hc cq hcq rho hrho eps heps with (h | h) | h
  · exact absurd hsub h
  · exact absurd h hnz
  · unfold hasCand at h
    by_cases he : eps ≠ 0
    · rw [if_pos he] at h ⊢
      simp only [List.any_eq_true, List.mem_filter, Bool.and_eq_true, decide_eq_true_eq, beq_iff_eq] at h
      obtain ⟨r, ⟨⟨hr, hq⟩, _⟩, ⟨h1, h2⟩, h3⟩ := h
      exact (foldl_best _ _ rows (none, 0)).2 (Or.inr ⟨rfl, r, hr, hq, h1, h2, h3⟩)
    · rw [if_neg he] at h ⊢
      simp only [List.any_eq_true, List.mem_filter, Bool.and_eq_true, decide_eq_true_eq, beq_iff_eq] at h
      obtain ⟨r, ⟨⟨hr, hq⟩, _⟩, h1, h2⟩ := h
      rw [List.find?_isSome]
      exact ⟨r, hr, by simp [hq, h1, h2]⟩

theorem encSelect_decLookup (rows : List VlcRow) (hok : rowsOk rows = true) (hc : encComplete rows = true)
    (cq rho eps : Nat) (hcq : cq < 8) (hrho : rho < 16) (heps : eps < 16) (hsub : eps &&& rho = eps)
    (hnz : ¬ (rho = 0 ∧ cq = 0)) :
    ∃ r, encSelect rows cq rho eps = some r ∧
      (∀ rest, decLookup rows cq ((r.cwd + rest * 2 ^ r.len) % 128) = some r) ∧ r.rho = rho ∧
      r.uoff = (if eps = 0 then 0 else 1) ∧ eps &&& r.ek = r.e1 ∧ 1 ≤ r.len ∧ r.len ≤ 7 ∧ r.cwd < 2 ^ r.len ∧ r.ek < 16 := by
  obtain ⟨r, h⟩ := Option.isSome_iff_exists.mp (encSelect_isSome rows hc cq rho eps hcq hrho heps hsub hnz)
  obtain ⟨hm, h1, h2, h3, h4⟩ := encSelect_some rows cq rho eps r h
  obtain ⟨⟨l1, l7, hcwd, _, _, _, hek, _⟩, hzero⟩ := (rowWF_iff r).mp (((rowsOk_iff rows).mp hok).1 r hm)
  refine ⟨r, h, fun rest => h1 ▸ decLookup_self rows hok r hm rest, h2, ?_, ?_, l1, l7, hcwd, hek⟩
  · by_cases he : eps = 0
    · simp [he, h4 he]
    · simp [he, (h3 he).1]
  · by_cases he : eps = 0
    · have hu := h4 he
      rcases hzero with hx | hx
      · omega
      · rw [he, hx.1, hx.2]; rfl
    · exact (h3 he).2

end Htj2k
