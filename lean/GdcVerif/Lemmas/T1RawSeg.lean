import GdcVerif.Lemmas.T1SegLock
import GdcVerif.Lemmas.MqcRaw
/-!
  C20 — the raw codeword segments of the LAZY mode at T1 level: one pass (under TERMALL, and the refinement pass
  alone) or the significance + refinement pair, against the raw reader on the bytes of the segment.  The raw (bypass)
  bit coder is an instance (`RawCoder.bit`) of the `BitCoder` that the significance and refinement passes of
  `Lemmas/T1Lock.lean` run over.  Then each of the two shapes in both layered loops, by pass index (`rstep1_lock`,
  `rstep2_lock`), as `mseg_lock` (Lemmas/T1SegRun.lean) is for the MQ segments.
-/
namespace T1
open Gen

structure RawCoder (P : Mqc.Enc → Prop) (F : Mqc.Enc → Prop) (R : Mqc.Enc → Mqc.Dec → Prop) : Prop where
  total : ∀ e bit, P e → bit ≤ 1 → ∃ e1, Mqc.bypassEncode e bit = some e1 ∧ P e1
  back : ∀ e e1 bit, P e → bit ≤ 1 → Mqc.bypassEncode e bit = some e1 → F e1 → F e
  step : ∀ e e1 d bit, P e → bit ≤ 1 → R e d → Mqc.bypassEncode e bit = some e1 → F e1 →
    ∃ d1, Mqc.rawDecode d = some (bit, d1) ∧ R e1 d1

theorem RawCoder.bit {P F : Mqc.Enc → Prop} {R : Mqc.Enc → Mqc.Dec → Prop} (hC : RawCoder P F R) : BitCoder true P F R :=
  ⟨fun e bit _ h hb _ => hC.total e bit h hb, fun e e1 bit _ h hb _ he => hC.back e e1 bit h hb he,
    fun e e1 d bit _ h hb _ hr he => hC.step e e1 d bit h hb hr he⟩

theorem raw_total (p0 : Nat) (e : Mqc.Enc) (bit : Nat) (h : Mqc.RawOk p0 e) (hb : bit ≤ 1) :
    ∃ e1, Mqc.bypassEncode e bit = some e1 ∧ Mqc.RawOk p0 e1 := by
  obtain ⟨k, hk, _⟩ := Mqc.ect_nat p0 e h
  obtain ⟨e1, he, h1, _⟩ := Mqc.bypassEncode_spec p0 e h bit k hk hb
  exact ⟨e1, he, h1⟩

theorem rawCoder_seg (p0 : Nat) (Bt : Nat → Nat) (nt drop : Nat) (hfin : Mqc.RawFin p0 Bt nt drop) :
    RawCoder (Mqc.RawOk p0) (Mqc.FR p0 Bt nt) (Mqc.RR p0 Bt nt drop) :=
  ⟨raw_total p0, fun e e1 bit h hb he hf => Mqc.raw_back p0 Bt nt e e1 bit h hb he hf,
    fun e e1 d bit h hb hr he hf => Mqc.raw_step p0 Bt nt drop hfin e e1 d bit h hb hr he hf⟩

/-- the raw coder without a reader: forward run of the encoder -/
theorem rawCoder_fwd (p0 : Nat) : RawCoder (Mqc.RawOk p0) (fun _ => True) (fun _ _ => False) :=
  ⟨raw_total p0, fun _ _ _ _ _ _ _ => True.intro, fun _ _ _ _ _ _ hr _ _ => hr.elim⟩

theorem rawOk_init (e : Mqc.Enc) (h : TermOk e) : Mqc.RawOk e.bp (Mqc.bypassInitEnc e) := by
  have hect : Mqc.ect (Mqc.bypassInitEnc e) = 8 := by unfold Mqc.ect Mqc.bypassInitEnc; simp
  refine ⟨h.bp1, Nat.le_refl _, h.sz, h.bytes, h.marker, h.last, fun _ => ⟨rfl, rfl⟩, by rw [hect]; omega, by rw [hect]; omega,
    by show (0 : Nat) < 256; omega, by show 0 % _ = 0; exact Nat.zero_mod _, fun hh => absurd hh h.last, fun hh => ?_⟩
  have : Mqc.bypassCtInit = 8 := hh
  unfold Mqc.bypassCtInit at this; omega

theorem rawOk_ctx (p0 : Nat) (e : Mqc.Enc) (C : Array Nat) (h : Mqc.RawOk p0 e) : Mqc.RawOk p0 { e with ctx := C } :=
  ⟨h.p1, h.hp, h.sz, h.bytes, h.marker, h.prev, h.init, h.ctlo, h.cthi, h.c8, h.cmod, h.ff, h.first⟩

theorem fr_ctx (p0 : Nat) (Bt : Nat → Nat) (nt : Nat) (e : Mqc.Enc) (C : Array Nat) (h : Mqc.FR p0 Bt nt { e with ctx := C }) :
    Mqc.FR p0 Bt nt e := ⟨h.agree, h.le, h.pend, h.cur⟩

theorem extra_ok (p0 : Nat) (e : Mqc.Enc) (h : Mqc.RawOk p0 e) (erterm : Bool) :
    ∃ x, bypassExtraBytes e erterm = some x ∧ x ≤ 1 := by
  unfold bypassExtraBytes
  by_cases h1 : e.ct < 7
  · rw [if_pos h1]
    exact ⟨1, rfl, Nat.le_refl _⟩
  · rw [if_neg h1]
    by_cases h2 : e.ct = 7
    · rw [if_pos h2]
      cases erterm with
      | true => exact ⟨1, rfl, Nat.le_refl _⟩
      | false =>
        rw [if_neg (by simp)]
        by_cases h3 : e.bp > 0
        · rw [if_pos h3, Mqc.rd_some e.buf (e.bp - 1) (by have := h.sz; omega)]
          by_cases h4 : Mqc.rd e.buf (e.bp - 1) ≠ 0xFF
          · exact ⟨1, by simp only [if_pos h4], Nat.le_refl _⟩
          · exact ⟨0, by simp only [if_neg h4], Nat.zero_le _⟩
        · rw [if_neg h3]
          exact ⟨0, rfl, Nat.zero_le _⟩
    · rw [if_neg h2]
      exact ⟨0, rfl, Nat.zero_le _⟩

/-- encoder invariant inside the raw segment that starts at `p0`: contexts `C` untouched, bytes in front of `p0` frozen -/
def PR (p0 : Nat) (C b0 : Array Nat) (e : Mqc.Enc) : Prop :=
  Mqc.RawOk p0 e ∧ e.ctx = C ∧ ∀ j, j < p0 → Mqc.rd e.buf j = Mqc.rd b0 j

theorem pr_total (p0 : Nat) (C b0 : Array Nat) (e : Mqc.Enc) (bit : Nat) (h : PR p0 C b0 e) (hb : bit ≤ 1) :
    ∃ e1, Mqc.bypassEncode e bit = some e1 ∧ PR p0 C b0 e1 := by
  obtain ⟨k, hk, _⟩ := Mqc.ect_nat p0 e h.1
  obtain ⟨e1, he, h1, hctx, _, hcase⟩ := Mqc.bypassEncode_spec p0 e h.1 bit k hk hb
  refine ⟨e1, he, h1, by rw [hctx]; exact h.2.1, fun j hj => ?_⟩
  rcases hcase with ⟨_, hbuf, _⟩ | ⟨_, _, _, hrd, _⟩
  · rw [hbuf]; exact h.2.2 j hj
  · rw [hrd, if_neg (by have := h.1.hp; omega)]; exact h.2.2 j hj

theorem rawCoderC_seg (p0 : Nat) (Bt : Nat → Nat) (nt drop : Nat) (hfin : Mqc.RawFin p0 Bt nt drop) (C b0 : Array Nat) :
    RawCoder (PR p0 C b0) (Mqc.FR p0 Bt nt) (Mqc.RR p0 Bt nt drop) :=
  ⟨fun e bit h hb => pr_total p0 C b0 e bit h hb,
   fun e e1 bit h hb he hf => Mqc.raw_back p0 Bt nt e e1 bit h.1 hb he hf,
   fun e e1 d bit h hb hr he hf => Mqc.raw_step p0 Bt nt drop hfin e e1 d bit h.1 hb hr he hf⟩

theorem rawCoderC_fwd (p0 : Nat) (C b0 : Array Nat) : RawCoder (PR p0 C b0) (fun _ => True) (fun _ _ => False) :=
  ⟨fun e bit h hb => pr_total p0 C b0 e bit h hb, fun _ _ _ _ _ _ _ => True.intro, fun _ _ _ _ _ _ hr _ _ => hr.elim⟩

theorem startG_raw (es : EncSt) : startG true true es = { es with mq := Mqc.bypassInitEnc es.mq } := by
  unfold startG; simp

/-- `ef`, `Bt`, `nt`, `drop` as `Mqc.raw_flush_facts` gives them for the raw segment, buffer positions `[e.bp, ef.bp)`
(bytes `[e.bp - 1, ef.bp - 1)` of the final stream); `e` is the encoder in front of `BypassInitEnc` -/
theorem rawDec_init (e ef : Mqc.Enc) (hT : TermOk e) (Bt : Nat → Nat) (nt drop : Nat) (hfin : Mqc.RawFin e.bp Bt nt drop)
    (hbpf : ef.bp = e.bp + nt - drop) (hagr : ∀ k, e.bp ≤ k → k < ef.bp → Mqc.rd ef.buf k = Bt k)
    (bytesF : List Nat) (hag : Agree bytesF ef) :
    Mqc.RR e.bp Bt nt drop (Mqc.bypassInitEnc e) (Mqc.Dec.newRaw ((bytesF.take (ef.bp - 1)).drop (e.bp - 1))) := by
  have hp1 := hT.bp1
  have hdle := hfin.dle
  refine Mqc.raw_init e.bp Bt nt drop (Mqc.bypassInitEnc e) (rawOk_init e hT) rfl _ ?_ ?_
  · rw [List.length_drop, List.length_take, Nat.min_eq_left hag.2]; omega
  · intro k hk
    rw [List.getElem?_drop, List.getElem?_take, if_pos (by omega), hag.1 (e.bp - 1 + k) (by omega),
      show e.bp - 1 + k + 1 = e.bp + k by omega, hagr (e.bp + k) (by omega) (by omega)]

section Seg
variable (w h : Nat) (V : Array Int) (hV : ∀ j, (gi V j).natAbs < 2147483648)
include hV

theorem rseg1_lock (orient style bp pi pt : Nat) (hpt : pt ≤ 1) (es : EncSt) (hin : EncOkT w h V es true) :
    ∃ es2 ef es4, passER true w h orient V bp pt (cvE pi pt (startG true true es)) = some es2 ∧
      Mqc.bypassFlushEnc es2.mq (styPterm style) = some ef ∧
      resetE style { es2 with mq := ef } = some es4 ∧
      EncOkT w h V es4 true ∧ SegEnd style (es.mq.bp - 1) es.mq.buf es.mq.ctx es4 ∧
      (∀ (bytesF : List Nat), Agree bytesF es4.mq → ∀ (ds : DecSt), PInv tr w h V (fun _ _ => True) bp pt es ds →
        ∃ ds3, passDV plainR true w h orient bp pt
            { cvD pi pt ds with mq := Mqc.Dec.newRaw ((bytesF.take (es4.mq.bp - 1)).drop (es.mq.bp - 1)) } = some ds3 ∧
          Post tr w h V (fun _ _ => True) bp pt es4 ds3) := by
  rw [startG_raw]
  have hT := hin.term
  obtain ⟨hfs, hds, hcs, _⟩ := hin
  have hr0 := rawOk_init es.mq hT
  have hs1 : EncOkR w h V (PR es.mq.bp es.mq.ctx es.mq.buf) { es with mq := Mqc.bypassInitEnc es.mq } :=
    ⟨hfs, hds, hr0, rfl, fun _ _ => rfl⟩
  obtain ⟨es2, he2, hok2, _, _⟩ := lowpass_lock (rawCoderC_fwd es.mq.bp es.mq.ctx es.mq.buf).bit plainR_holds hV orient bp pi pt hpt _ hs1
  obtain ⟨ef, Bt, nt, drop, hfl, hfin, hfr, hend, hbpf, hagr⟩ := Mqc.raw_flush_facts es.mq.bp es2.mq hok2.coder.1 (styPterm style)
  have hefctx : ef.ctx = es.mq.ctx := by rw [hend.ctx]; exact hok2.coder.2.1
  obtain ⟨C, hre, hCsz, hCok, hC1, hC2⟩ := reset_after style es2.flags ef (by rw [hefctx]; exact hcs) (by rw [hefctx]; exact hT.ctx)
  have hp1 := hT.bp1
  have hE : SegEnd style (es.mq.bp - 1) es.mq.buf es.mq.ctx { es2 with mq := { ef with ctx := C } } := ⟨
    hend.termOk (by have := hend.bp1; omega) C hCok, hCsz, hC1,
    fun hh => by show C = _; rw [hC2 hh, hefctx],
    fun j hj => by have hj' : j < es.mq.bp := by omega
                   rw [hend.frozen j hj']; exact hok2.coder.2.2 j hj',
    by show es.mq.bp - 1 + 1 ≤ ef.bp; have := hend.bp1; omega⟩
  refine ⟨es2, ef, _, he2, hfl, hre, hE.okT hok2.fsz hds, hE, ?_⟩
  intro bytesF hag ds hP
  have hCr := rawCoderC_seg es.mq.bp Bt nt drop hfin es.mq.ctx es.mq.buf
  obtain ⟨es2', he2', _, _, hl2⟩ := lowpass_lock hCr.bit plainR_holds hV orient bp pi pt hpt _ hs1
  obtain rfl : es2' = es2 := Option.some.inj (he2'.symm.trans he2)
  have hrel := rawDec_init es.mq ef hT Bt nt drop hfin hbpf hagr bytesF hag
  obtain ⟨ds2, hd2, hP2⟩ := hl2 hfr _ (hP.transfer { es with mq := Mqc.bypassInitEnc es.mq } rfl _ hrel)
  exact ⟨ds2, by rw [← cvD_mq]; exact hd2, hP2.weaken rfl⟩

theorem rseg2_lock (orient style bp pi : Nat) (es : EncSt) (hin : EncOkT w h V es true) :
    ∃ es2 es3 x1 es4 ef es5, passER true w h orient V bp 0 (cvE pi 0 (startG true true es)) = some es2 ∧
      resetE style es2 = some es3 ∧ bypassExtraBytes es3.mq (styPterm style) = some x1 ∧ x1 ≤ 1 ∧
      es.mq.bp ≤ es3.mq.bp ∧
      passER true w h orient V bp 1 es3 = some es4 ∧
      Mqc.bypassFlushEnc es4.mq (styPterm style) = some ef ∧
      resetE style { es4 with mq := ef } = some es5 ∧
      EncOkT w h V es5 true ∧ SegEnd style (es.mq.bp - 1) es.mq.buf es.mq.ctx es5 ∧
      (∀ (bytesF : List Nat), Agree bytesF es5.mq → ∀ (ds : DecSt), PInv tr w h V (fun _ _ => True) bp 0 es ds →
        ∃ ds2 ds4, passDV plainR true w h orient bp 0
            { cvD pi 0 ds with mq := Mqc.Dec.newRaw ((bytesF.take (es5.mq.bp - 1)).drop (es.mq.bp - 1)) } = some ds2 ∧
          passDV plainR true w h orient bp 1 ds2 = some ds4 ∧
          Post tr w h V (fun _ _ => True) bp 1 es5 ds4) := by
  rw [startG_raw]
  have hT := hin.term
  obtain ⟨hfs, hds, hcs, _⟩ := hin
  have hr0 := rawOk_init es.mq hT
  have hs1 : EncOkR w h V (PR es.mq.bp es.mq.ctx es.mq.buf) { es with mq := Mqc.bypassInitEnc es.mq } :=
    ⟨hfs, hds, hr0, rfl, fun _ _ => rfl⟩
  obtain ⟨es2, he2, hok2, _, _⟩ := lowpass_lock (rawCoderC_fwd es.mq.bp es.mq.ctx es.mq.buf).bit plainR_holds hV orient bp pi 0 (by omega) _ hs1
  obtain ⟨C1, hre1, hC1sz, hC1ok, hC1a, hC1b⟩ := reset_after style es2.flags es2.mq (by rw [hok2.coder.2.1]; exact hcs)
    (by rw [hok2.coder.2.1]; exact hT.ctx)
  have hs3 : EncOkR w h V (PR es.mq.bp C1 es.mq.buf) { flags := es2.flags, mq := { es2.mq with ctx := C1 } } :=
    ⟨hok2.fsz, hds, rawOk_ctx _ _ C1 hok2.coder.1, rfl, hok2.coder.2.2⟩
  obtain ⟨x1, hx1, hx1le⟩ := extra_ok es.mq.bp _ hs3.coder.1 (styPterm style)
  obtain ⟨es4, he4, hok4, _, _⟩ := lowpass_lock (rawCoderC_fwd es.mq.bp C1 es.mq.buf).bit plainR_holds hV orient bp (pi + 1) 1 (by omega) _ hs3
  rw [cvE_one] at he4
  obtain ⟨ef, Bt, nt, drop, hfl, hfin, hfr, hend, hbpf, hagr⟩ := Mqc.raw_flush_facts es.mq.bp es4.mq hok4.coder.1 (styPterm style)
  have hefctx : ef.ctx = C1 := by rw [hend.ctx]; exact hok4.coder.2.1
  obtain ⟨C, hre, hCsz, hCok, hCa, hCb⟩ := reset_after style es4.flags ef (by rw [hefctx]; exact hC1sz) (by rw [hefctx]; exact hC1ok)
  have hp1 := hT.bp1
  have hE : SegEnd style (es.mq.bp - 1) es.mq.buf es.mq.ctx { es4 with mq := { ef with ctx := C } } := ⟨
    hend.termOk (by have := hend.bp1; omega) C hCok, hCsz, hCa,
    fun hh => by show C = _; rw [hCb hh, hefctx, hC1b hh, hok2.coder.2.1],
    fun j hj => by have hj' : j < es.mq.bp := by omega
                   rw [hend.frozen j hj']; exact hok4.coder.2.2 j hj',
    by show es.mq.bp - 1 + 1 ≤ ef.bp; have := hend.bp1; omega⟩
  refine ⟨es2, _, x1, es4, ef, _, he2, hre1, hx1, hx1le, hok2.coder.1.hp, he4, hfl, hre, hE.okT hok4.fsz hds, hE, ?_⟩
  intro bytesF hag ds hP
  obtain ⟨es2', he2', _, hb2, hl2⟩ := lowpass_lock (rawCoderC_seg es.mq.bp Bt nt drop hfin es.mq.ctx es.mq.buf).bit plainR_holds hV orient bp pi 0 (by omega) _ hs1
  obtain rfl : es2' = es2 := Option.some.inj (he2'.symm.trans he2)
  obtain ⟨es4', he4', _, hb4, hl4⟩ := lowpass_lock (rawCoderC_seg es.mq.bp Bt nt drop hfin C1 es.mq.buf).bit plainR_holds hV orient bp (pi + 1) 1 (by omega) _ hs3
  rw [cvE_one] at he4'
  obtain rfl : es4' = es4 := Option.some.inj (he4'.symm.trans he4)
  have hF3 : Mqc.FR es.mq.bp Bt nt ({ es2'.mq with ctx := C1 } : Mqc.Enc) := hb4 hfr
  have hF2 : Mqc.FR es.mq.bp Bt nt es2'.mq := fr_ctx _ _ _ _ C1 hF3
  have hrel := rawDec_init es.mq ef hT Bt nt drop hfin hbpf hagr bytesF hag
  obtain ⟨ds2, hd2, hP2⟩ := hl2 hF2 _ (hP.transfer { es with mq := Mqc.bypassInitEnc es.mq } rfl _ hrel)
  -- the reader does not see the context reset between the two passes
  have hrel2 : Mqc.RR es.mq.bp Bt nt drop es2'.mq ds2.mq := by obtain ⟨_, hL2, _⟩ := hP2; exact hL2.rel
  obtain ⟨ds4, hd4, hP4⟩ := hl4 hfr ds2 ((post_succ hP2).transfer { flags := es2'.flags, mq := { es2'.mq with ctx := C1 } } rfl _ hrel2)
  rw [cvD_one] at hd4
  exact ⟨ds2, ds4, by rw [← cvD_mq]; exact hd2, hd4, hP4.weaken rfl⟩
end Seg

section Step
variable (w h : Nat) (V : Array Int) (hV : ∀ j, (gi V j).natAbs < 2147483648)
include hV

theorem rstep1_lock (orient style mb np : Nat) (u : Bool) (f : Nat) (es : EncSt) (pi : Nat)
    (hin : EncOkT w h V es true) (hi : pi < 3 * mb + 1) (hpt : typeOf pi ≤ 1) (hc : pi < np) (hpi : 0 < pi)
    (hraw : rawAt style mb pi = true) (hterm : termAt style mb pi = true) :
    ∃ es4, SegLock w h V orient style mb np u f es true pi 0 [] es4 := by
  obtain ⟨hp, _, _, h3⟩ := idx_next mb pi hi
  have h3 := h3 (by omega)
  unfold rawAt at hraw
  unfold termAt at hterm
  -- the positions of the segment as the loop variables `(bp, pi, pt)`, in which the raw segment lemmas speak
  generalize hbp : planeOf mb pi = bp at hraw hterm hp h3
  generalize hpt' : typeOf pi = pt at hpt hraw hterm h3
  obtain ⟨hbpr, hbp1, _⟩ := restartT hin
  obtain ⟨es2, ef, es4, he2, hfl, hre, hok4, hE, hlock⟩ := rseg1_lock w h V hV orient style bp pi pt hpt es hin
  rw [← hbpr] at hE
  refine ⟨es4, rfl, ?_, fun x hx => absurd hx (by simp), hok4, hE.grow, fun _ hh => by omega, hE.frozen, ?_⟩
  · intro acc
    rw [hp, hpt', h3.1, h3.2]
    rw [encLoopL_stepG w h orient style V mb np f es bp pi pt true acc (by omega) hc hraw hterm, cv_startG, he2]
    unfold termG rateG
    simp only [Option.bind_some, Option.map_some, segE_low style pt hpt, if_true, hfl, hre]
    rw [if_neg (by omega), numBytes_eq es4.mq hE.term.bp1, List.append_nil]
  · intro bytesF PL hag hPL hpiL s hs hP
    have hPL : PL[pi]? = some (es4.mq.bp - 1) := hPL
    have hpiL : pi < PL.length := hpiL
    simp only [Nat.add_zero]
    rw [hbp, hp, hpt', h3.1, h3.2] at *
    obtain ⟨ds3, hd3, hPost⟩ := hlock bytesF hag s.st hP
    refine ⟨_, DecAt.next hok4 (by omega) ds3 s.prevCtx hE (hs.ctxK hpi), hPost, ?_⟩
    rw [decLoopL_stepG w h orient style u (styReset style) (mb : Int) PL bytesF f s bp pi pt (by omega) hpiL hraw,
      hs.coder hE hag (segLast_term _ _ _ _ _ _ (by rw [hterm]; simp)) hPL, hbpr]
    simp only [if_true, hd3, Option.bind_some, segD_low style pt hpt, hterm, Bool.or_true, not_true_eq_false, false_and, if_false]
    rw [if_neg (by omega)]

theorem rstep2_lock (orient style mb np : Nat) (u : Bool) (f : Nat) (es : EncSt) (pi : Nat)
    (hin : EncOkT w h V es true) (hi : pi < 3 * mb + 1) (hpt0 : typeOf pi = 0) (hc : pi + 1 < np) (hpi : 0 < pi)
    (hraw0 : rawAt style mb pi = true) (hterm0 : termAt style mb pi = false)
    (hraw1 : rawAt style mb (pi + 1) = true) (hterm1 : termAt style mb (pi + 1) = true) (hu : u = false) :
    ∃ r1 es5, SegLock w h V orient style mb np u f es true pi 1 [(r1, false)] es5 := by
  have hp := (idx_next mb pi hi).1
  have e1 : planeOf mb (pi + 1) = planeOf mb pi ∧ typeOf (pi + 1) = 1 ∧ planeI mb (pi + 1 + 1) = ((planeOf mb pi : Nat) : Int) ∧
      typeOf (pi + 1 + 1) = 2 := by unfold typeOf at hpt0; unfold planeOf typeOf planeI; omega
  unfold rawAt at hraw0 hraw1
  unfold termAt at hterm0 hterm1
  rw [hpt0] at hraw0 hterm0
  rw [e1.1, e1.2.1] at hraw1 hterm1
  obtain ⟨e11, e12, e13, e14⟩ := e1
  generalize hbp : planeOf mb pi = bp at hraw0 hterm0 hraw1 hterm1 hp e11 e13
  obtain ⟨hbpr, hbp1, _⟩ := restartT hin
  obtain ⟨es2, es3, x1, es4, ef, es5, he2, hre1, hx1, hx1le, hle3, he4, hfl, hre, hok5, hE, hlock⟩ :=
    rseg2_lock w h V hV orient style bp pi es hin
  rw [← hbpr] at hE
  refine ⟨numBytes es3.mq + x1, es5, rfl, ?_, ?_, hok5, hE.grow, fun _ hh => absurd (hpt0.symm.trans hh) (by decide),
    hE.frozen, ?_⟩
  · intro acc
    rw [hp, hpt0, e13, e14]
    rw [encLoopL_stepG w h orient style V mb np (f + 1) es bp pi 0 true acc (by omega) (by omega) hraw0 hterm0, cv_startG, he2]
    unfold termG rateG
    simp only [Option.bind_some, Option.map_some, segE_low style 0 (Nat.zero_le 1), Bool.false_eq_true, if_false, if_true,
      hre1, hx1, Nat.zero_add]
    rw [if_neg (by decide), encLoopL_stepG w h orient style V mb np f es3 bp (pi + 1) 1 false _ (by omega) hc hraw1 hterm1]
    rw [cvE_one, show startG true false es3 = es3 from rfl, he4]
    unfold termG rateG
    simp only [Option.bind_some, Option.map_some, segE_low style 1 (Nat.le_refl 1), if_true, hfl, hre]
    rw [if_neg (by decide), numBytes_eq es5.mq hE.term.bp1]
  · intro x hx
    rw [List.mem_singleton.mp hx]
    exact ⟨rfl, by rw [hbpr]; show es.mq.bp - 1 ≤ numBytes es3.mq + x1; rw [numBytes_eq es3.mq (by omega)]; omega⟩
  · intro bytesF PL hag hPL hpiL s hs hP
    rw [hbp, hpt0] at hP
    rw [e11, e12, hp, hpt0, e13, e14]
    obtain ⟨ds2, ds4, hd2, hd4, hPost⟩ := hlock bytesF hag s.st hP
    refine ⟨_, DecAt.next hok5 (by omega) ds4 s.prevCtx hE (hs.ctxK hpi), hPost, ?_⟩
    have hsl : segLast (fun b p => u || J2kT1.isTerminatingPass b (mb : Int) (p : Int) (style : Int)) PL.length PL.length pi
        (bp : Int) 0 = pi + 1 := by
      obtain ⟨L, hL⟩ : ∃ L, PL.length = L + 1 := ⟨PL.length - 1, by omega⟩
      rw [hL, segLast_next _ _ _ _ _ _ (by rw [hterm0, hu]; rfl) (by omega), if_neg (by omega)]
      exact segLast_term _ _ _ _ _ _ (by rw [hterm1]; simp)
    rw [decLoopL_stepG w h orient style u (styReset style) (mb : Int) PL bytesF (f + 1) s bp pi 0 (by omega) (by omega) hraw0,
      hs.coder hE hag hsl hPL, hbpr]
    simp only [if_true, hd2, Option.bind_some, segD_low style 0 (Nat.zero_le 1), hterm0, hu, Bool.or_self, not_true_eq_false,
      false_and, if_false, Nat.zero_add]
    rw [if_neg (by omega), decLoopL_stepG w h orient style false (styReset style) (mb : Int) PL bytesF f _ bp (pi + 1) 1
      (Nat.le_succ 1) (by omega) hraw1, coderG_raw_cont _ _ _ _ _ _ _ _ _ rfl]
    simp only []
    rw [cvD_one, show ({ ds2 with mq := ds2.mq } : DecSt) = ds2 from rfl, hd4]
    simp only [Option.bind_some, segD_low style 1 (Nat.le_refl 1), hterm1, Bool.or_true, not_true_eq_false, false_and, if_false]
    rw [if_neg (by omega)]
end Step


end T1
