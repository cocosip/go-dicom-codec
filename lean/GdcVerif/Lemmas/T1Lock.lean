import GdcVerif.Lemmas.T1Model
import GdcVerif.Lemmas.T1DecG
import GdcVerif.Lemmas.MqcRoundtrip2
import GdcVerif.Lemmas.GoBits
/-!
  The EBCOT T1 coding passes of `Model/T1.lean`, encoder against decoder.

  Encoder and decoder are walked in lock-step.  Invariant: equal flag arrays; the decoder's coefficient at
  sample `j` is the encoder's coefficient truncated below the level `lev j ∈ {bp, bp+1}` (ghost function);
  `j` is significant iff its magnitude has a bit at or above `lev j`.  Every coding decision is one decision of a
  bit coder whose context both sides compute from the shared flags.  The coder is abstract (`BitCoder`): the decoder
  returns the encoder's bit given facts `F` at the encoder's post-decision state, and these travel backwards through
  a decision, so every lemma here has the shape "the encoder run succeeds; `F` after it gives `F` before it; given
  `F` after it, the decoder run succeeds in lock-step".  For the MQ coder `F` is `Mqc.FE`, obtained from the
  termination (`T1.coder_seg` in `Lemmas/T1SegFrame.lean`, from `Mqc.decode_rel` and `Mqc.encode_back`).
  Which samples are at level `bp` already is read off the flags between the passes (`VisLev`, `SigOld`, `SigDone`);
  inside the refinement and the cleanup pass no flag tells, and the invariant names the samples still to be scanned
  as a list (`MrInv`, `CInv`) that loses its head with every sample.

  The passes are proved for the decoder of `Lemmas/T1DecG.lean`, whose stored values are a parameter: `LS val` is
  the invariant with "truncated" read as `val (lev j)`, and `Recon.Holds` (there) says what the reconstruction rule
  must satisfy for it; the plain decoder is the case `val = tr`.  The significance and refinement passes are those of
  `Model/T1Layered.lean` with the `raw` switch, proved over a `BitCoder`: the MQ coder, or the bypass coder of the
  LAZY mode, which writes the same decisions as plain bits.
-/
namespace T1
open Gen

theorem encBit_false (e : Mqc.Enc) (bit cx : Nat) : encBit false e bit cx = Mqc.encode e bit cx := rfl

theorem decBit_false (d : Mqc.Dec) (cx : Nat) : decBit false d cx = Mqc.decode d cx := rfl

theorem encSignR_false (w : Nat) (data : Array Int) (st : EncSt) (f x y idx : Nat) :
    encSignR false w data st f x y idx = encSign w data st f x y idx := rfl

theorem encSigPropR_false (w h orient bp : Nat) (data : Array Int) (st : EncSt) :
    encSigPropR false w h orient bp data st = encSigProp w h orient bp data st := rfl

theorem encMagRefR_false (w h bp : Nat) (data : Array Int) (st : EncSt) :
    encMagRefR false w h bp data st = encMagRef w h bp data st := rfl

theorem decSignR_false (w bp : Nat) (st : DecSt) (f x y idx : Nat) :
    decSignR false w bp st f x y idx = decSign w bp st f x y idx := rfl

theorem decSigPropR_false (w h orient bp : Nat) (st : DecSt) :
    decSigPropR false w h orient bp st = decSigProp w h orient bp st := rfl

theorem decMagRefR_false (w h bp : Nat) (st : DecSt) :
    decMagRefR false w h bp st = decMagRef w h bp st := rfl

/-- `Encode(bit, ctx)` or, under `raw`, `BypassEncode(bit)`, as the significance and refinement passes use them:
an invariant `P` of the encoder, facts `F` about encoder states that travel backwards through a decision, and a
relation `R` between encoder and decoder states under which the decoder returns the encoder's bit -/
structure BitCoder (raw : Bool) (P F : Mqc.Enc → Prop) (R : Mqc.Enc → Mqc.Dec → Prop) : Prop where
  total : ∀ (e : Mqc.Enc) (bit cx : Nat), P e → bit ≤ 1 → cx < 19 → ∃ e1, encBit raw e bit cx = some e1 ∧ P e1
  back : ∀ (e e1 : Mqc.Enc) (bit cx : Nat), P e → bit ≤ 1 → cx < 19 → encBit raw e bit cx = some e1 → F e1 → F e
  step : ∀ (e e1 : Mqc.Enc) (d : Mqc.Dec) (bit cx : Nat), P e → bit ≤ 1 → cx < 19 → R e d →
    encBit raw e bit cx = some e1 → F e1 → ∃ d1, decBit raw d cx = some (bit, d1) ∧ R e1 d1

abbrev Coder (F : Mqc.Enc → Prop) (R : Mqc.Enc → Mqc.Dec → Prop) : Prop := BitCoder false MqOk F R

theorem Coder.mq {F : Mqc.Enc → Prop} {R : Mqc.Enc → Mqc.Dec → Prop}
    (back : ∀ (e e1 : Mqc.Enc) (bit cx : Nat), Mqc.RegOk e → 0x8000 ≤ e.a → cx < e.ctx.size →
      Mqc.encode e bit cx = some e1 → F e1 → F e)
    (step : ∀ (e e1 : Mqc.Enc) (d : Mqc.Dec) (bit cx : Nat), Mqc.RegOk e → 0x8000 ≤ e.a → bit ≤ 1 → cx < e.ctx.size →
      R e d → Mqc.encode e bit cx = some e1 → F e1 → ∃ d1, Mqc.decode d cx = some (bit, d1) ∧ R e1 d1) :
    Coder F R where
  total e bit cx h _ hcx := by
    obtain ⟨e1, he, hr, hn, hsz, _⟩ := Mqc.encode_spec e bit cx h.1 h.2.1 (by rw [h.2.2]; exact hcx)
    exact ⟨e1, he, hr, hn, by rw [hsz]; exact h.2.2⟩
  back e e1 bit cx h _ hcx he := back e e1 bit cx h.1 h.2.1 (by rw [h.2.2]; exact hcx) he
  step e e1 d bit cx h hb hcx hr he := step e e1 d bit cx h.1 h.2.1 hb (by rw [h.2.2]; exact hcx) hr he

/-- the flag updates of a sample that becomes significant with sign bit `sign`, the same text in encoder and decoder -/
def signFlags (w : Nat) (fl : Array Nat) (x y idx sign : Nat) : Option (Array Nat) :=
  (if sign ≠ 0 then orAt fl idx fSign else some fl).bind fun fl =>
    (orAt fl idx fSig).bind fun fl => updateNeighborFlags w fl x y idx

theorem signFlags_ok (w h : Nat) (fl : Array Nat) (x y sign : Nat) (hx : x < w) (hy : y < h)
    (hsz : fl.size = (w + 2) * (h + 2)) :
    ∃ fl', signFlags w fl x y (idxOf w x y) sign = some fl' ∧ fl'.size = fl.size ∧
      (∀ j, sigA fl' j = (sigA fl j || decide (j = idxOf w x y))) ∧ ∀ j, visA fl' j = visA fl j := by
  have hiF : idxOf w x y < fl.size := by rw [hsz]; exact idx_lt w h x y hx hy
  obtain ⟨fl1, e1, s1⟩ : ∃ fl1, (if sign ≠ 0 then orAt fl (idxOf w x y) fSign else some fl) = some fl1 ∧
      fl1.size = fl.size := by
    split
    · exact orAt_ok _ _ _ hiF
    · exact ⟨_, rfl, rfl⟩
  have hfl1 : ∀ j, sigA fl1 j = sigA fl j ∧ visA fl1 j = visA fl j := by
    intro j
    split at e1
    · exact ⟨orAt_sig _ _ _ _ e1 (by decide) j, orAt_vis _ _ _ _ e1 (by decide) j⟩
    · cases e1; exact ⟨rfl, rfl⟩
  obtain ⟨fl2, e2, s2⟩ := orAt_ok fl1 (idxOf w x y) fSig (by rw [s1]; exact hiF)
  obtain ⟨fl3, e3, s3⟩ := updateNeighborFlags_ok w h fl2 x y (by rw [s2, s1, hsz]) hx hy
  have hf3 := unf_sig_vis w fl2 fl3 x y _ e3
  refine ⟨fl3, by unfold signFlags; rw [e1, Option.bind_some, e2, Option.bind_some, e3], by rw [s3, s2, s1], ?_, ?_⟩
  · intro j
    rw [(hf3.2 j).1]
    unfold sigA
    rw [orAt_has fl1 fl2 _ _ e2 j fSig]
    have := (hfl1 j).1; unfold sigA at this; rw [this]
    simp [has, fSig]
  · intro j
    rw [(hf3.2 j).2, orAt_vis _ _ _ _ e2 (by decide) j, (hfl1 j).2]

/-- the bit the coder sees for a sign bit `b` under prediction `sp` -/
def signCode (raw : Bool) (sp b : Nat) : Nat := if raw then b else b ^^^ sp

theorem signCode_spec (raw : Bool) (sp b : Nat) (hb : b ≤ 1) (hp : sp ≤ 1) :
    signCode raw sp (signCode raw sp b) = b ∧ signCode raw sp b ≤ 1 := by
  unfold signCode
  cases raw
  · exact Nat.xor_cancel_bit b sp hb hp
  · exact ⟨rfl, hb⟩

theorem encSignR_run {raw : Bool} {w : Nat} {V : Array Int} {es : EncSt} {f x y idx sc sp : Nat} {mq : Mqc.Enc}
    {fl' : Array Nat} (hi : idx < V.size) (hsc : scCtx f = some sc) (hsp : spb f = some sp)
    (em : encBit raw es.mq (signCode raw sp (if gi V idx < 0 then 1 else 0)) sc = some mq)
    (hfl : signFlags w es.flags x y idx (if gi V idx < 0 then 1 else 0) = some fl') :
    encSignR raw w V es f x y idx = some { flags := fl', mq := mq } := by
  unfold encBit signCode at em
  unfold signFlags at hfl
  unfold encSignR
  rw [gi_some hi]
  by_cases hv : gi V idx < 0 <;> cases raw <;>
    simp only [hv, if_true, if_false, Bool.false_eq_true, Option.bind_eq_bind, Option.bind_some, hsc, hsp,
      Option.bind_eq_some_iff, ne_eq, Nat.one_ne_zero, not_false_eq_true, not_true_eq_false] at em hfl ⊢
  · obtain ⟨a, h1, b, h2, h3⟩ := hfl; exact ⟨a, h1, mq, em, b, h2, fl', h3, rfl⟩
  · obtain ⟨a, h1, b, h2, h3⟩ := hfl; exact ⟨a, h1, mq, em, b, h2, fl', h3, rfl⟩
  · obtain ⟨a, h2, h3⟩ := hfl; exact ⟨mq, em, a, h2, fl', h3, rfl⟩
  · obtain ⟨a, h2, h3⟩ := hfl; exact ⟨mq, em, a, h2, fl', h3, rfl⟩

theorem decSignG_run {rc : Recon} {raw : Bool} {w bp : Nat} {ds : DecSt} {f x y idx sc sp b : Nat} {d1 : Mqc.Dec}
    (hsc : scCtx f = some sc) (hsp : spb f = some sp) (hd : decBit raw ds.mq sc = some (b, d1))
    (hi : idx < ds.data.size) :
    decSignG rc raw w bp ds f x y idx = (signFlags w ds.flags x y idx (signCode raw sp b)).map fun fl =>
      { flags := fl, data := ds.data.setIfInBounds idx (rc.sig bp (signCode raw sp b)), mq := d1 } := by
  unfold decSignG decSignTail signFlags signCode
  unfold decBit at hd
  cases raw <;>
    simp only [Bool.false_eq_true, if_false, if_true, Option.bind_eq_bind, hsc, hsp, Option.bind_some] at hd ⊢ <;>
    simp only [hd, Option.bind_some, if_neg (Nat.not_le.mpr hi), ge_iff_le, Option.map_eq_bind,
      Option.bind_assoc, Function.comp_def] <;>
    split <;> rfl

theorem filter_ge (pos : Nat) (h : pos < 4) :
    (List.range 4).filter (fun dy => pos ≤ dy) = pos :: (List.range 4).filter (fun dy => pos < dy) := by
  have : pos = 0 ∨ pos = 1 ∨ pos = 2 ∨ pos = 3 := by omega
  rcases this with rfl | rfl | rfl | rfl <;> decide

theorem col_split {h k : Nat} (hk : k + 3 < h) (n : Nat) (hn : n ≤ 4) :
    (List.range 4).filter (fun dy => k + dy < h) = List.range n ++ (List.range 4).filter (fun dy => n ≤ dy) := by
  rw [List.filter_eq_self.mpr fun dy hdy => by have := List.mem_range.mp hdy; simp; omega]
  have : n = 0 ∨ n = 1 ∨ n = 2 ∨ n = 3 ∨ n = 4 := by omega
  rcases this with rfl | rfl | rfl | rfl | rfl <;> decide

theorem runlen_eq (pos : Nat) (h : pos < 4) : (pos >>> 1) % 2 * 2 + pos % 2 = pos := by
  rw [Nat.shiftRight_eq_div_pow]; omega

def upd (lev : Nat → Nat) (i v : Nat) : Nat → Nat := fun j => if j = i then v else lev j

theorem upd_self (lev : Nat → Nat) (i v : Nat) : upd lev i v i = v := if_pos rfl

theorem upd_ne (lev : Nat → Nat) {i j : Nat} (v : Nat) (h : j ≠ i) : upd lev i v j = lev j := if_neg h

variable {val : Nat → Int → Int} {w h : Nat} {V : Array Int} {R : Mqc.Enc → Mqc.Dec → Prop} {bp : Nat} {lev : Nat → Nat}
  {fl fl' : Array Nat} {D : Array Int} {es : EncSt} {ds : DecSt} {rem : List Nat}

/-- sample `j` has been coded down to plane `lev j ∈ {bp, bp+1}`: the decoder holds `val (lev j)` of the coefficient
and the significance flag says whether a magnitude bit at or above that plane exists -/
structure Smp (val : Nat → Int → Int) (V : Array Int) (bp : Nat) (lev : Nat → Nat) (fl : Array Nat) (D : Array Int)
    (j : Nat) : Prop where
  plane : lev j = bp ∨ lev j = bp + 1
  value : gi D j = val (lev j) (gi V j)
  sig : sigA fl j = true ↔ (gi V j).natAbs / 2 ^ lev j ≠ 0

theorem Smp.frame {lev' : Nat → Nat} {D' : Array Int} {j : Nat}
    (hs : Smp val V bp lev fl D j) (h1 : lev' j = lev j) (h2 : sigA fl' j = sigA fl j) (h3 : gi D' j = gi D j) :
    Smp val V bp lev' fl' D' j :=
  ⟨by rw [h1]; exact hs.plane, by rw [h1, h3]; exact hs.value, by rw [h1, h2]; exact hs.sig⟩

theorem Smp.nonsig {j : Nat} (hs : Smp val V bp lev fl D j) (hns : sigA fl j = false) : (gi V j).natAbs / 2 ^ lev j = 0 :=
  Decidable.byContradiction fun h0 => by rw [hs.sig.mpr h0] at hns; cases hns

/-- encoder state `es` and decoder state `ds` at the same point of the same pass of plane `bp` -/
structure LS (val : Nat → Int → Int) (w h : Nat) (V : Array Int) (R : Mqc.Enc → Mqc.Dec → Prop) (bp : Nat)
    (lev : Nat → Nat) (es : EncSt) (ds : DecSt) : Prop where
  fl : ds.flags = es.flags
  dsz : ds.data.size = (w + 2) * (h + 2)
  rel : R es.mq ds.mq
  smp : ∀ j, InB w h j → Smp val V bp lev es.flags ds.data j

theorem LS.down {rc : Recon} {δ bound : Nat} (hT : rc.Holds δ bound val)
    (hL : LS val w h V R bp lev es ds) (idx : Nat) (hin : InB w h idx) (hns : sigA es.flags idx = false)
    (hb0 : magBit (gi V idx) bp = 0) : LS val w h V R bp (upd lev idx bp) es ds := by
  refine ⟨hL.fl, hL.dsz, hL.rel, ?_⟩
  intro j hj
  by_cases hji : j = idx
  · subst hji
    have hsm := hL.smp j hj
    have hl := upd_self lev j bp
    have hz := hsm.nonsig hns
    have hz' := nonsig_down _ bp _ hsm.plane hz (by rw [← magBit_eq]; exact hb0)
    refine ⟨Or.inl hl, ?_, ?_⟩
    · rw [hl, hsm.value, hT.zero _ _ hz, hT.zero _ _ hz']
    · rw [hl, hns, hz']; simp
  · exact (hL.smp j hj).frame (upd_ne lev bp hji) rfl rfl

theorem smp_upd (idx : Nat) {v : Int} (hD : idx < D.size) (hS : ∀ j, InB w h j → Smp val V bp lev fl D j)
    (hsig : ∀ j, j ≠ idx → sigA fl' j = sigA fl j) (hv : v = val bp (gi V idx))
    (hs : sigA fl' idx = true ↔ (gi V idx).natAbs / 2 ^ bp ≠ 0) :
    ∀ j, InB w h j → Smp val V bp (upd lev idx bp) fl' (D.setIfInBounds idx v) j := by
  intro j hj
  by_cases hji : j = idx
  · subst hji
    refine ⟨Or.inl (upd_self lev j bp), ?_, ?_⟩
    · rw [gi_set _ _ _ _ hD, if_pos rfl, upd_self]; exact hv
    · rw [upd_self]; exact hs
  · exact (hS j hj).frame (upd_ne lev bp hji) (hsig j hji) (by rw [gi_set _ _ _ _ hD, if_neg hji])

def VisLev (w h bp : Nat) (lev : Nat → Nat) (fl : Array Nat) : Prop :=
  ∀ j, InB w h j → visA fl j = true → lev j = bp

def SigOld (w h bp : Nat) (lev : Nat → Nat) (fl : Array Nat) : Prop :=
  ∀ j, InB w h j → sigA fl j = true → visA fl j = false → lev j = bp + 1

theorem visited_upd {fl0 : Array Nat} (idx : Nat)
    (hv : VisLev w h bp lev fl0) (hso : SigOld w h bp lev fl0)
    (hvis : ∀ j, visA fl j = (visA fl0 j || decide (j = idx))) (hsig : ∀ j, j ≠ idx → sigA fl j = sigA fl0 j) :
    VisLev w h bp (upd lev idx bp) fl ∧ SigOld w h bp (upd lev idx bp) fl := by
  refine ⟨fun j hj hvj => ?_, fun j hj hsj hvj => ?_⟩
  · unfold upd
    by_cases hji : j = idx
    · rw [if_pos hji]
    · rw [if_neg hji]
      rw [hvis] at hvj
      exact hv j hj (by simpa [hji] using hvj)
  · rw [hvis] at hvj
    by_cases hji : j = idx
    · simp [hji] at hvj
    · rw [upd_ne lev bp hji]
      rw [hsig j hji] at hsj
      exact hso j hj hsj (by simpa [hji] using hvj)

def SigDone (w h bp : Nat) (lev : Nat → Nat) (fl : Array Nat) : Prop :=
  ∀ j, InB w h j → sigA fl j = true → lev j = bp

/-- invariant of the refinement pass; `rem`: the samples still to be scanned, each of them once.  The pass has no
flag of its own for "refined in this plane" (`fRefine` stays set for good), so the list tells -/
structure MrInv (w h bp : Nat) (rem : List Nat) (lev : Nat → Nat) (fl : Array Nat) : Prop where
  vis : VisLev w h bp lev fl
  ref : ∀ j, InB w h j → sigA fl j = true → visA fl j = false → (lev j = bp + 1 ↔ j ∈ rem)
  nd : rem.Nodup

theorem MrInv.skip {idx : Nat}
    (hm : MrInv w h bp (idx :: rem) lev fl) (hs : sigA fl idx = true → visA fl idx = true) :
    MrInv w h bp rem lev fl := by
  refine ⟨hm.vis, fun j hj hsj hvj => ?_, (List.nodup_cons.mp hm.nd).2⟩
  have hji : j ≠ idx := fun e => by rw [e] at hsj hvj; rw [hs hsj] at hvj; exact absurd hvj (by simp)
  rw [hm.ref j hj hsj hvj]; simp [hji]

theorem MrInv.step {idx : Nat}
    (hm : MrInv w h bp (idx :: rem) lev fl) (hsig : ∀ j, sigA fl' j = sigA fl j)
    (hvis : ∀ j, visA fl' j = visA fl j) : MrInv w h bp rem (upd lev idx bp) fl' := by
  obtain ⟨hni, hnd⟩ := List.nodup_cons.mp hm.nd
  refine ⟨fun j hj hvj => ?_, fun j hj hsj hvj => ?_, hnd⟩
  · unfold upd; split
    · rfl
    · rw [hvis] at hvj; exact hm.vis j hj hvj
  · rw [hsig] at hsj; rw [hvis] at hvj
    unfold upd; split
    · rename_i e; rw [e]; exact ⟨fun hh => absurd hh (by omega), fun hh => absurd hh hni⟩
    · rename_i hji; rw [hm.ref j hj hsj hvj]; simp [hji]

/-- invariant of the cleanup pass; `rem`: the samples still to be scanned -/
structure CInv (w h bp : Nat) (rem : List Nat) (lev : Nat → Nat) (fl : Array Nat) : Prop where
  vis : VisLev w h bp lev fl
  sig : SigDone w h bp lev fl
  rest : ∀ j, InB w h j → j ∈ rem ∨ lev j = bp

theorem CInv.lower (idx : Nat)
    (hc : CInv w h bp rem lev fl) (hsig : ∀ j, j ≠ idx → sigA fl' j = sigA fl j)
    (hvis : ∀ j, visA fl' j = visA fl j) : CInv w h bp rem (T1.upd lev idx bp) fl' := by
  refine ⟨?_, ?_, ?_⟩
  · intro j hj hv; unfold T1.upd; split
    · rfl
    · rw [hvis] at hv; exact hc.vis j hj hv
  · intro j hj hv; unfold T1.upd; split
    · rfl
    · rename_i hji; rw [hsig j hji] at hv; exact hc.sig j hj hv
  · intro j hj; unfold T1.upd; split
    · exact Or.inr rfl
    · exact hc.rest j hj

theorem CInv.tail {idx : Nat}
    (hc : CInv w h bp (idx :: rem) lev fl) (hlev : lev idx = bp) : CInv w h bp rem lev fl :=
  ⟨hc.vis, hc.sig, fun j hj => (hc.rest j hj).elim
    (fun hm => (List.mem_cons.mp hm).elim (fun e => Or.inr (by rw [e]; exact hlev)) Or.inl) Or.inr⟩

theorem clear_lock
    (hL : LS val w h V R bp lev es ds) (idx : Nat) (hi : idx < es.flags.size) (rem : List Nat)
    (hC : CInv w h bp (idx :: rem) lev es.flags) (hlev : lev idx = bp) :
    LS val w h V R bp lev { flags := es.flags.setIfInBounds idx (clr (gf es.flags idx) fVisit), mq := es.mq }
      { flags := es.flags.setIfInBounds idx (clr (gf es.flags idx) fVisit), data := ds.data, mq := ds.mq } ∧
    CInv w h bp rem lev (es.flags.setIfInBounds idx (clr (gf es.flags idx) fVisit)) := by
  obtain ⟨hsg, hvs⟩ := clrvis_eff es.flags idx hi
  rw [← gf_get _ _ hi] at hsg hvs
  refine ⟨⟨rfl, hL.dsz, hL.rel, fun j hj => (hL.smp j hj).frame rfl (hsg j) rfl⟩, ?_, ?_, (hC.tail hlev).rest⟩
  · intro j hj hv
    rw [hvs] at hv
    exact hC.vis j hj (by simp at hv; exact hv.1)
  · intro j hj hv
    rw [hsg] at hv
    exact hC.sig j hj hv

theorem down_list {rc : Recon} {δ bound : Nat} (hT : rc.Holds δ bound val)
    (rem : List Nat) : ∀ (js : List Nat) (lev : Nat → Nat),
    (∀ j ∈ js, InB w h j ∧ sigA es.flags j = false ∧ magBit (gi V j) bp = 0) →
    LS val w h V R bp lev es ds → CInv w h bp (js ++ rem) lev es.flags →
    ∃ lev', LS val w h V R bp lev' es ds ∧ CInv w h bp rem lev' es.flags := by
  intro js
  induction js with
  | nil => intro lev _ hL hC; exact ⟨lev, hL, hC⟩
  | cons a js ih =>
    intro lev hjs hL hC
    obtain ⟨ha1, ha2, ha3⟩ := hjs a List.mem_cons_self
    exact ih (upd lev a bp) (fun j hj => hjs j (List.mem_cons_of_mem _ hj)) (hL.down hT a ha1 ha2 ha3)
      ((hC.lower a (fun _ _ => rfl) fun _ => rfl).tail (upd_self lev a bp))

section Any
variable {raw : Bool} {P F : Mqc.Enc → Prop} (hC : BitCoder raw P F R) {rc : Recon} {δ bound : Nat} (hT : rc.Holds δ bound val)
  (hV : ∀ j, (gi V j).natAbs < bound)
include hC hT hV

omit hT hV in
/-- `fl` are the flags after the decision, the significance bits as before -/
theorem bit_lock (bp : Nat) (es : EncSt) (hs : EncOkR w h V P es) (bit cx : Nat) (hbit : bit ≤ 1) (hcx : cx < 19) :
    ∃ mq, encBit raw es.mq bit cx = some mq ∧ P mq ∧ (F mq → F es.mq) ∧
      (F mq → ∀ (ds : DecSt) (lev : Nat → Nat) (fl : Array Nat), LS val w h V R bp lev es ds →
        (∀ j, sigA fl j = sigA es.flags j) →
        ∃ d1, decBit raw ds.mq cx = some (bit, d1) ∧
          LS val w h V R bp lev { flags := fl, mq := mq } { flags := fl, data := ds.data, mq := d1 }) := by
  obtain ⟨mq, em, hm⟩ := hC.total es.mq bit cx hs.coder hbit hcx
  refine ⟨mq, em, hm, hC.back es.mq mq bit cx hs.coder hbit hcx em, fun hF ds lev fl hL hfs => ?_⟩
  obtain ⟨d1, hd1, hrel1⟩ := hC.step es.mq mq ds.mq bit cx hs.coder hbit hcx hL.rel em hF
  exact ⟨d1, hd1, rfl, hL.dsz, hrel1, fun j hj => (hL.smp j hj).frame rfl (hfs j) rfl⟩

theorem sign_lock (bp : Nat) (es : EncSt) (hs : EncOkR w h V P es) (f x y : Nat) (hx : x < w) (hy : y < h) :
    ∃ es', encSignR raw w V es f x y (idxOf w x y) = some es' ∧ EncOkR w h V P es' ∧
      (F es'.mq → F es.mq) ∧
      (∀ j, j ≠ idxOf w x y → sigA es'.flags j = sigA es.flags j) ∧
      (∀ j, visA es'.flags j = visA es.flags j) ∧
      (F es'.mq → ∀ (ds : DecSt) (lev : Nat → Nat), LS val w h V R bp lev es ds →
        sigA es.flags (idxOf w x y) = false → magBit (gi V (idxOf w x y)) bp = 1 →
        ∃ ds', decSignG rc raw w (bp + δ) ds f x y (idxOf w x y) = some ds' ∧
          LS val w h V R bp (upd lev (idxOf w x y) bp) es' ds') := by
  have hi := idx_lt w h x y hx hy
  have hiV : idxOf w x y < V.size := by rw [hs.dsz]; exact hi
  obtain ⟨sc, esc, _, hsc⟩ := scCtx_ok f
  obtain ⟨sp, esp, hsp⟩ := spb_ok f
  have hsb : (if gi V (idxOf w x y) < 0 then 1 else 0 : Nat) ≤ 1 := by split <;> omega
  obtain ⟨hun, hcb⟩ := signCode_spec raw sp _ hsb hsp
  obtain ⟨mq, em, hm, back, hdec⟩ := bit_lock hC (val := val) (R := R) bp es hs _ sc hcb (by omega)
  obtain ⟨fl', efl, sfl, hsig, hvis⟩ := signFlags_ok w h es.flags x y (if gi V (idxOf w x y) < 0 then 1 else 0) hx hy hs.fsz
  refine ⟨_, encSignR_run hiV esc esp em efl, ⟨by rw [sfl, hs.fsz], hs.dsz, hm⟩, back,
    fun j hji => by rw [hsig]; simp [hji], hvis, ?_⟩
  intro hF ds lev hL hns hmb
  obtain ⟨d1, hd1, hL1⟩ := hdec hF ds lev es.flags hL fun _ => rfl
  have hrel1 := hL1.rel
  have hiD : idxOf w x y < ds.data.size := by rw [hL.dsz]; exact hi
  rw [decSignG_run esc esp hd1 hiD, hun, hL.fl, efl]
  have hsm := hL.smp _ ⟨x, y, hx, hy, rfl⟩
  have hz := hsm.nonsig hns
  exact ⟨_, rfl, rfl, by rw [Array.size_setIfInBounds]; exact hL.dsz, hrel1,
    smp_upd _ hiD hL.smp (fun j hji => by rw [hsig]; simp [hji]) (hT.sig _ bp _ (hV _) hsm.plane hz hmb)
      (by rw [hsig, newsig _ bp _ hsm.plane hz (by rw [← magBit_eq]; exact hmb)]; simp)⟩

/-- `fl` are the flags after the zero-coding decision: the significance pass has set the visit bit by then, the cleanup
pass has changed nothing -/
theorem zc_lock (bp : Nat) (es : EncSt) (hs : EncOkR w h V P es) (f c x y : Nat) (hx : x < w) (hy : y < h)
    (hc : c < 19) (fl : Array Nat) (hfsz : fl.size = es.flags.size) (hfs : ∀ j, sigA fl j = sigA es.flags j)
    (hns : sigA es.flags (idxOf w x y) = false) :
    ∃ mq es', encBit raw es.mq (magBit (gi V (idxOf w x y)) bp) c = some mq ∧
      (if magBit (gi V (idxOf w x y)) bp ≠ 0 then encSignR raw w V { flags := fl, mq := mq } f x y (idxOf w x y)
        else some { flags := fl, mq := mq }) = some es' ∧
      EncOkR w h V P es' ∧ (F es'.mq → F es.mq) ∧
      (∀ j, j ≠ idxOf w x y → sigA es'.flags j = sigA fl j) ∧ (∀ j, visA es'.flags j = visA fl j) ∧
      (F es'.mq → ∀ (ds : DecSt) (lev : Nat → Nat), LS val w h V R bp lev es ds →
        ∃ d1 ds', decBit raw ds.mq c = some (magBit (gi V (idxOf w x y)) bp, d1) ∧
          (if magBit (gi V (idxOf w x y)) bp ≠ 0 then
              decSignG rc raw w (bp + δ) { flags := fl, data := ds.data, mq := d1 } f x y (idxOf w x y)
            else some { flags := fl, data := ds.data, mq := d1 }) = some ds' ∧
          LS val w h V R bp (upd lev (idxOf w x y) bp) es' ds') := by
  have hbit := magBit_le (gi V (idxOf w x y)) bp
  obtain ⟨mq, em, hm, back1, hdec⟩ := bit_lock hC (val := val) (R := R) bp es hs _ c hbit hc
  have hok : EncOkR w h V P { flags := fl, mq := mq } := ⟨by rw [← hs.fsz]; exact hfsz, hs.dsz, hm⟩
  by_cases hb : magBit (gi V (idxOf w x y)) bp ≠ 0
  · obtain ⟨es', he', hok', hback', hsig', hvis', hlock'⟩ := sign_lock hC hT hV bp _ hok f x y hx hy
    refine ⟨mq, es', em, by rw [if_pos hb]; exact he', hok', back1 ∘ hback', hsig', hvis', ?_⟩
    intro hF ds lev hL
    obtain ⟨d1, hd1, hL1⟩ := hdec (hback' hF) ds lev fl hL hfs
    obtain ⟨ds', hd', hL'⟩ := hlock' hF _ lev hL1 ((hfs _).trans hns) (by omega)
    exact ⟨d1, ds', hd1, by rw [if_pos hb]; exact hd', hL'⟩
  · refine ⟨mq, _, em, by rw [if_neg hb], hok, back1, fun j _ => rfl, fun j => rfl, ?_⟩
    intro hF ds lev hL
    obtain ⟨d1, hd1, hL1⟩ := hdec hF ds lev fl hL hfs
    exact ⟨d1, _, hd1, by rw [if_neg hb],
      hL1.down hT _ ⟨x, y, hx, hy, rfl⟩ ((hfs _).trans hns) (by omega)⟩

theorem spp_lock (orient bp : Nat) (es : EncSt) (hs : EncOkR w h V P es) :
    ∃ es', encSigPropR raw w h orient bp V es = some es' ∧ EncOkR w h V P es' ∧
      (F es'.mq → F es.mq) ∧
      (F es'.mq → ∀ (ds : DecSt),
        (∃ lev, LS val w h V R bp lev es ds ∧ VisLev w h bp lev es.flags ∧ SigOld w h bp lev es.flags) →
        ∃ ds', decSigPropG rc raw w h orient (bp + δ) ds = some ds' ∧
          ∃ lev, LS val w h V R bp lev es' ds' ∧ VisLev w h bp lev es'.flags ∧ SigOld w h bp lev es'.flags) := by
  unfold encSigPropR decSigPropG
  apply Loop.foldlM_lock _ _ (EncOkR w h V P) (fun s => F s.mq) (fun (p : Nat × Nat) => p.1 < w ∧ p.2 < h)
    (fun _ es ds => ∃ lev, LS val w h V R bp lev es ds ∧ VisLev w h bp lev es.flags ∧ SigOld w h bp lev es.flags)
    _ (coords w h) es (fun p hp => coords_mem w h p.1 p.2 hp) hs
  intro p _ s hps hq
  obtain ⟨x, y⟩ := p
  have hi := idx_lt w h x y hq.1 hq.2
  have hiF : idxOf w x y < s.flags.size := by rw [hps.fsz]; exact hi
  have hiV : idxOf w x y < V.size := by rw [hps.dsz]; exact hi
  simp only []
  rw [gf_some hiF]
  simp only [Option.bind_eq_bind, Option.bind_some]
  by_cases hsg : has (gf s.flags (idxOf w x y)) fSig = true
  · rw [if_pos hsg]
    refine ⟨s, rfl, hps, id, fun _ sd ⟨lev, hL, hvl, hso⟩ => ?_⟩
    rw [hL.fl, gf_some hiF, Option.bind_some, if_pos hsg]
    exact ⟨sd, rfl, lev, hL, hvl, hso⟩
  rw [if_neg hsg]
  by_cases hnb : ¬has (gf s.flags (idxOf w x y)) fSigNeighbors = true
  · rw [if_pos hnb]
    refine ⟨s, rfl, hps, id, fun _ sd ⟨lev, hL, hvl, hso⟩ => ?_⟩
    rw [hL.fl, gf_some hiF, Option.bind_some, if_neg hsg, if_pos hnb]
    exact ⟨sd, rfl, lev, hL, hvl, hso⟩
  rw [if_neg hnb, gi_some hiV]
  obtain ⟨c, ec, hc⟩ := zcCtx_ok (gf s.flags (idxOf w x y)) orient
  obtain ⟨fl, efl, sfl⟩ := orAt_ok s.flags (idxOf w x y) fVisit hiF
  have hsg1 : ∀ j, sigA fl j = sigA s.flags j := orAt_sig _ _ _ _ efl (by decide)
  have hvs1 : ∀ j, visA fl j = (visA s.flags j || decide (j = idxOf w x y)) := by
    intro j; unfold visA; rw [orAt_has _ _ _ _ efl j fVisit]; simp [has, fVisit]
  obtain ⟨mq, es', em, he', hok', hback', hsig', hvis', hlock'⟩ := zc_lock hC hT hV bp s hps
    (gf s.flags (idxOf w x y)) c x y hq.1 hq.2 (by omega) fl sfl hsg1 (Bool.eq_false_iff.mpr hsg)
  simp only [Option.bind_some, ec, em, efl]
  refine ⟨es', he', hok', hback', fun hF sd ⟨lev, hL, hvl, hso⟩ => ?_⟩
  obtain ⟨d1, ds', hd1, hd', hL'⟩ := hlock' hF sd lev hL
  rw [hL.fl, gf_some hiF]
  simp only [Option.bind_some, if_neg hsg, if_neg hnb, ec, hd1, efl]
  obtain ⟨hv', hso'⟩ := visited_upd (idxOf w x y) hvl hso (fun j => by rw [hvis', hvs1])
    (fun j hji => by rw [hsig' j hji, hsg1])
  exact ⟨ds', hd', upd lev (idxOf w x y) bp, hL', hv', hso'⟩

theorem mrp_lock (bp : Nat) (es : EncSt) (hs : EncOkR w h V P es) :
    ∃ es', encMagRefR raw w h bp V es = some es' ∧ EncOkR w h V P es' ∧
      (F es'.mq → F es.mq) ∧
      (F es'.mq → ∀ (ds : DecSt),
        (∃ lev, LS val w h V R bp lev es ds ∧ VisLev w h bp lev es.flags ∧ SigOld w h bp lev es.flags) →
        ∃ ds', decMagRefG rc raw w h (bp + δ) ds = some ds' ∧
          ∃ lev, LS val w h V R bp lev es' ds' ∧ VisLev w h bp lev es'.flags ∧ SigDone w h bp lev es'.flags) := by
  -- the fold under `MrInv rem`, `rem` the samples still to come: `SigOld` is `MrInv` of all of `coords` since
  -- `coords` reaches every sample, `MrInv []` is `SigDone`; a sample is refined once since `coords` has no repetition
  have key : ∃ es', encMagRefR raw w h bp V es = some es' ∧ EncOkR w h V P es' ∧
      (F es'.mq → F es.mq) ∧
      (F es'.mq → ∀ (ds : DecSt),
        (∃ lev, LS val w h V R bp lev es ds ∧
          MrInv w h bp ((coords w h).map fun a => idxOf w a.1 a.2) lev es.flags) →
        ∃ ds', decMagRefG rc raw w h (bp + δ) ds = some ds' ∧
          ∃ lev, LS val w h V R bp lev es' ds' ∧ MrInv w h bp [] lev es'.flags) := by
    unfold encMagRefR decMagRefG
    apply Loop.foldlM_lock _ _ (EncOkR w h V P) (fun s => F s.mq) (fun (p : Nat × Nat) => p.1 < w ∧ p.2 < h)
      (fun l es ds => ∃ lev, LS val w h V R bp lev es ds ∧
        MrInv w h bp (l.map fun a => idxOf w a.1 a.2) lev es.flags)
      _ (coords w h) es (fun p hp => coords_mem w h p.1 p.2 hp) hs
    intro p l s hps hq
    obtain ⟨x, y⟩ := p
    have hi := idx_lt w h x y hq.1 hq.2
    have hiF : idxOf w x y < s.flags.size := by rw [hps.fsz]; exact hi
    have hiV : idxOf w x y < V.size := by rw [hps.dsz]; exact hi
    simp only []
    rw [gf_some hiF]
    simp only [Option.bind_eq_bind, Option.bind_some]
    by_cases hskip : ¬has (gf s.flags (idxOf w x y)) fSig = true ∨ has (gf s.flags (idxOf w x y)) fVisit = true
    · rw [if_pos hskip]
      refine ⟨s, rfl, hps, id, fun _ sd ⟨lev, hL, hM⟩ => ?_⟩
      rw [hL.fl, gf_some hiF]
      simp only [Option.bind_some]
      rw [if_pos hskip]
      exact ⟨sd, rfl, lev, hL, hM.skip fun hsj => hskip.resolve_left fun hn => hn hsj⟩
    rw [if_neg hskip, gi_some hiV]
    simp only [Option.bind_some]
    have hsgt : sigA s.flags (idxOf w x y) = true := Classical.not_not.mp fun hh => hskip (Or.inl hh)
    have hvsf : visA s.flags (idxOf w x y) = false := Bool.eq_false_iff.mpr fun hh => hskip (Or.inr hh)
    have hmr := mrCtx_ok (gf s.flags (idxOf w x y))
    obtain ⟨mq, em, hm, back1, hdec⟩ := bit_lock hC (val := val) (R := R) bp s hps (magBit (gi V (idxOf w x y)) bp)
      (mrCtx (gf s.flags (idxOf w x y))) (magBit_le _ bp) (by omega)
    rw [em]; simp only [Option.bind_some]
    obtain ⟨fl, efl, sfl⟩ := orAt_ok s.flags (idxOf w x y) fRefine hiF
    rw [efl]
    have hsg1 : ∀ j, sigA fl j = sigA s.flags j := orAt_sig _ _ _ _ efl (by decide)
    have hvs1 : ∀ j, visA fl j = visA s.flags j := orAt_vis _ _ _ _ efl (by decide)
    refine ⟨_, rfl, ⟨by show fl.size = _; rw [sfl, hps.fsz], hps.dsz, hm⟩, back1, ?_⟩
    intro hF sd ⟨lev, hL, hM⟩
    obtain ⟨d1, hd1, hL1⟩ := hdec hF sd lev fl hL hsg1
    have hiD : idxOf w x y < sd.data.size := by rw [hL.dsz]; exact hi
    rw [hL.fl, gf_some hiF]
    simp only [Option.bind_some]
    rw [if_neg hskip, hd1]
    simp only [Option.bind_some]
    rw [gi_some hiD]
    simp only [Option.bind_some]
    rw [efl]
    have hsm := hL.smp _ ⟨x, y, hq.1, hq.2, rfl⟩
    have hlev : lev (idxOf w x y) = bp + 1 :=
      (hM.ref _ ⟨x, y, hq.1, hq.2, rfl⟩ hsgt hvsf).mpr List.mem_cons_self
    have hnz : (gi V (idxOf w x y)).natAbs / 2 ^ (bp + 1) ≠ 0 := by
      have := hsm.sig.mp hsgt; rw [hlev] at this; exact this
    have hcur : gi sd.data (idxOf w x y) = val (bp + 1) (gi V (idxOf w x y)) := by rw [hsm.value, hlev]
    have hnz0 : (gi V (idxOf w x y)).natAbs / 2 ^ bp ≠ 0 := by rw [Nat.div_two_pow_succ] at hnz; omega
    exact ⟨_, rfl, upd lev (idxOf w x y) bp,
      ⟨rfl, by show (sd.data.setIfInBounds _ _).size = _; rw [Array.size_setIfInBounds]; exact hL.dsz, hL1.rel,
        smp_upd _ hiD hL.smp (fun j _ => hsg1 j) (by rw [hcur]; exact hT.ref _ bp (hV _) hnz)
          (by rw [hsg1, hsgt]; simp [hnz0])⟩,
      hM.step hsg1 hvs1⟩
  obtain ⟨es', he, hok, hback, hlock⟩ := key
  refine ⟨es', he, hok, hback, ?_⟩
  intro hF ds ⟨lev, hL, hvl, hso⟩
  obtain ⟨ds', hd', lev', hL', hM'⟩ := hlock hF ds ⟨lev, hL, hvl,
    fun j hj hsj hvj => by
      obtain ⟨x, y, hx, hy, rfl⟩ := hj
      exact iff_of_true (hso _ ⟨x, y, hx, hy, rfl⟩ hsj hvj)
        (List.mem_map.mpr ⟨(x, y), coords_cover w h x y hx hy, rfl⟩),
    List.pairwise_map.mpr (coords_nodup w h)⟩
  refine ⟨ds', hd', lev', hL', hM'.vis, fun j hj hsj => ?_⟩
  cases hvj : visA es'.flags j
  · rcases (hL'.smp j hj).plane with h1 | h1
    · exact h1
    · exact absurd ((hM'.ref j hj hsj hvj).mp h1) (by simp)
  · exact hM'.vis j hj hvj

end Any

section Mq
variable {P F : Mqc.Enc → Prop} (hC : BitCoder false P F R) {rc : Recon} {δ bound : Nat} (hT : rc.Holds δ bound val)
  (hV : ∀ j, (gi V j).natAbs < bound)
include hC hT hV

omit hT hV in
theorem mqonly_lock (bp : Nat) (es : EncSt) (hs : EncOkR w h V P es) (bit cx : Nat) (hbit : bit ≤ 1) (hcx : cx < 19) :
    ∃ mq, Mqc.encode es.mq bit cx = some mq ∧ EncOkR w h V P { es with mq := mq } ∧
      (F mq → F es.mq) ∧
      (F mq → ∀ (ds : DecSt) (lev : Nat → Nat), LS val w h V R bp lev es ds →
        ∃ d1, Mqc.decode ds.mq cx = some (bit, d1) ∧
          LS val w h V R bp lev { es with mq := mq } { ds with mq := d1 }) := by
  obtain ⟨mq, em, hm, back, hlock⟩ := bit_lock hC (val := val) (R := R) bp es hs bit cx hbit hcx
  refine ⟨mq, em, ⟨hs.fsz, hs.dsz, hm⟩, back, fun hF ds lev hL => ?_⟩
  obtain ⟨d1, hd1, hL1⟩ := hlock hF ds lev es.flags hL fun _ => rfl
  exact ⟨d1, hd1, by rw [hL.fl]; exact hL1⟩

/-- `p` is Go's `partial`: true only on entry to the first sample of a run-length tail, whose significance the
run-length code has already told, so that no zero-coding decision is made for it; afterwards `partial` is false.
`rem` are the samples still to be scanned behind this one -/
theorem clean_sample_lock (orient bp : Nat) (es : EncSt) (hs : EncOkR w h V P es) (x y : Nat) (p : Bool)
    (hx : x < w) (hy : y < h)
    (hp : p = true → sigA es.flags (idxOf w x y) = false ∧ visA es.flags (idxOf w x y) = false ∧
      magBit (gi V (idxOf w x y)) bp = 1) :
    ∃ r, encCleanSample w orient bp V es x y p = some r ∧ (EncOkR w h V P r.1 ∧ r.2 = false) ∧
      (F r.1.mq → F es.mq) ∧
      (F r.1.mq → ∀ (ds : DecSt) (rem : List Nat),
        (∃ lev, LS val w h V R bp lev es ds ∧ CInv w h bp (idxOf w x y :: rem) lev es.flags) →
        ∃ dr, decCleanSampleG rc w orient (bp + δ) ds x y p = some dr ∧ dr.2 = false ∧
          ∃ lev, LS val w h V R bp lev r.1 dr.1 ∧ CInv w h bp rem lev r.1.flags) := by
  have hi := idx_lt w h x y hx hy
  have hiF : idxOf w x y < es.flags.size := by rw [hs.fsz]; exact hi
  have hiV : idxOf w x y < V.size := by rw [hs.dsz]; exact hi
  have hinb : InB w h (idxOf w x y) := ⟨x, y, hx, hy, rfl⟩
  unfold encCleanSample decCleanSampleG
  simp only []
  rw [gf_some hiF]
  simp only [Option.bind_eq_bind, Option.bind_some]
  by_cases hskip : has (gf es.flags (idxOf w x y)) fVisit = true ∨ has (gf es.flags (idxOf w x y)) fSig = true
  · have hpf : p = false := by
      cases p
      · rfl
      · obtain ⟨hns, hnv, _⟩ := hp rfl
        rcases hskip with h1 | h1
        · cases h1.symm.trans hnv
        · cases h1.symm.trans hns
    subst hpf
    rw [if_pos hskip]
    refine ⟨_, rfl, ⟨⟨by simp [hs.fsz], hs.dsz, hs.coder⟩, rfl⟩, id, ?_⟩
    intro _ ds rem ⟨lev, hL, hC⟩
    rw [hL.fl, gf_some hiF]
    simp only [Option.bind_some]
    rw [if_pos hskip]
    obtain ⟨h1, h2⟩ := clear_lock hL (idxOf w x y) hiF rem hC (hskip.elim (hC.vis _ hinb) (hC.sig _ hinb))
    exact ⟨_, rfl, rfl, lev, h1, h2⟩
  have hns : sigA es.flags (idxOf w x y) = false := Bool.eq_false_iff.mpr fun hh => hskip (Or.inr hh)
  rw [if_neg hskip, gi_some hiV]
  simp only [Option.bind_some]
  cases p
  · simp only [Bool.false_eq_true, if_false]
    obtain ⟨c, ec, hc⟩ := zcCtx_ok (gf es.flags (idxOf w x y)) orient
    obtain ⟨mq, es2, em, he2, hok2, hback2, hsig2, hvis2, hlock2⟩ := zc_lock hC hT hV bp es hs
      (gf es.flags (idxOf w x y)) c x y hx hy (by omega) es.flags rfl (fun _ => rfl) hns
    rw [encBit_false] at em
    rw [encSignR_false] at he2
    have hiF2 : idxOf w x y < es2.flags.size := by rw [hok2.fsz, ← hs.fsz]; exact hiF
    simp only [ec, Option.bind_some, em]
    refine ⟨_, (Loop.ite_some_bind _ he2).trans (by rw [gf_some hiF2]; rfl),
      ⟨⟨by simp [hok2.fsz], hok2.dsz, hok2.coder⟩, rfl⟩, hback2, ?_⟩
    intro hF ds rem ⟨lev, hL, hC⟩
    obtain ⟨d1, ds2, hd1, hd2, hL2⟩ := hlock2 hF ds lev hL
    rw [decBit_false] at hd1
    rw [hL.fl, gf_some hiF]
    simp only [Option.bind_some, if_neg hskip, ec, hd1]
    obtain ⟨h1, h2⟩ := clear_lock hL2 (idxOf w x y) hiF2 rem (hC.lower _ hsig2 hvis2) (upd_self lev _ bp)
    exact ⟨_, (Loop.ite_some_bind _ hd2).trans (by rw [hL2.fl, gf_some hiF2]; rfl), rfl, _, h1, h2⟩
  · simp only [if_true, Option.bind_some]
    rw [if_pos (by decide)]
    obtain ⟨es2, he2, hok2, hback2, hsig2, hvis2, hlock2⟩ :=
      sign_lock hC hT hV bp es hs (gf es.flags (idxOf w x y)) x y hx hy
    rw [encSignR_false] at he2
    have hiF2 : idxOf w x y < es2.flags.size := by rw [hok2.fsz, ← hs.fsz]; exact hiF
    simp only [he2, Option.bind_some, gf_some hiF2]
    refine ⟨_, rfl, ⟨⟨by simp [hok2.fsz], hok2.dsz, hok2.coder⟩, rfl⟩, hback2, ?_⟩
    intro hF ds rem ⟨lev, hL, hC⟩
    obtain ⟨ds2, hd2, hL2⟩ := hlock2 hF _ lev hL hns (hp rfl).2.2
    rw [hL.fl, gf_some hiF]
    simp only [Option.bind_some, if_neg hskip]
    rw [if_pos (by decide), hd2, Option.bind_some, hL2.fl, gf_some hiF2]
    obtain ⟨h1, h2⟩ := clear_lock hL2 (idxOf w x y) hiF2 rem (hC.lower _ hsig2 hvis2) (upd_self lev _ bp)
    exact ⟨_, rfl, rfl, _, h1, h2⟩

theorem normal_lock (orient bp : Nat) (rem : List Nat) (k i : Nat) (hi : i < w) (l : List Nat)
    (hl : ∀ dy ∈ l, k + dy < h) (es : EncSt) (hs : EncOkR w h V P es) :
    ∃ es', l.foldlM (fun st dy => do
        let (st, _) ← encCleanSample w orient bp V st i (k + dy) false
        some st) es = some es' ∧ EncOkR w h V P es' ∧
      (F es'.mq → F es.mq) ∧
      (F es'.mq → ∀ (ds : DecSt),
        (∃ lev, LS val w h V R bp lev es ds ∧
          CInv w h bp (l.map (fun dy => idxOf w i (k + dy)) ++ rem) lev es.flags) →
        ∃ ds', l.foldlM (fun st dy => do
            let (st, _) ← decCleanSampleG rc w orient (bp + δ) st i (k + dy) false
            some st) ds = some ds' ∧
          ∃ lev, LS val w h V R bp lev es' ds' ∧ CInv w h bp rem lev es'.flags) := by
  apply Loop.foldlM_lock _ _ (EncOkR w h V P) (fun s => F s.mq) (fun dy => k + dy < h)
    (fun l es ds => ∃ lev, LS val w h V R bp lev es ds ∧
      CInv w h bp (l.map (fun dy => idxOf w i (k + dy)) ++ rem) lev es.flags)
    _ l es hl hs
  intro dy l s hps hq
  obtain ⟨r, er, hok, hback, hlock⟩ :=
    clean_sample_lock hC hT hV orient bp s hps i (k + dy) false hi hq (fun hh => absurd hh (by simp))
  simp only [Option.bind_eq_bind]
  rw [er]
  refine ⟨r.1, rfl, hok.1, hback, fun hF sd hI => ?_⟩
  obtain ⟨dr, hdr, _, hI⟩ := hlock hF sd _ hI
  rw [hdr]
  exact ⟨dr.1, rfl, hI⟩

theorem rltail_lock (orient bp : Nat) (rem : List Nat) (k i pos : Nat) (hi : i < w) (hk : k + 3 < h) (hpos : pos < 4)
    (es : EncSt) (hs : EncOkR w h V P es)
    (hns : sigA es.flags (idxOf w i (k + pos)) = false) (hnv : visA es.flags (idxOf w i (k + pos)) = false)
    (hmb : magBit (gi V (idxOf w i (k + pos))) bp = 1) :
    ∃ r, ((List.range 4).filter (fun dy => pos ≤ dy)).foldlM (fun (acc : EncSt × Bool) dy =>
        encCleanSample w orient bp V acc.1 i (k + dy) acc.2) (es, true) = some r ∧ EncOkR w h V P r.1 ∧
      (F r.1.mq → F es.mq) ∧
      (F r.1.mq → ∀ (ds : DecSt),
        (∃ lev, LS val w h V R bp lev es ds ∧ CInv w h bp
          (((List.range 4).filter (fun dy => pos ≤ dy)).map (fun dy => idxOf w i (k + dy)) ++ rem) lev es.flags) →
        ∃ dr, ((List.range 4).filter (fun dy => pos ≤ dy)).foldlM (fun (acc : DecSt × Bool) dy =>
            decCleanSampleG rc w orient (bp + δ) acc.1 i (k + dy) acc.2) (ds, true) = some dr ∧
          ∃ lev, LS val w h V R bp lev r.1 dr.1 ∧ CInv w h bp rem lev r.1.flags) := by
  rw [filter_ge pos hpos]
  simp only [List.foldlM_cons]
  obtain ⟨r1, er1, hok1, hback1, hlock1⟩ :=
    clean_sample_lock hC hT hV orient bp es hs i (k + pos) true hi (by omega) (fun _ => ⟨hns, hnv, hmb⟩)
  obtain ⟨r2, er2, hok2, hback2, hlock2⟩ := Loop.foldlM_lock
    (fun (acc : EncSt × Bool) dy => encCleanSample w orient bp V acc.1 i (k + dy) acc.2)
    (fun (acc : DecSt × Bool) dy => decCleanSampleG rc w orient (bp + δ) acc.1 i (k + dy) acc.2)
    (fun acc => EncOkR w h V P acc.1 ∧ acc.2 = false) (fun acc => F acc.1.mq) (fun dy => dy < 4)
    (fun l acc dacc => dacc.2 = false ∧ ∃ lev, LS val w h V R bp lev acc.1 dacc.1 ∧
      CInv w h bp (l.map (fun dy => idxOf w i (k + dy)) ++ rem) lev acc.1.flags)
    (by
      intro dy l ⟨s1, s2⟩ ⟨hp1, hp2⟩ hq
      simp only [] at hp1 hp2 ⊢
      subst hp2
      obtain ⟨r, er, hok, hback, hlock⟩ :=
        clean_sample_lock hC hT hV orient bp s1 hp1 i (k + dy) false hi (by omega) (fun hh => absurd hh (by simp))
      refine ⟨r, er, hok, hback, ?_⟩
      intro hF ⟨sd1, sd2⟩ ⟨hd2, hI⟩
      simp only [] at hd2 hI ⊢
      subst hd2
      exact hlock hF sd1 _ hI)
    ((List.range 4).filter (fun dy => pos < dy)) r1
    (by intro a ha; simp only [List.mem_filter, List.mem_range, decide_eq_true_eq] at ha; exact ha.1) hok1
  refine ⟨r2, by rw [er1]; exact er2, hok2.1, hback1 ∘ hback2, ?_⟩
  intro hF ds hI
  obtain ⟨dr1, hdr1, hI1⟩ := hlock1 (hback2 hF) ds _ hI
  obtain ⟨dr2, hdr2, _, hI2⟩ := hlock2 hF dr1 hI1
  exact ⟨dr2, by rw [hdr1]; exact hdr2, hI2⟩

theorem cleanup_lock (orient bp : Nat) (es : EncSt) (hs : EncOkR w h V P es) :
    ∃ es', encCleanup w h orient bp V es = some es' ∧ EncOkR w h V P es' ∧
      (F es'.mq → F es.mq) ∧
      (F es'.mq → ∀ (ds : DecSt),
        (∃ lev, LS val w h V R bp lev es ds ∧ VisLev w h bp lev es.flags ∧ SigDone w h bp lev es.flags) →
        ∃ ds', decCleanupG rc w h orient (bp + δ) ds = some ds' ∧
          ∃ lev, LS val w h V R bp lev es' ds' ∧ ∀ j, InB w h j → lev j = bp) := by
  have key : ∃ es', encCleanup w h orient bp V es = some es' ∧ EncOkR w h V P es' ∧
      (F es'.mq → F es.mq) ∧
      (F es'.mq → ∀ (ds : DecSt),
        (∃ lev, LS val w h V R bp lev es ds ∧ CInv w h bp ((columns w h).flatMap fun c =>
          ((List.range 4).filter (fun dy => c.1 + dy < h)).map fun dy => idxOf w c.2 (c.1 + dy)) lev es.flags) →
        ∃ ds', decCleanupG rc w h orient (bp + δ) ds = some ds' ∧
          ∃ lev, LS val w h V R bp lev es' ds' ∧ CInv w h bp [] lev es'.flags) := by
    unfold encCleanup decCleanupG
    apply Loop.foldlM_lock _ _ (EncOkR w h V P) (fun s => F s.mq) (fun (p : Nat × Nat) => p.2 < w ∧ p.1 < h)
      (fun l es ds => ∃ lev, LS val w h V R bp lev es ds ∧ CInv w h bp (l.flatMap fun c =>
          ((List.range 4).filter (fun dy => c.1 + dy < h)).map fun dy => idxOf w c.2 (c.1 + dy)) lev es.flags)
      _ (columns w h) es (fun p hp => columns_mem w h p.1 p.2 hp) hs
    intro p l s hps hq
    obtain ⟨k, i⟩ := p
    simp only [] at hq
    simp only [Option.bind_eq_bind, List.flatMap_cons]
    generalize List.flatMap _ l = rem
    have hnormal := normal_lock hC hT hV orient bp rem k i hq.1 ((List.range 4).filter fun dy => k + dy < h)
      (fun a ha => by simpa using (List.mem_filter.mp ha).2) s hps
    by_cases hk3 : k + 3 < h
    · simp only [hk3, if_true]
      obtain ⟨can', pos, er, hcan, hpos⟩ := rlScan_spec w h bp V s.flags k i hps.fsz hps.dsz hq.1 hk3
      have er' : rlScanDec w s.flags k i = some can' := by
        rw [rlScanDec_eq w h bp V s.flags k i hps.dsz hq.1 hk3, er]; rfl
      rw [er]; simp only [Option.bind_some]
      cases can'
      · simp only [Bool.false_eq_true, if_false]
        obtain ⟨es', he, hok, hback, hlock⟩ := hnormal
        refine ⟨es', he, hok, hback, ?_⟩
        intro hF sd ⟨lev, hL, hC⟩
        rw [hL.fl, er']; simp only [Option.bind_some, Bool.false_eq_true, if_false]
        exact hlock hF sd ⟨lev, hL, hC⟩
      · simp only [if_true]
        have hgood := hcan.mp rfl
        have hdscan : ∀ (sd : DecSt), sd.flags = s.flags → rlScanDec w sd.flags k i = some true := by
          intro sd hfl; rw [hfl]; exact er'
        -- the first `n` samples of the column have bit `bp` zero: they drop to plane `bp` without a decision
        have drop : ∀ n, n ≤ 4 → (∀ dy, dy < n → magBit (gi V (idxOf w i (k + dy))) bp = 0) →
            ∀ (mq : Mqc.Enc) (sd' : DecSt) (lev : Nat → Nat), LS val w h V R bp lev { flags := s.flags, mq := mq } sd' →
            CInv w h bp (((List.range 4).filter (fun dy => k + dy < h)).map (fun dy => idxOf w i (k + dy)) ++ rem)
              lev s.flags →
            ∃ lev', LS val w h V R bp lev' { flags := s.flags, mq := mq } sd' ∧ CInv w h bp
              (((List.range 4).filter (fun dy => n ≤ dy)).map (fun dy => idxOf w i (k + dy)) ++ rem) lev' s.flags := by
          intro n hn hz mq sd' lev hL hC
          rw [col_split hk3 n hn, List.map_append, List.append_assoc] at hC
          refine down_list hT _ _ lev (fun j hj => ?_) hL hC
          obtain ⟨dy, hdy, rfl⟩ := List.mem_map.mp hj
          have hdy := List.mem_range.mp hdy
          exact ⟨⟨i, k + dy, hq.1, by omega, rfl⟩, (hgood dy (by omega)).2.1, hz dy hdy⟩
        rcases hpos rfl with ⟨hp4, hz⟩ | ⟨hp, hnz, hz⟩
        · -- the whole column is zero at this plane: one decision
          subst hp4
          simp only [show ¬((4 : Nat) < 4) from by decide, if_false]
          obtain ⟨mq, em, hm, hback, hlock⟩ := mqonly_lock hC (val := val) bp s hps 0 CTXRL (by decide) (by decide)
          rw [em]; simp only [Option.bind_some, if_true]
          refine ⟨_, rfl, hm, hback, ?_⟩
          intro hF sd ⟨lev, hL, hC⟩
          obtain ⟨d1, hd1, hL1⟩ := hlock hF sd lev hL
          rw [hdscan sd hL.fl]; simp only [Option.bind_some, if_true]
          rw [hd1]; simp only [Option.bind_some, if_true]
          obtain ⟨lev', hL', hC'⟩ := drop 4 (Nat.le_refl 4) hz mq _ lev hL1 hC
          exact ⟨_, rfl, lev', hL', hC'⟩
        · -- first significant sample at `pos`: one decision plus two position bits
          simp only [hp, if_true]
          obtain ⟨mq1, em1, hm1, hback1, hlock1⟩ := mqonly_lock hC (val := val) bp s hps 1 CTXRL (by decide) (by decide)
          rw [em1]; simp only [Option.bind_some]
          rw [if_neg (by decide)]
          obtain ⟨mq2, em2, hm2, hback2, hlock2⟩ := mqonly_lock hC (val := val) bp { flags := s.flags, mq := mq1 } hm1
            (pos >>> 1 % 2) CTXUNI (by omega) (by decide)
          rw [em2]; simp only [Option.bind_some]
          obtain ⟨mq3, em3, hm3, hback3, hlock3⟩ := mqonly_lock hC (val := val) bp { flags := s.flags, mq := mq2 } hm2
            (pos % 2) CTXUNI (by omega) (by decide)
          rw [em3]; simp only [Option.bind_some]
          have hmb : magBit (gi V (idxOf w i (k + pos))) bp = 1 := by
            have := magBit_le (gi V (idxOf w i (k + pos))) bp
            omega
          obtain ⟨r, er4, hok4, hback4, hlock4⟩ := rltail_lock hC hT hV orient bp rem k i pos hq.1 hk3 hp
            { flags := s.flags, mq := mq3 } hm3 (hgood pos hp).2.1 (hgood pos hp).1 hmb
          rw [er4]; simp only [Option.bind_some]
          refine ⟨_, rfl, hok4, hback1 ∘ hback2 ∘ hback3 ∘ hback4, ?_⟩
          intro hF sd ⟨lev, hL, hC⟩
          have hF3 := hback4 hF
          have hF2 := hback3 hF3
          have hF1 := hback2 hF2
          obtain ⟨d1, hd1, hL1⟩ := hlock1 hF1 sd lev hL
          obtain ⟨d2, hd2, hL2⟩ := hlock2 hF2 _ lev hL1
          obtain ⟨d3, hd3, hL3⟩ := hlock3 hF3 _ lev hL2
          rw [hdscan sd hL.fl]; simp only [Option.bind_some, if_true]
          rw [hd1]; simp only [Option.bind_some]
          rw [if_neg (by decide), hd2]; simp only [Option.bind_some]
          rw [hd3]; simp only [Option.bind_some]
          rw [runlen_eq pos hp]
          obtain ⟨dr, hdr, hI⟩ := hlock4 hF _ (drop pos (by omega) hz mq3 _ lev hL3 hC)
          rw [hdr]
          exact ⟨_, rfl, hI⟩
    · simp only [hk3, if_false]
      exact hnormal
  obtain ⟨es', he, hok, hback, hlock⟩ := key
  refine ⟨es', he, hok, hback, ?_⟩
  intro hF ds ⟨lev, hL, hvl, hsd⟩
  obtain ⟨ds', hd', lev', hL', hC'⟩ := hlock hF ds ⟨lev, hL, hvl, hsd, by
    intro j hj
    obtain ⟨x, y, hx, hy, rfl⟩ := hj
    obtain ⟨c, hc, dy, h1, h2, h3⟩ := columns_cover w h x y hx hy
    exact Or.inl (List.mem_flatMap.mpr ⟨c, hc, List.mem_map.mpr
      ⟨dy, List.mem_filter.mpr ⟨List.mem_range.mpr h1, decide_eq_true h2⟩, h3.symm⟩⟩)⟩
  refine ⟨ds', hd', lev', hL', ?_⟩
  intro j hj
  rcases hC'.rest j hj with h' | h'
  · exact absurd h' (by simp)
  · exact h'
end Mq

end T1
