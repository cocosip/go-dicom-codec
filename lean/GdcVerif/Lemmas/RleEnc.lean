import GdcVerif.Model.Rle
/-! PackBits packet streams (`Enc`) and the encoder invariant of `Model/Rle.lean`. -/
namespace Rle

/-- `Enc out d`: `out` is a concatenation of valid PackBits packets (literal 1..128 bytes,
    replicate run 2..128) whose expansion is `d`. -/
inductive Enc : List Byte → List Byte → Prop
  | nil : Enc [] []
  | lit (l out d : List Byte) : 1 ≤ l.length → l.length ≤ 128 → Enc out d →
      Enc ((l.length - 1) :: (l ++ out)) (l ++ d)
  | run (n : Nat) (b : Byte) (out d : List Byte) : 2 ≤ n → n ≤ 128 → Enc out d →
      Enc ((257 - n) :: b :: out) (List.replicate n b ++ d)

theorem Enc.append {o1 d1 o2 d2 : List Byte} (h1 : Enc o1 d1) (h2 : Enc o2 d2) :
    Enc (o1 ++ o2) (d1 ++ d2) := by
  induction h1 with
  | nil => simpa using h2
  | lit l out d hl1 hl2 _ ih =>
    have := Enc.lit l _ _ hl1 hl2 ih
    simpa [List.append_assoc] using this
  | run n b out d hn1 hn2 _ ih =>
    have := Enc.run n b _ _ hn1 hn2 ih
    simpa [List.append_assoc] using this

theorem Enc.two_le {o d : List Byte} (h : Enc o d) (hd : 1 ≤ d.length) : 2 ≤ o.length := by
  cases h with
  | nil => simp at hd
  | lit l out d hl1 hl2 _ => simp; omega
  | run n b out d hn1 hn2 _ => simp

theorem Enc.length_le {o d : List Byte} (h : Enc o d) : o.length ≤ 2 * d.length := by
  induction h with
  | nil => simp
  | lit l out d hl1 hl2 _ ih => simp; omega
  | run n b out d hn1 hn2 _ ih => simp; omega

theorem Enc.lit1 (l : List Byte) (h1 : 1 ≤ l.length) (h2 : l.length ≤ 128) :
    Enc ((l.length - 1) :: l) l := by
  simpa using Enc.lit l [] [] h1 h2 Enc.nil

theorem Enc.run1 (n : Nat) (b : Byte) (h1 : 2 ≤ n) (h2 : n ≤ 128) :
    Enc [257 - n, b] (List.replicate n b) := by
  simpa using Enc.run n b [] [] h1 h2 Enc.nil

theorem flushLit_spec (thr : Nat) (temp : List Byte) :
    ∃ d, Enc (flushLit thr temp).1 d ∧ d ++ (flushLit thr temp).2 = temp ∧
      (flushLit thr temp).2.length ≤ thr := by
  fun_induction flushLit thr temp with
  | case1 temp h count r ih =>
    obtain ⟨d, hd, hcat, hlen⟩ := ih
    refine ⟨temp.take count ++ d, ?_, ?_, hlen⟩
    · have hc : (temp.take count).length = count := by
        simp [count, List.length_take]
      have := Enc.lit (temp.take count) _ _ (by rw [hc]; simp [count]; omega)
        (by rw [hc]; simp [count]; omega) hd
      rw [hc] at this
      simpa using this
    · simp only [List.append_assoc]
      rw [hcat, List.take_append_drop]
  | case2 temp h =>
    refine ⟨[], Enc.nil, by simp, ?_⟩
    simp only [gt_iff_lt, not_and, Nat.not_lt] at h
    show temp.length ≤ thr
    omega

theorem flushLit_all (temp : List Byte) : Enc (flushLit 0 temp).1 temp ∧ (flushLit 0 temp).2 = [] := by
  obtain ⟨d, hd, hcat, hlen⟩ := flushLit_spec 0 temp
  have h0 : (flushLit 0 temp).2 = [] := by simpa using hlen
  rw [h0, List.append_nil] at hcat
  exact ⟨hcat ▸ hd, h0⟩

theorem flushRun_small (n : Nat) (b : Byte) (h1 : 1 ≤ n) (h2 : n ≤ 128) :
    flushRun n b = [(257 - n) % 256, b] := by
  rw [flushRun]
  have h0 : n > 0 := by omega
  simp only [h0, ↓reduceDIte]
  have : min n 128 = n := by omega
  rw [this, Nat.sub_self, flushRun]
  simp

theorem flushRun_spec (n : Nat) (b : Byte) (h1 : 2 ≤ n) (h2 : n ≤ 128) :
    Enc (flushRun n b) (List.replicate n b) := by
  rw [flushRun_small n b (by omega) h2]
  have : (257 - n) % 256 = 257 - n := by omega
  rw [this]
  exact Enc.run1 n b h1 h2

/-- the bytes the encoder state still owes the output -/
def St.pending (s : St) : List Byte := s.temp ++ List.replicate s.rep (s.prev.getD 255)

/-- invariant of the encoder between bytes; `run_clean` (a run of three or more has flushed the literals) is what keeps
    the stores to `tempBuffer[132]` in range: at most 128 literals plus the two repeats pushed back -/
structure St.Ok (s : St) : Prop where
  rep_le : s.rep ≤ 128
  temp_le : s.temp.length ≤ 128
  run_clean : 3 ≤ s.rep → s.temp.length = 0
  no_oob : s.oob = false

theorem St.Ok.init : St.Ok {} := ⟨by simp, by simp, by simp, rfl⟩

/-- from `s`, the output `r.2` and the new state `r.1` account for the bytes `bs` -/
def St.Emits (s : St) (bs : List Byte) (r : St × List Byte) : Prop :=
  ∃ d, Enc r.2 d ∧ d ++ r.1.pending = s.pending ++ bs ∧ r.1.Ok

theorem St.Emits.ok {s : St} {bs : List Byte} {r : St × List Byte} (h : s.Emits bs r) : r.1.Ok := h.choose_spec.2.2

theorem St.Emits.trans {s : St} {bs bs' : List Byte} {r1 r2 : St × List Byte} (h1 : s.Emits bs r1)
    (h2 : r1.1.Emits bs' r2) : s.Emits (bs ++ bs') (r2.1, r1.2 ++ r2.2) := by
  obtain ⟨d1, e1, c1, _⟩ := h1
  obtain ⟨d2, e2, c2, ok2⟩ := h2
  refine ⟨d1 ++ d2, e1.append e2, ?_, ok2⟩
  rw [List.append_assoc, c2, ← List.append_assoc, c1, List.append_assoc]

theorem St.encode_same (s : St) (b : Byte) (hs : s.Ok) (hp : s.prev = some b) : s.Emits [b] (s.encode b) := by
  obtain ⟨temp, prev, rep, oob⟩ := s
  obtain rfl : oob = false := hs.no_oob
  obtain rfl : prev = some b := hp
  show ∃ d, Enc _ d ∧ d ++ _ = temp ++ List.replicate rep b ++ [b] ∧ _
  obtain ⟨h1, h2, h3, h4⟩ := hs
  simp only at h1 h2 h3
  unfold St.encode
  simp only [↓reduceIte]
  split
  · next h =>
    obtain rfl : rep = 2 := by omega
    obtain ⟨hd, h0⟩ := flushLit_all temp
    exact ⟨temp, hd, by simp [St.pending, h0], by simp, by simp [h0], by simp [h0], rfl⟩
  · next h =>
    split
    · next h' =>
      obtain rfl : rep = 128 := by omega
      obtain rfl := List.eq_nil_of_length_eq_zero (h3 (by omega))
      refine ⟨List.replicate 128 b, ?_, ?_, ?_⟩
      · exact Enc.run1 128 b (by omega) (by omega)
      · simp [St.pending]
      · exact ⟨by simp, by simp, by simp, rfl⟩
    · next h' =>
      refine ⟨[], Enc.nil, ?_, ?_⟩
      · simp [St.pending, List.replicate_succ']
      · exact ⟨by simp; omega, by simpa using h2, fun h3' => by simp only at h3' ⊢; omega, rfl⟩

theorem St.encode_diff_aux (temp1 out1 d1 : List Byte) (b : Byte) (hd1 : Enc out1 d1) :
    let r := flushLit 128 temp1
    ∃ d, Enc (out1 ++ r.1) d ∧
      d ++ (St.mk r.2 (some b) 1 false).pending = d1 ++ temp1 ++ [b] ∧
      (St.mk r.2 (some b) 1 false).Ok := by
  intro r
  obtain ⟨d, hd, hcat, hlen⟩ := flushLit_spec 128 temp1
  refine ⟨d1 ++ d, hd1.append hd, ?_, ?_⟩
  · simp only [St.pending, r, List.replicate_one, Option.getD_some, List.append_assoc]
    rw [← List.append_assoc d, hcat]
  · exact ⟨by simp, hlen, by simp, rfl⟩

theorem St.encode_diff (s : St) (b : Byte) (hs : s.Ok) (hp : s.prev ≠ some b) : s.Emits [b] (s.encode b) := by
  obtain ⟨temp, prev, rep, oob⟩ := s
  obtain rfl : oob = false := hs.no_oob
  show ∃ d, Enc _ d ∧ d ++ _ = temp ++ List.replicate rep (prev.getD 255) ++ [b] ∧ _
  simp only at hp
  obtain ⟨h1, h2, h3, h4⟩ := hs
  simp only at h1 h2 h3
  unfold St.encode
  simp only [hp, ↓reduceIte]
  match rep, h1, h3 with
  | 0, _, _ =>
    simpa using St.encode_diff_aux temp [] [] b Enc.nil
  | 1, _, _ =>
    have hoob : decide (temp.length ≥ 132) = false := by simp; omega
    simpa [St.pushTemp, hoob] using
      St.encode_diff_aux (temp ++ [prev.getD 255]) [] [] b Enc.nil
  | 2, _, _ =>
    have hoob : decide (temp.length ≥ 132) = false := by simp; omega
    have hoob' : decide (131 ≤ temp.length) = false := by simp; omega
    simpa [St.pushTemp, hoob, hoob', List.replicate_succ] using
      St.encode_diff_aux (temp ++ [prev.getD 255] ++ [prev.getD 255]) [] [] b Enc.nil
  | n + 3, h1, h3 =>
    obtain rfl := List.eq_nil_of_length_eq_zero (h3 (by omega))
    simpa using
      St.encode_diff_aux [] _ _ b (flushRun_spec (n + 3) (prev.getD 255) (by omega) h1)

theorem St.encode_spec (s : St) (b : Byte) (hs : s.Ok) : s.Emits [b] (s.encode b) := by
  by_cases hp : s.prev = some b
  · exact s.encode_same b hs hp
  · exact s.encode_diff b hs hp

theorem encodeBytes_spec (bs : List Byte) (s : St) (hs : s.Ok) : s.Emits bs (encodeBytes s bs) := by
  induction bs generalizing s with
  | nil => exact ⟨[], Enc.nil, by simp [encodeBytes], hs⟩
  | cons b bs ih =>
    have h1 := s.encode_spec b hs
    exact h1.trans (ih _ h1.ok)

theorem St.flush_spec (s : St) (hs : s.Ok) :
    Enc s.flush.2 s.pending ∧ s.flush.1.oob = false := by
  obtain ⟨temp, prev, rep, oob⟩ := s
  obtain ⟨h1, h2, h3, h4⟩ := hs
  simp only at h1 h2 h3 h4
  subst h4
  unfold St.flush
  simp only [St.pending]
  by_cases hr1 : rep = 1
  · subst hr1
    have hoob : decide (temp.length ≥ 132) = false := by simp; omega
    simpa [St.pushTemp, hoob] using (flushLit_all (temp ++ [prev.getD 255])).1
  · obtain ⟨hd, -⟩ := flushLit_all temp
    simp only [hr1, ↓reduceIte, and_true]
    by_cases hr2 : rep ≥ 2
    · simp only [hr2, ↓reduceIte]
      exact hd.append (flushRun_spec rep _ hr2 h1)
    · have : rep = 0 := by omega
      subst this
      simpa using hd

theorem encodeSegment_spec (plane : List Byte) :
    Enc (encodeSegment plane).1 plane ∧ (encodeSegment plane).2 = false := by
  obtain ⟨d, hd, hcat, hok⟩ := encodeBytes_spec plane {} St.Ok.init
  obtain ⟨hf, ho⟩ := St.flush_spec _ hok
  refine ⟨?_, ho⟩
  have : plane = d ++ (encodeBytes {} plane).1.pending := by
    rw [hcat]; simp [St.pending]
  have h2 := hd.append hf
  rw [← this] at h2
  exact h2

end Rle
