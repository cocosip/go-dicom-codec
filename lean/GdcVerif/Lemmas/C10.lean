import GdcVerif.Model.Skeleton
/-! Once the analysis has reproduced a whole table of classes (one evaluation), what the table says of a field
    is a fact about the write and exposed-read sets, and statements about lists of fields are look-ups. -/
namespace Skeleton
open Frames Frames.Cmd

variable {c : Cmd String V Fr} {tbl : List (String × String)}

theorem classOf_killed {f : String} (h : classOf c f = "killed") : f ∈ c.writes ∧ f ∉ c.exposed := by
  unfold classOf at h
  split at h
  · exact absurd h (by decide)
  · split at h
    · exact absurd h (by decide)
    · exact ⟨Decidable.not_not.1 ‹_›, ‹_›⟩

theorem classOf_of_table (h : tbl.map (fun p => (p.1, classOf c p.1)) = tbl) {f k : String}
    (hm : (f, k) ∈ tbl) : classOf c f = k :=
  (Prod.mk.inj (List.map_inj_left.1 (h.trans (List.map_id _).symm) _ hm)).2

theorem all_killed (h : tbl.map (fun p => (p.1, classOf c p.1)) = tbl) (fs : List String)
    (ht : ∀ f ∈ fs, (f, "killed") ∈ tbl) :
    fs.all (fun f => f ∈ c.writes && !(f ∈ c.exposed)) = true := by
  rw [List.all_eq_true]
  intro f hf
  obtain ⟨hw, hx⟩ := classOf_killed (classOf_of_table h (ht f hf))
  simp [hw, hx]

theorem all_classified (h : tbl.map (fun p => (p.1, classOf c p.1)) = tbl) (ok : String → String → Bool)
    (fields : List (String × String)) (ht : ∀ p ∈ fields, ∃ q ∈ tbl, q.1 = p.1 ∧ ok q.2 p.1 = true) :
    fields.all (fun p => ok (classOf c p.1) p.1) = true := by
  rw [List.all_eq_true]
  intro p hp
  obtain ⟨q, hq, e, hok⟩ := ht p hp
  rw [← e, classOf_of_table h hq, e]
  exact hok

theorem not_mem_leakyFields_of_killed {g : Bool} {sk : Gen.Facts.Skel} {f : String}
    (h : classOf (entryCmd g sk) f = "killed") : f ∉ leakyFields g sk := fun hm =>
  (classOf_killed h).2 (List.mem_filter.1 (List.mem_eraseDups.1 hm)).1

/-! One evaluation per entry command: the write, exposed-read and all-read lists are what is dear to compute
    (the Encode skeleton unfolds to some 4,400 statements), and the class table and the list of leaky fields are
    read off the same three lists; the kernel shares them inside one evaluation, not between declarations. -/
open Gen.Facts

theorem encoder_analysis :
    encoderFieldClass.map (fun p => (p.1, classOf (entryCmd true encoderSkeleton) p.1)) = encoderFieldClass ∧
    ∀ f ∈ leakyFields true encoderSkeleton,
      f ∈ ["params", "qcdReady", "qcdExpn", "qcdGuard", "qcdSteps", "qcdStyle"] := by
  decide +kernel

theorem decoder_analysis :
    decoderFieldClass.map (fun p => (p.1, classOf (entryCmd true decoderSkeleton) p.1)) = decoderFieldClass ∧
    ∀ f ∈ leakyFields true decoderSkeleton, f ∈ ["roiConfig", "roiShifts", "roiSrgn"] := by
  decide +kernel

end Skeleton
