import GdcVerif.Gen.JpegLs
import GdcVerif.Lemmas.Basics
import GdcVerif.Lemmas.JpegLs
/-! Per-sample and parameter theorems over the generated JPEG-LS kernels (shared by C03, C07, C14). -/
namespace JpegLsNear
open Gen.JpegLs JpegLsLemmas

/-- admissible (P, NEAR): P in 2..16, NEAR in 0..min(255, MAXVAL/2) -/
def Admissible (P : Nat) (N : Int) : Prop := (2 ≤ P ∧ P ≤ 16) ∧ 0 ≤ N ∧ N ≤ 255 ∧ 2 * N ≤ (2 : Int) ^ P - 1

instance (P : Nat) (N : Int) : Decidable (Admissible P N) := by unfold Admissible; infer_instance

/-- the parameter object both encoder and decoder build (`NewTraits(maxVal, near, 64)`) -/
def traits (P : Nat) (N : Int) : Traits := NewTraits ((2 : Int) ^ P - 1) N 64

theorem admissible_zero (P : Nat) (hP : 2 ≤ P ∧ P ≤ 16) : Admissible P 0 := by
  have : (0 : Int) < 2 ^ P := Int.pow_pos (by decide)
  exact ⟨hP, by omega, by omega, by omega⟩

theorem traits_wf (P : Nat) (N : Int) (h : Admissible P N) : WF (traits P N) P :=
  newTraits_wf P N h.1 ⟨h.2.1, h.2.2.2⟩ 64

theorem traits_range (P : Nat) (N : Int) (h : Admissible P N) :
    2 ≤ (traits P N).Range ∧ (traits P N).Range ≤ (2 : Int) ^ P ∧ (2 : Int) ^ P ≤ 65536 := by
  have wf := traits_wf P N h
  have hle : (traits P N).Range ≤ (2 : Int) ^ P - 1 + 1 := wf.range_le
  exact ⟨wf.range_ge, by omega, Int.two_pow_mono (b := 16) h.1.2⟩

theorem traits_qbpp_eq (P : Nat) (N : Int) : (traits P N).Qbpp = JpegLsBits.bitsLen (traits P N).Range := by
  rw [traits, newTraits_eq]

theorem traits_qbpp (P : Nat) (N : Int) (h : Admissible P N) :
    ∃ q : Nat, (traits P N).Qbpp = q ∧ 1 ≤ q ∧ q ≤ P ∧ (2 : Int) ^ (q - 1) < (traits P N).Range ∧
      (traits P N).Range ≤ (2 : Int) ^ q := by
  obtain ⟨hR2, hRP, _⟩ := traits_range P N h
  obtain ⟨q, hq1, hq2, hq3, hq4⟩ := JpegLsBits.bitsLen_spec (traits P N).Range hR2 (by omega)
  refine ⟨q, (traits_qbpp_eq P N).trans hq1, hq2, ?_, hq3, hq4⟩
  have : q - 1 < P := Int.lt_of_two_pow_lt (by omega)
  omega

/-- `traits_qbpp` as the escape code of the Golomb coder needs it: a value below RANGE fits `qbpp` bits -/
theorem traits_range_fits (P : Nat) (N : Int) (h : Admissible P N) :
    (traits P N).Range ≤ 2 ^ (traits P N).Qbpp.toNat := by
  obtain ⟨q, hQ, -, -, -, hq⟩ := traits_qbpp P N h
  rwa [hQ, Int.toNat_natCast]

theorem traits_limit (P : Nat) (N : Int) (hP : 2 ≤ P ∧ P ≤ 16) : (traits P N).Limit = 2 * (P + max 8 (P : Int)) := by
  rw [traits, newTraits_eq, bitsLen_maxval P hP]

theorem traits_reset (P : Nat) (N : Int) : (traits P N).Reset = 64 := by
  rw [traits, newTraits_eq]
  rfl

theorem traits_thresholds (P : Nat) (N : Int) (h : Admissible P N) :
    N + 1 ≤ (traits P N).T1 ∧ (traits P N).T1 ≤ (traits P N).T2 ∧ (traits P N).T2 ≤ (traits P N).T3 ∧
      (traits P N).T3 ≤ (traits P N).MaxVal := by
  have hm3 : 3 ≤ (2 : Int) ^ P - 1 := (traits_wf P N h).maxval_ge
  rw [traits, newTraits_eq]
  exact thresholds_ordered ((2 : Int) ^ P - 1) N (by have := h.2.2.2; omega)

theorem maxVal_nonneg (P : Nat) (N : Int) : (0 : Int) ≤ (traits P N).MaxVal := by
  have : (0 : Int) < 2 ^ P := Int.pow_pos (by decide)
  show (0 : Int) ≤ 2 ^ P - 1
  omega

theorem cev_ne_zero (P : Nat) (N : Int) (h : Admissible P N) (d : Int)
    (hd : -((2 : Int) ^ P - 1) ≤ d ∧ d ≤ (2 : Int) ^ P - 1) (hout : Go.abs d > N) :
    Traits.ComputeErrorValue (traits P N) d ≠ 0 := by
  obtain ⟨q, hqb, hqr, hcase, -⟩ := errval_spec (traits_wf P N h) d hd
  intro hz
  -- the error is `q` up to one RANGE and `|q| < RANGE`, so `q = 0`, which puts `d` within NEAR of 0
  have hq0 : q = 0 := by omega
  subst hq0
  have := Go.abs_cases d
  have hNear : (traits P N).Near = N := rfl
  omega

theorem near_params_wf (P : Nat) (N : Int) (h : Admissible P N) :
    (traits P N).MaxVal = (2 : Int) ^ P - 1 ∧ (traits P N).Near = N ∧
    (traits P N).Range = ((traits P N).MaxVal + 2 * N) / (2 * N + 1) + 1 ∧
    (traits P N).MaxVal + 2 * N + 1 ≤ (traits P N).Range * (2 * N + 1) ∧
    (∃ q : Nat, (traits P N).Qbpp = q ∧ 1 ≤ q ∧ q ≤ P ∧ (2 : Int) ^ (q - 1) < (traits P N).Range ∧
        (traits P N).Range ≤ (2 : Int) ^ q) ∧
    (N + 1 ≤ (traits P N).T1 ∧ (traits P N).T1 ≤ (traits P N).T2 ∧ (traits P N).T2 ≤ (traits P N).T3 ∧
        (traits P N).T3 ≤ (traits P N).MaxVal) ∧
    (traits P N).Limit = 2 * (P + max 8 (P : Int)) ∧ (traits P N).Qbpp + 1 < (traits P N).Limit ∧
    (traits P N).Reset = 64 := by
  have wf := traits_wf P N h
  obtain ⟨q, hQ, hq⟩ := traits_qbpp P N h
  have hL := traits_limit P N h.1
  exact ⟨rfl, rfl, wf.hR, wf.period.2, ⟨q, hQ, hq⟩, traits_thresholds P N h, hL, by rw [hL, hQ]; omega,
    traits_reset P N⟩

example : Admissible 12 3 := by decide

example : (traits 12 3).Range = 586 ∧ (traits 12 3).Qbpp = 10 ∧ (traits 12 3).Limit = 48 ∧
    (traits 12 3).T1 = 27 ∧ (traits 12 3).T2 = 82 ∧ (traits 12 3).T3 = 297 := by decide

/-- the error value the encoder transmits for source sample `x`, prediction `Px`, sign `s` -/
def err (P : Nat) (N Px x s : Int) : Int := Traits.ComputeErrorValue (traits P N) (s * (x - Px))

/-- the reconstruction encoder and decoder both compute from it -/
def recon (P : Nat) (N Px x s : Int) : Int :=
  Traits.ComputeReconstructedSample (traits P N) Px (s * err P N Px x s)

theorem near_sample_bound (P : Nat) (N : Int) (h : Admissible P N) (Px x sign : Int)
    (hPx : 0 ≤ Px ∧ Px ≤ (2 : Int) ^ P - 1) (hx : 0 ≤ x ∧ x ≤ (2 : Int) ^ P - 1)
    (hs : sign = 1 ∨ sign = -1) :
    (-N ≤ recon P N Px x sign - x ∧ recon P N Px x sign - x ≤ N) ∧
    (0 ≤ recon P N Px x sign ∧ recon P N Px x sign ≤ (2 : Int) ^ P - 1) ∧
    (((traits P N).Range + 1) / 2 - (traits P N).Range ≤ err P N Px x sign ∧
      err P N Px x sign < ((traits P N).Range + 1) / 2) :=
  sample_bound (traits_wf P N h) Px x sign hPx hx hs

example : Admissible 8 2 ∧ (0 ≤ (250 : Int) ∧ (250 : Int) ≤ 2 ^ 8 - 1) := by decide

example : err 8 2 250 3 1 = 3 ∧ recon 8 2 250 3 1 = 5 := by decide

theorem near_mapped_fits (P : Nat) (N : Int) (h : Admissible P N) (Px x sign : Int)
    (hPx : 0 ≤ Px ∧ Px ≤ (2 : Int) ^ P - 1) (hx : 0 ≤ x ∧ x ≤ (2 : Int) ^ P - 1)
    (hs : sign = 1 ∨ sign = -1) (c : Int) (hc : c = 0 ∨ c = -1) :
    0 ≤ MapErrorValue (Go.xor c (err P N Px x sign)) ∧
      MapErrorValue (Go.xor c (err P N Px x sign)) - 1 < (2 : Int) ^ (traits P N).Qbpp.toNat := by
  have hb := (near_sample_bound P N h Px x sign hPx hx hs).2.2
  obtain ⟨_, hR16, h16⟩ := traits_range P N h
  exact map_fits _ (traits P N).Range _ c (by omega) (traits_range_fits P N h) (by omega) hc

theorem near_zero_exact (P : Nat) (hP : 2 ≤ P ∧ P ≤ 16) (Px x sign : Int)
    (hPx : 0 ≤ Px ∧ Px ≤ (2 : Int) ^ P - 1) (hx : 0 ≤ x ∧ x ≤ (2 : Int) ^ P - 1)
    (hs : sign = 1 ∨ sign = -1) : recon P 0 Px x sign = x := by
  have := (near_sample_bound P 0 (admissible_zero P hP) Px x sign hPx hx hs).1
  omega

example : recon 12 0 0 4095 1 = 4095 ∧ err 12 0 0 4095 1 = -1 := by decide

end JpegLsNear
