import GdcVerif.Lemmas.Htj2kVlcTable
import GdcVerif.Lemmas.Htj2kUvlc
import GdcVerif.Lemmas.Htj2kSignMag
/-!
  The HT cleanup pass model (`Model/Htj2kBlock.lean`): one quad through the context VLC and MEL, the step that ends a
  first-row quad pair (the pair's mode with its MEL event, then the U-VLC), and that a quad prepared from admissible
  coefficients is a valid `QuadSig`.
-/
namespace Htj2k

/-- the context-VLC rows of a quad row: `VLCTbl0` for the first row pair, `VLCTbl1` after it (the choice
    `encodeTuple` makes inline) -/
def rowsOf (initial : Bool) : List VlcRow := if initial then vlcRows0 else vlcRows1

/-- what the encoder hands to the VLC and MEL writers for one quad -/
def quadItem (initial : Bool) (cq rho eps : Nat) : Nat × Nat :=
  (encodeTuple initial cq rho eps / 256, encodeTuple initial cq rho eps / 16 % 8)
def quadMel (cq rho : Nat) : List Bool := if cq = 0 then [decide (rho ≠ 0)] else []

/-- the scratch entry the decoder must end up with -/
def quadRow (initial : Bool) (cq rho eps : Nat) : Option VlcRow :=
  if rho = 0 ∧ cq = 0 then none else encSelect (rowsOf initial) cq rho eps

/-- one quad as the pair coder sees it: significance pattern, U_q - 1 and the exponent mask -/
structure QuadSig where
  rho : Nat
  u : Nat
  eps : Nat

/-- holds of every prepared quad (`prepared_quad_valid`); `u ≤ 32`: the codes without extension -/
def QuadSig.Valid (q : QuadSig) : Prop :=
  q.rho < 16 ∧ q.eps < 16 ∧ q.eps &&& q.rho = q.eps ∧ (q.eps = 0 ↔ q.u = 0) ∧ q.u ≤ 32

/-- VLC items and MEL events of one turn of `encodeOJPHInitialRows`, in writing order -/
def pairVlcItems (cq0 : Nat) (hasQ1 : Bool) (q0 q1 : QuadSig) : List (Nat × Nat) :=
  [quadItem true cq0 q0.rho q0.eps] ++
  (if hasQ1 then [quadItem true (q0.rho / 2 ||| q0.rho % 2) q1.rho q1.eps] else []) ++
  uvlcItems true q0.u (if hasQ1 then q1.u else 0)

def pairMel (cq0 : Nat) (hasQ1 : Bool) (q0 q1 : QuadSig) : List Bool :=
  quadMel cq0 q0.rho ++
  (if hasQ1 then quadMel (q0.rho / 2 ||| q0.rho % 2) q1.rho else []) ++
  (if hasQ1 ∧ q0.u > 0 ∧ q1.u > 0 then [decide (min q0.u q1.u > 2)] else [])

theorem winOf_head_mod (c n X : Nat) (hc : c < 2 ^ n) : (c % 2 ^ n + X * 2 ^ n) / 2 ^ n = X := by
  rw [Nat.mod_eq_of_lt hc, add_mul_pow_div X hc]

theorem rowsOf_ok (initial : Bool) : rowsOk (rowsOf initial) = true ∧ encComplete (rowsOf initial) = true := by
  cases initial
  · exact ⟨tbl1_ok.1, tbl1_ok.2.2.1⟩
  · exact ⟨tbl0_ok.1, tbl0_ok.2.2.1⟩

theorem quad_vlc_roundtrip (initial : Bool) (cq rho eps : Nat) (hcq : cq < 8) (hrho : rho < 16) (heps : eps < 16)
    (hsub : eps &&& rho = eps) :
    (∀ (mr : List Bool) (X : Nat), decVlcQuad (rowsOf initial) cq true
      { mel := quadMel cq rho ++ mr, vlc := winOf [quadItem initial cq rho eps] X } =
      (quadRow initial cq rho eps, { mel := mr, vlc := X })) ∧
    rowRho (quadRow initial cq rho eps) = rho ∧
    rowUoff (quadRow initial cq rho eps) = (if eps = 0 then 0 else 1) ∧
    eps &&& rowEk (quadRow initial cq rho eps) = rowE1 (quadRow initial cq rho eps) := by
  by_cases hz : rho = 0 ∧ cq = 0
  · -- all-zero quad in context 0: no codeword, MEL event 0
    obtain ⟨hr, hc⟩ := hz
    subst hr; subst hc
    have he : eps = 0 := by simpa using hsub.symm
    subst he
    simp [decVlcQuad, quadRow, quadMel, quadItem, encodeTuple, winOf, HtDecStreams.melNext, HtDecStreams.adv,
      rowLen, rowRho, rowUoff, rowEk, rowE1]
  · obtain ⟨hok, hcomp⟩ := rowsOf_ok initial
    obtain ⟨r, hr, hd, hrho', huoff, he1, hl1, hl7, hcwd, hek⟩ :=
      encSelect_decLookup (rowsOf initial) hok hcomp cq rho eps hcq hrho heps hsub hz
    have hrow : quadRow initial cq rho eps = some r := by unfold quadRow; rw [if_neg hz, hr]
    -- the encoder's entry `cwd<<8 | len<<4 | e_k` hands the row's codeword and length to the writer
    have hitem : quadItem initial cq rho eps = (r.cwd, r.len) := by
      have htuple : encodeTuple initial cq rho eps = r.cwd * 256 + r.len * 16 + r.ek := by
        unfold encodeTuple encEntry
        rw [if_neg hz]
        show (match encSelect (rowsOf initial) cq rho eps with | some r => _ | none => 0) = _
        rw [hr]
      unfold quadItem
      rw [htuple, show (r.cwd * 256 + r.len * 16 + r.ek) / 256 = r.cwd by omega,
        show (r.cwd * 256 + r.len * 16 + r.ek) / 16 % 8 = r.len by omega]
    rw [hrow, hitem]
    refine ⟨fun mr X => ?_, hrho', huoff, he1⟩
    have hrne : cq = 0 → rho ≠ 0 := fun hc h => hz ⟨h, hc⟩
    show decVlcQuad _ cq true ⟨_, r.cwd % 2 ^ r.len + X * 2 ^ r.len⟩ = _
    unfold decVlcQuad
    simp only [Nat.mod_eq_of_lt hcwd, hd]
    by_cases hc0 : cq = 0 <;>
      simp [hc0, hrne, quadMel, HtDecStreams.melNext, HtDecStreams.adv, rowLen, add_mul_pow_div _ hcwd]

theorem ctx_lt8 (rho : Nat) (h : rho < 16) : rho / 2 ||| rho % 2 < 8 :=
  Nat.or_lt_two_pow (n := 3) (by omega) (by omega)

theorem QuadSig.Valid.uoff {q : QuadSig} (h : q.Valid) : (if q.eps = 0 then 0 else 1 : Nat) = if q.u > 0 then 1 else 0 := by
  have := h.2.2.2.1
  by_cases he : q.eps = 0
  · rw [if_pos he, if_neg (by omega)]
  · rw [if_neg he, if_pos (by omega)]

theorem decVlcQuad_absent (rows : List VlcRow) (cq : Nat) (s : HtDecStreams) : decVlcQuad rows cq false s = (none, s) := by
  simp [decVlcQuad, rowLen, HtDecStreams.adv]

/-- the mode of a first-row pair: the two `u_off` flags and, when both are set, one MEL event -/
def pairMode (uo0 uo1 : Nat) (s : HtDecStreams) : Nat × HtDecStreams :=
  let mode := uo0 * 64 + uo1 * 128
  if mode = 192 then (let (b, s) := s.melNext; (if b then mode + 64 else mode, s)) else (mode, s)

/-- the last step of `decInitialPair`, once both quads' `u_off` are known -/
def decPairUvlc (uo0 uo1 : Nat) (s : HtDecStreams) : Nat × Nat × HtDecStreams :=
  let (mode, s) := pairMode uo0 uo1 s
  let (u0, u1, n) := decodeUVLC true mode s.vlc
  (u0, u1, s.adv n)

theorem decInitialPair_eq (w x cq : Nat) (s : HtDecStreams) : decInitialPair w x cq s =
    let q0 := decVlcQuad vlcRows0 cq true s
    let q1 := decVlcQuad vlcRows0 (rowRho q0.1 / 2 ||| rowRho q0.1 % 2) (decide (x + 2 < w)) q0.2
    let r := decPairUvlc (rowUoff q0.1) (rowUoff q1.1) q1.2
    (((q0.1, 1 + r.1), (q1.1, 1 + r.2.1)), rowRho q1.1 / 2 ||| rowRho q1.1 % 2, r.2.2) := by
  simp only [decInitialPair, decPairUvlc, pairMode]

theorem pairMode_eq (a b v : Nat) (mr : List Bool) :
    pairMode (if a > 0 then 1 else 0) (if b > 0 then 1 else 0)
      { mel := (if a > 0 ∧ b > 0 then [decide (min a b > 2)] else []) ++ mr, vlc := v } =
      (uvlcMode true a b, { mel := mr, vlc := v }) := by
  have hm : (a > 2 ∧ b > 2) ↔ min a b > 2 := by omega
  unfold pairMode uvlcMode
  simp only [true_and, hm]
  by_cases hab : a > 0 ∧ b > 0
  · -- both flags set (mode 192): the event is read, and adds 64 when set
    obtain ⟨h0, h1⟩ := hab
    simp only [h0, h1, and_self, if_true, HtDecStreams.melNext, List.cons_append, List.nil_append]
    by_cases h2 : min a b > 2 <;> simp [h2]
  · -- no event: the mode is not 192, and not both exceed 2
    have h2 : ¬ min a b > 2 := by omega
    have hne : (if a > 0 then 1 else 0) * 64 + (if b > 0 then 1 else 0) * 128 ≠ 192 := by
      split <;> split <;> omega
    simp only [hab, h2, hne, if_false, List.nil_append, Nat.add_zero]
    split <;> split <;> rfl

theorem pair_uvlc_roundtrip (a b vr : Nat) (mr : List Bool) (ha : a ≤ 32) (hb : b ≤ 32) :
    decPairUvlc (if a > 0 then 1 else 0) (if b > 0 then 1 else 0)
      { mel := (if a > 0 ∧ b > 0 then [decide (min a b > 2)] else []) ++ mr, vlc := winOf (uvlcItems true a b) vr } =
      (a, b, { mel := mr, vlc := vr }) := by
  unfold decPairUvlc
  rw [pairMode_eq]
  simp only [decodeUVLC_items true a b vr ha hb, HtDecStreams.adv, winOf_div]

/-- the 4-bit mask of four flags, as the sum `prepQuad` and `epsOf` form (so both are `mask4` by unfolding) -/
def mask4 (b0 b1 b2 b3 : Bool) : Nat := ([b0, b1, b2, b3].zipIdx.map fun (b, i) => if b then 2 ^ i else 0).sum

theorem mask4_lt : ∀ b0 b1 b2 b3 : Bool, mask4 b0 b1 b2 b3 < 16 := by decide

theorem mask4_eq_zero : ∀ b0 b1 b2 b3 : Bool,
    mask4 b0 b1 b2 b3 = 0 ↔ b0 = false ∧ b1 = false ∧ b2 = false ∧ b3 = false := by decide

theorem mask4_subset : ∀ f0 f1 f2 f3 s0 s1 s2 s3 : Bool, (f0 → s0) → (f1 → s1) → (f2 → s2) → (f3 → s3) →
    mask4 f0 f1 f2 f3 &&& mask4 s0 s1 s2 s3 = mask4 f0 f1 f2 f3 := by decide +kernel

/-- a quad with significance flags `s`, exponents `e` (0 where not significant) and `M` their maximum -/
theorem quadSig_valid (s0 s1 s2 s3 : Bool) (e0 e1 e2 e3 M : Nat)
    (a0 : s0 = false → e0 = 0) (a1 : s1 = false → e1 = 0) (a2 : s2 = false → e2 = 0) (a3 : s3 = false → e3 = 0)
    (hle : M ≤ 33) (hatt : M = 0 ∨ e0 = M ∨ e1 = M ∨ e2 = M ∨ e3 = M) :
    QuadSig.Valid ⟨mask4 s0 s1 s2 s3, max M 1 - 1,
      if ((max M 1 - 1 : Nat) : Int) ≤ 0 then 0
      else mask4 (decide (e0 = M)) (decide (e1 = M)) (decide (e2 = M)) (decide (e3 = M))⟩ := by
  have hU : max M 1 - 1 = M - 1 := by omega
  unfold QuadSig.Valid
  dsimp only
  rw [hU]
  by_cases hu : ((M - 1 : Nat) : Int) ≤ 0
  · rw [if_pos hu]
    exact ⟨mask4_lt _ _ _ _, by decide, Nat.zero_and _, ⟨fun _ => by omega, fun _ => rfl⟩, by omega⟩
  · rw [if_neg hu]
    -- a flagged sample has exponent M ≥ 2, hence is significant
    have sig : ∀ (s : Bool) (e : Nat), (s = false → e = 0) → decide (e = M) = true → s = true := by
      intro s e a h
      cases s
      · have := a rfl; have : e = M := of_decide_eq_true h; omega
      · rfl
    refine ⟨mask4_lt _ _ _ _, mask4_lt _ _ _ _,
      mask4_subset _ _ _ _ _ _ _ _ (sig _ _ a0) (sig _ _ a1) (sig _ _ a2) (sig _ _ a3),
      ⟨fun h => ?_, fun h => by omega⟩, by omega⟩
    -- the maximum is attained, so some sample is flagged
    have h := (mask4_eq_zero _ _ _ _).mp h
    simp only [decide_eq_false_iff_not] at h
    simp only [h, or_false] at hatt
    omega

theorem prepQuad_four (kmax : Nat) (t0 t1 t2 t3 : Nat) :
    (prepQuad kmax [t0, t1, t2, t3]).rho = mask4 (prepSample kmax t0).1 (prepSample kmax t1).1
      (prepSample kmax t2).1 (prepSample kmax t3).1 ∧
    (prepQuad kmax [t0, t1, t2, t3]).eQ = [(prepSample kmax t0).2.1, (prepSample kmax t1).2.1,
      (prepSample kmax t2).2.1, (prepSample kmax t3).2.1] ∧
    (prepQuad kmax [t0, t1, t2, t3]).eQMax = max (max (max (max 0 (prepSample kmax t0).2.1) (prepSample kmax t1).2.1)
      (prepSample kmax t2).2.1) (prepSample kmax t3).2.1 := ⟨rfl, rfl, rfl⟩

theorem epsOf_four (e0 e1 e2 e3 M : Nat) (u : Int) :
    epsOf [e0, e1, e2, e3] M u =
      if u ≤ 0 then 0 else mask4 (decide (e0 = M)) (decide (e1 = M)) (decide (e2 = M)) (decide (e3 = M)) := by
  simp only [epsOf, mask4, List.zipIdx_cons, List.zipIdx_nil, List.map, decide_eq_true_eq]

end Htj2k
