import GdcVerif.Lemmas.MqcSeg
/-!
  The decoder of a later codeword segment, seen at absolute buffer positions: `shiftDec pre d` puts the bytes `pre`
  of the earlier segments in front of the decoder's data.  Decoding commutes with this view, so the lock-step relation
  `Rel` (stated for absolute positions of the encoder's buffer) applies to every segment.
-/
namespace Mqc

def shiftDec (pre : Array Nat) (d : Dec) : Dec := { d with data := pre ++ d.data, bp := pre.size + d.bp }

theorem get_shift (pre data : Array Nat) (k : Nat) : (pre ++ data)[pre.size + k]? = data[k]? := by
  rw [Array.getElem?_append_right (by omega)]
  congr 1; omega

theorem bytein_shift (pre : Array Nat) (d : Dec) : bytein (shiftDec pre d) = (bytein d).map (shiftDec pre) := by
  unfold bytein shiftDec
  simp only [Array.size_append]
  by_cases h : d.bp + 1 ≥ d.data.size
  · rw [if_pos (by omega), if_pos h]; rfl
  · rw [if_neg (by omega), if_neg h]
    rw [show pre.size + d.bp + 1 = pre.size + (d.bp + 1) by omega, get_shift, get_shift]
    cases d.data[d.bp + 1]? with
    | none => rfl
    | some next =>
      cases d.data[d.bp]? with
      | none => rfl
      | some cur =>
        simp only []
        split
        · split <;> rfl
        · rfl

theorem renormdLoop_shift (pre : Array Nat) : ∀ (fuel : Nat) (d : Dec),
    renormdLoop fuel (shiftDec pre d) = (renormdLoop fuel d).map (shiftDec pre) := by
  intro fuel
  induction fuel with
  | zero =>
    intro d
    simp only [renormdLoop]
    show (if d.a < 0x8000 then none else some (shiftDec pre d)) = _
    split <;> rfl
  | succ f ih =>
    intro d
    simp only [renormdLoop]
    show (if d.a < 0x8000 then _ else some (shiftDec pre d)) = _
    by_cases ha : d.a < 0x8000
    · rw [if_pos ha, if_pos ha]
      by_cases hct : d.ct = 0
      · have : (shiftDec pre d).ct = 0 := hct
        rw [if_pos this, if_pos hct, bytein_shift]
        cases bytein d with
        | none => rfl
        | some d1 =>
          exact ih { d1 with a := u32 (d1.a * 2), c := u32 (d1.c * 2), ct := d1.ct - 1 }
      · have : ¬ (shiftDec pre d).ct = 0 := hct
        rw [if_neg this, if_neg hct]
        exact ih { d with a := u32 (d.a * 2), c := u32 (d.c * 2), ct := d.ct - 1 }
    · rw [if_neg ha, if_neg ha]; rfl

theorem upd_shift (pre : Array Nat) (d : Dec) (a c : Nat) (ctx : Array Nat) :
    ({ shiftDec pre d with a := a, c := c, ctx := ctx } : Dec) = shiftDec pre { d with a := a, c := c, ctx := ctx } := rfl

theorem decodeCore_shift (pre : Array Nat) (d : Dec) (contextID cx qe nmps nlps sw : Nat) :
    decodeCore (shiftDec pre d) contextID cx qe nmps nlps sw =
      (decodeCore d contextID cx qe nmps nlps sw).map (fun r => (r.1, shiftDec pre r.2)) := by
  have hr : ∀ (d : Dec), renormd (shiftDec pre d) = (renormd d).map (shiftDec pre) := fun d => renormdLoop_shift pre 16 d
  have hm : ∀ (o : Option Dec) (b : Nat), (o.map (shiftDec pre)).map (fun x => (b, x)) =
      (o.map (fun x => (b, x))).map (fun r => (r.1, shiftDec pre r.2)) := by
    intro o b; cases o <;> rfl
  have key : ∀ (b a c : Nat) (ctx : Array Nat),
      Option.map (fun x => (b, x)) (renormd ({ shiftDec pre d with a := a, c := c, ctx := ctx } : Dec)) =
      Option.map (fun r => (r.1, shiftDec pre r.2)) (Option.map (fun x => (b, x)) (renormd { d with a := a, c := c, ctx := ctx })) := by
    intro b a c ctx
    rw [upd_shift, hr]
    exact hm _ _
  unfold decodeCore
  simp only [show (shiftDec pre d).a = d.a from rfl, show (shiftDec pre d).c = d.c from rfl,
    show (shiftDec pre d).ctx = d.ctx from rfl]
  split
  · split <;> exact key _ _ _ _
  · split
    · simp only [Option.map_some]
      -- generalised first: a plain `rfl` here sends the kernel into the 32-bit arithmetic
      generalize sub32 d.a qe = A
      generalize sub32 d.c (u32 (qe * 2 ^ 16)) = C
      exact congrArg some (congrArg (Prod.mk (cx / 128)) (upd_shift pre d A C d.ctx))
    · split <;> exact key _ _ _ _

theorem decode_shift (pre : Array Nat) (d : Dec) (cx : Nat) :
    decode (shiftDec pre d) cx = (decode d cx).map (fun r => (r.1, shiftDec pre r.2)) := by
  unfold decode
  show (match d.ctx[cx]? with | none => none | some c => _) = _
  cases d.ctx[cx]? with
  | none => rfl
  | some c =>
    simp only []
    cases lookup (c % 128) with
    | none => rfl
    | some r =>
      obtain ⟨qe, nmps, nlps, sw⟩ := r
      exact decodeCore_shift pre d cx c qe nmps nlps sw

theorem bytein_setctx (d : Dec) (C : Array Nat) :
    bytein { d with ctx := C } = (bytein d).map (fun r => { r with ctx := C }) := by
  unfold bytein
  simp only []
  split
  · rfl
  · split
    · split
      · split <;> rfl
      · rfl
    · rfl

theorem init_setctx (d : Dec) (C : Array Nat) :
    Dec.init { d with ctx := C } = (Dec.init d).map (fun r => { r with ctx := C }) := by
  unfold Dec.init
  simp only []
  cases (if d.dataLen = 0 then some 255 else d.data[0]?) with
  | none => rfl
  | some b0 =>
    simp only []
    have := bytein_setctx { d with c := u32 (b0 * 2 ^ 16) } C
    simp only [] at this
    rw [this]
    cases bytein { d with c := u32 (b0 * 2 ^ 16) } with
    | none => rfl
    | some d1 => rfl

/-- the arithmetic of `init_rel`: two bytes `b1`, `b2` of widths 8 and `w`, loaded as `init()` does (the first into bits
16.., the second by `bytein()`, then seven shifts), are their value in units of bit `23 - w` -/
theorem init_arith (b1 b2 w : Nat) (hw : w = 7 ∨ w = 8) (h1 : b1 < 256) (h2 : b2 < 256) :
    b1 * 65536 + b2 * 2 ^ (16 - w) < 33554432 ∧ 0 ≤ (w : Int) - 7 ∧ (w : Int) - 7 ≤ 8 ∧
    8 + w + 12 = 27 + ((w : Int) - 7).toNat ∧
    (b1 * 2 ^ w + b2) * 2 ^ (16 - ((w : Int) - 7).toNat) = (b1 * 65536 + b2 * 2 ^ (16 - w)) * 2 ^ 7 := by
  rcases hw with rfl | rfl <;> simp <;> omega

/-- `d` is the decoder before the `bytein()` of `init()`, standing at the encoder's position `p0`; after it the decoder
has consumed the two bytes behind `p0`, of widths 8 (the byte in front is no 0xFF) and `w`. -/
theorem init_rel (B : Nat → Nat) (last LEN : Nat) (hB : BOk B last LEN) (e0 : Enc) (p0 : Nat)
    (hbp : e0.bp = p0) (ha : e0.a = 0x8000) (hc : e0.c = 0) (hct : e0.ct = 12) (hnf : rd e0.buf p0 ≠ 255)
    (d : Dec) (hsz : d.data.size = LEN + 2) (hdata : ∀ k, k < LEN + 2 → rd d.data k = B (k + 1))
    (hdbp : d.bp = p0) (hple : p0 ≤ LEN) (hdc : d.c = B (p0 + 1) * 65536) (heos : d.eos = 0)
    (hdctx : d.ctx = e0.ctx) (hfe : FE B last e0) :
    ∃ d1, bytein d = some d1 ∧ d1.c < 33554432 ∧     -- `2^25`: the shift by 7 that follows stays below `2^32`
      Rel B last LEN e0 { d1 with a := 0x8000, c := d1.c * 2 ^ 7, ct := d1.ct - 7 } := by
  have hfe' : FA B last e0.buf p0 (0 * 2 ^ (12 : Int).toNat) ((0 + 32768) * 2 ^ (12 : Int).toNat) := by
    have := hfe; unfold FE at this; rw [hbp, hc, ha, hct] at this; exact this
  have hB0 : B p0 = rd e0.buf p0 := hfe'.no_carry (Nat.le_refl _)
  have hw1 : wd B last (p0 + 1) = 8 := wd_nff B last p0 (by rw [hB0]; exact hnf)
  obtain ⟨w, bp', eos', hw2, hw, h5, h6, h7, hd1⟩ :=
    bytein_reads B last LEN hB d hsz hdata (by omega) (fun h => absurd h (by omega))
  rw [hdbp, heos, Nat.add_zero] at hw2 hd1 h5
  obtain ⟨hcv, hlo, hhi, hwd, heq⟩ := init_arith (B (p0 + 1)) (B (p0 + 2)) w hw (hB.bytes _) (hB.bytes _)
  have hn : bp' + 1 + eos' - p0 = 2 := by omega
  rw [hdc, u32_id _ (Nat.lt_trans hcv (by decide))] at hd1
  refine ⟨_, hd1, hcv, ha.symm, hdctx, hsz, hdata, h6, h7, hlo, hhi, by show e0.bp < bp' + 1 + eos'; omega, ?_, ?_⟩
  · show Wd B last e0.bp (bp' + 1 + eos' - e0.bp) + e0.ct.toNat = 27 + ((w : Int) - 7).toNat
    rw [hbp, hct, hn]
    simp only [Wd, hw1, hw2, Nat.zero_add]; exact hwd
  · show Rv B last (B e0.bp - rd e0.buf e0.bp) e0.bp (bp' + 1 + eos' - e0.bp) * 2 ^ (16 - ((w : Int) - 7).toNat) =
      e0.c * 65536 + (B (p0 + 1) * 65536 + B (p0 + 2) * 2 ^ (16 - w)) * 2 ^ 7
    rw [hbp, hc, hn, hB0, Nat.sub_self]
    unfold Rv
    simp only [Wd, Seg, hw1, hw2, show p0 + 1 + 1 = p0 + 2 from rfl, Nat.zero_mul, Nat.zero_add]; exact heq

theorem decInit_rel (B : Nat → Nat) (last LEN : Nat) (hB : BOk B last LEN) (e0 : Enc) (p0 : Nat) (seg : List Nat)
    (hbp : e0.bp = p0) (ha : e0.a = 0x8000) (hc : e0.c = 0) (hct : e0.ct = 12) (hnf : rd e0.buf p0 ≠ 255)
    (pre : Array Nat) (hpre : pre.size = p0) (hpd : ∀ k, k < p0 → rd pre k = B (k + 1))
    (hlen : p0 + seg.length = LEN) (hseg : ∀ k, k < seg.length → seg[k]? = some (B (p0 + k + 1)))
    (hfe : FE B last e0) :
    ∃ d0, Dec.init (Dec.mk (seg ++ [0xFF, 0xFF]).toArray 0 seg.length 0x8000 0 0 0 e0.ctx) = some d0 ∧
      Rel B last LEN e0 (shiftDec pre d0) := by
  have hsz : (pre ++ (seg ++ [0xFF, 0xFF]).toArray).size = LEN + 2 := by simp [hpre]; omega
  have hdata : ∀ k, k < LEN + 2 → rd (pre ++ (seg ++ [0xFF, 0xFF]).toArray) k = B (k + 1) := by
    intro k hk
    rcases Nat.lt_or_ge k p0 with h | h
    · have : rd (pre ++ (seg ++ [0xFF, 0xFF]).toArray) k = rd pre k := by
        unfold rd; rw [Array.getElem?_append_left (by omega)]
      rw [this]; exact hpd k h
    · obtain ⟨k', rfl⟩ : ∃ k', k = pre.size + k' := ⟨k - p0, by omega⟩
      unfold rd
      rw [get_shift, List.getElem?_toArray]
      rcases Nat.lt_or_ge k' seg.length with h' | h'
      · rw [List.getElem?_append_left h', hseg k' h', hpre]; rfl
      · rw [List.getElem?_append_right (by omega), hB.pad (pre.size + k' + 1) (by omega)]
        have : k' - seg.length = 0 ∨ k' - seg.length = 1 := by omega
        rcases this with h0 | h0 <;> rw [h0] <;> rfl
  -- the decoder before its first `bytein()`, relative and at absolute positions
  let du : Dec := Dec.mk (seg ++ [0xFF, 0xFF]).toArray 0 seg.length 0x8000 (B (p0 + 1) * 65536) 0 0 e0.ctx
  obtain ⟨d1, hd1, hclt, hr7⟩ := init_rel B last LEN hB e0 p0 hbp ha hc hct hnf (shiftDec pre du) hsz hdata
    (by show pre.size + 0 = p0; omega) (by omega) rfl rfl rfl hfe
  rw [bytein_shift] at hd1
  cases hbu : bytein du with
  | none => rw [hbu] at hd1; exact absurd hd1 (by simp)
  | some d1u =>
    rw [hbu] at hd1
    obtain rfl : shiftDec pre d1u = d1 := Option.some.inj hd1
    unfold Dec.init
    simp only []
    have h0 : (if seg.length = 0 then some 0xFF else (seg ++ [0xFF, 0xFF]).toArray[0]?) = some (B (p0 + 1)) := by
      by_cases hne : seg.length = 0
      · rw [if_pos hne, hB.pad (p0 + 1) (by omega)]
      · rw [if_neg hne, List.getElem?_toArray, List.getElem?_append_left (by omega), hseg 0 (by omega)]
    rw [h0]
    simp only []
    have hb1 := hB.bytes (p0 + 1)
    rw [u32_id (B (p0 + 1) * 2 ^ 16) (by omega), show B (p0 + 1) * 2 ^ 16 = B (p0 + 1) * 65536 from rfl]
    simp only [du] at hbu
    rw [hbu]
    simp only []
    rw [u32_id (d1u.c * 2 ^ 7) (by have : (shiftDec pre d1u).c = d1u.c := rfl; omega)]
    exact ⟨_, rfl, hr7⟩

end Mqc
