import GdcVerif.Lemmas.T1LayeredLoop
import GdcVerif.Lemmas.T1BlockLock
/-!
  C20 — layered T1 round trip for all 64 code-block styles: what the pass loops deliver (`LoopsRun`) against
  `normalizePassRates` and the two entry points (`layered_seg`), then the three segment structures (TERMALL, `segAt_termall`;
  LAZY without TERMALL, `segAt_lazy`; neither, `t1_layered_roundtrip_plain`).
-/
namespace T1
open Gen

/-- `normalizePassRates` keeps the rate of every terminated pass: the fold runs from the right, its clip value `L` stays
at or above `lo`, the latest terminated rate in front (`RecsOk`), and a terminated rate never stands behind a 0xFF byte,
so it is neither clipped nor stepped back -/
theorem normalize_anchor (data : List Nat) : ∀ (recs : List PassRec) (lo : Nat), RecsOk lo recs →
    (∀ r, (r, true) ∈ recs → r ≤ data.length ∧ (0 < r → data.getD (r - 1) 0 ≠ 0xFF)) →
    lo ≤ data.length → (0 < lo → data.getD (lo - 1) 0 ≠ 0xFF) →
    ∃ (out : List Nat) (L : Nat), (recs.map (·.1)).foldr (fun rate (acc : List Nat × Nat) =>
        let lastRate := acc.2
        let (rate, lastRate) := if rate > lastRate then (lastRate, lastRate) else (rate, rate)
        let (rate, lastRate) :=
          if rate > 0 ∧ rate ≤ data.length ∧ data.getD (rate - 1) 0 = 0xFF then (rate - 1, rate - 1) else (rate, lastRate)
        (rate :: acc.1, lastRate)) (([] : List Nat), data.length) = (out, L) ∧
      out.length = recs.length ∧ lo ≤ L ∧ L ≤ data.length ∧ ∀ (k r : Nat), recs[k]? = some (r, true) → out[k]? = some r := by
  intro recs
  induction recs with
  | nil => intro lo _ _ hlo _; exact ⟨[], data.length, rfl, rfl, hlo, Nat.le_refl _, fun k r hk => absurd hk (by simp)⟩
  | cons x rest ih =>
    intro lo hok hall hlo hff
    obtain ⟨r, t⟩ := x
    obtain ⟨hlr, hok'⟩ := hok
    cases t with
    | true =>
      simp only [if_true] at hok'
      have hr := hall r List.mem_cons_self
      obtain ⟨out', L', he, hl', hlo', hL', hidx'⟩ := ih r hok' (fun r' hr' => hall r' (List.mem_cons_of_mem _ hr')) hr.1 hr.2
      refine ⟨r :: out', r, ?_, by simp only [List.length_cons]; omega, hlr, hr.1, ?_⟩
      · rw [List.map_cons, List.foldr_cons, he]
        simp only []
        rw [if_neg (show ¬ r > L' by omega)]
        simp only []
        rw [if_neg (show ¬(r > 0 ∧ r ≤ data.length ∧ data.getD (r - 1) 0 = 0xFF) from fun hh => hr.2 hh.1 hh.2.2)]
      · intro k r' hk
        cases k with
        | zero =>
          rw [List.getElem?_cons_zero] at hk ⊢
          injection hk with hk; injection hk with hk _
          rw [hk]
        | succ k =>
          rw [List.getElem?_cons_succ] at hk ⊢
          exact hidx' k r' hk
    | false =>
      simp only [Bool.false_eq_true, if_false] at hok'
      obtain ⟨out', L', he, hl', hlo', hL', hidx'⟩ := ih lo hok' (fun r' hr' => hall r' (List.mem_cons_of_mem _ hr')) hlo hff
      rw [List.map_cons, List.foldr_cons, he]
      simp only []
      have key : ∃ m, (if r > L' then (L', L') else (r, r)) = (m, m) ∧ lo ≤ m ∧ m ≤ L' := by
        by_cases hgt : r > L'
        · exact ⟨L', by rw [if_pos hgt], hlo', Nat.le_refl _⟩
        · exact ⟨r, by rw [if_neg hgt], hlr, by omega⟩
      obtain ⟨m, hm, hm1, hm2⟩ := key
      rw [hm]
      simp only []
      by_cases hF : m > 0 ∧ m ≤ data.length ∧ data.getD (m - 1) 0 = 0xFF
      · rw [if_pos hF]
        have : lo < m := by
          rcases Nat.lt_or_ge lo m with h' | h'
          · exact h'
          · exfalso
            have hmm : m = lo := by omega
            rw [hmm] at hF
            exact hff hF.1 hF.2.2
        refine ⟨(m - 1) :: out', m - 1, rfl, by simp only [List.length_cons]; omega, by omega, by omega, ?_⟩
        intro k r' hk
        cases k with
        | zero =>
          rw [List.getElem?_cons_zero] at hk
          injection hk with hk; injection hk with _ hk
          exact absurd hk (by decide)
        | succ k =>
          rw [List.getElem?_cons_succ] at hk ⊢
          exact hidx' k r' hk
      · rw [if_neg hF]
        refine ⟨m :: out', m, rfl, by simp only [List.length_cons]; omega, hm1, by omega, ?_⟩
        intro k r' hk
        cases k with
        | zero =>
          rw [List.getElem?_cons_zero] at hk
          injection hk with hk; injection hk with _ hk
          exact absurd hk (by decide)
        | succ k =>
          rw [List.getElem?_cons_succ] at hk ⊢
          exact hidx' k r' hk

theorem normalizeRates_anchor (data : List Nat) (recs : List PassRec) (hok : RecsOk 0 recs)
    (hall : ∀ r, (r, true) ∈ recs → r ≤ data.length ∧ (0 < r → data.getD (r - 1) 0 ≠ 0xFF)) :
    (normalizeRates (recs.map (·.1)) data).length = recs.length ∧
      ∀ (k r : Nat), recs[k]? = some (r, true) → (normalizeRates (recs.map (·.1)) data)[k]? = some r := by
  obtain ⟨out, L, he, hl, _, _, hidx⟩ := normalize_anchor data recs 0 hok hall (Nat.zero_le _) (fun hh => absurd hh (by omega))
  unfold normalizeRates
  rw [he]
  exact ⟨hl, hidx⟩

theorem layered_finish (w h orient style mb : Nat) (coeffs : List Int) (hlen : coeffs.length = w * h)
    (hmb : findMaxBitplane (padBlock w h coeffs) = some mb)
    (hseg : ¬(¬ styTermall style = true ∧ ¬ styLazy style = true))
    (hloop : LoopsRun w h (padBlock w h coeffs) orient style mb (3 * mb + 1) (styTermall style) (3 * mb + 1 + 1) (es0 w h)
      false 0 (3 * mb + 1) (PInv tr w h (padBlock w h coeffs) (fun _ _ => True) (planeOf mb 0) (typeOf 0) (es0 w h))) :
    ∃ rates bytes, encodeLayered w h orient style coeffs (3 * mb + 1) = .ok (rates, (mb : Int), bytes) ∧
      (styPterm style = false → bytes ≠ []) ∧
      (bytes ≠ [] → decodeLayered w h orient style (mb : Int) rates bytes = .ok coeffs) := by
  obtain ⟨hVsz, _⟩ := padBlock_spec w h coeffs
  obtain ⟨esF, recs, henc, htermF, hlenR, _, hbpF2, hrok, _, hrt, hdec⟩ := hloop
  have hpl : planeI mb 0 = (mb : Int) := by unfold planeI; omega
  have hpo : planeOf mb 0 = mb := by unfold planeOf; omega
  have hty : typeOf 0 = 2 := rfl
  rw [hpl, hty] at henc hdec
  rw [hpo] at hdec
  have hbp0 : (restartIf false (es0 w h)).mq.bp = 0 := rfl
  rw [hbp0] at hbpF2 hrok
  obtain ⟨hag, hgl⟩ := Agree.getBuffer htermF
  have hdecode := hdec _ hag
  obtain ⟨hnl, hnidx⟩ := normalizeRates_anchor (Mqc.getBuffer esF.mq) recs hrok (fun r hr => by
    obtain ⟨hr1, hr2⟩ := hrt r hr
    exact ⟨by rw [hgl]; omega, fun hpos => by
      rw [List.getD_eq_getElem?_getD, hag.1 (r - 1) (by omega), show r - 1 + 1 = r by omega]; exact hr2⟩)
  refine ⟨normalizeRates (recs.map (·.1)) (Mqc.getBuffer esF.mq), Mqc.getBuffer esF.mq, ?_, ?_, ?_⟩
  · rw [encodeLayered_eq w h orient style mb _ coeffs hlen hmb, henc []]
    rfl
  · intro hp hb
    have h0' : (Mqc.getBuffer esF.mq).length = 0 := by rw [hb]; rfl
    rw [hgl] at h0'
    have := hbpF2 hp rfl
    omega
  · intro hne
    obtain ⟨dsF, hdF, hdsz, hdata⟩ := hdecode (normalizeRates (recs.map (·.1)) (Mqc.getBuffer esF.mq))
      (fun k r hk => by rw [Nat.zero_add]; exact hnidx k r hk) (by rw [Nat.zero_add]; exact hnl)
      { st := { flags := Array.replicate ((w + 2) * (h + 2)) 0, data := Array.replicate ((w + 2) * (h + 2)) 0,
                mq := Mqc.Dec.newRaw [] },
        prevEnd := 0, prevCtx := #[], newSegment := true }
      ⟨rfl, rfl, fun _ => (es0_ok w h (padBlock w h coeffs) hVsz).2.2.1, fun h0 => absurd h0 (Nat.lt_irrefl 0)⟩
      (pinv_start tr_zero w h _ _ mb hmb _ _ True.intro)
    unfold decodeLayered
    rw [if_neg (by intro h0; exact hne (List.length_eq_zero_iff.mp h0)), if_neg (by rw [hnl, hlenR]; omega)]
    simp only []
    rw [if_neg hseg]
    rw [show (normalizeRates (recs.map (·.1)) (Mqc.getBuffer esF.mq)).length + 1 = 3 * mb + 1 + 1 by rw [hnl, hlenR], hdF]
    simp only []
    rw [readout w h coeffs hlen dsF.data hdsz hdata]

theorem layered_seg (w h orient style mb : Nat) (coeffs : List Int) (hlen : coeffs.length = w * h)
    (hbnd : ∀ c ∈ coeffs, c.natAbs < 2147483648) (hmb : findMaxBitplane (padBlock w h coeffs) = some mb)
    (hseg : ¬(¬ styTermall style = true ∧ ¬ styLazy style = true))
    (hsh : ∀ i, i < 3 * mb + 1 → SegAt style mb (styTermall style) i) :
    ∃ rates bytes, encodeLayered w h orient style coeffs (3 * mb + 1) = .ok (rates, (mb : Int), bytes) ∧
      (styPterm style = false → bytes ≠ []) ∧
      (bytes ≠ [] → decodeLayered w h orient style (mb : Int) rates bytes = .ok coeffs) := by
  obtain ⟨hVsz, _⟩ := padBlock_spec w h coeffs
  obtain ⟨hs0, hst0, _, _⟩ := es0_ok w h (padBlock w h coeffs) hVsz
  refine layered_finish w h orient style mb coeffs hlen hmb hseg ?_
  exact lloop_lock w h (padBlock w h coeffs) (padBlock_boundB 2147483648 (by decide) w h coeffs hbnd) orient style mb (3 * mb + 1)
    (styTermall style) hsh (3 * mb + 1) (3 * mb + 1 + 1) (es0 w h) false 0 (by omega) (by omega)
    (es0_okT w h _ hVsz) hst0 (fun h0 => absurd h0 (Nat.lt_irrefl 0)) (by omega) (by omega)

/-- **layered T1 round trip, all 64 code-block styles**: without PTERM the stream is never empty; under PTERM an
empty stream (which the decoder rejects) is not excluded -/
theorem t1_layered_roundtrip_all (w h orient style mb : Nat) (coeffs : List Int) (hlen : coeffs.length = w * h)
    (hbnd : ∀ c ∈ coeffs, c.natAbs < 2147483648) (hmb : findMaxBitplane (padBlock w h coeffs) = some mb)
    (hs : style < 64) :
    ∃ rates bytes, encodeLayered w h orient style coeffs (3 * mb + 1) = .ok (rates, (mb : Int), bytes) ∧
      (styPterm style = false → bytes ≠ []) ∧
      (bytes ≠ [] → decodeLayered w h orient style (mb : Int) rates bytes = .ok coeffs) := by
  by_cases hT : Go.and (style : Int) J2kT1.CblkStyleTermAll = 0
  · by_cases hL : Go.and (style : Int) J2kT1.CblkStyleLazy = 0
    · exact t1_layered_roundtrip_plain w h orient style mb coeffs hlen hbnd hmb hs hT hL
    · refine layered_seg w h orient style mb coeffs hlen hbnd hmb
        (fun hh => hh.2 (by rw [(style_bits style hs).1]; simpa using hL)) (fun i hi => ?_)
      rw [show styTermall style = false by rw [(style_bits style hs).2]; simpa using hT]
      exact segAt_lazy style mb i hi hL hT
  · exact layered_seg w h orient style mb coeffs hlen hbnd hmb
      (fun hh => hh.1 (by rw [(style_bits style hs).2]; simpa using hT)) (fun i hi => segAt_termall style mb _ i hi hT)

end T1
