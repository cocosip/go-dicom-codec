import GdcVerif.Lemmas.J2kTileClamp
import GdcVerif.Lemmas.J2kTiles
/-!
  The tile rectangle for an image with a reference-grid offset: the decoder's t2.NewTileDecoder (generated,
  `Gen.J2kTileClamp`) against T.800 B.3 and against the assembler's TileLayout.GetTileBounds (generated,
  `Gen.J2kTiles`).
-/
namespace J2k
open Gen.J2kTileClamp

/-- tile_assembler.go NewTileLayout for an arbitrary SIZ -/
def layoutOf (siz : SIZSegment) : Gen.J2kTiles.TileLayout :=
  { imageWidth := siz.Xsiz - siz.XOsiz, imageHeight := siz.Ysiz - siz.YOsiz,
    imageX0 := siz.XOsiz, imageY0 := siz.YOsiz, imageX1 := siz.Xsiz, imageY1 := siz.Ysiz,
    tileWidth := siz.XTsiz, tileHeight := siz.YTsiz, tileOffsetX := siz.XTOsiz, tileOffsetY := siz.YTOsiz,
    numTilesX := Gen.J2kTiles.ceilDiv (siz.Xsiz - siz.XTOsiz) siz.XTsiz,
    numTilesY := Gen.J2kTiles.ceilDiv (siz.Ysiz - siz.YTOsiz) siz.YTsiz }

/-- T.800 B.3: numXtiles (B-5) and the tile rectangle (B-7 … B-10) of tile index t = p + q·numXtiles -/
def b3NumX (siz : SIZSegment) : Int := (siz.Xsiz - siz.XTOsiz + siz.XTsiz - 1) / siz.XTsiz
def b3NumY (siz : SIZSegment) : Int := (siz.Ysiz - siz.YTOsiz + siz.YTsiz - 1) / siz.YTsiz
def b3Rect (siz : SIZSegment) (t : Int) : Int × Int × Int × Int :=
  let p := t % b3NumX siz
  let q := t / b3NumX siz
  (max (siz.XTOsiz + p * siz.XTsiz) siz.XOsiz, max (siz.YTOsiz + q * siz.YTsiz) siz.YOsiz,
   min (siz.XTOsiz + (p + 1) * siz.XTsiz) siz.Xsiz, min (siz.YTOsiz + (q + 1) * siz.YTsiz) siz.Ysiz)

/-- a SIZ segment as T.800 A.5.1 allows it (what the parser accepts), restricted to what matters here -/
def SizOk (siz : SIZSegment) : Prop :=
  0 ≤ siz.XTOsiz ∧ 0 ≤ siz.YTOsiz ∧ siz.XTOsiz ≤ siz.XOsiz ∧ siz.YTOsiz ≤ siz.YOsiz ∧
  siz.XOsiz < siz.Xsiz ∧ siz.YOsiz < siz.Ysiz ∧ 1 ≤ siz.XTsiz ∧ 1 ≤ siz.YTsiz

theorem tileDecoder_rect_eq_b3 (siz : SIZSegment) (t : Int) (ht : Bool) (hok : SizOk siz) (h0 : 0 ≤ t) :
    let td := NewTileDecoder ⟨t⟩ siz ht
    (td.tileX0, td.tileY0, td.tileX1, td.tileY1) = b3Rect siz t := by
  obtain ⟨a1, a2, a3, a4, a5, a6, a7, a8⟩ := hok
  have hnx : 0 < (siz.Xsiz - siz.XTOsiz + siz.XTsiz - 1) / siz.XTsiz := Int.ceilDiv_pos (by omega) (by omega)
  obtain ⟨h1, h2, h3, h4⟩ := NewTileDecoder_rect ⟨t⟩ siz ht
  simp only [Int.tdiv_eq_ediv_of_nonneg (by omega : 0 ≤ siz.Xsiz - siz.XTOsiz + siz.XTsiz - 1),
    if_neg (by omega : ¬ (siz.Xsiz - siz.XTOsiz + siz.XTsiz - 1) / siz.XTsiz ≤ 0), Int.tdiv_eq_ediv_of_nonneg h0, Int.tmod_eq_emod_of_nonneg h0]
    at h1 h2 h3 h4
  simp only [h1, h2, h3, h4, b3Rect, b3NumX, Int.add_mul, Int.one_mul, Int.add_assoc]

theorem tileDecoder_rect_eq_assembler (siz : SIZSegment) (t : Int) (ht : Bool) (hok : SizOk siz) (h0 : 0 ≤ t)
    (hlt : t < b3NumX siz * b3NumY siz) :
    let td := NewTileDecoder ⟨t⟩ siz ht
    Gen.J2kTiles.TileLayout.GetTileBounds (layoutOf siz) t =
      (td.tileX0 - siz.XOsiz, td.tileY0 - siz.YOsiz, td.tileX1 - siz.XOsiz, td.tileY1 - siz.YOsiz) := by
  intro td
  have hb : (td.tileX0, td.tileY0, td.tileX1, td.tileY1) = b3Rect siz t := tileDecoder_rect_eq_b3 siz t ht hok h0
  obtain ⟨a1, a2, a3, a4, a5, a6, a7, a8⟩ := hok
  have hcx : (layoutOf siz).numTilesX = b3NumX siz := J2k.ceilDiv_eq (by omega) a7
  have hcy : (layoutOf siz).numTilesY = b3NumY siz := J2k.ceilDiv_eq (by omega) a8
  simp only [Prod.mk.injEq, b3Rect] at hb
  rw [GetTileBounds_rect _ t h0 (by rw [hcx, hcy]; exact hlt), hcx, hb.1, hb.2.1, hb.2.2.1, hb.2.2.2]
  simp only [layoutOf, Int.add_mul, Int.one_mul, Int.add_comm, Int.add_left_comm]

end J2k
