import GdcVerif.Lemmas.T1LockStyles
import GdcVerif.Lemmas.T1Termall
import GdcVerif.Lemmas.MqcErterm
import GdcVerif.Lemmas.Loops
/-!
  The pass schedule of a code block.  Pass `i` of a block with top plane `mb` is the pass of type `(i + 2) % 3`
  (0 significance, 1 refinement, 2 cleanup) of plane `mb - (i + 2) / 3`; the loop variables `(bitplane, passIdx,
  passType)` of every pass loop of the model are these functions of `passIdx`.  A pass loop run for `n` iterations is
  the fold of its iteration over `List.range' i n` (`Loop.run_fold`), so that two loops are compared step by step
  (`Loop.foldlM_sim`) and a run of passes is proved in lock-step once (`passes_lock`).  The last pass of a run is kept apart
  (`stepL` against `stepR`): `Encode` terminates the coder between the pass and the context reset, and the decoder does
  not reset the contexts after its last pass (`encLoop_cut`, `encLoop_full`, `decLoopG_all`, with the fuel `Encode` and
  `DecodeWithBitplane` give their loops).
-/
namespace T1
open Gen

def planeOf (mb i : Nat) : Nat := mb - (i + 2) / 3
def typeOf (i : Nat) : Nat := (i + 2) % 3
/-- the loop variable `bitplane` in front of pass `i` (`-1` behind the cleanup pass of plane 0) -/
def planeI (mb i : Nat) : Int := (mb : Int) - (((i + 2) / 3 : Nat) : Int)

def rawAt (style mb i : Nat) : Bool := J2kT1.isLazyRawPass (planeOf mb i : Nat) (mb : Int) (typeOf i : Nat) (style : Int)
def termAt (style mb i : Nat) : Bool := J2kT1.isTerminatingPass (planeOf mb i : Nat) (mb : Int) (typeOf i : Nat) (style : Int)

theorem idx_next (mb i : Nat) (h : i < 3 * mb + 1) :
    planeI mb i = ((planeOf mb i : Nat) : Int) ∧ typeOf i ≤ 2 ∧
      (typeOf i = 2 → planeI mb (i + 1) = ((planeOf mb i : Nat) : Int) - 1 ∧ typeOf (i + 1) = 0) ∧
      (typeOf i ≠ 2 → planeI mb (i + 1) = ((planeOf mb i : Nat) : Int) ∧ typeOf (i + 1) = typeOf i + 1) := by
  unfold planeI planeOf typeOf; omega

theorem planeI_zero (mb : Nat) : planeI mb 0 = (mb : Int) := by
  unfold planeI; omega

theorem idx_last (mb : Nat) :
    planeOf mb (3 * mb) = 0 ∧ typeOf (3 * mb) = 2 ∧ planeI mb (3 * mb + 1) < 0 ∧ typeOf (3 * mb + 1) ≠ 2 := by
  unfold planeOf typeOf planeI; omega

theorem notLazy (bp mb pt style : Int) (hL : Go.and style J2kT1.CblkStyleLazy = 0) :
    J2kT1.isLazyRawPass bp mb pt style = false :=
  Bool.eq_false_iff.mpr fun h => (raw_pass bp mb pt style h).1 hL

theorem lazyRaw_eq (n mb pt : Nat) (style : Int) (hLz : Go.and style J2kT1.CblkStyleLazy ≠ 0) :
    J2kT1.isLazyRawPass (n : Int) (mb : Int) (pt : Int) style = decide (pt < 2 ∧ n + 3 < mb) := by
  rw [Bool.eq_iff_iff, isLazyRawPass_iff, decide_eq_true_iff]
  omega

theorem term_lazy (n mb pt : Nat) (style : Int) (hLz : Go.and style J2kT1.CblkStyleLazy ≠ 0)
    (hT : Go.and style J2kT1.CblkStyleTermAll = 0) :
    J2kT1.isTerminatingPass (n : Int) (mb : Int) (pt : Int) style =
      decide ((pt = 2 ∧ n = 0) ∨ (n + 3 = mb ∧ pt = 2) ∨ (n + 3 < mb ∧ 0 < pt)) := by
  rw [Bool.eq_iff_iff, isTerminatingPass_iff, hT, decide_eq_true_iff]
  omega

theorem lazyRaw_lt (b mb t : Nat) (style : Int) (h : J2kT1.isLazyRawPass (b : Int) (mb : Int) (t : Int) style = true) :
    t < 2 := by
  have := (raw_pass _ _ _ _ h).2.1; omega

/-- LAZY without TERMALL by pass index: 9 is the cleanup pass of plane `mb - 3`, 10 the first pass below it -/
theorem lazy_at (style mb j : Nat) (hj : j < 3 * mb + 1) (hLz : Go.and (style : Int) J2kT1.CblkStyleLazy ≠ 0)
    (hT : Go.and (style : Int) J2kT1.CblkStyleTermAll = 0) :
    rawAt style mb j = decide (typeOf j < 2 ∧ 10 ≤ j) ∧
      termAt style mb j = decide (j = 3 * mb ∨ j = 9 ∨ (10 ≤ j ∧ 0 < typeOf j)) := by
  constructor
  · exact (lazyRaw_eq (planeOf mb j) mb (typeOf j) (style : Int) hLz).trans (by
      rw [decide_eq_decide]; unfold planeOf; omega)
  · exact (term_lazy (planeOf mb j) mb (typeOf j) (style : Int) hLz hT).trans (by
      rw [decide_eq_decide]; unfold planeOf typeOf; omega)

/-- one iteration of `Encode`'s loop; the state is `(st, prevTerminated)` -/
def encStep (w h orient style : Nat) (V : Array Int) (mb i : Nat) (s : EncSt × Bool) : Option (EncSt × Bool) :=
  (passE w h orient V (planeOf mb i) (typeOf i) (restartIf s.2 (cvE i (typeOf i) s.1))).bind fun st =>
    (segE style (typeOf i) st).bind fun st =>
      (termE style (termAt style mb i) st).bind fun st =>
        (resetE style st).bind fun st =>
          some (st, termAt style mb i)

theorem encLoop_run (w h orient style : Nat) (V : Array Int) (mb np : Nat) (n f : Nat) (s : EncSt × Bool) (i : Nat)
    (hn : i + n ≤ np) (hm : i + n ≤ 3 * mb + 1) :
    encLoop w h orient style V mb np (f + n) s.1 (planeI mb i) i (typeOf i) s.2 =
      ((List.range' i n).foldlM (fun s i => encStep w h orient style V mb i s) s).bind fun s' =>
        encLoop w h orient style V mb np f s'.1 (planeI mb (i + n)) (i + n) (typeOf (i + n)) s'.2 := by
  refine Loop.run_fold (fun f s i => encLoop w h orient style V mb np f s.1 (planeI mb i) i (typeOf i) s.2)
    (encStep w h orient style V mb) (min np (3 * mb + 1)) ?_ n f s i (by omega)
  intro f s i hi
  obtain ⟨hp, hpt, h2, h3⟩ := idx_next mb i (by omega)
  show encLoop w h orient style V mb np (f + 1) s.1 (planeI mb i) i (typeOf i) s.2 = _
  rw [hp, encLoop_eqF, encLoopF_stepG 0 w h orient style V mb np f s.1 _ i _ s.2 hpt (by omega) (Nat.zero_le _)]
  unfold encStep termAt
  simp only [← encLoop_eqF, Option.bind_eq_bind, Option.bind_assoc, Option.bind_some]
  by_cases ht : typeOf i = 2
  · simp only [if_pos ht, (h2 ht).1, (h2 ht).2]
  · simp only [if_neg ht, (h3 ht).1, (h3 ht).2]

def decStep (rc : Recon) (w h orient style np mb i : Nat) (ds : DecSt) : Option DecSt :=
  (passDV rc false w h orient (planeOf mb i) (typeOf i) (cvD i (typeOf i) ds)).bind fun st =>
    (segD style (typeOf i) st).bind fun st =>
      if styReset style = true ∧ i + 1 < np then (resetCtxDec st.mq).map (fun m => ({ st with mq := m } : DecSt)) else some st

theorem decLoopG_run (rc : Recon) (w h orient style np mb : Nat) (n f : Nat) (ds : DecSt) (i : Nat)
    (hn : i + n ≤ np) (hm : i + n ≤ 3 * mb + 1) :
    decLoopG rc w h orient style np (f + n) ds (planeI mb i) i (typeOf i) =
      ((List.range' i n).foldlM (fun s i => decStep rc w h orient style np mb i s) ds).bind fun ds' =>
        decLoopG rc w h orient style np f ds' (planeI mb (i + n)) (i + n) (typeOf (i + n)) := by
  refine Loop.run_fold (fun f s i => decLoopG rc w h orient style np f s (planeI mb i) i (typeOf i))
    (decStep rc w h orient style np mb) (min np (3 * mb + 1)) ?_ n f ds i (by omega)
  intro f s i hi
  obtain ⟨hp, hpt, h2, h3⟩ := idx_next mb i (by omega)
  show decLoopG rc w h orient style np (f + 1) s (planeI mb i) i (typeOf i) = _
  rw [hp, decLoopG_step rc w h orient style np f s _ i _ hpt (by omega)]
  unfold decStep
  simp only [Option.bind_eq_bind, Option.bind_assoc]
  by_cases ht : typeOf i = 2
  · simp only [if_pos ht, (h2 ht).1, (h2 ht).2]
  · simp only [if_neg ht, (h3 ht).1, (h3 ht).2]

/-- a pass of `Encode` that is not terminated (R: with the context Reset behind it): pass, segmentation symbol, reset -/
def stepR (w h orient style : Nat) (V : Array Int) (mb i : Nat) (st : EncSt) : Option EncSt :=
  (passE w h orient V (planeOf mb i) (typeOf i) (cvE i (typeOf i) st)).bind fun st =>
    (segE style (typeOf i) st).bind (resetE style)
/-- the Last pass of a segment, in front of its termination: no context reset yet -/
def stepL (w h orient style : Nat) (V : Array Int) (mb i : Nat) (st : EncSt) : Option EncSt :=
  (passE w h orient V (planeOf mb i) (typeOf i) (cvE i (typeOf i) st)).bind (segE style (typeOf i))
def stepDR (rc : Recon) (w h orient style mb i : Nat) (ds : DecSt) : Option DecSt :=
  (passDV rc false w h orient (planeOf mb i) (typeOf i) (cvD i (typeOf i) ds)).bind fun st =>
    (segD style (typeOf i) st).bind (resetD style)
def stepDL (rc : Recon) (w h orient style mb i : Nat) (ds : DecSt) : Option DecSt :=
  (passDV rc false w h orient (planeOf mb i) (typeOf i) (cvD i (typeOf i) ds)).bind (segD style (typeOf i))

theorem stepR_eq (w h orient style : Nat) (V : Array Int) (mb i : Nat) (st : EncSt) :
    stepR w h orient style V mb i st = (stepL w h orient style V mb i st).bind (resetE style) := by
  unfold stepR stepL; rw [Option.bind_assoc]

theorem stepDR_eq (rc : Recon) (w h orient style mb i : Nat) (ds : DecSt) :
    stepDR rc w h orient style mb i ds = (stepDL rc w h orient style mb i ds).bind (resetD style) := by
  unfold stepDR stepDL; rw [Option.bind_assoc]

theorem post_next {val : Nat → Int → Int} {w h : Nat} {V : Array Int} {R : Mqc.Enc → Mqc.Dec → Prop} {mb : Nat} {es : EncSt}
    {ds : DecSt} (i : Nat) (hi : i + 1 < 3 * mb + 1) (hP : Post val w h V R (planeOf mb i) (typeOf i) es ds) :
    PInv val w h V R (planeOf mb (i + 1)) (typeOf (i + 1)) es ds := by
  obtain ⟨_, hpt, h2, h3⟩ := idx_next mb i (by omega)
  obtain ⟨hp', _⟩ := idx_next mb (i + 1) hi
  by_cases ht : typeOf i = 2
  · obtain ⟨e1, e2⟩ := h2 ht
    rw [show planeOf mb (i + 1) = planeOf mb i - 1 by omega, e2]
    rw [ht] at hP
    exact post_plane (by omega) hP
  · obtain ⟨e1, e2⟩ := h3 ht
    rw [show planeOf mb (i + 1) = planeOf mb i by omega, e2]
    exact post_succ hP

section Lock
variable {w h : Nat} {V : Array Int} {F : Mqc.Enc → Prop} {R : Mqc.Enc → Mqc.Dec → Prop}
  (hC : Coder F R) (hX : CoderCtx F R) {rc : Recon} {δ bound : Nat} {val : Nat → Int → Int} (hT : rc.Holds δ bound val)
  (hV : ∀ j, (gi V j).natAbs < bound)
include hC hX hT hV

omit hX in
theorem stepL_lock (orient style mb i : Nat) (hi : i < 3 * mb + 1) (es : EncSt) (hs : EncOk w h V es) :
    ∃ es', stepL w h orient style V mb i es = some es' ∧ EncOk w h V es' ∧ (F es'.mq → F es.mq) ∧
      (F es'.mq → ∀ ds, PInv val w h V R (planeOf mb i) (typeOf i) es ds →
        ∃ ds', stepDL rc w h orient style (mb + δ) i ds = some ds' ∧ Post val w h V R (planeOf mb i) (typeOf i) es' ds') := by
  have hpt : typeOf i ≤ 2 := (idx_next mb i hi).2.1
  obtain ⟨es2, he2, hok2, hback2, hlock2⟩ := step_lock hC hT hV (R := R) orient (planeOf mb i) i (typeOf i) hpt es hs
  obtain ⟨es3, he3, hok3, hback3, hlock3⟩ := segE_lock hC (val := val) (R := R) style (planeOf mb i) (typeOf i) (typeOf i) es2 hok2
  refine ⟨es3, by unfold stepL; rw [he2]; exact he3, hok3, fun hF => hback2 (hback3 hF), fun hF ds hP => ?_⟩
  obtain ⟨ds2, hd2, hP2⟩ := hlock2 (hback3 hF) ds hP
  obtain ⟨ds3, hd3, hP3⟩ := hlock3 hF ds2 hP2
  refine ⟨ds3, ?_, hP3⟩
  unfold stepDL
  rw [show planeOf (mb + δ) i = planeOf mb i + δ by unfold planeOf; omega, hd2]; exact hd3

theorem stepR_lock (orient style mb i : Nat) (hi : i + 1 < 3 * mb + 1) (es : EncSt) (hs : EncOk w h V es) :
    ∃ es', stepR w h orient style V mb i es = some es' ∧ EncOk w h V es' ∧ (F es'.mq → F es.mq) ∧
      (F es'.mq → ∀ ds, PInv val w h V R (planeOf mb i) (typeOf i) es ds →
        ∃ ds', stepDR rc w h orient style (mb + δ) i ds = some ds' ∧
          PInv val w h V R (planeOf mb (i + 1)) (typeOf (i + 1)) es' ds') := by
  obtain ⟨es3, he3, hok3, hback3, hlock3⟩ := stepL_lock hC hT hV (R := R) orient style mb i (by omega) es hs
  obtain ⟨es4, he4, hok4, hback4, hlock4⟩ := resetE_lock hX (val := val) (R := R) style (planeOf mb i) (typeOf i) es3 hok3
  refine ⟨es4, by rw [stepR_eq, he3]; exact he4, hok4, fun hF => hback3 (hback4 hF), fun hF ds hP => ?_⟩
  obtain ⟨ds3, hd3, hP3⟩ := hlock3 (hback4 hF) ds hP
  obtain ⟨ds4, hd4, hP4⟩ := hlock4 ds3 hP3
  exact ⟨ds4, by rw [stepDR_eq, hd3]; exact hd4, post_next i hi hP4⟩

theorem passes_lock (orient style mb : Nat) : ∀ (n i : Nat) (es : EncSt), i + n < 3 * mb + 1 → EncOk w h V es →
    ∃ es', ((List.range' i n).foldlM (fun s i => stepR w h orient style V mb i s) es).bind
          (stepL w h orient style V mb (i + n)) = some es' ∧ EncOk w h V es' ∧ (F es'.mq → F es.mq) ∧
      (F es'.mq → ∀ ds, PInv val w h V R (planeOf mb i) (typeOf i) es ds →
        ∃ ds', ((List.range' i n).foldlM (fun s i => stepDR rc w h orient style (mb + δ) i s) ds).bind
            (stepDL rc w h orient style (mb + δ) (i + n)) = some ds' ∧
          Post val w h V R (planeOf mb (i + n)) (typeOf (i + n)) es' ds') := by
  intro n
  induction n with
  | zero => intro i es hi hs; exact stepL_lock hC hT hV (R := R) orient style mb i hi es hs
  | succ n ih =>
    intro i es hi hs
    obtain ⟨es1, he1, hok1, hback1, hlock1⟩ := stepR_lock hC hX hT hV (R := R) orient style mb i (by omega) es hs
    obtain ⟨es', he', hok', hback', hlock'⟩ := ih (i + 1) es1 (by omega) hok1
    rw [show i + 1 + n = i + (n + 1) by omega] at he' hlock'
    refine ⟨es', by rw [List.range'_succ, List.foldlM_cons, he1]; exact he', hok', fun hF => hback1 (hback' hF),
      fun hF ds hP => ?_⟩
    obtain ⟨ds1, hd1, hP1⟩ := hlock1 (hback' hF) ds hP
    obtain ⟨ds', hd', hP'⟩ := hlock' hF ds1 hP1
    exact ⟨ds', by rw [List.range'_succ, List.foldlM_cons, hd1]; exact hd', hP'⟩
end Lock

theorem foldR_succ (w h orient style : Nat) (V : Array Int) (mb i n : Nat) (es : EncSt) :
    (List.range' i (n + 1)).foldlM (fun s i => stepR w h orient style V mb i s) es =
      (((List.range' i n).foldlM (fun s i => stepR w h orient style V mb i s) es).bind
        (stepL w h orient style V mb (i + n))).bind (resetE style) := by
  rw [List.range'_concat, List.foldlM_append]
  simp only [List.foldlM_cons, List.foldlM_nil, Nat.one_mul, bind_pure, Option.bind_eq_bind, Option.bind_assoc, stepR_eq]

theorem encStep_plain (w h orient style : Nat) (V : Array Int) (mb i : Nat)
    (hT : Go.and (style : Int) J2kT1.CblkStyleTermAll = 0) (hL : Go.and (style : Int) J2kT1.CblkStyleLazy = 0)
    (hi : i < 3 * mb) (st : EncSt) :
    encStep w h orient style V mb i (st, false) = (stepR w h orient style V mb i st).map fun st => (st, false) := by
  unfold encStep stepR termE termAt
  rw [nontermS _ _ _ _ hT hL (by unfold planeOf typeOf; omega)]
  simp only [Bool.false_eq_true, if_false, Option.bind_some, Option.map_eq_bind, Option.bind_assoc]
  rfl

theorem encStep_term (w h orient style : Nat) (V : Array Int) (mb i : Nat) (hterm : termAt style mb i = true) (st : EncSt) :
    encStep w h orient style V mb i (st, false) =
      (stepL w h orient style V mb i st).bind fun stP =>
        (termMq style stP.mq).bind fun m => (resetE style { stP with mq := m }).map fun st => (st, true) := by
  unfold encStep stepL termE termMq restartIf
  simp only [hterm, Bool.false_eq_true, if_false, if_true, Option.bind_assoc, Option.map_eq_bind, Option.bind_some,
    Function.comp_def]

theorem decStep_mid (rc : Recon) (w h orient style np mb i : Nat) (hi : i + 1 < np) (ds : DecSt) :
    decStep rc w h orient style np mb i ds = stepDR rc w h orient style mb i ds := by
  unfold decStep stepDR resetD
  by_cases hr : styReset style = true
  · simp only [hr, hi, and_self, if_true]
  · simp only [hr, Bool.false_eq_true, false_and, if_false]

theorem decStep_last (rc : Recon) (w h orient style np mb i : Nat) (hi : np ≤ i + 1) (ds : DecSt) :
    decStep rc w h orient style np mb i ds = stepDL rc w h orient style mb i ds := by
  unfold decStep stepDL
  simp only [show ¬ i + 1 < np by omega, and_false, if_false, Option.bind_fun_some]

theorem encLoop_plain (w h orient style : Nat) (V : Array Int) (mb np : Nat)
    (hT : Go.and (style : Int) J2kT1.CblkStyleTermAll = 0) (hL : Go.and (style : Int) J2kT1.CblkStyleLazy = 0)
    (n f : Nat) (st : EncSt) (hn : n ≤ np) (hm : n ≤ 3 * mb) :
    encLoop w h orient style V mb np (f + n) st (mb : Int) 0 2 false =
      ((List.range' 0 n).foldlM (fun s i => stepR w h orient style V mb i s) st).bind fun st' =>
        encLoop w h orient style V mb np f st' (planeI mb n) n (typeOf n) false := by
  have := encLoop_run w h orient style V mb np n f (st, false) 0 (by omega) (by omega)
  rw [planeI_zero] at this
  rw [show (2 : Nat) = typeOf 0 from rfl, this, Nat.zero_add,
    Loop.foldlM_sim (fun s i => stepR w h orient style V mb i s) _ (fun st => (st, false)) _ (fun i hi s =>
      encStep_plain w h orient style V mb i hT hL (by have := (List.mem_range'_1.mp hi).2; omega) s) st]
  cases (List.range' 0 n).foldlM (fun s i => stepR w h orient style V mb i s) st <;> rfl

theorem encLoop_cut (w h orient style : Nat) (V : Array Int) (mb np : Nat)
    (hT : Go.and (style : Int) J2kT1.CblkStyleTermAll = 0) (hL : Go.and (style : Int) J2kT1.CblkStyleLazy = 0)
    (st : EncSt) (hnp : np ≤ 3 * mb) :
    encLoop w h orient style V mb np (np + 1) st (mb : Int) 0 2 false =
      ((List.range' 0 np).foldlM (fun s i => stepR w h orient style V mb i s) st).map fun st' => (st', false) := by
  rw [Nat.add_comm np 1, encLoop_plain w h orient style V mb np hT hL np 1 st (Nat.le_refl _) hnp]
  simp only [fun s => encLoop_exit w h orient style V mb np 1 s (planeI mb np) np (typeOf np) false (Or.inr (Nat.le_refl _)),
    Option.map_eq_bind, Function.comp_def]

theorem decLoopG_all (rc : Recon) (w h orient style mb : Nat) (n : Nat) (ds : DecSt) (hm : n < 3 * mb + 1) :
    decLoopG rc w h orient style (n + 1) (n + 1 + 1) ds (mb : Int) 0 2 =
      ((List.range' 0 n).foldlM (fun s i => stepDR rc w h orient style mb i s) ds).bind
        (stepDL rc w h orient style mb n) := by
  have := decLoopG_run rc w h orient style (n + 1) mb (n + 1) 1 ds 0 (by omega) (by omega)
  rw [planeI_zero, Nat.zero_add] at this
  rw [show (2 : Nat) = typeOf 0 from rfl, Nat.add_comm (n + 1) 1, this, List.range'_concat, List.foldlM_append,
    Loop.foldlM_congr _ (fun s i => stepDR rc w h orient style mb i s) _ ds (fun i hi s =>
      decStep_mid rc w h orient style (n + 1) mb i (by have := (List.mem_range'_1.mp hi).2; omega) s)]
  simp only [List.foldlM_cons, List.foldlM_nil, Nat.one_mul, Nat.zero_add, bind_pure, Option.bind_eq_bind,
    decStep_last rc w h orient style (n + 1) mb n (Nat.le_refl _),
    fun s => decLoopG_exit rc w h orient style (n + 1) 1 s (planeI mb (n + 1)) (n + 1) (typeOf (n + 1)) (Or.inr (Nat.le_refl _)),
    Option.bind_fun_some]

theorem encLoop_full (w h orient style : Nat) (V : Array Int) (mb np : Nat)
    (hT : Go.and (style : Int) J2kT1.CblkStyleTermAll = 0) (hL : Go.and (style : Int) J2kT1.CblkStyleLazy = 0)
    (st : EncSt) (hnp : 3 * mb + 1 ≤ np) :
    encLoop w h orient style V mb np (np + 1) st (mb : Int) 0 2 false =
      (((List.range' 0 (3 * mb)).foldlM (fun s i => stepR w h orient style V mb i s) st).bind
        (stepL w h orient style V mb (3 * mb))).bind fun stP =>
          (termMq style stP.mq).bind fun m => (resetE style { stP with mq := m }).map fun st => (st, true) := by
  obtain ⟨f, hf⟩ : ∃ f, np + 1 = f + 1 + 3 * mb := ⟨np - 3 * mb, by omega⟩
  have hterm : termAt style mb (3 * mb) = true := by
    unfold termAt; rw [(idx_last mb).1, (idx_last mb).2.1]; exact terminating_last _ _
  rw [hf, encLoop_plain w h orient style V mb np hT hL (3 * mb) (f + 1) st (by omega) (Nat.le_refl _)]
  -- one more iteration, the terminated one; behind it the loop stops below plane 0
  simp only [fun s1 => encLoop_run w h orient style V mb np 1 f (s1, false) (3 * mb) (by omega) (by omega),
    List.range'_one, List.foldlM_cons, List.foldlM_nil, bind_pure, encStep_term _ _ _ _ _ _ _ hterm, Option.bind_assoc,
    Option.map_eq_bind, Function.comp_def, Option.bind_some,
    fun s t => encLoop_exit w h orient style V mb np f s _ (3 * mb + 1) (typeOf (3 * mb + 1)) t (Or.inl (idx_last mb).2.2.1)]

theorem schedule'_eq (n : Nat) :
    schedule.schedule' n = (List.range' 0 (3 * n + 1)).map fun i => (planeI n i, ((typeOf i : Nat) : Int)) := by
  induction n with
  | zero => rfl
  | succ n ih =>
    have hshift : List.range' 3 (3 * n + 1) = (List.range' 0 (3 * n + 1)).map (3 + ·) := by
      rw [List.map_add_range']
    rw [show 3 * (n + 1) + 1 = 3 * n + 1 + 1 + 1 + 1 by omega, List.range'_succ, List.range'_succ, List.range'_succ, hshift]
    simp only [schedule.schedule', ih, List.map_cons, List.map_map, List.cons.injEq, Prod.mk.injEq]
    refine ⟨⟨by unfold planeI; omega, rfl⟩, ⟨by unfold planeI; omega, rfl⟩, ⟨by unfold planeI; omega, rfl⟩,
      List.map_congr_left fun i _ => ?_⟩
    unfold planeI typeOf
    simp only [Function.comp, Prod.mk.injEq]
    omega

theorem schedule_eq (planes : Nat) (h : 1 ≤ planes) :
    schedule planes = (List.range' 0 (3 * planes - 2)).map fun i => (planeI (planes - 1) i, ((typeOf i : Nat) : Int)) := by
  match planes, h with
  | 1, _ => rfl
  | n + 2, _ =>
    rw [show schedule (n + 2) = schedule.schedule' (n + 1) from rfl, schedule'_eq, show 3 * (n + 2) - 2 = 3 * (n + 1) + 1 by omega]
    rfl
end T1
