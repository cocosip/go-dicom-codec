import GdcVerif.Lemmas.MqcSeg
/-!
  Terminations of an MQ codeword segment.  `FlushToOutput` and `ErtermEnc` are runs of one step, `Drain`: shift the code
  register by the pending `ct` and put out one byte.  A turn needs `Room e 1`; the facts `FX B last e x` of `MqcRoundtrip`
  travel backwards through it for an interval `[c, c + x)` of any width.  Both terminations end the same way,
  `TermFacts.of_final`: the interval has come to hold `2^27`, so behind the last byte only the decoder's 0xFF padding
  follows, and the coder steps over that byte unless it is a 0xFF.  `flush_term` is the whole of `FlushToOutput`; the state
  it ends in is `T1.TermOk`, from which `RestartInitEnc` starts the next segment.
-/
namespace Mqc

theorem byteout_ct (e : Enc) (k k' : Int) : byteout { e with ct := k } = byteout { e with ct := k' } := by
  unfold byteout; rfl

/-- one turn of a termination, `c <<= ct; byteout()`, from `e` to `e2`.  In `back` the width `x` is counted in units of
`c` before the shift, so that it becomes `x·2^ct`. -/
structure Drain (e e2 : Enc) : Prop where
  shl : shl32 e.c e.ct.toNat = e.c * 2 ^ e.ct.toNat
  out : ∀ k, byteout { e with c := e.c * 2 ^ e.ct.toNat, ct := k } = some e2
  bp : e2.bp = e.bp + 1
  ct : e2.ct = 7 ∨ e2.ct = 8
  ctx : e2.ctx = e.ctx
  rest : e2.c * 2 ^ e2.ct.toNat < 134217728
  split : ∃ A, e.c * 2 ^ e.ct.toNat * 2 ^ e2.ct.toNat = A * 134217728 + e2.c * 2 ^ e2.ct.toNat
  room : Room e2 1
  back : ∀ {x B last}, 1 ≤ x → FX B last e2 (x * 2 ^ e.ct.toNat) → FX B last e x

theorem drain_step (e : Enc) (h1 : Room e 1) (hc0 : 0 ≤ e.ct) (hc13 : e.ct ≤ 13) : ∃ e2, Drain e e2 := by
  have ho1 := h1.shift 0
  obtain ⟨e2, w, nb, δ, he2, hE, hr2⟩ := byteout_spec _ _ ho1
    (by rw [Nat.one_mul]; exact Nat.pow_le_pow_right (n := 2) (j := 16) (by decide) (by omega))
  have hW : e2.ct.toNat = w := by rw [hE.ct]; rfl
  refine ⟨e2, ?_, fun k => (byteout_ct { e with c := e.c * 2 ^ e.ct.toNat } k 0).trans he2, hE.bp, hE.ct78, hE.ctx,
    by rw [hW]; exact hE.rest, ⟨δ * 2 ^ w + nb, by rw [hW]; exact hE.split⟩,
    hr2.sub e2.c 1 (Nat.le_refl 1) (Nat.add_le_add_left hr2.x1 _), fun hx hf => ?_⟩
  · have := h1.A
    unfold shl32 u32; rw [if_neg (by omega)]
    rw [Nat.add_mul] at this; omega
  · have := byteout_back _ _ hE _ (Nat.mul_pos hx (Nat.two_pow_pos _)) hf
    unfold FX; rw [Nat.add_mul]; exact this

def finalB (buf : Array Nat) (last : Nat) : Nat → Nat := fun i => if i ≤ last then rd buf i else 255

theorem pad_suffix (B : Nat → Nat) (last : Nat) (hpad : ∀ j, last < j → B j = 255) :
    ∀ n, Wd B last last n = 8 * n ∧ Seg B last last n + 1 = 2 ^ (8 * n) := by
  intro n
  induction n with
  | zero => simp [Wd, Seg]
  | succ n ih =>
    have hw : wd B last (last + n + 1) = 8 := by unfold wd; rw [if_neg (by omega)]
    simp only [Wd, Seg, hw, hpad (last + n + 1) (by omega)]
    refine ⟨by omega, ?_⟩
    have : 2 ^ (8 * (n + 1)) = 2 ^ (8 * n) * 256 := by
      rw [show 8 * (n + 1) = 8 * n + 8 by omega, Nat.pow_add]
    rw [this, ← ih.2]
    omega

theorem FA_base (B : Nat → Nat) (last : Nat) (buf : Array Nat) (q u : Nat) (hpad : ∀ j, last < j → B j = 255)
    (hst : ∀ j, j ≤ last → rd buf j = B j) (hq : q < 134217728) (hu : 134217728 ≤ u) : FA B last buf last q u := by
  refine ⟨Nat.le_refl _, fun j hj => hst j (by omega), Or.inl (hst last (Nat.le_refl _)).symm, ?_, ?_⟩
  · intro n
    have hp := pad_suffix B last hpad (n + 1)
    unfold Lo Rv
    rw [hst last (Nat.le_refl _), Nat.sub_self, Nat.zero_mul, Nat.zero_add, hp.1, hp.2]
    have : q * 2 ^ (8 * (n + 1)) < 134217728 * 2 ^ (8 * (n + 1)) := Nat.mul_lt_mul_of_pos_right hq (Nat.two_pow_pos _)
    rw [Nat.mul_comm (2 ^ (8 * (n + 1)))]; exact this
  · intro n
    have hp := pad_suffix B last hpad n
    unfold Up Rv
    rw [hst last (Nat.le_refl _), Nat.sub_self, Nat.zero_mul, Nat.zero_add, hp.1]
    have h1 : Seg B last last n < 2 ^ (8 * n) := by omega
    have h2 : Seg B last last n * 134217728 < 2 ^ (8 * n) * 134217728 := Nat.mul_lt_mul_of_pos_right h1 (by decide)
    have h3 : 2 ^ (8 * n) * 134217728 ≤ u * 2 ^ (8 * n) := by
      rw [Nat.mul_comm]; exact Nat.mul_le_mul_right _ hu
    exact Nat.lt_of_lt_of_le h2 h3

open T1

/-- what a termination of the segment coded up to `e` leaves: the end state `ef` is `TermOk` with the contexts of `e`;
with `B` the final buffer (0xFF beyond `last`) the facts hold at `e` and `B` is a well-formed decoder input of
absolute length `len = ef.bp - 1` -/
structure TermFacts (e ef : Enc) (last len : Nat) : Prop where
  ctx : ef.ctx = e.ctx
  term : TermOk ef
  bok : BOk (finalB ef.buf last) last len
  fe : FE (finalB ef.buf last) last e
  len_eq : len = ef.bp - 1
  bytes : ∀ k, k < len → finalB ef.buf last (k + 1) = rd ef.buf (k + 1)

/-- the end of every termination.  At `e1` the interval `[c, c + x)`, scaled, has come to hold `2^27`, one unit of the byte
at `bp`, so the facts hold there and travel back to `e` by `hback`; `ef` steps over that byte (whatever it writes behind
it) unless it is a 0xFF. -/
theorem TermFacts.of_final {e e1 ef : Enc} {x : Nat} (hb : BufOk e1.buf e1.bp)
    (hq : e1.c * 2 ^ e1.ct.toNat < 134217728) (hu : 134217728 ≤ (e1.c + x) * 2 ^ e1.ct.toNat)
    (hback : ∀ B last, FX B last e1 x → FE B last e) (hctx : ef.ctx = e.ctx) (hC : CtxOk e.ctx)
    (hend : rd e1.buf e1.bp = 255 ∧ 1 ≤ e1.bp ∧ ef.bp = e1.bp ∨ rd e1.buf e1.bp ≠ 255 ∧ ef.bp = e1.bp + 1)
    (hsz : ef.bp ≤ ef.buf.size) (hbytes : ∀ i, rd ef.buf i < 256)
    (hsame : ∀ j, j ≤ e1.bp → rd ef.buf j = rd e1.buf j) : TermFacts e ef e1.bp (ef.bp - 1) := by
  have hpad : ∀ j, e1.bp < j → finalB ef.buf e1.bp j = 255 := fun j hj => if_neg (by omega)
  have hst : ∀ j, j ≤ e1.bp → finalB ef.buf e1.bp j = rd e1.buf j := fun j hj => (if_pos hj).trans (hsame j hj)
  -- the last byte of the stream is not a 0xFF: behind one, the byte at `bp` would be at most 0x8F
  have hlast : rd e1.buf (ef.bp - 1) ≠ 255 := by
    rcases hend with ⟨hff, h1, hbp⟩ | ⟨hff, hbp⟩
    · intro h255
      have := hb.marker (e1.bp - 1) (by omega) (by rwa [hbp] at h255)
      rw [show e1.bp - 1 + 1 = e1.bp by omega, hff] at this
      omega
    · rwa [hbp, Nat.add_sub_cancel]
  have hle : ef.bp - 1 ≤ e1.bp ∧ e1.bp ≤ ef.bp - 1 + 1 ∧ 1 ≤ ef.bp := by rcases hend with ⟨_, _, h⟩ | ⟨_, h⟩ <;> omega
  refine ⟨hctx, ⟨hle.2.2, hsz, hbytes, fun i hi h255 => ?_, by rwa [hsame _ hle.1], hctx ▸ hC⟩,
    ⟨fun j hj => ?_, hle.2.1, hle.1, fun j hj h255 => ?_, by rwa [hst _ hle.1], fun j => ?_⟩,
    hback _ _ (FA_base _ _ _ _ _ hpad (fun j hj => (hst j hj).symm) hq hu), rfl, fun k hk => if_pos (by omega)⟩
  · rw [hsame i (by omega)] at h255
    rw [hsame (i + 1) (by omega)]
    exact hb.marker i (by omega) h255
  · rcases Nat.lt_or_ge e1.bp j with h | h
    · exact hpad j h
    · rcases hend with ⟨hff, _, hbp⟩ | ⟨_, hbp⟩
      · rw [show j = e1.bp by omega, hst _ (Nat.le_refl _)]; exact hff
      · omega
  · rw [hst j (by omega)] at h255
    rw [hst (j + 1) hj]
    exact hb.marker j (by omega) h255
  · show (if j ≤ e1.bp then rd ef.buf j else 255) < 256
    split
    · exact hbytes j
    · decide

theorem TermFacts.pre {e ef : Enc} {last len p0 : Nat} {b0 : Array Nat} (ht : TermFacts e ef last len)
    (hs : InSeg p0 b0 e) : ∀ j, j ≤ p0 → rd ef.buf j = rd b0 j := by
  intro j hj
  have := hs.final ht.fe j hj
  unfold finalB at this
  rwa [if_pos (Nat.le_trans hj (Nat.le_trans hs.le ht.fe.le))] at this

/-- the upper end after the two flush bytes is a whole unit of the last byte: the remaining bits are the ones
`setbits` put there -/
theorem flush_upper (c2 K kk W2 W4 A2 A4 c2' c4' : Nat)
    (hkk : c2 + 1 = 32768 * kk) (hW2 : W2 = 128 ∨ W2 = 256) (hW4 : W4 = 128 ∨ W4 = 256)
    (h1 : c2 * K * W2 = A2 * 134217728 + c2' * W2)
    (h2 : c2' * W2 * W4 = A4 * 134217728 + c4' * W4) (hK : 0 < K) :
    134217728 ≤ (c4' + K * W2) * W4 := by
  have hP : (c2 + 1) * K = 32768 * (kk * K) := by rw [hkk, Nat.mul_assoc]
  rw [Nat.add_mul, Nat.one_mul] at hP
  generalize c2 * K = Q at h1 hP
  generalize kk * K = P at hP
  rcases hW2 with rfl | rfl <;> rcases hW4 with rfl | rfl <;> omega

theorem pow_ct_cases (w : Int) (h : w = 7 ∨ w = 8) : (2 : Nat) ^ w.toNat = 128 ∨ (2 : Nat) ^ w.toNat = 256 := by
  rcases h with rfl | rfl
  · left; decide
  · right; decide

/-- `FlushToOutput()`: `setbits`, two turns of `drain_step` ending in `e4`, and a final 0xFF is not kept -/
theorem flush_term (e : Enc) (h : RegOk e) (hn : 0x8000 ≤ e.a) :
    ∃ ef last len, flushToOutput e = some ef ∧ TermFacts e ef last len ∧ e.bp + 2 ≤ ef.bp ∧ ef.bp ≤ e.bp + 3 := by
  have hah := h.ahi; have hcl := h.ctlo; have hch := h.cthi
  have hcA := h.room.out.A
  obtain ⟨c2, hc2def, hc2lt, hc2ge, kk, hkk⟩ : ∃ c2, (if e.c / 65536 * 65536 + 0xFFFF ≥ e.c + e.a
      then sub32 (e.c / 65536 * 65536 + 0xFFFF) 0x8000 else e.c / 65536 * 65536 + 0xFFFF) = c2 ∧ c2 + 1 ≤ e.c + e.a ∧
      e.c ≤ c2 ∧ ∃ kk, c2 + 1 = 32768 * kk := by
    refine ⟨_, rfl, ?_⟩
    split
    · rw [sub32_eq _ _ (by omega) (by omega)]
      exact ⟨by omega, by omega, 2 * (e.c / 65536) + 1, by omega⟩
    · exact ⟨by omega, by omega, 2 * (e.c / 65536) + 2, by omega⟩
  have hr0 : Room { e with c := c2 } 1 := h.room.sub c2 1 (Nat.le_refl 1) hc2lt
  obtain ⟨e2, d2⟩ := drain_step _ hr0 (by show 0 ≤ e.ct; omega) hch
  have hct2 := d2.ct
  obtain ⟨e4, d4⟩ := drain_step e2 d2.room (by omega) (by omega)
  have hbuf4 := d4.room.buf
  have hup : 134217728 ≤ (e4.c + 1 * 2 ^ e.ct.toNat * 2 ^ e2.ct.toNat) * 2 ^ e4.ct.toNat := by
    obtain ⟨A2, hM2⟩ := d2.split
    obtain ⟨A4, hM4⟩ := d4.split
    rw [Nat.one_mul]
    exact flush_upper c2 (2 ^ e.ct.toNat) kk _ _ A2 A4 e2.c e4.c hkk (pow_ct_cases _ hct2) (pow_ct_cases _ d4.ct) hM2 hM4
      (Nat.two_pow_pos _)
  have hfl : flushToOutput e = some (if rd e4.buf e4.bp ≠ 255 then { e4 with bp := e4.bp + 1 } else e4) := by
    have htemp : u32 (e.c + e.a) = e.c + e.a := u32_id _ (by omega)
    have hshl : shl32 c2 e.ct.toNat = c2 * 2 ^ e.ct.toNat := d2.shl
    unfold flushToOutput
    simp only [htemp, hc2def, hshl, d2.out e.ct, d4.shl, d4.out e2.ct, rd_some _ _ hbuf4.inb]
  have hback : ∀ B last, FX B last e4 (1 * 2 ^ e.ct.toNat * 2 ^ e2.ct.toNat) → FE B last e := fun B last hfa =>
    FX.of_sub c2 1 hc2ge hc2lt (d2.back (Nat.le_refl 1) (d4.back (Nat.mul_pos (Nat.le_refl 1) (Nat.two_pow_pos _)) hfa))
  have hctx : e4.ctx = e.ctx := d4.ctx.trans d2.ctx
  have hbp2 : e2.bp = e.bp + 1 := d2.bp
  have hbp4 := d4.bp
  by_cases hff : rd e4.buf e4.bp = 255
  · rw [if_neg (fun hh => hh hff)] at hfl
    exact ⟨e4, e4.bp, _, hfl, .of_final hbuf4 d4.rest hup hback hctx h.ctx (Or.inl ⟨hff, by omega, rfl⟩)
      (Nat.le_of_lt hbuf4.inb) hbuf4.bytes (fun _ _ => rfl), by omega, by omega⟩
  · rw [if_pos hff] at hfl
    exact ⟨_, e4.bp, _, hfl, .of_final hbuf4 d4.rest hup hback hctx h.ctx (Or.inr ⟨hff, rfl⟩) hbuf4.inb hbuf4.bytes
      (fun _ _ => rfl), by show e.bp + 2 ≤ e4.bp + 1; omega, by show e4.bp + 1 ≤ e.bp + 3; omega⟩

theorem flush_facts (e : Enc) (h : RegOk e) (hn : 0x8000 ≤ e.a) :
    ∃ ef bytes last len, flush e = some (ef, bytes) ∧ BOk (finalB ef.buf last) last len ∧
      FE (finalB ef.buf last) last e ∧ bytes.length = len ∧
      (∀ k, k < len → bytes[k]? = some (finalB ef.buf last (k + 1))) := by
  obtain ⟨ef, last, len, hfl, ht, _⟩ := flush_term e h hn
  obtain ⟨hgl, hget⟩ := getBuffer_get ef ht.term.bp1 ht.term.sz
  refine ⟨ef, getBuffer ef, last, len, by unfold flush; rw [hfl]; rfl, ht.bok, ht.fe, by rw [hgl, ht.len_eq], fun k hk => ?_⟩
  rw [hget, if_pos (by have := ht.len_eq; omega), ht.bytes k hk]

theorem flush_spec (e : Enc) (h : RegOk e) (hn : 0x8000 ≤ e.a) :
    ∃ e' bytes, flush e = some (e', bytes) ∧ StreamOk bytes ∧ bytes.length ≤ e.bp + 2 := by
  obtain ⟨ef, _, _, hfl, ht, hbp, hbp3⟩ := flush_term e h hn
  exact ⟨ef, _, by unfold flush; rw [hfl]; rfl, getBuffer_stream ef ht.term (by omega),
    by rw [(getBuffer_get ef ht.term.bp1 ht.term.sz).1]; omega⟩

theorem encoder_stream (n : Nat) (ds : List (Nat × Nat)) (hds : ∀ d ∈ ds, d.2 < n) :
    ∃ bytes, encodeBytes n ds = some bytes ∧ StreamOk bytes := by
  obtain ⟨e, he, hr, hn⟩ := encodeAll_new n ds hds
  obtain ⟨e', bytes, hfl, hok, _⟩ := flush_spec e hr hn
  refine ⟨bytes, ?_, hok⟩
  unfold encodeBytes
  rw [he]
  simp only [hfl, Option.map_some]

end Mqc
