import GdcVerif.Model.JpegLossless
import GdcVerif.Lemmas.Basics
import GdcVerif.Lemmas.GoBits
/-!
  Lemmas for C02 layers L1–L3 (prediction / difference wrap / categories).
  First the bind lemmas and the `LawfulMonad` instance of `JLL.Outcome`, which every later JLL file uses.
-/
namespace JLL
open Gen.JpegLossless

@[simp] theorem Outcome.ok_bind {α β : Type} (a : α) (f : α → Outcome β) :
    (Outcome.ok a >>= f) = f a := rfl
@[simp] theorem Outcome.err_bind {α β : Type} (f : α → Outcome β) :
    ((Outcome.err : Outcome α) >>= f) = .err := rfl
@[simp] theorem Outcome.panic_bind {α β : Type} (f : α → Outcome β) :
    ((Outcome.panic : Outcome α) >>= f) = .panic := rfl
@[simp] theorem Outcome.pure_eq {α : Type} (a : α) : (pure a : Outcome α) = .ok a := rfl

theorem Outcome.bind_eq_ok {α β : Type} {x : Outcome α} {f : α → Outcome β} {b : β}
    (h : (x >>= f) = .ok b) : ∃ a, x = .ok a ∧ f a = .ok b := by
  cases x with
  | ok a => exact ⟨a, rfl, h⟩
  | err => exact absurd h (by simp)
  | panic => exact absurd h (by simp)

theorem foldlM_nil' {α β : Type} (f : β → α → Outcome β) (b : β) :
    List.foldlM f b [] = .ok b := rfl

instance : LawfulMonad Outcome := LawfulMonad.mk' (m := Outcome)
  (id_map := by intro α x; cases x <;> rfl)
  (pure_bind := by intros; rfl)
  (bind_assoc := by intro α β γ x f g; cases x <;> rfl)


def NbIn (P : Int) (nb : Nb) : Prop :=
  0 ≤ nb.left ∧ nb.left < Go.shl 1 P ∧ 0 ≤ nb.up ∧ nb.up < Go.shl 1 P ∧ 0 ≤ nb.upLeft ∧ nb.upLeft < Go.shl 1 P

instance (P : Int) (nb : Nb) : Decidable (NbIn P nb) := by unfold NbIn; infer_instance

theorem pow_facts (P : Int) (h1 : 2 ≤ P) (h2 : P ≤ 16) :
    Go.shl 1 P = 2 * Go.shl 1 (P - 1) ∧ 2 ≤ Go.shl 1 (P - 1) ∧ Go.shl 1 P ≤ 65536 ∧
      (Go.shl 1 P = 65536 ∨ Go.shl 1 P ≤ 32768) := by
  have : P = 2 ∨ P = 3 ∨ P = 4 ∨ P = 5 ∨ P = 6 ∨ P = 7 ∨ P = 8 ∨ P = 9 ∨ P = 10 ∨ P = 11 ∨ P = 12 ∨ P = 13 ∨
    P = 14 ∨ P = 15 ∨ P = 16 := by omega
  rcases this with h|h|h|h|h|h|h|h|h|h|h|h|h|h|h <;> subst h <;> decide

/-- for every selection value: Go's `default` branch returns `ra` -/
theorem predictor_range (M predictor ra rb rc : Int)
    (ha : 0 ≤ ra ∧ ra < M) (hb : 0 ≤ rb ∧ rb < M) (hc : 0 ≤ rc ∧ rc < M) :
    (-M ≤ Predictor predictor ra rb rc ∧ Predictor predictor ra rb rc < 2 * M) ∧
    ((predictor = 1 ∨ predictor = 2 ∨ predictor = 3 ∨ predictor = 7) →
      0 ≤ Predictor predictor ra rb rc ∧ Predictor predictor ra rb rc < M) := by
  simp only [Predictor, Go.shr_one, beq_iff_eq]
  omega

theorem decPredicted_eq_enc (P predictor row col : Int) (nb : Nb) :
    decPredicted P predictor row col nb = encPredicted P predictor row col nb := rfl

theorem sv1Predicted_range (P row col : Int) (nb : Nb) (hP : 2 ≤ P ∧ P ≤ 16) (hnb : NbIn P nb) :
    0 ≤ sv1Predicted P row col nb ∧ sv1Predicted P row col nb < Go.shl 1 P := by
  have hf := pow_facts P hP.1 hP.2
  simp only [NbIn] at hnb
  unfold sv1Predicted
  omega

theorem encPredicted_range (P predictor row col : Int) (nb : Nb) (hP : 2 ≤ P ∧ P ≤ 16) (hnb : NbIn P nb) :
    (-(Go.shl 1 P) ≤ encPredicted P predictor row col nb ∧
      encPredicted P predictor row col nb < 2 * Go.shl 1 P) ∧
    ((predictor = 1 ∨ predictor = 2 ∨ predictor = 3 ∨ predictor = 7) →
      0 ≤ encPredicted P predictor row col nb ∧ encPredicted P predictor row col nb < Go.shl 1 P) := by
  obtain ⟨hM, hH, _⟩ := pow_facts P hP.1 hP.2
  obtain ⟨l0, l1, u0, u1, c0, c1⟩ := hnb
  unfold encPredicted
  generalize Go.shl 1 P = M at *
  generalize Go.shl 1 (P - 1) = H at *
  -- Ra, Rb, Rc are neighbours or the default value, hence P-bit values
  have pick : ∀ (b : Prop) [Decidable b] (x y : Int), (0 ≤ x ∧ x < M) → (0 ≤ y ∧ y < M) →
      0 ≤ (if b then x else y) ∧ (if b then x else y) < M := by
    intro b _ x y hx hy; split <;> assumption
  have hH' : 0 ≤ H ∧ H < M := by omega
  have ha := pick (col > 0) nb.left _ ⟨l0, l1⟩ (pick (row > 0 ∧ predictor = 1) nb.up H ⟨u0, u1⟩ hH')
  have hb := pick (row > 0) nb.up H ⟨u0, u1⟩ hH'
  have hc := pick (row > 0 ∧ col > 0) nb.upLeft H ⟨c0, c1⟩ hH'
  simp only
  generalize (if col > 0 then nb.left else if row > 0 ∧ predictor = 1 then nb.up else H) = ra at *
  generalize (if row > 0 then nb.up else H) = rb at *
  generalize (if row > 0 ∧ col > 0 then nb.upLeft else H) = rc at *
  split
  · omega
  · split
    · omega
    · split
      · omega
      · exact predictor_range M predictor ra rb rc ha hb hc

theorem encDiff_range' (sample predicted : Int) :
    -32768 ≤ encDiff sample predicted ∧ encDiff sample predicted ≤ 32767 := by
  simp only [encDiff, Go.wrap16]; omega

theorem wrap_once (M x p y : Int) (hx : 0 ≤ x ∧ x < M) (hp : 0 ≤ p ∧ p < M)
    (hM : M = 65536 ∨ M ≤ 32768) (hy : y = p + Go.wrap16 (x - p)) :
    (if y < 0 then y + M else if y ≥ M then y - M else y) = x := by
  simp only [Go.wrap16] at hy
  omega

/-- L2 for lossless14sv1: for P = 16 the int16 wrap of `x - p` and the range wrap are both modulo
    2^16; for P ≤ 15 the difference does not wrap at all -/
theorem sv1DecSample_encDiff (P x p : Int) (hP : 2 ≤ P ∧ P ≤ 16)
    (hx : 0 ≤ x ∧ x < Go.shl 1 P) (hp : 0 ≤ p ∧ p < Go.shl 1 P) :
    sv1DecSample P p (encDiff x p) = x := by
  have hf := pow_facts P hP.1 hP.2
  exact wrap_once _ x p _ hx hp hf.2.2.2 rfl

theorem shl_negone (c : Nat) : Go.shl (-1) (c : Int) = -(2:Int) ^ c := by simp [Go.shl]

/-- the number of bits is monotone: below `2^n` no more than `n` bits are needed -/
theorem bitlen_le {a : Int} {k n : Nat} (h1 : (2:Int) ^ (k - 1) ≤ a) (h2 : a < (2:Int) ^ n) : k ≤ n := by
  refine Decidable.byContradiction fun hn => ?_
  have : (2:Int) ^ n ≤ (2:Int) ^ (k - 1) := Int.two_pow_mono (by omega)
  omega

theorem bitlen_unique (a : Int) (k k' : Nat) (h1 : (2:Int) ^ (k - 1) ≤ a) (h2 : a < (2:Int) ^ k)
    (h1' : (2:Int) ^ (k' - 1) ≤ a) (h2' : a < (2:Int) ^ k') (_hk : 1 ≤ k) (_hk' : 1 ≤ k') : k = k' :=
  Nat.le_antisymm (bitlen_le h1 h2') (bitlen_le h1' h2)

theorem catLoop_spec (a : Int) : ∀ (fuel c : Nat), 1 ≤ c → (2:Int) ^ (c - 1) ≤ a → a < (2:Int) ^ (c + fuel) →
    ∃ k : Nat, catLoop a fuel (c : Int) = (k : Int) ∧ c ≤ k ∧ (2:Int) ^ (k - 1) ≤ a ∧ a < (2:Int) ^ k := by
  intro fuel
  induction fuel with
  | zero => intro c hc hlo hhi; exact ⟨c, rfl, Nat.le_refl _, hlo, hhi⟩
  | succ f ih =>
    intro c hc hlo hhi
    unfold catLoop
    rw [Go.shl_one]
    by_cases h : (2:Int) ^ c ≤ a
    · rw [if_pos h]
      obtain ⟨k, hk, h1, h3, h4⟩ :=
        ih (c + 1) (by omega) h (by rw [show c + 1 + f = c + (f + 1) by omega]; exact hhi)
      exact ⟨k, hk, by omega, h3, h4⟩
    · rw [if_neg h]
      exact ⟨c, rfl, Nat.le_refl _, hlo, by omega⟩

theorem encodeCategory_spec (val : Int) (h0 : val ≠ 0) (hlo : -(2:Int) ^ 16 < val) (hhi : val < (2:Int) ^ 16) :
    ∃ k : Nat, 1 ≤ k ∧ k ≤ 16 ∧ (2:Int) ^ (k - 1) ≤ (if val < 0 then -val else val) ∧
      (if val < 0 then -val else val) < (2:Int) ^ k ∧
      encodeCategory val = ((k : Int), if val > 0 then val else (2:Int) ^ k + val - 1) := by
  have ha : (2:Int) ^ (1 - 1) ≤ (if val < 0 then -val else val) := by omega
  have hb : (if val < 0 then -val else val) < (2:Int) ^ (1 + 62) := by omega
  obtain ⟨k, hk, h1, h3, h4⟩ := catLoop_spec _ 62 1 (Nat.le_refl _) ha hb
  have hk16 : k ≤ 16 := bitlen_le h3 (by omega)
  refine ⟨k, h1, hk16, h3, h4, ?_⟩
  have hpk : (2:Int) ^ k ≤ (2:Int) ^ 16 := Int.two_pow_mono hk16
  have hpk1 := Int.two_pow_pred h1
  -- the `uint32` conversion of the amplitude changes nothing: it lies in [0, 2^k)
  have hk' : catLoop (if val < 0 then -val else val) 62 1 = (k : Int) := hk
  simp only [encodeCategory, if_neg h0, hk', Go.shl_one, Go.uwrap32]
  congr 1
  omega

theorem category_roundtrip' (d : Int) (hlo : -32768 ≤ d) (hhi : d ≤ 32767) :
    receiveLosslessDifference (encodeLosslessDifference d).1 (encodeLosslessDifference d).2 = d ∧
    0 ≤ (encodeLosslessDifference d).1 ∧ (encodeLosslessDifference d).1 ≤ 16 ∧
    0 ≤ (encodeLosslessDifference d).2 ∧
    (encodeLosslessDifference d).2 < (2:Int) ^ (encodeLosslessDifference d).1.toNat ∧
    ((encodeLosslessDifference d).1 = 16 ↔ d = -32768) := by
  have h15 : Go.shl (-1) 15 = -32768 := by decide
  unfold encodeLosslessDifference
  rw [h15]
  by_cases hm : d = -32768
  · subst hm; decide
  · rw [if_neg hm]
    by_cases h0 : d = 0
    · subst h0; decide
    · obtain ⟨k, h1, h2, h3, h4, he⟩ := encodeCategory_spec d h0 (by omega) (by omega)
      rw [he]
      simp only
      have hpk1 := Int.two_pow_pred h1
      have hk16 : k ≤ 15 := bitlen_le h3 (by omega : _ < (2:Int) ^ 15)
      have hkk : ((k : Int) - 1) = ((k - 1 : Nat) : Int) := by omega
      refine ⟨?_, by omega, by omega, ?_, ?_, ?_⟩
      · unfold receiveLosslessDifference extend
        rw [if_neg (by omega), if_neg (by omega)]
        simp only
        rw [hkk, Go.shl_one, shl_negone]
        -- d > 0: the amplitude is d ≥ 2^(k-1), returned as it is; d < 0: it is d + 2^k - 1 < 2^(k-1), and
        -- `extend` adds -2^k + 1
        omega
      · omega
      · simp only [Int.toNat_natCast]
        omega
      · omega

theorem decSample_eq (P p d : Int) (hP : 0 ≤ P ∧ P ≤ 62) :
    decSample P p d = (p + d) % (2:Int) ^ P.toNat := by
  unfold decSample
  simp only
  have : Go.shl 1 P = (2:Int) ^ P.toNat := by simp [Go.shl]
  rw [this]
  exact Go.and_mask _ _ (by omega)

/-- L2 for jpeg/lossless (mask shape): holds for EVERY predicted value (in range or not) -/
theorem diff_wrap_inverse' (P p sample : Int) (hP : 2 ≤ P ∧ P ≤ 16)
    (hs : 0 ≤ sample ∧ sample < Go.shl 1 P) :
    decSample P p (encDiff sample p) = sample := by
  rw [decSample_eq P _ _ (by omega)]
  have hM : Go.shl 1 P = (2:Int) ^ P.toNat := by simp [Go.shl]
  rw [hM] at hs
  -- 2^P divides 2^16: the int16 wrap (a reduction modulo 2^16) does not change the residue modulo 2^P
  have hd : (2:Int) ^ P.toNat ∣ 65536 :=
    ⟨2 ^ (16 - P.toNat), by rw [← Int.pow_add, show P.toNat + (16 - P.toNat) = 16 by omega]; rfl⟩
  have hw : p + encDiff sample p = (sample - p + 32768) % 65536 + (p - 32768) := by
    simp only [encDiff, losslessDifference, Go.wrap16]; omega
  rw [hw, ← Int.emod_add_emod, Int.emod_emod_of_dvd _ hd, Int.emod_add_emod,
    show sample - p + 32768 + (p - 32768) = sample by omega]
  exact Int.emod_eq_of_lt hs.1 hs.2

theorem rowcol_cases {row col : Int} (hr : 0 ≤ row) (hc : 0 ≤ col) :
    (row = 0 ∧ col = 0) ∨ (row = 0 ∧ col > 0) ∨ (row > 0 ∧ col = 0) ∨ (row > 0 ∧ col > 0) := by omega

/-- rows/cols are non-negative loop counters -/
theorem freqPredicted_eq_enc (P predictor row col : Int) (nb : Nb) (hr : 0 ≤ row) (hc : 0 ≤ col) :
    freqPredicted P predictor row col nb = encPredicted P predictor row col nb := by
  unfold freqPredicted encPredicted
  rcases rowcol_cases hr hc with ⟨rfl, rfl⟩ | ⟨rfl, h⟩ | ⟨h, rfl⟩ | ⟨h1, h2⟩
  · simp
  · simp [h, Int.ne_of_gt h]
  · simp [h, Int.ne_of_gt h]
  · simp [h1, h2, Int.ne_of_gt h1, Int.ne_of_gt h2]

theorem sv1Predicted_eq_enc (P row col : Int) (nb : Nb) (hr : 0 ≤ row) (hc : 0 ≤ col) :
    sv1Predicted P row col nb = encPredicted P 1 row col nb := by
  unfold sv1Predicted encPredicted
  rcases rowcol_cases hr hc with ⟨rfl, rfl⟩ | ⟨rfl, h⟩ | ⟨h, rfl⟩ | ⟨h1, h2⟩
  · simp
  · simp [h, Int.ne_of_gt h]
  · simp [h, Int.ne_of_gt h]
  · simp [Predictor, h2, Int.ne_of_gt h1, Int.ne_of_gt h2]

theorem sv1FreqPredicted_eq (P row col : Int) (nb : Nb) (hr : 0 ≤ row) (hc : 0 ≤ col) :
    sv1FreqPredicted P row col nb = sv1Predicted P row col nb := by
  unfold sv1FreqPredicted sv1Predicted
  rcases rowcol_cases hr hc with ⟨rfl, rfl⟩ | ⟨rfl, h⟩ | ⟨h, rfl⟩ | ⟨h1, h2⟩
  · simp
  · simp [h, Int.ne_of_gt h]
  · simp [h, Int.ne_of_gt h]
  · simp [h1, h2, Int.ne_of_gt h2]

/-- the frequency pass's loop (`val >>= 1` until zero) is the scan's loop (`cat++` while `1 << cat ≤ a`), seen
    at `val = a >> cat` -/
theorem diffCatLoop_eq (a : Int) : ∀ (fuel c : Nat), diffCatLoop fuel (a / 2 ^ c) c = catLoop a fuel c := by
  intro fuel
  induction fuel with
  | zero => intro c; rfl
  | succ f ih =>
    intro c
    have hp : (0:Int) < 2 ^ c := Int.pow_pos (by decide)
    have hc : a / 2 ^ c > 0 ↔ (2:Int) ^ c ≤ a := by
      have := Int.le_ediv_iff_mul_le (a := 1) (b := a) hp
      omega
    have hs : a / 2 ^ c / 2 = a / 2 ^ (c + 1) := Int.ediv_ediv_of_nonneg (Int.le_of_lt hp)
    have : diffCatLoop f (a / 2 ^ (c + 1)) ((c : Int) + 1) = catLoop a f ((c : Int) + 1) := ih (c + 1)
    simp only [diffCatLoop, catLoop, Go.shr_one, Go.shl_one, hc, hs, this]

/-- the frequency pass counts exactly the category the scan will emit, so every emitted
    category has a non-zero frequency and therefore a code in the optimal table -/
theorem diffCategory_eq' (d : Int) (hlo : -32768 ≤ d) (hhi : d ≤ 32767) :
    diffCategory d = (encodeLosslessDifference d).1 := by
  by_cases hm : d = -32768
  · subst hm; decide
  by_cases h0 : d = 0
  · subst h0; decide
  have h15 : Go.shl (-1) 15 = -32768 := by decide
  simp only [diffCategory, encodeLosslessDifference, encodeCategory, h15, if_neg hm, if_neg h0]
  generalize ha : (if d < 0 then -d else d) = a
  have h1 : (2:Int) ^ (1 - 1) ≤ a := by omega
  -- fuel 64 from category 0 and fuel 62 from category 1 both stop at the bit length of `a`
  obtain ⟨k, hk, hk1, k1, k2⟩ := catLoop_spec a 63 1 (Nat.le_refl 1) h1 (by omega)
  obtain ⟨k', hk', hk1', k1', k2'⟩ := catLoop_spec a 62 1 (Nat.le_refl 1) h1 (by omega)
  have e := diffCatLoop_eq a 64 0
  rw [Int.pow_zero, Int.ediv_one, catLoop, Go.shl_one, if_pos h1] at e
  exact e.trans (hk.trans ((congrArg Nat.cast (bitlen_unique a k k' k1 k2 k1' k2' hk1 hk1')).trans hk'.symm))

end JLL
