import GdcVerif.Lemmas.T1Sched
import GdcVerif.Lemmas.MqcSegDec
/-!
  One MQ codeword segment: the decoder of the segment against the restarted encoder (`segDec_init`), the context reset
  behind a termination, and the frame `seg_frameQ` for any run of passes between a segment start (`StartOk`) and its
  termination.  `encP` is what the encoder does in between, `decP` what the decoder does on the segment's decoder,
  `hlock` their lock-step for every coder.  The passes are run twice: with the segment invariant `Mqc.InSeg` carried
  forward, to name their result and hence the terminated bytes, then against these bytes.  `block_seg` is the frame
  at the start of a block, where the segment's decoder is the one `DecodeWithBitplane` opens.
-/
namespace T1
open Gen

/-- the segment decoder, seen at absolute buffer positions, against the final buffer `B` -/
theorem coder_seg (B : Nat → Nat) (last LEN : Nat) (hB : Mqc.BOk B last LEN) (pre : Array Nat) :
    Coder (Mqc.FE B last) (fun e d => Mqc.Rel B last LEN e (Mqc.shiftDec pre d)) := by
  refine Coder.mq (Mqc.encode_back B last) ?_
  intro e e1 d bit cx h hn hbit hcx hr he hf
  obtain ⟨dv1, hd, hr1⟩ := Mqc.decode_rel B last LEN hB e e1 (Mqc.shiftDec pre d) bit cx h hn hbit hcx hr he hf
  rw [Mqc.decode_shift] at hd
  obtain ⟨⟨b, d1⟩, hdd, hbd⟩ := Option.map_eq_some_iff.mp hd
  obtain ⟨rfl, rfl⟩ := Prod.mk.inj hbd
  exact ⟨d1, hdd, hr1⟩

theorem coderCtx_seg (B : Nat → Nat) (last LEN : Nat) (pre : Array Nat) :
    CoderCtx (Mqc.FE B last) (fun e d => Mqc.Rel B last LEN e (Mqc.shiftDec pre d)) :=
  ⟨fun _ _ hF => hF, fun _ _ hr => by have := hr.ctx; exact congrArg Array.size this,
   fun _ _ _ hr => ⟨hr.a, rfl, hr.size, hr.data, hr.bple, hr.eos, hr.ctlo, hr.cthi, hr.ahead, hr.wdeq, hr.eq⟩⟩

/-- forward invariants of the encoder travel through the T1 functions as backward facts of their negation: a
"coder" without decoder -/
theorem coder_fwd (P : Mqc.Enc → Prop)
    (hP : ∀ (e e1 : Mqc.Enc) (bit cx : Nat), Mqc.RegOk e → 0x8000 ≤ e.a → cx < e.ctx.size →
      Mqc.encode e bit cx = some e1 → P e → P e1) :
    Coder (fun e => ¬ P e) (fun _ _ => False) :=
  Coder.mq (fun e e1 bit cx h hn hcx he hf hp => hf (hP e e1 bit cx h hn hcx he hp)) fun _ _ _ _ _ _ _ _ _ hr _ _ => hr.elim

theorem coderCtx_fwd (P : Mqc.Enc → Prop) (hP : ∀ (e : Mqc.Enc) (c : Array Nat), P e → P { e with ctx := c }) :
    CoderCtx (fun e => ¬ P e) (fun _ _ => False) :=
  ⟨fun e c hf hp => hf (hP e c hp), fun _ _ hr => hr.elim, fun _ _ _ hr => hr.elim⟩

theorem of_back {P : Mqc.Enc → Prop} {e e' : Mqc.Enc} (hb : ¬ P e' → ¬ P e) (hp : P e) : P e' :=
  Classical.not_not.mp fun h' => hb h' hp

theorem coder_inSeg (p0 : Nat) (b0 : Array Nat) : Coder (fun e => ¬ Mqc.InSeg p0 b0 e) (fun _ _ => False) :=
  coder_fwd (Mqc.InSeg p0 b0) fun e e1 bit cx h1 h2 h3 h4 h5 => Mqc.seg_encode _ _ e e1 bit cx h1 h2 h3 h4 h5

theorem coderCtx_inSeg (p0 : Nat) (b0 : Array Nat) : CoderCtx (fun e => ¬ Mqc.InSeg p0 b0 e) (fun _ _ => False) :=
  coderCtx_fwd (Mqc.InSeg p0 b0) fun _ _ hp => hp

theorem StartOk.inSeg {e : Mqc.Enc} (hst : StartOk e) : Mqc.InSeg e.bp e.buf e :=
  Mqc.InSeg.start e (by rw [hst.a, hst.c, hst.ct]; decide)

/-- the final byte string begins with the encoder's stream so far, `buf[1 .. bp)` -/
def Agree (bytesF : List Nat) (e : Mqc.Enc) : Prop :=
  (∀ k, k + 1 < e.bp → bytesF[k]? = some (Mqc.rd e.buf (k + 1))) ∧ e.bp - 1 ≤ bytesF.length

theorem Agree.getBuffer {e : Mqc.Enc} (h : TermOk e) : Agree (Mqc.getBuffer e) e ∧ (Mqc.getBuffer e).length = e.bp - 1 := by
  obtain ⟨hgl, hgg⟩ := getBuffer_get e h.sz h.bp1
  exact ⟨⟨fun k hk => hgg k (by omega), by rw [hgl]; omega⟩, hgl⟩

/-- `ef`, `last`, `len` as `term_facts` gives them at the end of the codeword segment `[e.bp, ef.bp - 1)` of the final
bytes -/
theorem segDec_init (e ef : Mqc.Enc) (last len : Nat) (hB : Mqc.BOk (Mqc.finalB ef.buf last) last len)
    (hlen : len = ef.bp - 1) (hBk : ∀ k, k < len → Mqc.finalB ef.buf last (k + 1) = Mqc.rd ef.buf (k + 1))
    (hgrow : e.bp + 1 ≤ ef.bp) (hst : StartOk e) (bytesF : List Nat) (hag : Agree bytesF ef)
    (hfe : Mqc.FE (Mqc.finalB ef.buf last) last e) :
    ∃ d0, decWithContexts ((bytesF.take (ef.bp - 1)).drop e.bp) e.ctx = some d0 ∧
      Mqc.Rel (Mqc.finalB ef.buf last) last len e (Mqc.shiftDec (bytesF.take e.bp).toArray d0) := by
  have hFk : ∀ k, k < len → bytesF[k]? = some (Mqc.finalB ef.buf last (k + 1)) := by
    intro k hk
    rw [hBk k hk]; exact hag.1 k (by omega)
  have hbl : ef.bp - 1 ≤ bytesF.length := hag.2
  have hsl : ((bytesF.take (ef.bp - 1)).drop e.bp).length = len - e.bp := by
    rw [List.length_drop, List.length_take, Nat.min_eq_left hbl]; omega
  refine Mqc.decInit_rel _ last len hB e e.bp _ rfl hst.a hst.c hst.ct hst.nf (bytesF.take e.bp).toArray ?_ ?_
    (by rw [hsl]; omega) ?_ hfe
  · simp only [List.size_toArray, List.length_take]; omega
  · intro k hk
    unfold Mqc.rd
    rw [List.getElem?_toArray, List.getElem?_take, if_pos hk, hFk k (by omega)]; rfl
  · intro k hk
    rw [hsl] at hk
    rw [List.getElem?_drop, List.getElem?_take, if_pos (by omega), hFk (e.bp + k) (by omega)]

theorem decInit_ctx {d d' : Mqc.Dec} (h : Mqc.Dec.init d = some d') : d'.ctx = d.ctx := by
  have h2 : Mqc.Dec.init d = (Mqc.Dec.init d).map _ := Mqc.init_setctx d d.ctx
  rw [h] at h2
  have h3 : d' = { d' with ctx := d.ctx } := Option.some.inj h2
  exact (congrArg Mqc.Dec.ctx h3 :)

theorem dec_init_fresh (seg : List Nat) :
    (Mqc.Dec.new seg NUMCONTEXTS).bind initCtxDec =
      decWithContexts seg (ctx3 (Array.replicate 19 0)) := by
  obtain ⟨d, ed, _, _, hsz, _⟩ := Mqc.decNew_spec seg NUMCONTEXTS
  have hc : d.ctx = Array.replicate 19 0 := decInit_ctx ed
  rw [ed, Option.bind_some, initCtxDec_eq d hsz, hc]
  -- `init` does not look at the contexts, so they may be set in front of it
  exact ((Mqc.init_setctx _ (ctx3 (Array.replicate 19 0))).trans (by rw [show Mqc.Dec.init _ = some d from ed])).symm

theorem reset_after (style : Nat) (fl : Array Nat) (ef : Mqc.Enc) (hsz : ef.ctx.size = 19) (hcok : Mqc.CtxOk ef.ctx) :
    ∃ C, resetE style { flags := fl, mq := ef } = some { flags := fl, mq := { ef with ctx := C } } ∧ C.size = 19 ∧
      Mqc.CtxOk C ∧ (styReset style = true → C = ctx3 (Array.replicate 19 0)) ∧ (styReset style = false → C = ef.ctx) := by
  unfold resetE
  by_cases hr : styReset style = true
  · rw [if_pos hr, resetInit_eq ef hsz]
    exact ⟨_, rfl, ctx3_reset.2, ctx3_reset.1, fun _ => rfl, fun hh => absurd hr (by rw [hh]; simp)⟩
  · rw [if_neg hr]
    exact ⟨ef.ctx, rfl, hsz, hcok, fun hh => absurd hh hr, fun _ => rfl⟩

theorem reset_term (style : Nat) (fl : Array Nat) (ef : Mqc.Enc) (hsz : ef.ctx.size = 19) (ht : TermOk ef) :
    ∃ C, resetE style { flags := fl, mq := ef } = some { flags := fl, mq := { ef with ctx := C } } ∧ C.size = 19 ∧
      TermOk ({ ef with ctx := C } : Mqc.Enc) ∧ (styReset style = true → C = ctx3 (Array.replicate 19 0)) ∧
      (styReset style = false → C = ef.ctx) := by
  obtain ⟨C, hre, hCsz, hCok, hCa, hCb⟩ := reset_after style fl ef hsz ht.ctx
  exact ⟨C, hre, hCsz, ⟨ht.bp1, ht.sz, ht.bytes, ht.marker, ht.last, hCok⟩, hCa, hCb⟩

theorem PInv.transfer {val : Nat → Int → Int} {w h : Nat} {V : Array Int} {R R' : Mqc.Enc → Mqc.Dec → Prop} {bp pt : Nat}
    {es : EncSt} {ds : DecSt} (hP : PInv val w h V R bp pt es ds) (es' : EncSt) (hfl : es'.flags = es.flags)
    (d : Mqc.Dec) (hr : R' es'.mq d) : PInv val w h V R' bp pt es' { ds with mq := d } := by
  obtain ⟨lev, hL, c⟩ := hP
  rw [← hfl] at c
  exact ⟨lev, ⟨by rw [hfl]; exact hL.fl, hL.dsz, hr, by rw [hfl]; exact hL.smp⟩, c⟩

theorem Post.weaken {val : Nat → Int → Int} {w h : Nat} {V : Array Int} {R : Mqc.Enc → Mqc.Dec → Prop} {bp pt : Nat}
    {es es' : EncSt} {ds : DecSt} (hP : Post val w h V R bp pt es ds) (hfl : es'.flags = es.flags) :
    Post val w h V (fun _ _ => True) bp pt es' ds := by
  obtain ⟨lev, hL, q⟩ := hP
  exact ⟨lev, ⟨by rw [hfl]; exact hL.fl, hL.dsz, True.intro, by rw [hfl]; exact hL.smp⟩, by rw [hfl]; exact q⟩

/-- what a terminated codeword segment leaves in `es'`, the state behind the termination and the context reset that
follows it.  The segment started at buffer position `p0` in buffer `b0` (behind the restart) and had the contexts `ctx0`
at its end; it is at least one byte long, so that rates grow -/
structure SegEnd (style p0 : Nat) (b0 ctx0 : Array Nat) (es' : EncSt) : Prop where
  term : TermOk es'.mq
  csz : es'.mq.ctx.size = 19
  ctxR : styReset style = true → es'.mq.ctx = ctx3 (Array.replicate 19 0)
  ctxK : styReset style = false → es'.mq.ctx = ctx0
  frozen : ∀ j, j ≤ p0 → Mqc.rd es'.mq.buf j = Mqc.rd b0 j
  grow : p0 + 1 ≤ es'.mq.bp

theorem SegEnd.okT {style p0 : Nat} {b0 ctx0 : Array Nat} {es' : EncSt} (hE : SegEnd style p0 b0 ctx0 es')
    {w h : Nat} {V : Array Int} (hf : es'.flags.size = (w + 2) * (h + 2)) (hd : V.size = (w + 2) * (h + 2)) :
    EncOkT w h V es' true :=
  .ofTerm hf hd hE.csz hE.term

section Seg
variable (w h : Nat) (V : Array Int)

/-- the frame of one MQ codeword segment from the segment start `er`; `Q` is what `hlock` delivers for a coder relation,
and the decoder ends with it for the relation of the segment's decoder -/
theorem seg_frameQ {val : Nat → Int → Int} (style bp pt : Nat) (encP : EncSt → Option EncSt) (decP : DecSt → Option DecSt)
    (Q : (Mqc.Enc → Mqc.Dec → Prop) → EncSt → DecSt → Prop)
    (hlock : ∀ (F : Mqc.Enc → Prop) (R : Mqc.Enc → Mqc.Dec → Prop), Coder F R → CoderCtx F R →
      ∀ es, EncOk w h V es → ∃ es', encP es = some es' ∧ EncOk w h V es' ∧ (F es'.mq → F es.mq) ∧
        (F es'.mq → ∀ ds, PInv val w h V R bp pt es ds → ∃ ds', decP ds = some ds' ∧ Q R es' ds'))
    (er : EncSt) (hs : EncOk w h V er) (hst : StartOk er.mq) :
    ∃ es3 ef es4, encP er = some es3 ∧
      termMq style es3.mq = some ef ∧ resetE style { es3 with mq := ef } = some es4 ∧
      EncOkT w h V es4 true ∧ es4.flags = es3.flags ∧ Mqc.getBuffer es4.mq = Mqc.getBuffer ef ∧
      SegEnd style er.mq.bp er.mq.buf es3.mq.ctx es4 ∧ (styPterm style = false → er.mq.bp + 2 ≤ es4.mq.bp) ∧
      (∀ (bytesF : List Nat), Agree bytesF es4.mq → ∀ (ds : DecSt), PInv val w h V (fun _ _ => True) bp pt er ds →
        ∃ d0, decWithContexts ((bytesF.take (es4.mq.bp - 1)).drop er.mq.bp) er.mq.ctx = some d0 ∧
          ∃ ds3, decP { ds with mq := d0 } = some ds3 ∧
            ∃ B last LEN pre, Q (fun e d => Mqc.Rel B last LEN e (Mqc.shiftDec pre d)) es3 ds3) := by
  obtain ⟨es3, he3, hok3, hfw3, _⟩ := hlock _ _
    (coder_inSeg er.mq.bp er.mq.buf) (coderCtx_inSeg er.mq.bp er.mq.buf) er hs
  have hseg3 : Mqc.InSeg er.mq.bp er.mq.buf es3.mq := of_back hfw3 hst.inSeg
  obtain ⟨ef, last, len, hef, hefctx, hterm, hB, hfe, hlen, hBk, hfroz, hbp2, hbp2'⟩ :=
    term_facts style es3.mq hok3.reg hok3.norm er.mq.bp er.mq.buf hseg3 hst.nf
  obtain ⟨C, hre, hCsz, hCterm, hCa, hCb⟩ := reset_term style es3.flags ef (by rw [hefctx]; exact hok3.nctx) hterm
  have hE : SegEnd style er.mq.bp er.mq.buf es3.mq.ctx { es3 with mq := { ef with ctx := C } } :=
    ⟨hCterm, hCsz, hCa, fun hh => (hCb hh).trans hefctx, hfroz, hbp2⟩
  refine ⟨es3, ef, _, he3, hef, hre, hE.okT hok3.fsz hok3.dsz, rfl, rfl, hE, hbp2', fun bytesF hag ds hP => ?_⟩
  obtain ⟨es3', he3', _, hb3, hl3⟩ := hlock _ _ (coder_seg (Mqc.finalB ef.buf last) last len hB (bytesF.take er.mq.bp).toArray)
    (coderCtx_seg (Mqc.finalB ef.buf last) last len (bytesF.take er.mq.bp).toArray) er hs
  obtain rfl : es3' = es3 := Option.some.inj (he3'.symm.trans he3)
  obtain ⟨d0, hd0, hrel⟩ := segDec_init er.mq ef last len hB hlen hBk hbp2 hst bytesF hag (hb3 hfe)
  obtain ⟨ds3, hd3, hP3⟩ := hl3 hfe _ (hP.transfer _ rfl d0 hrel)
  exact ⟨d0, hd0, ds3, hd3, _, _, _, _, hP3⟩

end Seg

theorem es0_ok (w h : Nat) (V : Array Int) (hVsz : V.size = (w + 2) * (h + 2)) :
    EncOk w h V (es0 w h) ∧ StartOk (es0 w h).mq ∧ (es0 w h).mq.ctx = ctx3 (Array.replicate 19 0) ∧ (es0 w h).mq.bp = 0 := by
  exact ⟨(enc_start w h V hVsz).2, ⟨rfl, rfl, rfl, by show Mqc.rd (#[0] : Array Nat) 0 ≠ 255; decide⟩, rfl, rfl⟩

theorem es0_okT (w h : Nat) (V : Array Int) (hVsz : V.size = (w + 2) * (h + 2)) : EncOkT w h V (es0 w h) false := by
  obtain ⟨hs0, hst0, _, _⟩ := es0_ok w h V hVsz
  exact .ofRun hs0 hst0.inSeg hst0.nf

/-- the frame at the start of a block.  `encP` from the encoder's start state `es0`, then the termination of style `sty`
(`Flush` for `sty = 0`, whatever the block's style: `flush_of_termMq0`) and the context reset; on the bytes this leaves,
the coder of `DecodeWithBitplane` opens and `decP` succeeds with `Q0`.  `hlock`, `Q` as in `seg_frameQ`; `Q0` is what is
left of `Q` when the relation is forgotten (`hweak`) -/
theorem block_seg {val : Nat → Int → Int} (hz0 : ∀ (p : Nat) (v : Int), v.natAbs / 2 ^ p = 0 → val p v = 0)
    (w h mb : Nat) (coeffs : List Int) (hmb : findMaxBitplane (padBlock w h coeffs) = some mb)
    (sty : Nat) (encP : EncSt → Option EncSt) (decP : DecSt → Option DecSt)
    (Q : (Mqc.Enc → Mqc.Dec → Prop) → EncSt → DecSt → Prop) (Q0 : EncSt → DecSt → Prop)
    (hlock : ∀ (F : Mqc.Enc → Prop) (R : Mqc.Enc → Mqc.Dec → Prop), Coder F R → CoderCtx F R →
      ∀ es, EncOk w h (padBlock w h coeffs) es → ∃ es', encP es = some es' ∧ EncOk w h (padBlock w h coeffs) es' ∧
        (F es'.mq → F es.mq) ∧
        (F es'.mq → ∀ ds, PInv val w h (padBlock w h coeffs) R mb 2 es ds → ∃ ds', decP ds = some ds' ∧ Q R es' ds'))
    (hweak : ∀ (B : Nat → Nat) (last LEN : Nat) (pre : Array Nat) es ds,
      Q (fun e d => Mqc.Rel B last LEN e (Mqc.shiftDec pre d)) es ds → Q0 es ds) :
    ∃ esP ef es4, encP (es0 w h) = some esP ∧ termMq sty esP.mq = some ef ∧
      resetE sty { esP with mq := ef } = some es4 ∧ Mqc.getBuffer es4.mq = Mqc.getBuffer ef ∧
      (styPterm sty = false → Mqc.getBuffer ef ≠ []) ∧
      ∃ d1 ds', (Mqc.Dec.new (Mqc.getBuffer ef) NUMCONTEXTS).bind initCtxDec = some d1 ∧
        decP { flags := Array.replicate ((w + 2) * (h + 2)) 0, data := Array.replicate ((w + 2) * (h + 2)) 0, mq := d1 } =
          some ds' ∧ Q0 esP ds' := by
  obtain ⟨hVsz, _⟩ := padBlock_spec w h coeffs
  obtain ⟨hs0, hst0, hctx0, hbp0⟩ := es0_ok w h (padBlock w h coeffs) hVsz
  obtain ⟨esP, ef, es4, heP, hef, he4, _, _, hbuf, hE, hbp2', hdec⟩ :=
    seg_frameQ w h (padBlock w h coeffs) sty mb 2 encP decP Q hlock (es0 w h) hs0 hst0
  obtain ⟨hag, hgl⟩ := Agree.getBuffer hE.term
  rw [hbuf] at hag hgl
  obtain ⟨d1, hd1, ds', hd', _, _, _, _, hQ⟩ := hdec (Mqc.getBuffer ef) hag
    { flags := Array.replicate ((w + 2) * (h + 2)) 0, data := Array.replicate ((w + 2) * (h + 2)) 0, mq := Mqc.Dec.newRaw [] }
    (pinv_start hz0 w h _ _ mb hmb _ _ True.intro)
  rw [hbp0, List.drop_zero, List.take_of_length_le (by rw [hgl]; exact Nat.le_refl _), hctx0, ← dec_init_fresh] at hd1
  exact ⟨esP, ef, es4, heP, hef, he4, hbuf,
    fun hp hnil => by rw [hnil] at hgl; have := hbp2' hp; simp only [List.length_nil] at hgl; omega, d1, ds', hd1, hd', hweak _ _ _ _ _ _ hQ⟩

end T1
