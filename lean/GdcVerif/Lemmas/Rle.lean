import GdcVerif.Lemmas.RleDec
import GdcVerif.Lemmas.RleFrame
import GdcVerif.Lemmas.RleGeom
/-! A frame of any description `encodeFrame` does not refuse (`Info.Encodable`) encodes to
  `mkStream (chunksOf i src)`: behind the 64-byte header one PackBits-coded, even-padded chunk per byte plane
  (`encodeFrame_geo`; `encodeFrame_ok_inv` is the form to start from for "every stream the encoder returns").
  What `Props/C01.lean` says of the encoder's output is proved of that stream; the property's descriptions,
  `Info.Accepted` below, are encodable (`Info.Accepted.geo`, `Info.Geo.encodable`). -/
namespace Rle

/-- the frame descriptions the property quantifies over -/
def Info.Accepted (i : Info) : Prop :=
  (i.bitsAllocated = 8 ∨ i.bitsAllocated = 16 ∨ i.bitsAllocated = 32) ∧
  (i.spp = 1 ∨ i.spp = 3) ∧ (i.planar = 0 ∨ i.planar = 1) ∧ 1 ≤ i.width ∧ 1 ≤ i.height

/-- The segment offsets are stored in 32-bit fields; the format (and the code) cannot
    describe a frame whose encoding exceeds 4 GiB.  A bound on the description alone under which
    every encoding fits (`fits32_encFits`; PackBits at most doubles a plane, `chunksOf_flatten_le`):
    native frames up to 2 GiB − 50 bytes. -/
def Info.Fits32 (i : Info) : Prop := 2 * i.nativeLen + 100 < 4294967296

instance (i : Info) : Decidable i.Accepted := by unfold Info.Accepted; infer_instance
instance (i : Info) : Decidable i.Fits32 := by unfold Info.Fits32; infer_instance

theorem Info.Accepted.geo {i : Info} (hi : i.Accepted) : i.Geo := by
  obtain ⟨hb, hspp, hpl, hw, hh⟩ := hi
  refine ⟨?_, hspp, hpl, Nat.mul_pos hw hh, i.nativeLen_eq⟩
  unfold Info.bytesAllocated
  rcases hb with h | h | h <;> rw [h] <;> simp

def planeP (i : Info) (src : Array Byte) (t : Nat) : List Byte :=
  (List.range i.pixelCount).map fun q => cell src (i.segStart t + q * i.segStride)

/-- the chunks (segment + pad) of the encoded frame -/
def chunksOf (i : Info) (src : Array Byte) : List (List Byte) :=
  (List.range' 0 i.numberOfSegments).map fun t => chunkOf (planeP i src t)

/-- the encoded frame (64-byte header + padded segments) is at most `maxEncodedFrameLength` = 0xFFFFFFFE bytes
    long: exactly the frames `encodeFrame` does not refuse (`encodeFrame_geo`) -/
def EncFits (i : Info) (src : Array Byte) : Prop :=
  64 + (chunksOf i src).flatten.length ≤ maxEncodedFrameLength

instance (i : Info) (src : Array Byte) : Decidable (EncFits i src) := by unfold EncFits; infer_instance

theorem encodeFrame_geo (i : Info) (g : i.Encodable) (src : Array Byte) (hlen : src.size = i.nativeLen) :
    encodeFrame i src = if EncFits i src then .ok (mkStream (chunksOf i src)) else .err := by
  have hpos : 1 ≤ i.nativeLen := by
    rw [i.nativeLen_eq]; exact Nat.mul_pos g.nseg_pos g.hpc
  exact (encodeFrame_eq i src (planeP i src) (by omega) g.nseg_le g.nseg_pos g.hpc
    (fun t ht => readPlane_eq src _ _ _ (fun k hk => by rw [hlen]; exact i.inb ht hk))).trans
    (ite_congr rfl (fun _ => rfl) fun _ => rfl)

theorem chunksOf_length (i : Info) (src : Array Byte) :
    (chunksOf i src).length = i.numberOfSegments := by simp [chunksOf]

theorem chunksOf_get (i : Info) (src : Array Byte) (k : Nat) (hk : k < (chunksOf i src).length) :
    (chunksOf i src)[k] = chunkOf (planeP i src k) := by simp [chunksOf]

theorem planeP_length (i : Info) (src : Array Byte) (t : Nat) :
    (planeP i src t).length = i.pixelCount := by simp [planeP]

theorem flatten_length_le (L : List (List Byte)) (M : Nat) (hL : ∀ c, c ∈ L → c.length ≤ M) :
    L.flatten.length ≤ L.length * M := by
  induction L with
  | nil => simp
  | cons c L ih =>
    have h1 := hL c (by simp)
    have h2 := ih (fun c hc => hL c (by simp [hc]))
    simp only [List.flatten_cons, List.length_append, List.length_cons, Nat.add_mul, Nat.one_mul]
    omega

theorem chunksOf_forall (i : Info) (src : Array Byte) {p : List Byte → Prop}
    (h : ∀ t, p (chunkOf (planeP i src t))) : ∀ c, c ∈ chunksOf i src → p c := by
  intro c hc
  obtain ⟨t, _, rfl⟩ := List.mem_map.mp hc
  exact h t

/-- at most 15 segments of at most `2·pixelCount + 1` bytes each -/
theorem chunksOf_flatten_le (i : Info) (g : i.Encodable) (src : Array Byte) :
    (chunksOf i src).flatten.length ≤ 2 * i.nativeLen + 15 := by
  have h1 := flatten_length_le (chunksOf i src) (2 * i.pixelCount + 1) <| chunksOf_forall i src fun t => by
    have := chunkOf_length_le (planeP i src t)
    rwa [planeP_length] at this
  rw [chunksOf_length] at h1
  have h2 : i.numberOfSegments * (2 * i.pixelCount + 1) = 2 * i.nativeLen + i.numberOfSegments := by
    rw [i.nativeLen_eq, Nat.mul_add, Nat.mul_one, Nat.mul_left_comm]; rfl
  have := g.nseg_le
  omega

theorem fits32_encFits (i : Info) (g : i.Encodable) (hf : i.Fits32) (src : Array Byte) : EncFits i src := by
  have := chunksOf_flatten_le i g src
  unfold Info.Fits32 at hf
  unfold EncFits maxEncodedFrameLength
  omega

theorem encodeFrame_ok_inv (i : Info) (g : i.Encodable) (src : Array Byte) (hlen : src.size = i.nativeLen)
    (enc : List Byte) (he : encodeFrame i src = .ok enc) :
    EncFits i src ∧ enc = mkStream (chunksOf i src) := by
  rw [encodeFrame_geo i g src hlen] at he
  split at he
  · next hfit =>
    injection he with he
    exact ⟨hfit, he.symm⟩
  · cases he

theorem chunksOf_ok (i : Info) (g : i.Encodable) (src : Array Byte) (hfit : EncFits i src) :
    Chunks (chunksOf i src) where
  count_pos := by rw [chunksOf_length]; exact g.nseg_pos
  count_le := by rw [chunksOf_length]; exact g.nseg_le
  fits := hfit
  shape := chunksOf_forall i src fun t => chunkOf_shape _ (by rw [planeP_length]; exact g.hpc)

theorem chunksOf_bound (i : Info) (g : i.Geo) (hf : i.Fits32) (src : Array Byte) :
    64 + (chunksOf i src).flatten.length < 4294967296 :=
  (chunksOf_ok i g.encodable src (fits32_encFits i g.encodable hf src)).lt32

theorem array_eq_of_cell (A B : Array Byte) (hs : A.size = B.size)
    (h : ∀ j, j < A.size → cell A j = cell B j) : A = B := by
  apply Array.ext hs
  intro j h1 h2
  have := h j h1
  simpa [cell, h1, h2] using this

theorem cell_append_pad (src : Array Byte) (c : Prop) [Decidable c] (j : Nat) :
    cell (src ++ (if c then #[0] else #[])) j = cell src j := by
  unfold cell
  rw [Array.getElem?_append]
  split
  · rfl
  · next h =>
    have : src[j]? = none := by simp; omega
    rw [this]
    split
    · by_cases h0 : j - src.size = 0 <;> simp [h0]
    · simp

theorem frameSize_eq (i : Info) :
    i.frameSize = i.nativeLen + (if i.nativeLen % 2 = 1 then 1 else 0) := by
  unfold Info.frameSize
  split <;> rename_i h <;> simp [h]

/-- the plane positions cover the native frame (`Info.cover`) -/
theorem frame_eq (i : Info) (src F : Array Byte) (hlen : src.size = i.nativeLen) {A : Nat → Prop}
    (hu : Upd (cell src) A (Array.replicate i.frameSize 0) F)
    (hA : ∀ t, t < i.numberOfSegments → ∀ q, q < i.pixelCount → A (i.segStart t + q * i.segStride)) :
    F = src ++ (if i.nativeLen % 2 = 1 then #[0] else #[]) := by
  apply array_eq_of_cell
  · rw [hu.1, Array.size_replicate, Array.size_append, hlen, frameSize_eq]
    split <;> simp
  · intro j hj
    rw [cell_append_pad]
    by_cases hjn : j < i.nativeLen
    · obtain ⟨s, q, hs, hq, rfl⟩ := i.cover hjn
      exact (hu.2 _).elim (fun h => absurd (hA s hs q hq) h.2) id
    · have h0 : cell src j = 0 := by simp [cell, show src.size ≤ j by omega]
      rcases hu.2 j with ⟨h, _⟩ | h
      · rw [h, h0]
        unfold cell
        rw [Array.getElem?_replicate]
        split <;> rfl
      · exact h

theorem decode_chunks (i : Info) (g : i.Encodable) (src : Array Byte)
    (hlen : src.size = i.nativeLen) (hfit : EncFits i src) :
    decodeFrame i (mkStream (chunksOf i src)) =
      .ok (src ++ (if i.nativeLen % 2 = 1 then #[0] else #[])) := by
  have hcl := chunksOf_length i src
  have w := chunksOf_ok i g src hfit
  have h15 := w.count_le
  obtain ⟨offs, hph, hslice⟩ := parseHeader_stream w
  have hfs : i.nativeLen ≤ i.frameSize := by
    rw [frameSize_eq]
    omega
  obtain ⟨F, hF, hu⟩ := decodeSegments_upd i (cell src) (mkStream (chunksOf i src))
    (chunksOf i src).length offs (planeP i src) (chunksOf i src).length 0
    (Array.replicate i.frameSize 0)
    (by
      intro t _ ht b hb
      have ht' : t < (chunksOf i src).length := by omega
      rw [hslice t ht', chunksOf_get]
      exact decodeLoop_enc (encodeSegment_spec _).1 _ _ _ _ (padOf_length_le _)
        (by rw [planeP_length]; exact g.hpc) hb)
    (by
      intro t _ ht q hq
      rw [planeP_length] at hq
      refine ⟨by simp [planeP], ?_⟩
      rw [Array.size_replicate]
      have := i.inb (t := t) (q := q) (by omega) hq
      omega)
  rw [hcl] at hF
  have hFeq := frame_eq i src F hlen hu fun t ht q hq =>
    ⟨t, q, Nat.zero_le _, by omega, by rw [planeP_length]; exact hq, rfl⟩
  unfold decodeFrame
  have hl : ¬ ((mkStream (chunksOf i src)).length = 0) := by rw [mkStream_length _ h15]; omega
  have hg : ¬ (i.bitsAllocated = 0 ∨ i.numberOfSegments < 1 ∨ i.numberOfSegments > 15) := by
    have := g.bits_ne
    have := g.nseg_pos
    have := g.nseg_le
    omega
  simp only [hl, hg, ↓reduceIte, hph, hcl, ne_eq, not_true_eq_false]
  rw [hF, hFeq]

theorem planeP_eq_planeOf (i : Info) (src : Array Byte) (k : Nat) :
    planeP i src k = AnnexG.planeOf src.toList i.bytesAllocated i.spp i.pixelCount i.planar k := by
  simp only [planeP, AnnexG.planeOf]
  apply List.map_congr_left
  intro q _
  rw [geo_plane, ← segStart_eq, ← segStride_eq]
  simp [cell, List.getD_eq_getElem?_getD]

theorem encodeFrame_ok_of_fits32 (i : Info) (hi : i.Accepted) (hf : i.Fits32) (src : Array Byte)
    (hlen : src.size = i.nativeLen) :
    ∃ enc, encodeFrame i src = .ok enc :=
  ⟨_, by rw [encodeFrame_geo i hi.geo.encodable src hlen, if_pos (fits32_encFits i hi.geo.encodable hf src)]⟩

theorem readPlanes_chunks (i : Info) (g : i.Encodable) (src : Array Byte) (hfit : EncFits i src) :
    AnnexG.readPlanes (mkStream (chunksOf i src)) i.numberOfSegments i.pixelCount =
      some ((List.range i.numberOfSegments).map
        (AnnexG.planeOf src.toList i.bytesAllocated i.spp i.pixelCount i.planar)) := by
  have := readPlanes_stream (chunksOf_ok i g src hfit) i.pixelCount
    (AnnexG.planeOf src.toList i.bytesAllocated i.spp i.pixelCount i.planar)
    (by
      intro k hk
      rw [chunksOf_get, ← planeP_eq_planeOf]
      have := unpack_enc (encodeSegment_spec (planeP i src k)).1
        (padOf (encodeSegment (planeP i src k)).1)
      rwa [planeP_length] at this)
  rwa [chunksOf_length] at this

end Rle
