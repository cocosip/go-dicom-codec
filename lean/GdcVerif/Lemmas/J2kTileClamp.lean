import GdcVerif.Gen.J2kTileClamp
import GdcVerif.Lemmas.Basics
/-!
  C09: the tile rectangle `t2.NewTileDecoder` derives from the SIZ fields — theorems over the GENERATED
  kernel `Gen.J2kTileClamp.NewTileDecoder` (go2lean translation of the clamps; uint32 fields read as
  `Int`, no wrap-around: the parser's SIZ validation keeps the sums below 2^33).
  Every TileDecoder buffer (coefficients, samples, sub-band assembly) is sized from this rectangle.
-/
namespace Gen.J2kTileClamp

theorem NewTileDecoder_rect (tile : Tile) (siz : SIZSegment) (ht : Bool) :
    let nx := Int.tdiv (siz.Xsiz - siz.XTOsiz + siz.XTsiz - 1) siz.XTsiz
    let nx' := if nx ≤ 0 then 1 else nx
    let gx := siz.XTOsiz + Int.tmod tile.Index nx' * siz.XTsiz
    let gy := siz.YTOsiz + Int.tdiv tile.Index nx' * siz.YTsiz
    let td := NewTileDecoder tile siz ht
    td.tileX0 = max gx siz.XOsiz ∧ td.tileY0 = max gy siz.YOsiz ∧
      td.tileX1 = min (gx + siz.XTsiz) siz.Xsiz ∧ td.tileY1 = min (gy + siz.YTsiz) siz.Ysiz := by
  intro nx nx' gx gy td
  -- per component, so that the clipping may be written with `if` or with `min` / `max` in the Go source
  refine ⟨?_, ?_, ?_, ?_⟩ <;> simp only [td, gx, gy, nx', nx, NewTileDecoder, decide_eq_true_eq] <;> omega

theorem tile_inside_image (tile : Tile) (siz : SIZSegment) (ht : Bool) :
    let td := NewTileDecoder tile siz ht
    siz.XOsiz ≤ td.tileX0 ∧ siz.YOsiz ≤ td.tileY0 ∧ td.tileX1 ≤ siz.Xsiz ∧ td.tileY1 ≤ siz.Ysiz := by
  obtain ⟨h1, h2, h3, h4⟩ := NewTileDecoder_rect tile siz ht
  exact ⟨h1 ▸ Int.le_max_right _ _, h2 ▸ Int.le_max_right _ _, h3 ▸ Int.min_le_right _ _, h4 ▸ Int.min_le_right _ _⟩

theorem tile_within_cell (tile : Tile) (siz : SIZSegment) (ht : Bool) :
    let td := NewTileDecoder tile siz ht
    td.tileX1 - td.tileX0 ≤ siz.XTsiz ∧ td.tileY1 - td.tileY0 ≤ siz.YTsiz := by
  -- a cell `[g, g + t)` clipped to a window is no longer than `t`
  have clip : ∀ g t lo hi : Int, min (g + t) hi - max g lo ≤ t := by omega
  obtain ⟨h1, h2, h3, h4⟩ := NewTileDecoder_rect tile siz ht
  exact ⟨h1 ▸ h3 ▸ clip _ _ _ _, h2 ▸ h4 ▸ clip _ _ _ _⟩

theorem tile_extent_le_image (tile : Tile) (siz : SIZSegment) (ht : Bool) :
    let td := NewTileDecoder tile siz ht
    td.tileX1 - td.tileX0 ≤ siz.Xsiz - siz.XOsiz ∧ td.tileY1 - td.tileY0 ≤ siz.Ysiz - siz.YOsiz := by
  have h := tile_inside_image tile siz ht
  simp only at h ⊢
  omega

theorem tile_area_le_image (tile : Tile) (siz : SIZSegment) (ht : Bool) :
    let td := NewTileDecoder tile siz ht
    0 ≤ td.tileX1 - td.tileX0 → 0 ≤ td.tileY1 - td.tileY0 →
    (td.tileX1 - td.tileX0) * (td.tileY1 - td.tileY0) ≤ (siz.Xsiz - siz.XOsiz) * (siz.Ysiz - siz.YOsiz) := by
  have h := tile_extent_le_image tile siz ht
  simp only at h ⊢
  intro hx hy
  exact Int.mul_le_mul h.1 h.2 hy (by omega)

theorem ceilDiv_eq {a d : Int} (ha : 0 ≤ a) (hd : 1 ≤ d) : ceilDiv a d = (a + d - 1) / d := by
  have hnd : ¬ d ≤ 0 := by omega
  simp only [ceilDiv, hnd, ha, decide_true, decide_false, if_true, if_false, Bool.false_eq_true]
  exact Int.tdiv_eq_ediv_of_nonneg (by omega)

theorem ceilDiv_bounds (a d : Int) (ha : 0 ≤ a) (hd : 1 ≤ d) :
    a ≤ d * ceilDiv a d ∧ d * ceilDiv a d < a + d := by
  rw [ceilDiv_eq ha hd, Int.mul_comm]
  -- block `⌈a/d⌉ - 1` starts inside `[0, a)`, block `⌈a/d⌉` does not
  have h1 := (Int.lt_ceilDiv_iff (q := (a + d - 1) / d - 1) (n := a) (by omega : 0 < d)).mp (by omega)
  have h2 := mt (Int.lt_ceilDiv_iff (q := (a + d - 1) / d) (n := a) (by omega : 0 < d)).mpr (by omega)
  rw [Int.sub_mul, Int.one_mul] at h1
  omega

theorem ceilDiv_extent_le (lo hi d : Int) (h0 : 0 ≤ lo) (h : lo ≤ hi) (hd : 1 ≤ d) :
    ceilDiv hi d - ceilDiv lo d ≤ hi - lo := by
  obtain ⟨l1, l2⟩ := ceilDiv_bounds lo d h0 hd
  obtain ⟨u1, u2⟩ := ceilDiv_bounds hi d (by omega) hd
  generalize ceilDiv hi d = qh at *
  generalize ceilDiv lo d = ql at *
  by_cases hk : qh - ql ≤ 0
  · omega
  · have hm : 1 * (qh - ql - 1) ≤ d * (qh - ql - 1) := Int.mul_le_mul_of_nonneg_right hd (by omega)
    have he : d * (qh - ql - 1) = d * qh - d * ql - d := by
      rw [Int.mul_sub, Int.mul_sub, Int.mul_one]
    omega

/-- the component rectangle of `TileDecoder.Decode` (tile_decoder.go: compX0 … compWidth, with the
    `dx ≤ 0 → 1` default and the `< 0 → 0` floor), over the generated `ceilDiv` -/
def compExtent (lo hi d : Int) : Int :=
  let d := if d ≤ 0 then 1 else d
  let w := ceilDiv hi d - ceilDiv lo d
  if w < 0 then 0 else w

theorem compExtent_nonneg (lo hi d : Int) : 0 ≤ compExtent lo hi d := by
  simp only [compExtent]
  split <;> omega

theorem compExtent_le (lo hi d : Int) (h0 : 0 ≤ lo) (h : lo ≤ hi) : compExtent lo hi d ≤ hi - lo := by
  simp only [compExtent]
  have hd : 1 ≤ (if d ≤ 0 then 1 else d) := by split <;> omega
  generalize (if d ≤ 0 then 1 else d) = d' at hd ⊢
  have := ceilDiv_extent_le lo hi d' h0 h hd
  split <;> omega

/-- C09 allocation bound of the tile decoder as far as it is header-derived: for a tile whose clamped
    rectangle is non-degenerate and an image origin on the non-negative reference grid, every component's
    `comp.width × comp.height` — the length of `comp.coefficients`, `comp.samples` and `decodedData[i]` —
    is at most (Xsiz − XOsiz) × (Ysiz − YOsiz) and at most XTsiz × YTsiz, for every sub-sampling pair -/
theorem comp_area_le (tile : Tile) (siz : SIZSegment) (ht : Bool) (dx dy : Int)
    (hox : 0 ≤ siz.XOsiz) (hoy : 0 ≤ siz.YOsiz) :
    let td := NewTileDecoder tile siz ht
    td.tileX0 ≤ td.tileX1 → td.tileY0 ≤ td.tileY1 →
    compExtent td.tileX0 td.tileX1 dx * compExtent td.tileY0 td.tileY1 dy
        ≤ (siz.Xsiz - siz.XOsiz) * (siz.Ysiz - siz.YOsiz) ∧
    compExtent td.tileX0 td.tileX1 dx * compExtent td.tileY0 td.tileY1 dy ≤ siz.XTsiz * siz.YTsiz := by
  have hi := tile_inside_image tile siz ht
  have hc := tile_within_cell tile siz ht
  simp only at hi hc ⊢
  intro hx hy
  have ex := compExtent_le _ _ dx (by omega) hx
  have ey := compExtent_le _ _ dy (by omega) hy
  have ny := compExtent_nonneg (NewTileDecoder tile siz ht).tileY0 (NewTileDecoder tile siz ht).tileY1 dy
  exact ⟨Int.mul_le_mul (by omega) (by omega) ny (by omega), Int.mul_le_mul (by omega) (by omega) ny (by omega)⟩

/-- a 16×64 image at XOsiz = 2^22 in one tile anchored at the grid origin decodes a 16×64 rectangle, not a
    4194320×64 one -/
example :
    let td := NewTileDecoder ⟨0⟩ { Rsiz := 0, Xsiz := 4194320, Ysiz := 64, XOsiz := 4194304, YOsiz := 0, XTsiz := 4194320, YTsiz := 64, XTOsiz := 0, YTOsiz := 0, Csiz := 1 } false
    (td.tileX0, td.tileY0, td.tileX1, td.tileY1) = (4194304, 0, 4194320, 64) ∧
    compExtent td.tileX0 td.tileX1 1 * compExtent td.tileY0 td.tileY1 1 = 1024 := by decide

end Gen.J2kTileClamp
