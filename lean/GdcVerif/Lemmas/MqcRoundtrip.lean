import GdcVerif.Lemmas.MqcDec
/-!
  MQ coder: the argument for `decode (encode ds) = ds` over the code-shaped encoder and decoder of `Model/Mqc.lean`,
  up to the lock-step over a whole decision sequence (`decodeAll_rel`); the theorem itself is `mq_roundtrip`
  (MqcRoundtrip2.lean), which needs the end of the run from `MqcTerm`.

  Fix the FINAL byte buffer `B` of an encoder run (`B i = 0xFF` beyond the last emitted byte `last`: the two
  sentinel bytes and the 0xFF00 feeds of the decoder).  Byte `j` is `wd j` bits wide: 7 if it follows a 0xFF
  inside the real stream (bit stuffing: its top bit is the carry slot), else 8.  For an encoder state with
  current byte `bp` let `R n` (`Rv B last δ bp n`) be the exact value of the not-yet-final suffix `B[bp+1 .. bp+n]` plus
  the carry `δ = B bp − buf[bp] ∈ {0,1}` that will still reach the current byte (units: LSB of byte `bp+n`).

  Encoder facts (`FA`, proved BACKWARDS from the end of the run): for every `n ≥ 1` (the upper one also for `n = 0`)
      c·2^ct·2^(Wd n) < (R n + 1)·2^27          (lower: the low end is below the next representable value)
      R n·2^27 < (c + a)·2^ct·2^(Wd n)          (upper: the stream stays below the upper end)
  Decoder relation (`Rel`, proved FORWARDS in lock-step): with the decoder having consumed `n` bytes more
  than the encoder has emitted and `Wd n = 27 − ct_e + ct_d`,
      R n · 2^16 = c_e · 2^(16+ct_d) + c_d · 2^ct_d        (an exact equation, no inequality on Chigh)
  The decision test `c_d < Qe·2^16` then follows from the facts at the encoder's post-decision state.
  The code meets `B` in two lemmas: `Emitted.final` (the byte the encoder emits has the width `wd` and is final up to
  the carry still due to it) and `bytein_reads` (the decoder takes in byte `bp + 2 + eos` of `B` with that same width).
-/
namespace Mqc
open Gen.J2kMqc

def wd (B : Nat → Nat) (last j : Nat) : Nat := if B (j - 1) = 255 ∧ j ≤ last then 7 else 8

/-- total width of bytes `b+1 .. b+n` -/
def Wd (B : Nat → Nat) (last b : Nat) : Nat → Nat
  | 0 => 0
  | n + 1 => Wd B last b n + wd B last (b + n + 1)

/-- value of bytes `b+1 .. b+n` in units of the last one's LSB -/
def Seg (B : Nat → Nat) (last b : Nat) : Nat → Nat
  | 0 => 0
  | n + 1 => Seg B last b n * 2 ^ wd B last (b + n + 1) + B (b + n + 1)

theorem Wd_front (B : Nat → Nat) (last b : Nat) : ∀ n, Wd B last b (n + 1) = wd B last (b + 1) + Wd B last (b + 1) n := by
  intro n
  induction n with
  | zero => simp [Wd]
  | succ n ih =>
    rw [Wd, ih, Wd]
    have : b + (n + 1) + 1 = b + 1 + n + 1 := by omega
    rw [this]; omega

theorem Seg_front (B : Nat → Nat) (last b : Nat) :
    ∀ n, Seg B last b (n + 1) = B (b + 1) * 2 ^ Wd B last (b + 1) n + Seg B last (b + 1) n := by
  intro n
  induction n with
  | zero => simp [Seg, Wd]
  | succ n ih =>
    rw [Seg, ih, Seg, Wd]
    have e : b + (n + 1) + 1 = b + 1 + n + 1 := by omega
    rw [e, Nat.add_mul, Nat.mul_assoc, ← Nat.pow_add]
    omega

def Rv (B : Nat → Nat) (last δ b n : Nat) : Nat := δ * 2 ^ Wd B last b n + Seg B last b n

theorem Rv_front (B : Nat → Nat) (last δ b n : Nat) :
    Rv B last δ b (n + 1) = Rv B last (δ * 2 ^ wd B last (b + 1) + B (b + 1)) (b + 1) n := by
  unfold Rv
  rw [Wd_front, Seg_front, Nat.pow_add, Nat.add_mul, Nat.mul_assoc, Nat.add_assoc]

/-- lower fact: the scaled low end `q` (units 2^-27 of byte `b`'s LSB) is below the next value after the suffix -/
def Lo (B : Nat → Nat) (last q δ b n : Nat) : Prop := q * 2 ^ Wd B last b n < (Rv B last δ b n + 1) * 134217728
def Up (B : Nat → Nat) (last u δ b n : Nat) : Prop := Rv B last δ b n * 134217728 < u * 2 ^ Wd B last b n

theorem Lo_front (B : Nat → Nat) (last q δ b n : Nat) :
    Lo B last q δ b (n + 1) ↔ Lo B last (q * 2 ^ wd B last (b + 1)) (δ * 2 ^ wd B last (b + 1) + B (b + 1)) (b + 1) n := by
  unfold Lo
  rw [Rv_front, Wd_front, Nat.pow_add, Nat.mul_assoc]

theorem Up_front (B : Nat → Nat) (last u δ b n : Nat) :
    Up B last u δ b (n + 1) ↔ Up B last (u * 2 ^ wd B last (b + 1)) (δ * 2 ^ wd B last (b + 1) + B (b + 1)) (b + 1) n := by
  unfold Up
  rw [Rv_front, Wd_front, Nat.pow_add, Nat.mul_assoc]

theorem Rv_add (B : Nat → Nat) (last A δ b n : Nat) :
    Rv B last (A + δ) b n = A * 2 ^ Wd B last b n + Rv B last δ b n := by
  unfold Rv; rw [Nat.add_mul, Nat.add_assoc]

theorem Lo_cancel (B : Nat → Nat) (last A q δ b n : Nat) :
    Lo B last (A * 134217728 + q) (A + δ) b n ↔ Lo B last q δ b n := by
  unfold Lo
  rw [Rv_add, Nat.add_mul, Nat.add_assoc (A * 2 ^ Wd B last b n), Nat.add_mul (A * 2 ^ Wd B last b n),
    Nat.mul_right_comm A]
  omega

theorem Up_cancel (B : Nat → Nat) (last A u δ b n : Nat) :
    Up B last (A * 134217728 + u) (A + δ) b n ↔ Up B last u δ b n := by
  unfold Up
  rw [Rv_add, Nat.add_mul, Nat.add_mul (A * 134217728), Nat.mul_right_comm A]
  omega

/-- facts about an encoder state `(buf, bp)` with scaled low end `q = c·2^ct` and upper end `u = (c+a)·2^ct`
relative to the final buffer `B` -/
structure FA (B : Nat → Nat) (last : Nat) (buf : Array Nat) (bp q u : Nat) : Prop where
  le : bp ≤ last
  stable : ∀ j, j < bp → rd buf j = B j
  cur : B bp = rd buf bp ∨ B bp = rd buf bp + 1
  lo : ∀ n, Lo B last q (B bp - rd buf bp) bp (n + 1)
  up : ∀ n, Up B last u (B bp - rd buf bp) bp n

theorem wd_ff (B : Nat → Nat) (last b : Nat) (h : B b = 255) (hl : b + 1 ≤ last) : wd B last (b + 1) = 7 := by
  unfold wd; rw [Nat.add_sub_cancel, if_pos ⟨h, hl⟩]
theorem wd_nff (B : Nat → Nat) (last b : Nat) (h : B b ≠ 255) : wd B last (b + 1) = 8 := by
  unfold wd; rw [Nat.add_sub_cancel, if_neg (fun hh => h hh.1)]

theorem wd_out (B : Nat → Nat) (last b w : Nat) (hw : w = 7 ∨ w = 8) (hw7 : w = 7 ↔ B b = 255) (hl : b + 1 ≤ last) :
    wd B last (b + 1) = w := by
  rcases hw with rfl | rfl
  · exact wd_ff B last b (hw7.mp rfl) hl
  · exact wd_nff B last b (fun h => absurd (hw7.mpr h) (by decide))

/-- the facts for the interval `[c, c + x)` of an encoder state (units of `c` before the pending shift by `ct`) -/
def FX (B : Nat → Nat) (last : Nat) (e : Enc) (x : Nat) : Prop :=
  FA B last e.buf e.bp (e.c * 2 ^ e.ct.toNat) ((e.c + x) * 2 ^ e.ct.toNat)

theorem Emitted.final {e e2 : Enc} {w nb δ : Nat} (hE : Emitted e e2 w nb δ) {B : Nat → Nat} {last q u : Nat}
    (hf : FA B last e2.buf e2.bp q u) :
    wd B last (e.bp + 1) = w ∧ B e.bp - rd e.buf e.bp = δ ∧
      B (e.bp + 1) = nb + (B (e.bp + 1) - rd e2.buf (e.bp + 1)) := by
  rw [hE.bp] at hf
  have hBbp : B e.bp = rd e2.buf e.bp := (hf.stable e.bp (Nat.lt_succ_self _)).symm
  refine ⟨wd_out B last e.bp w hE.w78 (by rw [hBbp]; exact hE.w7) hf.le, by rw [hBbp, hE.cur]; omega, ?_⟩
  rcases hf.cur with h | h <;> rw [hE.byte] at h ⊢ <;> omega

theorem byteout_back (B : Nat → Nat) (last : Nat) {e e1 : Enc} {w nb δ : Nat} (hE : Emitted e e1 w nb δ) (x : Nat)
    (hx1 : 1 ≤ x) (hf : FX B last e1 x) : FA B last e.buf e.bp e.c (e.c + x) := by
  unfold FX at hf
  obtain ⟨hwd, hδe, hB1⟩ := hE.final hf
  have hbp := hE.bp; have hM := hE.split; have hc1 := hE.rest; have hδ1 := hE.carry; have hδx := hE.carry_le
  rw [hbp, hE.ct, Int.toNat_natCast] at hf
  have hle := hf.le
  refine ⟨by omega, fun j hj => ?_, ?_, fun n => ?_, fun n => ?_⟩
  · rw [← hE.pre j hj]; exact hf.stable j (by omega)
  · rw [← hf.stable e.bp (Nat.lt_succ_self _), hE.cur]; omega
  · rw [hδe, Lo_front, hwd, hM, hB1, ← Nat.add_assoc, Lo_cancel]
    cases n with
    | zero =>
      unfold Lo Rv Wd Seg
      simp only [Nat.pow_zero, Nat.mul_one, Nat.add_zero]
      omega
    | succ m => exact hf.lo m
  · rw [hδe]
    cases n with
    | zero =>
      unfold Up Rv Wd Seg
      simp only [Nat.pow_zero, Nat.mul_one, Nat.add_zero]
      omega
    | succ m =>
      rw [Up_front, hwd, hB1, ← Nat.add_assoc]
      have e : (e.c + x) * 2 ^ w = (δ * 2 ^ w + nb) * 134217728 + (e1.c + x) * 2 ^ w := by
        rw [Nat.add_mul, hM, Nat.add_mul e1.c x, Nat.add_assoc]
      rw [e, Up_cancel]
      exact hf.up m

def FE (B : Nat → Nat) (last : Nat) (e : Enc) : Prop :=
  FA B last e.buf e.bp (e.c * 2 ^ e.ct.toNat) ((e.c + e.a) * 2 ^ e.ct.toNat)

theorem FE_eq_FX (B : Nat → Nat) (last : Nat) (e : Enc) : FE B last e = FX B last e e.a := rfl

theorem FA_mono (B : Nat → Nat) (last : Nat) (buf : Array Nat) (bp q u q' u' : Nat) (hq : q' ≤ q) (hu : u ≤ u')
    (h : FA B last buf bp q u) : FA B last buf bp q' u' := by
  refine ⟨h.le, h.stable, h.cur, ?_, ?_⟩
  · intro n
    have := h.lo n
    unfold Lo at this ⊢
    exact Nat.lt_of_le_of_lt (Nat.mul_le_mul_right _ hq) this
  · intro n
    have := h.up n
    unfold Up at this ⊢
    exact Nat.lt_of_lt_of_le this (Nat.mul_le_mul_right _ hu)

theorem FX.of_sub {B : Nat → Nat} {last : Nat} {e : Enc} {x : Nat} (c' y : Nat) (hc : e.c ≤ c') (hs : c' + y ≤ e.c + x)
    (hf : FX B last { e with c := c' } y) : FX B last e x :=
  FA_mono B last e.buf e.bp _ _ _ _ (Nat.mul_le_mul_right _ hc) (Nat.mul_le_mul_right _ hs) hf

theorem FE_shift (B : Nat → Nat) (last : Nat) (e : Enc) (hct : 1 ≤ e.ct) :
    FE B last { e with a := e.a * 2, c := e.c * 2, ct := e.ct - 1 } ↔ FE B last e := by
  show FA B last e.buf e.bp (e.c * 2 * 2 ^ (e.ct - 1).toNat) ((e.c * 2 + e.a * 2) * 2 ^ (e.ct - 1).toNat) ↔
    FA B last e.buf e.bp (e.c * 2 ^ e.ct.toNat) ((e.c + e.a) * 2 ^ e.ct.toNat)
  rw [scale_step _ _ _ hct, show e.ct.toNat = (e.ct - 1).toNat + 1 by omega, Nat.pow_succ, Nat.mul_assoc e.c,
    Nat.mul_comm 2]

theorem FE_step (B : Nat → Nat) (last : Nat) (e e2 : Enc) (h : RegOk e) (hs : RenStep e e2)
    (hf : FE B last e2) : FE B last e := by
  refine (FE_shift B last e h.ctlo).mp ?_
  rcases hs.out with ⟨_, rfl⟩ | ⟨hct, w, nb, δ, hE⟩
  · exact hf
  · rw [FE_eq_FX, hs.a] at hf
    have := byteout_back B last hE (e.a * 2) (hs.a ▸ hs.reg.apos) hf
    show FA B last e.buf e.bp (e.c * 2 * 2 ^ (e.ct - 1).toNat) ((e.c * 2 + e.a * 2) * 2 ^ (e.ct - 1).toNat)
    rw [hct, show (2 : Nat) ^ (0 : Int).toNat = 1 from rfl, Nat.mul_one, Nat.mul_one]
    exact this

theorem renormeLoop_back (B : Nat → Nat) (last : Nat) (fuel : Nat) (e e' : Enc) (h : RegOk e)
    (he : renormeLoop fuel e = some e') (hf : FE B last e') : FE B last e :=
  renormeLoop_induct (P := fun _ e => FE B last e) e' (fun _ _ => hf)
    (fun _ e e2 h _ hs hf2 => FE_step B last e e2 h hs hf2) fuel e h he

/-- the final buffer as the decoder sees it: `len` real bytes `B 1 .. B len` then 0xFF for ever (`last = len + 1`
when the last emitted byte is a 0xFF, which the stream does not keep) -/
structure BOk (B : Nat → Nat) (last len : Nat) : Prop where
  pad : ∀ j, len + 1 ≤ j → B j = 255
  lastle : last ≤ len + 1
  lenle : len ≤ last
  marker : ∀ j, j + 1 ≤ last → B j = 255 → B (j + 1) ≤ 143
  nolast : B len ≠ 255
  bytes : ∀ j, B j < 256

/-- lock-step relation between an encoder state and the decoder state at the same decision:
same `a` and contexts; the decoder has consumed `n = bp_d + 1 + eos − bp_e ≥ 1` bytes more than the encoder
has emitted; and the exact equation `R n · 2^(16 − ct_d) = c_e · 2^16 + c_d`. -/
structure Rel (B : Nat → Nat) (last len : Nat) (e : Enc) (d : Dec) : Prop where
  a : d.a = e.a
  ctx : d.ctx = e.ctx
  size : d.data.size = len + 2
  data : ∀ k, k < len + 2 → rd d.data k = B (k + 1)
  bple : d.bp ≤ len
  eos : 0 < d.eos → d.bp = len
  ctlo : 0 ≤ d.ct
  cthi : d.ct ≤ 8
  ahead : e.bp < d.bp + 1 + d.eos
  wdeq : Wd B last e.bp (d.bp + 1 + d.eos - e.bp) + e.ct.toNat = 27 + d.ct.toNat
  eq : Rv B last (B e.bp - rd e.buf e.bp) e.bp (d.bp + 1 + d.eos - e.bp) * 2 ^ (16 - d.ct.toNat) =
        e.c * 65536 + d.c

theorem Rel.ahead_n {B : Nat → Nat} {last len : Nat} {e : Enc} {d : Dec} (hr : Rel B last len e d) :
    ∃ n, d.bp + 1 + d.eos = e.bp + n ∧ 1 ≤ n ∧ Wd B last e.bp n + e.ct.toNat = 27 + d.ct.toNat ∧
      Rv B last (B e.bp - rd e.buf e.bp) e.bp n * 2 ^ (16 - d.ct.toNat) = e.c * 65536 + d.c := by
  have h := hr.ahead
  refine ⟨d.bp + 1 + d.eos - e.bp, by omega, by omega, hr.wdeq, hr.eq⟩

theorem Rv_back (B : Nat → Nat) (last δ b n : Nat) :
    Rv B last δ b (n + 1) = Rv B last δ b n * 2 ^ wd B last (b + n + 1) + B (b + n + 1) := by
  unfold Rv
  simp only [Wd, Seg]
  rw [Nat.pow_add, Nat.add_mul, Nat.mul_assoc, Nat.add_assoc]
  omega

theorem pow_split (t : Nat) (ht : t ≤ 16) : 2 ^ t * 2 ^ (16 - t) = 65536 := by
  rw [← Nat.pow_add, show t + (16 - t) = 16 by omega]

theorem scale_eq (x ct W t : Nat) (h : W + ct = 27 + t) : x * 2 ^ ct * 2 ^ W = x * 2 ^ t * 134217728 := by
  rw [Nat.mul_assoc, ← Nat.pow_add, show ct + W = t + 27 by omega, Nat.pow_add, ← Nat.mul_assoc]

theorem pow_emit (W t w : Nat) (h : w + W = 27 + t) (ht : t ≤ 8) (hw : w ≤ 8) :
    2 ^ W * 2 ^ (16 - t) = 2 ^ (27 - w) * 65536 := by
  rw [← Nat.pow_add, show (65536 : Nat) = 2 ^ 16 from rfl, ← Nat.pow_add]
  congr 1
  omega

theorem rel_lower (R ce cd qe T K : Nat) (hTK : T * K = 65536) (heq : R * K = ce * 65536 + cd)
    (hup : R * 134217728 < (ce + qe) * T * 134217728) : cd < qe * 65536 := by
  have h1 : R < (ce + qe) * T := Nat.lt_of_mul_lt_mul_right hup
  have hK : 0 < K := by
    rcases Nat.eq_zero_or_pos K with h | h
    · rw [h] at hTK; omega
    · exact h
  have h2 : R * K < (ce + qe) * T * K := Nat.mul_lt_mul_of_pos_right h1 hK
  rw [Nat.mul_assoc, hTK, heq] at h2
  clear hup h1 heq hTK hK
  omega

theorem rel_upper (R ce cd qe T K : Nat) (hTK : T * K = 65536) (heq : R * K = ce * 65536 + cd)
    (hlo : (ce + qe) * T * 134217728 < (R + 1) * 134217728) : qe * 65536 ≤ cd := by
  have h1 : (ce + qe) * T < R + 1 := Nat.lt_of_mul_lt_mul_right hlo
  have h2 : (ce + qe) * T * K ≤ R * K := Nat.mul_le_mul_right _ (Nat.le_of_lt_succ h1)
  rw [Nat.mul_assoc, hTK, heq, Nat.add_mul] at h2
  exact Nat.le_of_add_le_add_left h2

theorem bytein_reads (B : Nat → Nat) (last len : Nat) (hB : BOk B last len) (d : Dec) (hsz : d.data.size = len + 2)
    (hdata : ∀ k, k < len + 2 → rd d.data k = B (k + 1)) (hbple : d.bp ≤ len) (heos : 0 < d.eos → d.bp = len) :
    ∃ w bp' eos', wd B last (d.bp + 2 + d.eos) = w ∧ (w = 7 ∨ w = 8) ∧
      bp' + eos' = d.bp + d.eos + 1 ∧ bp' ≤ len ∧ (0 < eos' → bp' = len) ∧ bytein d =
        some { d with bp := bp', c := u32 (d.c + B (d.bp + 2 + d.eos) * 2 ^ (16 - w)), ct := (w : Int), eos := eos' } := by
  have hcur : rd d.data d.bp = B (d.bp + 1) := hdata d.bp (by omega)
  have hnext : rd d.data (d.bp + 1) = B (d.bp + 2) := hdata (d.bp + 1) (by omega)
  have hb := hB.bytes (d.bp + 2)
  -- at the end (`eos > 0`) the decoder stands on the two sentinel bytes
  have he0 : B (d.bp + 1) ≠ 255 ∨ ¬ B (d.bp + 2) > 143 → d.eos = 0 := by
    intro h
    rcases Nat.eq_zero_or_pos d.eos with h0 | h0
    · exact h0
    · rw [heos h0, hB.pad _ (Nat.le_refl _), hB.pad _ (Nat.le_succ _)] at h
      omega
  unfold bytein
  rw [if_neg (by omega), rd_some d.data (d.bp + 1) (by omega), rd_some d.data d.bp (by omega), hcur, hnext]
  simp only []
  by_cases hff : B (d.bp + 1) = 255
  · rw [if_pos hff]
    by_cases hnx : B (d.bp + 2) > 143
    · -- 0xFF followed by a byte > 0x8F: the real stream is over and that byte is already padding
      rw [if_pos hnx]
      have hpadj : last < d.bp + 2 :=
        Nat.lt_of_not_le fun h => by have : B (d.bp + 2) ≤ 143 := hB.marker (d.bp + 1) h hff; omega
      have hbplen : d.bp = len := by
        have := hB.lenle
        have : d.bp + 1 ≠ len := fun h1 => hB.nolast (h1 ▸ hff)
        omega
      refine ⟨8, d.bp, d.eos + 1, ?_, Or.inr rfl, rfl, hbple, fun _ => hbplen, by rw [hB.pad _ (by omega)]; rfl⟩
      unfold wd; rw [if_neg (by omega)]
    · rw [if_neg hnx, he0 (Or.inr hnx), u32_id (B (d.bp + 2) * 2 ^ 9) (by omega)]
      have hreal : d.bp + 2 ≤ len :=
        Nat.le_of_not_lt fun h => by have := hB.pad (d.bp + 2) h; omega
      refine ⟨7, d.bp + 1, 0, ?_, Or.inl rfl, rfl, by omega, fun h => absurd h (Nat.lt_irrefl 0), rfl⟩
      unfold wd; rw [if_pos ⟨hff, by have := hB.lenle; omega⟩]
  · rw [if_neg hff, he0 (Or.inl hff), u32_id (B (d.bp + 2) * 2 ^ 8) (by omega)]
    have hlt : d.bp < len := Nat.lt_of_not_le fun h => hff (hB.pad _ (by omega))
    refine ⟨8, d.bp + 1, 0, ?_, Or.inr rfl, rfl, hlt, fun h => absurd h (Nat.lt_irrefl 0), rfl⟩
    unfold wd; rw [if_neg (fun h => hff h.1)]

theorem rel_in (B : Nat → Nat) (last len : Nat) (e : Enc) (d : Dec) (q x : Nat) (hr : Rel B last len e d)
    (hf : FX B last { e with c := e.c + q } x) : q * 65536 ≤ d.c ∧ d.c < (q + x) * 65536 := by
  obtain ⟨n, _, hn1, hwd, heq⟩ := hr.ahead_n
  obtain ⟨m, rfl⟩ : ∃ m, n = m + 1 := ⟨n - 1, by omega⟩
  have hl := hf.lo m
  have hu := hf.up (m + 1)
  unfold Lo at hl; unfold Up at hu
  rw [scale_eq _ _ _ _ hwd] at hl hu
  have hcd := hr.cthi
  have hp := pow_split d.ct.toNat (by omega)
  exact ⟨rel_upper _ e.c d.c q _ _ hp heq hl, rel_lower _ e.c d.c (q + x) _ _ hp heq (by rw [← Nat.add_assoc]; exact hu)⟩

theorem rel_c_lt (B : Nat → Nat) (last len : Nat) (e : Enc) (d : Dec) (hr : Rel B last len e d) (hf : FE B last e) :
    d.c < e.a * 65536 := by
  have := (rel_in B last len e d 0 e.a hr hf).2
  rwa [Nat.zero_add] at this

theorem bytein_rel (B : Nat → Nat) (last len : Nat) (hB : BOk B last len) (e : Enc) (d : Dec)
    (hr : Rel B last len e d) (hct : d.ct = 0) (ha : e.a < 65536) (hf : FE B last e) :
    ∃ d1, bytein d = some d1 ∧ Rel B last len e d1 ∧ (d1.ct = 7 ∨ d1.ct = 8) := by
  obtain ⟨n, hn, hn1, hwd, heq⟩ := hr.ahead_n
  rw [hct] at hwd heq
  simp only [Int.toNat_zero, Nat.add_zero, Nat.sub_zero] at hwd heq
  obtain ⟨w, bp', eos', hwdj, hw, h5, h6, h7, hd1⟩ := bytein_reads B last len hB d hr.size hr.data hr.bple hr.eos
  rw [show d.bp + 2 + d.eos = e.bp + n + 1 by omega] at hwdj hd1
  have hnn1 : bp' + 1 + eos' - e.bp = n + 1 := by omega
  -- the decoder is in step already with the sum it wraps to 32 bits; the upper fact then shows that nothing is cut off
  have hr1 : Rel B last len e
      { d with bp := bp', c := d.c + B (e.bp + n + 1) * 2 ^ (16 - w), ct := (w : Int), eos := eos' } := by
    refine ⟨hr.a, hr.ctx, hr.size, hr.data, h6, h7, Int.natCast_nonneg w, ?_, ?_, ?_, ?_⟩
    · show (w : Int) ≤ 8; omega
    · show e.bp < bp' + 1 + eos'; omega
    · show Wd B last e.bp (bp' + 1 + eos' - e.bp) + e.ct.toNat = 27 + (w : Int).toNat
      rw [hnn1, Int.toNat_natCast]; simp only [Wd]; rw [hwdj]; omega
    · show Rv B last (B e.bp - rd e.buf e.bp) e.bp (bp' + 1 + eos' - e.bp) * 2 ^ (16 - (w : Int).toNat) = _
      rw [hnn1, Int.toNat_natCast, Rv_back, hwdj, Nat.add_mul, Nat.mul_assoc, ← Nat.pow_add,
        show w + (16 - w) = 16 by omega, heq, Nat.add_assoc]
  rw [u32_id _ (Nat.lt_trans (rel_c_lt B last len e _ hr1 hf) (by omega))] at hd1
  exact ⟨_, hd1, hr1, by show (w : Int) = 7 ∨ (w : Int) = 8; omega⟩

theorem Wd_le (B : Nat → Nat) (last b : Nat) : ∀ n, Wd B last b n ≤ 8 * n := by
  intro n
  induction n with
  | zero => simp [Wd]
  | succ n ih =>
    simp only [Wd]
    have : wd B last (b + n + 1) ≤ 8 := by unfold wd; split <;> omega
    omega

theorem shiftk_rel (B : Nat → Nat) (last len k : Nat) (e : Enc) (d : Dec) (a' : Nat) (hr : Rel B last len e d)
    (hke : (k : Int) ≤ e.ct) (hkd : (k : Int) ≤ d.ct) :
    Rel B last len { e with a := a', c := e.c * 2 ^ k, ct := e.ct - k } { d with a := a', c := d.c * 2 ^ k, ct := d.ct - k } := by
  have hwd := hr.wdeq; have hhi := hr.cthi
  refine ⟨rfl, hr.ctx, hr.size, hr.data, hr.bple, hr.eos, ?_, ?_, hr.ahead, ?_, ?_⟩
  · show 0 ≤ d.ct - k; omega
  · show d.ct - k ≤ 8; omega
  · show Wd B last e.bp (d.bp + 1 + d.eos - e.bp) + (e.ct - k).toNat = 27 + (d.ct - k).toNat
    rw [Int.toNat_sub', Int.toNat_sub']
    omega
  · show Rv B last (B e.bp - rd e.buf e.bp) e.bp (d.bp + 1 + d.eos - e.bp) * 2 ^ (16 - (d.ct - k).toNat) =
        e.c * 2 ^ k * 65536 + d.c * 2 ^ k
    rw [Int.toNat_sub', show 16 - (d.ct.toNat - k) = (16 - d.ct.toNat) + k by omega, Nat.pow_add, ← Nat.mul_assoc, hr.eq,
      Nat.add_mul, Nat.mul_right_comm]

theorem move_rel (B : Nat → Nat) (last len : Nat) (e : Enc) (d : Dec) (a' ce cd : Nat) (ctx' dctx' : Array Nat)
    (hr : Rel B last len e d) (hc : ce * 65536 + cd = e.c * 65536 + d.c) (hctx : dctx' = ctx') :
    Rel B last len { e with a := a', c := ce, ctx := ctx' } { d with a := a', c := cd, ctx := dctx' } :=
  ⟨rfl, hctx, hr.size, hr.data, hr.bple, hr.eos, hr.ctlo, hr.cthi, hr.ahead, hr.wdeq, hr.eq.trans hc.symm⟩

theorem byteout_rel (B : Nat → Nat) (last len : Nat) {e e2 : Enc} {w nb δ : Nat} (hE : Emitted e e2 w nb δ) (d : Dec)
    (x : Nat) (hct : e.ct = 0) (hr : Rel B last len e d) (hf : FX B last e2 x) : Rel B last len e2 d := by
  unfold FX at hf
  obtain ⟨hwdw, hδe, hB1⟩ := hE.final hf
  have hw := hE.w78; have hbp2 := hE.bp
  obtain ⟨n, hn, _, hwd, heq⟩ := hr.ahead_n
  have hhi := hr.cthi
  rw [hct, Int.toNat_zero, Nat.add_zero] at hwd
  have hn4 : 2 ≤ n := by have := Wd_le B last e.bp n; omega
  obtain ⟨m, rfl⟩ : ∃ m, n = m + 1 := ⟨n - 1, by omega⟩
  have hnn2 : d.bp + 1 + d.eos - e2.bp = m := by omega
  rw [Wd_front, hwdw] at hwd
  have hpow := pow_emit _ d.ct.toNat w hwd (by omega) (by omega)
  refine ⟨by rw [hE.a]; exact hr.a, by rw [hE.ctx]; exact hr.ctx, hr.size, hr.data, hr.bple, hr.eos, hr.ctlo, hr.cthi,
    by omega, ?_, ?_⟩
  · rw [hnn2, hE.ct, Int.toNat_natCast, hbp2]; omega
  · rw [hnn2, hbp2]
    rw [hδe, Rv_front, hwdw, hB1, ← Nat.add_assoc, Rv_add, Nat.add_mul, Nat.mul_assoc, hpow] at heq
    -- `c = (δ·2^w + nb)·2^(27-w) + c'`: what left the code register is what the suffix value lost
    have hc : e.c = (δ * 2 ^ w + nb) * 2 ^ (27 - w) + e2.c := by
      apply Nat.eq_of_mul_eq_mul_right (Nat.two_pow_pos w)
      rw [hE.split, Nat.add_mul _ e2.c, Nat.mul_assoc, ← Nat.pow_add, show 27 - w + w = 27 by omega]
    generalize δ * 2 ^ w + nb = A at heq hc
    rw [hc, Nat.add_mul, Nat.mul_assoc, Nat.add_assoc] at heq
    exact Nat.add_left_cancel heq

theorem renorm_rel (B : Nat → Nat) (last len : Nat) (hB : BOk B last len) (fuel : Nat) (e : Enc) (d : Dec) (e' : Enc)
    (h : RegOk e) (hr : Rel B last len e d) (he : renormeLoop fuel e = some e') (hf : FE B last e') :
    ∃ d', renormdLoop fuel d = some d' ∧ Rel B last len e' d' := by
  refine (renormeLoop_induct (P := fun fuel e => FE B last e ∧
    ∀ d, Rel B last len e d → ∃ d', renormdLoop fuel d = some d' ∧ Rel B last len e' d') e' ?_ ?_ fuel e h he).2 d hr
  · intro hge fuel
    exact ⟨hf, fun d hr => ⟨d, renormdLoop_done fuel d (by rw [hr.a]; omega), hr⟩⟩
  · intro fuel e e2 h hlt hs ⟨hf2, ih⟩
    have hfe : FE B last e := FE_step B last e e2 h hs hf2
    refine ⟨hfe, fun d hr => ?_⟩
    have hah := h.ahi
    rw [renormdLoop, if_pos (by rw [hr.a]; exact hlt)]
    obtain ⟨d0, hd0, hr0, hct0⟩ : ∃ d0, (if d.ct = 0 then bytein d else some d) = some d0 ∧ Rel B last len e d0 ∧ 1 ≤ d0.ct := by
      by_cases hz : d.ct = 0
      · rw [if_pos hz]
        obtain ⟨d1, hb1, hr1, hc1⟩ := bytein_rel B last len hB e d hr hz h.ahi hfe
        exact ⟨d1, hb1, hr1, by omega⟩
      · rw [if_neg hz]; exact ⟨d, rfl, hr, by have := hr.ctlo; omega⟩
    rw [hd0]
    simp only []
    have hclt := rel_c_lt B last len e d0 hr0 hfe
    rw [hr0.a, u32_id (e.a * 2) (by omega), u32_id (d0.c * 2) (by omega)]
    have hr1 := shiftk_rel B last len 1 e d0 (e.a * 2) hr0 h.ctlo hct0
    rcases hs.out with ⟨_, rfl⟩ | ⟨hct, w, nb, δ, hE⟩
    · exact ih _ hr1
    · rw [FE_eq_FX, hs.a] at hf2
      exact ih _ (byteout_rel B last len hE _ (e.a * 2) hct hr1 hf2)

theorem step_rel (B : Nat → Nat) (last len : Nat) (hB : BOk B last len) (e : Enc) (d : Dec)
    (bit cx cxv qe nmps nlps sw : Nat) (h : RegOk e) (hn : 0x8000 ≤ e.a) (hbit : bit ≤ 1)
    (hcxv : cxv < 256) (q1 : 1 ≤ qe) (q2 : qe ≤ 0x5601) (m2 : nmps < 47) (l2 : nlps < 47)
    (hr : Rel B last len e d) (e1 : Enc) (he : encodeCore e bit cx cxv qe nmps nlps sw = some e1)
    (hf : FE B last e1) :
    ∃ d1, decodeCore d cx cxv qe nmps nlps sw = some (bit, d1) ∧ Rel B last len e1 d1 := by
  have hah := h.ahi
  have hda : sub32 d.a qe = e.a - qe := by rw [hr.a]; exact sub32_eq _ _ (by omega) (by omega)
  -- the arithmetic first, before the case hypotheses below enter the context of `omega`
  have hlo : ∀ c, c < qe * 65536 → c / 2 ^ 16 < qe := fun c hc => by omega
  have hhi : ∀ c, qe * 65536 ≤ c → ¬ c / 2 ^ 16 < qe := fun c hc => by omega
  have hA16 : e.a - qe < 65536 := by omega
  have upper : ∀ ctx', FE B last { e with a := e.a - qe, c := e.c + qe, ctx := ctx' } →
      ¬ d.c / 2 ^ 16 < qe ∧ ∀ dctx', dctx' = ctx' → Rel B last len { e with a := e.a - qe, c := e.c + qe, ctx := ctx' }
        { d with a := e.a - qe, c := sub32 d.c (u32 (qe * 2 ^ 16)), ctx := dctx' } := by
    intro ctx' hfs
    obtain ⟨hge, hlt⟩ := rel_in B last len e d qe (e.a - qe) hr hfs
    rw [show u32 (qe * 2 ^ 16) = qe * 65536 by unfold u32; omega, sub32_eq _ _ hge (by omega)]
    exact ⟨hhi _ hge, fun dctx' hctx => move_rel B last len e d (e.a - qe) (e.c + qe) _ ctx' dctx' hr (by omega) hctx⟩
  obtain ⟨dlow, dplain, dup⟩ := decodeCore_cases d cx cxv qe nmps nlps sw bit (e.a - qe) hda hbit hcxv
  rcases encodeCore_cases e bit cx cxv qe nmps nlps sw h hn q1 q2 m2 l2 with
    ⟨hb, hge8, _, he'⟩ | ⟨v, hv, ⟨hx, hreg, he'⟩ | ⟨hlt8, hx, hreg, he'⟩⟩
  · -- an MPS without renormalisation
    rw [he'] at he; injection he with he; subst he
    obtain ⟨hnlt, hrel⟩ := upper e.ctx hf
    rw [dplain hnlt hge8 hA16, hb]
    exact ⟨_, rfl, hrel d.ctx hr.ctx⟩
  · -- lower sub-interval: the decoder sees `c_d < qe·2^16`
    rw [he'] at he
    have hrs := move_rel B last len e d qe e.c d.c _ (d.ctx.setIfInBounds cx v) hr rfl (by rw [hr.ctx])
    have hlt := rel_c_lt B last len _ _ hrs (renormeLoop_back B last 16 _ e1 hreg he hf)
    obtain ⟨d1, hd1, hr1⟩ := renorm_rel B last len hB 16 _ _ e1 hreg hrs he hf
    rw [dlow (hlo _ hlt) hx, ← hv, renormd, hd1]
    exact ⟨d1, rfl, hr1⟩
  · -- upper sub-interval, renormalised
    rw [he'] at he
    obtain ⟨hnlt, hrel⟩ := upper _ (renormeLoop_back B last 16 _ e1 hreg he hf)
    obtain ⟨d1, hd1, hr1⟩ := renorm_rel B last len hB 16 _ _ e1 hreg
      (hrel (d.ctx.setIfInBounds cx v) (by rw [hr.ctx])) he hf
    rw [dup hnlt hlt8 hx, ← hv, renormd, hd1]
    exact ⟨d1, rfl, hr1⟩

theorem encode_back (B : Nat → Nat) (last : Nat) (e e1 : Enc) (bit cx : Nat) (h : RegOk e) (hn : 0x8000 ≤ e.a)
    (hcx : cx < e.ctx.size) (he : encode e bit cx = some e1) (hf : FE B last e1) : FE B last e := by
  obtain ⟨a', c', ctx', hc, hsum, _, hr, he'⟩ := encode_sub e bit cx h hn hcx
  exact FX.of_sub c' a' hc hsum (renormeLoop_back B last 16 _ e1 hr (he'.symm.trans he) hf)

theorem encodeAll_back (B : Nat → Nat) (last : Nat) : ∀ (ds : List (Nat × Nat)) (e ef : Enc), RegOk e → 0x8000 ≤ e.a →
    (∀ d ∈ ds, d.2 < e.ctx.size) → encodeAll e ds = some ef → FE B last ef → FE B last e :=
  fun ds e ef h hn hds he hf => encodeAll_induct (P := fun e _ => FE B last e) ef hf
    (fun e e1 bit cx _ h hn hcx he1 hf1 => encode_back B last e e1 bit cx h hn hcx he1 hf1) ds e h hn hds he

theorem decode_rel (B : Nat → Nat) (last len : Nat) (hB : BOk B last len) (e e1 : Enc) (d : Dec) (bit cx : Nat)
    (h : RegOk e) (hn : 0x8000 ≤ e.a) (hbit : bit ≤ 1) (hcx : cx < e.ctx.size) (hr : Rel B last len e d)
    (he : encode e bit cx = some e1) (hf : FE B last e1) :
    ∃ d1, decode d cx = some (bit, d1) ∧ Rel B last len e1 d1 := by
  obtain ⟨hst, hcx256⟩ := h.ctx cx
  obtain ⟨qe, nmps, nlps, sw, hlk, q2, q3, m2, l2, _⟩ := lookup_wf (rd e.ctx cx % 128) hst
  rw [encode_eq e bit cx _ qe nmps nlps sw (rd_some e.ctx cx hcx) hlk] at he
  rw [decode_eq d cx _ qe nmps nlps sw (by rw [hr.ctx]; exact rd_some e.ctx cx hcx) hlk]
  exact step_rel B last len hB e d bit cx (rd e.ctx cx) qe nmps nlps sw h hn hbit hcx256 q2 q3 m2 l2 hr e1 he hf

/-- the facts are carried backwards along the same induction -/
theorem decodeAll_rel (B : Nat → Nat) (last len : Nat) (hB : BOk B last len) :
    ∀ (ds : List (Nat × Nat)) (e : Enc) (d : Dec) (ef : Enc), RegOk e → 0x8000 ≤ e.a →
      (∀ x ∈ ds, x.1 ≤ 1 ∧ x.2 < e.ctx.size) → Rel B last len e d → encodeAll e ds = some ef → FE B last ef →
      ∃ d', decodeAll d (ds.map (·.2)) = some (ds.map (·.1), d') ∧ Rel B last len ef d' := by
  intro ds e d ef h hn hds hr he hf
  refine (encodeAll_induct (P := fun e ds => FE B last e ∧ ((∀ x ∈ ds, x.1 ≤ 1) → ∀ d, Rel B last len e d →
    ∃ d', decodeAll d (ds.map (·.2)) = some (ds.map (·.1), d') ∧ Rel B last len ef d')) ef
    ⟨hf, fun _ d hr => ⟨d, rfl, hr⟩⟩ ?_ ds e h hn (fun x hx => (hds x hx).2) he).2 (fun x hx => (hds x hx).1) d hr
  intro e e1 bit cx ds h hn hcx he1 ⟨hf1, ih⟩
  refine ⟨encode_back B last e e1 bit cx h hn hcx he1 hf1, fun hb d hr => ?_⟩
  obtain ⟨d1, hd1, hrel1⟩ := decode_rel B last len hB e e1 d bit cx h hn (hb _ List.mem_cons_self) hcx hr he1 hf1
  obtain ⟨d', hd', hrel'⟩ := ih (fun x hx => hb x (List.mem_cons_of_mem _ hx)) d1 hrel1
  exact ⟨d', by simp only [List.map_cons, decodeAll, hd1, hd', Option.map_some], hrel'⟩

end Mqc
