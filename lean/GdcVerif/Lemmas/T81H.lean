import GdcVerif.Spec.T81H
import GdcVerif.Model.JpegLossless
import GdcVerif.Lemmas.JpegLossless
/-! The Annex H spec (`T81H`) is self-inverse per sample (SSSS, additional bits, EXTEND), and the code
    model (`JLL`, `Gen.JpegLossless`) predicts what the spec predicts. -/
namespace T81H

theorem ssssAux_spec : ∀ (fuel a : Nat), 1 ≤ a → a < 2 ^ fuel →
    1 ≤ ssssAux a fuel ∧ 2 ^ (ssssAux a fuel - 1) ≤ a ∧ a < 2 ^ (ssssAux a fuel) := by
  intro fuel
  induction fuel with
  | zero => intro a h1 h2; simp at h2; omega
  | succ f ih =>
    intro a h1 h2
    unfold ssssAux
    rw [if_neg (by omega)]
    by_cases h : a / 2 = 0
    · have ha : a = 1 := by omega
      subst ha
      cases f <;> simp [ssssAux]
    · rw [Nat.pow_succ'] at h2
      obtain ⟨k1, k2, k3⟩ := ih (a / 2) (by omega) (by omega)
      generalize ssssAux (a / 2) f = s at *
      refine ⟨by omega, ?_, ?_⟩
      · have : 1 + s - 1 = (s - 1) + 1 := by omega
        rw [this, Nat.pow_succ']; omega
      · have : 1 + s = s + 1 := by omega
        rw [this, Nat.pow_succ']; omega

theorem ssss_zero : ssss 0 = 0 := by decide

/-- Table H.2 / F.1.2.1.1 for a difference that carries additional bits -/
theorem extraBits_spec (d : Int) (h0 : d ≠ 0) (hlo : -32767 ≤ d) (hhi : d ≤ 32767) :
    1 ≤ ssss d ∧ ssss d ≤ 15 ∧
    (2:Int) ^ (ssss d - 1) ≤ (if d < 0 then -d else d) ∧ (if d < 0 then -d else d) < (2:Int) ^ ssss d ∧
    extraBits d = ((if d > 0 then d else d - 1 + (2:Int) ^ ssss d).toNat, ssss d) := by
  obtain ⟨k1, k2, k3⟩ := ssssAux_spec 17 d.natAbs (by omega) (by omega)
  have hs : ssssAux d.natAbs 17 = ssss d := rfl
  rw [hs] at k1 k2 k3
  have hle : ssss d ≤ 15 := by
    refine Decidable.byContradiction fun hn => ?_
    have : (2:Nat) ^ 15 ≤ 2 ^ (ssss d - 1) := Nat.pow_le_pow_right (by decide) (by omega)
    omega
  have hx : extraBits d = (if d > 0 then ((d % 2 ^ ssss d).toNat, ssss d)
      else (((d - 1) % 2 ^ ssss d).toNat, ssss d)) := by
    unfold extraBits; simp only; rw [if_neg (by omega)]
  rw [hx]
  generalize ssss d = s at *
  have e1 : ((2 ^ (s - 1) : Nat) : Int) = (2:Int) ^ (s - 1) := by simp
  have e2 : ((2 ^ s : Nat) : Int) = (2:Int) ^ s := by simp
  refine ⟨k1, hle, by omega, by omega, ?_⟩
  by_cases hp : d > 0
  · rw [if_pos hp, if_pos hp, Int.emod_eq_of_lt (by omega) (by omega)]
  · rw [if_neg hp, if_neg hp, ← Int.add_emod_right, Int.emod_eq_of_lt (by omega) (by omega)]

theorem extraBits_snd (d : Int) : (extraBits d).2 = if ssss d = 0 ∨ ssss d = 16 then 0 else ssss d := by
  unfold extraBits
  simp only
  split
  · rfl
  · split <;> rfl

theorem extend_extraBits (d : Int) (hlo : -32767 ≤ d) (hhi : d ≤ 32768) :
    extend (extraBits d).1 (ssss d) = d ∧ ssss d ≤ 16 ∧ (extraBits d).1 < 2 ^ (extraBits d).2 ∧
    (ssss d = 16 ↔ d = 32768) := by
  by_cases h0 : d = 0
  · subst h0; decide
  by_cases hm : d = 32768
  · subst hm; decide
  obtain ⟨k1, hle, b1, b2, hx⟩ := extraBits_spec d h0 hlo (by omega)
  rw [hx]
  simp only
  generalize ssss d = s at *
  have e1 : ((2 ^ (s - 1) : Nat) : Int) = (2:Int) ^ (s - 1) := by simp
  have e2 : ((2 ^ s : Nat) : Int) = (2:Int) ^ s := by simp
  have hp2 := Int.two_pow_pred k1
  unfold extend
  rw [if_neg (by omega), if_neg (by omega)]
  refine ⟨?_, by omega, by omega, by omega⟩
  -- d > 0 is sent as it is, top bit 2^(s-1) set; d < 0 as d - 1 + 2^s, which is below 2^(s-1)
  omega

theorem sample_roundtrip (x p : Int) (hx : 0 ≤ x ∧ x < 65536) :
    decodeSample p (encodeSample x p).1 (encodeSample x p).2.1 = x := by
  unfold decodeSample encodeSample
  simp only
  have hr := diff_range x p
  rw [(extend_extraBits (diff x p) hr.1 hr.2).1]
  exact recon_diff x p hx

theorem predictor_agrees (sel : Nat) (ra rb rc : Int) (h : 1 ≤ sel ∧ sel ≤ 7) :
    Gen.JpegLossless.Predictor (sel : Int) ra rb rc = predictor sel ra rb rc := by
  have : sel = 1 ∨ sel = 2 ∨ sel = 3 ∨ sel = 4 ∨ sel = 5 ∨ sel = 6 ∨ sel = 7 := by omega
  rcases this with h|h|h|h|h|h|h <;> subst h <;>
    simp [Gen.JpegLossless.Predictor, predictor, Go.shr_one]

/-- the right side is spelt as `px P 0 ..` unfolds: `2 ^ (P - Pt - 1)` at `Pt = 0` -/
theorem shl_pow (P : Nat) (hP : 1 ≤ P) : Go.shl 1 ((P : Int) - 1) = (2:Int) ^ (P - 0 - 1) := by
  have : ((P : Int) - 1) = ((P - 1 : Nat) : Int) := by omega
  rw [this]; simp [Go.shl]

/-- the code's prediction (jpeg/lossless since fix 946feeb) equals the standard's H.1.2.1 prediction at
    EVERY position, for every predictor 1..7 -/
theorem encPredicted_conforms (P sel row col : Nat) (nb : JLL.Nb) (hP : 1 ≤ P) (hs : 1 ≤ sel ∧ sel ≤ 7) :
    JLL.encPredicted P sel row col nb = px P 0 sel row col nb.left nb.up nb.upLeft := by
  unfold JLL.encPredicted px
  simp only
  rw [shl_pow P hP]
  generalize (2:Int) ^ (P - 0 - 1) = H
  by_cases hr : row = 0 <;> by_cases hc : col = 0
  · subst hr; subst hc; simp
  · subst hr; simp [hc]
  · subst hc; simp [hr]
  · have hr' : (row : Int) > 0 := by omega
    have hc' : (col : Int) > 0 := by omega
    have hr'' : ¬ ((row : Int) = 0) := by omega
    have hc'' : ¬ ((col : Int) = 0) := by omega
    simp only [hr, hc, hr', hc', hr'', hc'', if_true, if_false, and_self, true_and]
    exact predictor_agrees sel _ _ _ hs

theorem sv1Predicted_conforms (P row col : Nat) (nb : JLL.Nb) (hP : 1 ≤ P) :
    JLL.sv1Predicted P row col nb = px P 0 1 row col nb.left nb.up nb.upLeft := by
  rw [JLL.sv1Predicted_eq_enc P row col nb (by omega) (by omega)]
  have := encPredicted_conforms P 1 row col nb hP (by omega)
  simpa using this

end T81H
