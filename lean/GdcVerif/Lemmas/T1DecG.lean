import GdcVerif.Model.T1Layered
import GdcVerif.Lemmas.GoBits
import GdcVerif.Lemmas.Basics
/-!
  The T1 block decoder of `Model/T1.lean` with the two places where it computes a coefficient value left open.
  The plain decoder (`decodeBlock`) and the decoder with OpenJPEG reconstruction (`Model/T1Pipe.lean`,
  `decodeBlockOJ`) are the same text up to these two functions; everything about the decoder is proved for
  `decodeBlockG` and carried over by `decodeBlock_eqG` / `decodeBlockOJ_eqG`.  The significance and refinement passes
  also take the `raw` switch of `Model/T1Layered.lean` (`decSigPropR raw = decSigPropG plainR raw` by `rfl`).
  At the end: coefficients truncated below a bit-plane (`tr`), what a rule must satisfy for the lock-step of
  `Lemmas/T1Lock.lean` (`Recon.Holds`), and that the plain rule does (`plainR_holds`).  A rule is checked in two
  halves: what a bit-plane does to the truncated magnitude (`trN_newsig`, `trN_cases`), and what Go's sign-dependent
  arithmetic does to a stored `sm v m = ±m` (`sm_sig`, `sm_up`, `sm_down`); `Lemmas/T1OJVal.lean` checks `ojR` the same way.
-/
namespace T1
open Gen.J2kT1

/-- what the decoder stores: `sig bp sign` in a sample that becomes significant in plane `bp`, `ref cur bp bit`
in a sample refined in plane `bp` -/
structure Recon where
  sig : Nat → Nat → Int
  ref : Int → Nat → Nat → Int

/-- `reconstructSignificantValue` / `refineReconstructedValue` in plain mode -/
def plainR : Recon where
  sig bp sign := if sign ≠ 0 then Go.wrap32 (-(Go.wrap32 ((2 : Int) ^ bp))) else Go.wrap32 ((2 : Int) ^ bp)
  ref := refine

/-- what the decoder does (inline in `decodeSigPropPass` and `decodeCleanupPass`) once the sign of a newly
significant sample has been read: sign flag, stored value, significance flag, neighbour flags -/
def decSignTail (r : Recon) (w bp : Nat) (st : DecSt) (x y idx sign : Nat) (mq : Mqc.Dec) : Option DecSt := do
  let fl ← if sign ≠ 0 then orAt st.flags idx fSign else some st.flags
  if idx ≥ st.data.size then none else
  let data := st.data.setIfInBounds idx (r.sig bp sign)
  let fl ← orAt fl idx fSig
  let fl ← updateNeighborFlags w fl x y idx
  some { flags := fl, data := data, mq := mq }

def decSignG (r : Recon) (raw : Bool) (w bp : Nat) (st : DecSt) (f x y idx : Nat) : Option DecSt := do
  let (sign, mq) ← if raw then Mqc.rawDecode st.mq
    else do
      let signCtx ← scCtx f
      let (signBit, mq) ← Mqc.decode st.mq signCtx
      let signPred ← spb f
      some (signBit ^^^ signPred, mq)
  decSignTail r w bp st x y idx sign mq

def decSigPropG (r : Recon) (raw : Bool) (w h orient bp : Nat) (st : DecSt) : Option DecSt :=
  (coords w h).foldlM (fun st (x, y) => do
    let idx := idxOf w x y
    let f ← st.flags[idx]?
    if has f fSig then some st
    else if ¬ has f fSigNeighbors then some st
    else
      let ctx ← zcCtx f orient
      let (b, mq) ← decBit raw st.mq ctx
      let fl ← orAt st.flags idx fVisit
      let st := { st with flags := fl, mq := mq }
      if b ≠ 0 then decSignG r raw w bp st f x y idx else some st) st

def decMagRefG (r : Recon) (raw : Bool) (w h bp : Nat) (st : DecSt) : Option DecSt :=
  (coords w h).foldlM (fun st (x, y) => do
    let idx := idxOf w x y
    let f ← st.flags[idx]?
    if ¬ has f fSig ∨ has f fVisit then some st
    else
      let (b, mq) ← decBit raw st.mq (mrCtx f)
      let cur ← st.data[idx]?
      let data := st.data.setIfInBounds idx (r.ref cur bp b)
      let fl ← orAt st.flags idx fRefine
      some { flags := fl, data := data, mq := mq }) st

def decCleanSampleG (r : Recon) (w orient bp : Nat) (st : DecSt) (x y : Nat) (partial_ : Bool) :
    Option (DecSt × Bool) := do
  let idx := idxOf w x y
  let f ← st.flags[idx]?
  if has f fVisit ∨ has f fSig then
    some ({ st with flags := st.flags.setIfInBounds idx (clr f fVisit) }, partial_)
  else
    let (isSig, st, partial_) ←
      (if partial_ then some (1, st, false)
       else do
         let ctx ← zcCtx f orient
         let (b, mq) ← Mqc.decode st.mq ctx
         some (b, { st with mq := mq }, false))
    let st ← if isSig ≠ 0 then decSignG r false w bp st f x y idx else some st
    let f' ← st.flags[idx]?
    some ({ st with flags := st.flags.setIfInBounds idx (clr f' fVisit) }, partial_)

def decCleanupG (r : Recon) (w h orient bp : Nat) (st : DecSt) : Option DecSt :=
  (columns w h).foldlM (fun st (k, i) => do
    let normal (st : DecSt) : Option DecSt :=
      ((List.range 4).filter (fun dy => k + dy < h)).foldlM (fun st dy => do
        let (st, _) ← decCleanSampleG r w orient bp st i (k + dy) false
        some st) st
    if k + 3 < h then
      let can ← rlScanDec w st.flags k i
      if can then
        let (rlBit, mq) ← Mqc.decode st.mq CTXRL
        if rlBit = 0 then some { st with mq := mq }
        else
          let (b1, mq) ← Mqc.decode mq CTXUNI
          let (b2, mq) ← Mqc.decode mq CTXUNI
          let runlen := b1 * 2 + b2
          let r ← ((List.range 4).filter (fun dy => runlen ≤ dy)).foldlM (fun (acc : DecSt × Bool) dy =>
            decCleanSampleG r w orient bp acc.1 i (k + dy) acc.2) ({ st with mq := mq }, true)
          some r.1
      else normal st
    else normal st) st

def decLoopG (r : Recon) (w h orient style : Nat) (numPasses : Nat) :
    Nat → DecSt → (bitplane : Int) → (passIdx passType : Nat) → Option DecSt
  | 0, st, _, _, _ => some st
  | fuel + 1, st, bitplane, passIdx, passType =>
    if bitplane ≥ 0 ∧ passIdx < numPasses then
      let bp := bitplane.toNat
      let startBitplane := passType = 0 ∨ (passType = 2 ∧ passIdx = 0)
      let st := if startBitplane then { st with flags := clearVisit st.flags } else st
      match (match passType with
        | 0 => decSigPropG r false w h orient bp st
        | 1 => decMagRefG r false w h bp st
        | _ => (decCleanupG r w h orient bp st).bind fun st =>
                 if stySegsym style then (segmarkDec st.mq).map (fun m => { st with mq := m }) else some st) with
      | none => none
      | some st =>
        match (if styReset style ∧ passIdx + 1 < numPasses then (resetCtxDec st.mq).map (fun m => { st with mq := m })
               else some st) with
        | none => none
        | some st =>
          if passType = 2 then decLoopG r w h orient style numPasses fuel st (bitplane - 1) (passIdx + 1) 0
          else decLoopG r w h orient style numPasses fuel st bitplane (passIdx + 1) (passType + 1)
    else some st

def decodeBlockG (r : Recon) (w h orient style numPasses : Nat) (maxBitplane : Int) (bytes : List Nat) :
    Outcome (List Int) :=
  if bytes.length = 0 then .err else
  match Mqc.Dec.new bytes NUMCONTEXTS with
  | none => .panic
  | some mq =>
    match initCtxDec mq with
    | none => .panic
    | some mq =>
      let st : DecSt := { flags := Array.replicate ((w + 2) * (h + 2)) 0,
                          data := Array.replicate ((w + 2) * (h + 2)) 0, mq := mq }
      match decLoopG r w h orient style numPasses (numPasses + 1) st maxBitplane 0 2 with
      | none => .panic
      | some st =>
        match ((List.range h).flatMap fun y => (List.range w).map fun x => idxOf w x y).mapM (fun i => st.data[i]?) with
        | some out => .ok out
        | none => .panic


theorem decLoop_eqG (w h orient style np : Nat) : ∀ (fuel : Nat) (st : DecSt) (b : Int) (pi pt : Nat),
    decLoop w h orient style np fuel st b pi pt = decLoopG plainR w h orient style np fuel st b pi pt := by
  intro fuel
  induction fuel with
  | zero => intro st b pi pt; rfl
  | succ f ih =>
    intro st b pi pt
    unfold decLoop decLoopG
    simp only [ih]
    rfl

theorem decodeBlock_eqG : decodeBlock = decodeBlockG plainR := by
  funext w h orient style np mb bytes
  unfold decodeBlock decodeBlockG
  simp only [decLoop_eqG]
  rfl

def trN (p M : Nat) : Nat := M / 2 ^ p * 2 ^ p

def tr (p : Nat) (v : Int) : Int := if v < 0 then -((trN p v.natAbs : Nat) : Int) else ((trN p v.natAbs : Nat) : Int)

theorem trN_le (p M : Nat) : trN p M ≤ M := Nat.div_mul_le_self M (2 ^ p)

theorem trN_step (p M : Nat) : trN p M = trN (p + 1) M + (M / 2 ^ p % 2) * 2 ^ p := by
  unfold trN
  rw [Nat.div_two_pow_succ, Nat.pow_succ]
  have hq : M / 2 ^ p = 2 * (M / 2 ^ p / 2) + M / 2 ^ p % 2 := by omega
  calc M / 2 ^ p * 2 ^ p = (2 * (M / 2 ^ p / 2) + M / 2 ^ p % 2) * 2 ^ p := by rw [← hq]
    _ = M / 2 ^ p / 2 * (2 ^ p * 2) + M / 2 ^ p % 2 * 2 ^ p := by
      rw [Nat.add_mul, Nat.mul_comm 2, Nat.mul_assoc, Nat.mul_comm 2]

theorem trN_zero (p M : Nat) (h : M / 2 ^ p = 0) : trN p M = 0 := by unfold trN; rw [h, Nat.zero_mul]

theorem trN_plane0 (M : Nat) : trN 0 M = M := by unfold trN; simp

theorem tr_plane0 (v : Int) : tr 0 v = v := by
  unfold tr; rw [trN_plane0]; split <;> omega

theorem tr_zero (p : Nat) (v : Int) (h : v.natAbs / 2 ^ p = 0) : tr p v = 0 := by
  unfold tr; rw [trN_zero p _ h]; split <;> rfl

theorem magBit_eq (v : Int) (bp : Nat) : magBit v bp = v.natAbs / 2 ^ bp % 2 := by
  unfold magBit; rw [Nat.shiftRight_eq_div_pow]

theorem magBit_le (v : Int) (bp : Nat) : magBit v bp ≤ 1 := by unfold magBit; omega

theorem nonsig_down (M bp l : Nat) (hl : l = bp ∨ l = bp + 1) (h : M / 2 ^ l = 0) (hb : M / 2 ^ bp % 2 = 0) :
    M / 2 ^ bp = 0 := by
  rcases hl with rfl | rfl
  · exact h
  · rw [Nat.div_two_pow_succ] at h; omega

theorem newsig (M bp l : Nat) (hl : l = bp ∨ l = bp + 1) (h : M / 2 ^ l = 0) (hb : M / 2 ^ bp % 2 = 1) :
    M / 2 ^ bp = 1 := by
  rcases hl with rfl | rfl
  · rw [h] at hb; exact absurd hb (by decide)
  · rw [Nat.div_two_pow_succ] at h; omega

theorem trN_newsig (M bp l : Nat) (hl : l = bp ∨ l = bp + 1) (h : M / 2 ^ l = 0) (hb : M / 2 ^ bp % 2 = 1) :
    trN bp M = 2 ^ bp ∧ 2 ^ bp ≤ M := by
  have e : trN bp M = 2 ^ bp := by unfold trN; rw [newsig M bp l hl h hb, Nat.one_mul]
  exact ⟨e, e ▸ trN_le bp M⟩

theorem trN_cases (p M : Nat) (h : M / 2 ^ (p + 1) ≠ 0) : 2 * 2 ^ p ≤ trN (p + 1) M ∧ trN p M ≤ M ∧
    (M / 2 ^ p % 2 = 0 ∧ trN p M = trN (p + 1) M ∨ M / 2 ^ p % 2 = 1 ∧ trN p M = trN (p + 1) M + 2 ^ p) := by
  refine ⟨Nat.pow_succ' ▸ Nat.le_mul_of_pos_left _ (Nat.pos_of_ne_zero h), trN_le p M, ?_⟩
  have hs := trN_step p M
  rcases Nat.mod_two_eq_zero_or_one (M / 2 ^ p) with hb | hb <;> rw [hb] at hs
  · exact Or.inl ⟨hb, by omega⟩
  · exact Or.inr ⟨hb, by omega⟩

/-- the magnitude `m` under the sign of the coefficient `v`: the form of every value the decoder stores
(`tr p v = sm v (trN p v.natAbs)` by `rfl`) -/
def sm (v : Int) (m : Nat) : Int := if v < 0 then -(m : Int) else m

/-- `reconstructSignificantValue` once the magnitude `m` is computed -/
theorem sm_sig (v : Int) (m : Nat) (hlt : m < 2 ^ 31) :
    (if (if v < 0 then 1 else 0 : Nat) ≠ 0 then Go.wrap32 (-(m : Int)) else (m : Int)) = sm v m := by
  unfold sm
  by_cases hv : v < 0
  · rw [if_pos hv, if_pos hv, if_pos (by decide)]; exact Go.wrap32_id (by omega) (by omega)
  · rw [if_neg hv, if_neg hv, if_neg (by decide)]

/-- `refineReconstructedValue` on a stored `c = ±m`: Go writes `c + d` or `c - d` after a test `t` on the sign of `c` -/
theorem sm_up (v : Int) (m d : Nat) (hm : 0 < m) (hlt : m + d < 2 ^ 31) (t : Prop) [Decidable t]
    (ht : t ↔ 0 ≤ sm v m) : (if t then Go.wrap32 (sm v m + d) else Go.wrap32 (sm v m - d)) = sm v (m + d) := by
  unfold sm at ht ⊢
  by_cases hv : v < 0 <;> simp only [hv, if_true, if_false] at ht ⊢
  · rw [if_neg (fun h => by have := ht.mp h; omega), Go.wrap32_id (by omega) (by omega)]; omega
  · rw [if_pos (ht.mpr (by omega)), Go.wrap32_id (by omega) (by omega)]; omega

theorem sm_down (v : Int) (m d : Nat) (hm : 0 < m) (hd : d ≤ m) (hlt : m < 2 ^ 31) (t : Prop) [Decidable t]
    (ht : t ↔ sm v m < 0) : (if t then Go.wrap32 (sm v m + d) else Go.wrap32 (sm v m - d)) = sm v (m - d) := by
  unfold sm at ht ⊢
  by_cases hv : v < 0 <;> simp only [hv, if_true, if_false] at ht ⊢
  · rw [if_pos (ht.mpr (by omega)), Go.wrap32_id (by omega) (by omega)]; omega
  · rw [if_neg (fun h => by have := ht.mp h; omega), Go.wrap32_id (by omega) (by omega)]; omega

theorem wrap32_pow (q : Nat) (h : 2 ^ q < 2 ^ 31) : Go.wrap32 ((2 : Int) ^ q) = ((2 ^ q : Nat) : Int) := by
  rw [← Int.natCast_two_pow]; generalize 2 ^ q = P at h; exact Go.wrap32_id (by omega) (by omega)

theorem sign_val (v : Int) (bp l : Nat) (hM : v.natAbs < 2147483648) (hl : l = bp ∨ l = bp + 1)
    (h : v.natAbs / 2 ^ l = 0) (hb : magBit v bp = 1) :
    plainR.sig bp (if v < 0 then 1 else 0) = tr bp v := by
  obtain ⟨hT, hle⟩ := trN_newsig _ bp l hl h (magBit_eq v bp ▸ hb)
  show (if _ then Go.wrap32 (-Go.wrap32 ((2 : Int) ^ bp)) else Go.wrap32 ((2 : Int) ^ bp)) = sm v (trN bp v.natAbs)
  rw [hT, wrap32_pow bp (by omega)]
  exact sm_sig v _ (by omega)

theorem refine_val (v : Int) (bp : Nat) (hM : v.natAbs < 2147483648) (h : v.natAbs / 2 ^ (bp + 1) ≠ 0) :
    plainR.ref (tr (bp + 1) v) bp (magBit v bp) = tr bp v := by
  show refine (sm v (trN (bp + 1) v.natAbs)) bp (magBit v bp) = sm v (trN bp v.natAbs)
  have hP := Nat.two_pow_pos bp
  unfold refine
  obtain ⟨hunit, hle, ⟨hb, hs⟩ | ⟨hb, hs⟩⟩ := trN_cases bp v.natAbs h <;> rw [magBit_eq, hb, hs]
  · exact if_pos rfl
  · rw [if_neg (by decide), wrap32_pow bp (by omega)]
    exact sm_up v _ _ (by omega) (by omega) _ Iff.rfl

/-- the rule `r`, run `δ` plane indices above the encoder's, keeps `val l v` in a sample with coefficient `v` that
has been coded down to plane `l` (magnitudes below `bound`) -/
structure Recon.Holds (r : Recon) (δ bound : Nat) (val : Nat → Int → Int) : Prop where
  zero : ∀ (p : Nat) (v : Int), v.natAbs / 2 ^ p = 0 → val p v = 0
  sig : ∀ (v : Int) (bp l : Nat), v.natAbs < bound → l = bp ∨ l = bp + 1 → v.natAbs / 2 ^ l = 0 → magBit v bp = 1 →
    r.sig (bp + δ) (if v < 0 then 1 else 0) = val bp v
  ref : ∀ (v : Int) (bp : Nat), v.natAbs < bound → v.natAbs / 2 ^ (bp + 1) ≠ 0 →
    r.ref (val (bp + 1) v) (bp + δ) (magBit v bp) = val bp v

theorem plainR_holds : plainR.Holds 0 2147483648 tr :=
  ⟨tr_zero, sign_val, refine_val⟩

end T1
