/-!
  Numbers as bit lists, for every codec that writes "the `n` low bits of `v`" into a stream.

  * `Bits.msb v n`  the `n` low bits of `v`, most significant first;
  * `Bits.val l`    the number a list spells, most significant first.

  The least-significant-first order is the reversed list (`(msb v n).reverse`, `val l.reverse`), so it needs no
  theory of its own.  The codecs' own definitions (`JLL.bitsOf`, `Golomb.bitsOf`, `T81H.bitsMsb`,
  `J2k.writeBitsL`, ...) are each equal to `msb`, their readers' accumulations to `val`; each equation
  is in the lemma file of its codec.
-/
namespace Bits

def msb (v : Nat) : Nat → List Bool
  | 0 => []
  | n + 1 => v.testBit n :: msb v n

def val : List Bool → Nat
  | [] => 0
  | b :: r => b.toNat * 2 ^ r.length + val r

@[simp] theorem length_msb (v : Nat) : ∀ n, (msb v n).length = n
  | 0 => rfl
  | n + 1 => by simp [msb, length_msb v n]

theorem testBit_eq_beq (v n : Nat) : v.testBit n = (v / 2 ^ n % 2 == 1) := by
  rw [Nat.testBit_eq_decide_div_mod_eq]
  by_cases h : v / 2 ^ n % 2 = 1 <;> simp [h]

/-- the bit test as Go spells it, `(x >> k) & 1 == 1` -/
theorem and_one_eq_one (x k : Nat) : decide ((x >>> k) &&& 1 = 1) = x.testBit k := by
  rw [Nat.testBit_eq_decide_div_mod_eq, Nat.and_one_is_mod, Nat.shiftRight_eq_div_pow]

theorem msb_succ (v n : Nat) : msb v (n + 1) = v.testBit n :: msb v n := rfl

theorem msb_congr {v w : Nat} : ∀ {n : Nat}, (∀ i, i < n → v.testBit i = w.testBit i) → msb v n = msb w n
  | 0, _ => rfl
  | n + 1, h => by
    rw [msb, msb, h n (Nat.lt_succ_self n), msb_congr fun i hi => h i (Nat.lt_succ_of_lt hi)]

theorem msb_add (v m n : Nat) : msb v (m + n) = msb (v >>> n) m ++ msb v n := by
  induction m with
  | zero => simp [msb]
  | succ m ih =>
    rw [show m + 1 + n = (m + n) + 1 by omega, msb, msb, ih, Nat.testBit_shiftRight, Nat.add_comm n m]
    rfl

theorem msb_concat {x a b k n : Nat} (hhi : ∀ i, i < k → x.testBit (n + i) = a.testBit i)
    (hlo : ∀ i, i < n → x.testBit i = b.testBit i) : msb x (k + n) = msb a k ++ msb b n := by
  rw [msb_add]
  congr 1
  · exact msb_congr fun i hi => by rw [Nat.testBit_shiftRight]; exact hhi i hi
  · exact msb_congr hlo

theorem msb_mod (x : Nat) {k t : Nat} (h : t ≤ k) : msb (x % 2 ^ k) t = msb x t :=
  msb_congr fun i hi => by rw [Nat.testBit_mod_two_pow, decide_eq_true (by omega : i < k), Bool.true_and]

theorem msb_mul_add (a : Nat) {b n : Nat} (hb : b < 2 ^ n) (k : Nat) :
    msb (2 ^ n * a + b) (k + n) = msb a k ++ msb b n :=
  msb_concat (fun i _ => by rw [Nat.testBit_two_pow_mul_add _ hb, if_neg (by omega), Nat.add_sub_cancel_left])
    (fun i hi => by rw [Nat.testBit_two_pow_mul_add _ hb, if_pos hi])

theorem msb_zero : ∀ n, msb 0 n = List.replicate n false
  | 0 => rfl
  | n + 1 => by simp [msb, msb_zero n, List.replicate_succ]

theorem msb_ones (n : Nat) : ∀ t, t ≤ n → msb (2 ^ n - 1) t = List.replicate t true
  | 0, _ => rfl
  | t + 1, h => by
    rw [msb, msb_ones n t (by omega), Nat.testBit_two_pow_sub_one, decide_eq_true (by omega : t < n)]
    rfl

theorem getD_msb (v : Nat) : ∀ (n i : Nat), (msb v n).getD i false = (decide (i < n) && v.testBit (n - 1 - i))
  | 0, i => by simp [msb]
  | n + 1, 0 => by simp [msb]
  | n + 1, i + 1 => by
    rw [msb, List.getD_cons_succ, getD_msb v n i, show n + 1 - 1 - (i + 1) = n - 1 - i by omega]
    by_cases h : i < n <;> simp [h]

theorem getElem_msb (v n i : Nat) (h : i < (msb v n).length) : (msb v n)[i] = v.testBit (n - 1 - i) := by
  have := getD_msb v n i
  rw [← List.getElem_eq_getD (h := h) false, decide_eq_true (by simpa using h), Bool.true_and] at this
  exact this

theorem msb_eq_map (v n : Nat) : msb v n = (List.range n).map fun i => v.testBit (n - 1 - i) :=
  List.ext_getElem (by simp) fun i h _ => by rw [getElem_msb]; simp

theorem val_lt : ∀ l : List Bool, val l < 2 ^ l.length
  | [] => by decide
  | b :: r => by
    have ih := val_lt r
    rw [val, List.length_cons, Nat.pow_succ]
    cases b <;> simp <;> omega

theorem ite_eq_toNat (b : Bool) : (if b then 1 else 0) = b.toNat := by cases b <;> rfl

theorem foldl_val : ∀ (l : List Bool) (a : Nat), l.foldl (fun a b => 2 * a + b.toNat) a = a * 2 ^ l.length + val l
  | [], a => by simp [val]
  | b :: r, a => by
    rw [List.foldl_cons, foldl_val r, val, List.length_cons, Nat.pow_succ, Nat.add_mul, Nat.mul_comm 2 a,
      Nat.mul_assoc, Nat.mul_comm 2, Nat.add_assoc]

theorem mod_two_pow_succ (v n : Nat) : v % 2 ^ (n + 1) = (v.testBit n).toNat * 2 ^ n + v % 2 ^ n := by
  rw [Nat.mod_pow_succ, Nat.testBit_eq_decide_div_mod_eq, Nat.add_comm, Nat.mul_comm]
  congr 2
  have : v / 2 ^ n % 2 = 0 ∨ v / 2 ^ n % 2 = 1 := by omega
  rcases this with h | h <;> simp [h]

theorem val_msb (v : Nat) : ∀ n, val (msb v n) = v % 2 ^ n
  | 0 => by simp [msb, val, Nat.mod_one]
  | n + 1 => by rw [msb, val, length_msb, val_msb v n, mod_two_pow_succ]

theorem msb_val : ∀ l : List Bool, msb (val l) l.length = l
  | [] => rfl
  | b :: r => by
    have e : val (b :: r) = 2 ^ r.length * b.toNat + val r := by rw [val, Nat.mul_comm]
    have h := msb_mul_add b.toNat (val_lt r) 1
    rw [← e, msb_val r, Nat.add_comm] at h
    rw [List.length_cons, h]
    cases b <;> rfl

theorem msb_of_lt {v n : Nat} (h : v < 2 ^ n) (k : Nat) : msb v (k + n) = List.replicate k false ++ msb v n := by
  have := msb_mul_add 0 h k
  rwa [Nat.mul_zero, Nat.zero_add, msb_zero] at this

end Bits
