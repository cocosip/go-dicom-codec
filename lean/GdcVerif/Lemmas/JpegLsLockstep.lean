import GdcVerif.Model.JpegLsScanL
import GdcVerif.Lemmas.JpegLsScanStep
import GdcVerif.Lemmas.JpegLsRunInt
import GdcVerif.Lemmas.Lockstep
import GdcVerif.Lemmas.GolombDestuff
/-!
  Lock-step composition for the JPEG-LS scan model `Model/JpegLsScanL.lean`:
  per-step agreement of regular pixels and run segments (from `JpegLsScan.regular_sample`,
  `runlength_roundtrip`, `interruption_sample`), composed over a line by `Lockstep.lockstep_var2` and over
  the lines of an image; `LInv` is the invariant of the walk along a line and `linv_advance` the one lemma that
  re-establishes it.  Every level (sample, pixel, step, line, image) has the same statement: the encoder
  succeeds with calls `ws` that fit, the reconstruction is in range and within NEAR of the source, and the
  decoder on `writesBits ws ++ rest` returns the same state and reconstruction and leaves `rest`.
  Results: `image_roundtrip` (bit level) and `image_bytes_roundtrip` (the writer's bytes, un-stuffed,
  through `Golomb.writer_destuff`).
  `AllRel.append` and `AllRel.refl'` stand in this namespace (`JpegLsScanL.AllRel.*`): they are called by name, dot
  notation on an `AllRel` proof does not find them.
-/
namespace JpegLsScanL
open Gen.JpegLs JpegLsLemmas JpegLsNear JpegLsRun Golomb Lockstep

/-- reconstructed sample `r` vs source sample `x` -/
def SClose (N : Int) (r x : Int) : Prop := -N ≤ r - x ∧ r - x ≤ N

def SampOk (M v : Int) : Prop := 0 ≤ v ∧ v ≤ M

def PixOk (comps : Nat) (M : Int) (p : Pixel) : Prop := p.length = comps ∧ ∀ v ∈ p, SampOk M v

def PixClose (N : Int) (r p : Pixel) : Prop := AllRel (SClose N) r p

theorem AllRel.append {α : Type} {R : α → α → Prop} {a b c d : List α} (h1 : AllRel R a c) (h2 : AllRel R b d) :
    AllRel R (a ++ b) (c ++ d) := by
  induction h1 with
  | nil => simpa using h2
  | cons h0 _ ih => exact AllRel.cons h0 ih

theorem AllRel.refl' {α : Type} {R : α → α → Prop} (hr : ∀ x, R x x) : ∀ l : List α, AllRel R l l
  | [] => AllRel.nil
  | x :: xs => AllRel.cons (hr x) (AllRel.refl' hr xs)

theorem cmp_ok {comps : Nat} {M : Int} {p : Pixel} (h : PixOk comps M p) (k : Nat) (hk : k < comps) :
    SampOk M (cmp p k) :=
  h.2 _ (List.getD_mem (h.1 ▸ hk) 0)

theorem regs_roundtrip (P : Nat) (N : Int) (h : Admissible P N) :
    ∀ (q : List (Int × Int × Int × Int)) (xi : List Int) (cs : Array Context), q.length = xi.length →
      cs.size = 365 → (∀ i ∈ q, 0 ≤ ApplySign i.1 (BitwiseSign i.1) ∧ ApplySign i.1 (BitwiseSign i.1) ≤ 364) →
      (∀ x ∈ xi, SampOk ((2 : Int) ^ P - 1) x) →
      ∃ ws cs' rec, encRegs (traits P N) q xi cs = .ok (ws, cs', rec) ∧ cs'.size = 365 ∧ PixClose N rec xi ∧
        (∀ v ∈ rec, SampOk ((2 : Int) ^ P - 1) v) ∧
        (∀ rest, decRegs (traits P N) q cs (writesBits ws ++ rest) = .ok (cs', rec, rest)) ∧ WritesFit ws
  | [], [], cs, _, hsz, _, _ =>
    ⟨[], cs, [], rfl, hsz, AllRel.nil, by simp, fun rest => by simp [decRegs, writesBits], fit_nil⟩
  | [], _ :: _, _, hl, _, _, _ => by simp at hl
  | _ :: _, [], _, hl, _, _, _ => by simp at hl
  | (qs, a, b, c) :: qrest, x :: xrest, cs, hl, hsz, hidx, hx => by
    obtain ⟨hidx0, hidx'⟩ := List.forall_mem_cons.mp hidx
    obtain ⟨hx0, hx'⟩ := List.forall_mem_cons.mp hx
    obtain ⟨ctx, hctx⟩ := JpegLsScan.getCtx_ok cs _ 364 hsz hidx0
    obtain ⟨w1, cs1, r, he1, hsz1, hc1, hr1, hf1, hd1⟩ := JpegLsScan.regular_sample P N h cs qs a b c x ctx hctx hx0
    obtain ⟨w2, cs2, rs, he2, hsz2, hc2, hr2, hd2, hf2⟩ :=
      regs_roundtrip P N h qrest xrest cs1 (by simpa using hl) (hsz1.trans hsz) hidx' hx'
    refine ⟨w1 ++ w2, cs2, r :: rs, ?_, hsz2, AllRel.cons hc1 hc2, List.forall_mem_cons.mpr ⟨hr1, hr2⟩, ?_,
      fit_append hf1 hf2⟩
    · simp only [encRegs, he1, he2]
    · intro rest
      simp only [decRegs]
      rw [writesBits_append, List.append_assoc, hd1 (writesBits w2 ++ rest)]
      simp only [hd2 rest]

/-- a run-interruption context of type `i` (0 or 1) as a scan can reach it -/
def RunCtx (i : Int) (ctx : RunModeContext) : Prop := RunCtxInv ctx 64 ∧ ctx.runInterruptionType = i

/-- Sample `x` is coded against the prediction `px` with sign `s`.  The three call sites of the model spell the signed
    difference `d` differently (`s * (x - px)`, `(x - px) * s`, `x - px` at `s = 1`): each hands in its own with `hd`. -/
theorem interruption_sample (P : Nat) (N : Int) (h : Admissible P N) (idx : Int) (ctx : RunModeContext) {i : Int}
    (px x : Int) {s d : Int} (hd : d = s * (x - px)) (hidx : 0 ≤ idx ∧ idx ≤ 31) (hctx : RunCtx i ctx)
    (hpx : SampOk ((2 : Int) ^ P - 1) px) (hx : SampOk ((2 : Int) ^ P - 1) x) (hs : s = 1 ∨ s = -1)
    (hne : i = 0 ∨ Traits.ComputeErrorValue (traits P N) d ≠ 0) :
    ∃ ws ctx', encodeRunInterruption (traits P N) idx ctx (Traits.ComputeErrorValue (traits P N) d) = .ok (ws, ctx') ∧
      RunCtx i ctx' ∧
      SClose N (Traits.ComputeReconstructedSample (traits P N) px (Traits.ComputeErrorValue (traits P N) d * s)) x ∧
      SampOk ((2 : Int) ^ P - 1)
        (Traits.ComputeReconstructedSample (traits P N) px (Traits.ComputeErrorValue (traits P N) d * s)) ∧
      (∀ rest, decodeRunInterruption (traits P N) idx ctx (writesBits ws ++ rest) =
        .ok (Traits.ComputeErrorValue (traits P N) d, ctx', rest)) ∧ WritesFit ws := by
  subst hd
  rw [Int.mul_comm (Traits.ComputeErrorValue _ _) s]
  obtain ⟨hinv, hi⟩ := hctx
  have hne1 := fun h1 : ctx.runInterruptionType = 1 => hne.resolve_left (by rw [← hi, h1]; decide)
  have hReset := traits_reset P N
  obtain ⟨-, hRP, h16⟩ := traits_range P N h
  have hb := near_sample_bound P N h px x s hpx hx hs
  have hk := getGolombCode_le ctx hinv
  have hem := riEM_bounds ctx (err P N px x s) (getGolombCode ctx) hinv.1 hne1
  have hmag := two_abs_le_range _ _ hb.2.2
  obtain ⟨hq, hl⟩ := run_limit_ok P N h idx hidx
  rw [encodeRunInterruption_ok _ idx ctx _ hidx, hReset]
  exact ⟨_, _, rfl,
    ⟨updateVariables_inv ctx _ _ 64 hinv ⟨hem.1, Int.le_trans hem.2 (by omega)⟩,
      (updateVariables_rit _ _ _ _).trans hi⟩, hb.1, hb.2.1,
    fun rest => hReset ▸ decodeRunInterruption_encoded _ idx ctx _ hidx hq hl hk hinv.1 hne1
      (Int.le_trans hmag (traits_range_fits P N h)) rest,
    fit_encodeWrites _ _ _ _ ⟨getGolombCode_nonneg ctx, hk⟩ hq hl hem.1⟩

theorem ints_roundtrip (P : Nat) (N : Int) (h : Admissible P N) (comps : Nat) (idx : Int) (left above xi : Pixel)
    (hidx : 0 ≤ idx ∧ idx ≤ 31) (ha : PixOk comps ((2 : Int) ^ P - 1) above)
    (hx : PixOk comps ((2 : Int) ^ P - 1) xi) :
    ∀ (ks : List Nat) (ctx : RunModeContext), (∀ k ∈ ks, k < comps) → RunCtx 0 ctx →
      ∃ ws ctx' rec, encInts (traits P N) idx left above xi ks ctx = .ok (ws, ctx', rec) ∧
        RunCtx 0 ctx' ∧
        AllRel (SClose N) rec (ks.map (cmp xi)) ∧ (∀ v ∈ rec, SampOk ((2 : Int) ^ P - 1) v) ∧
        (∀ rest, decInts (traits P N) idx left above ks ctx (writesBits ws ++ rest) = .ok (ctx', rec, rest)) ∧
        WritesFit ws
  | [], ctx, _, hctx =>
    ⟨[], ctx, [], rfl, hctx, AllRel.nil, by simp, fun rest => by simp [decInts, writesBits], fit_nil⟩
  | k :: ks, ctx, hk, hctx => by
    obtain ⟨hk0, hk'⟩ := List.forall_mem_cons.mp hk
    obtain ⟨w1, ctx1, he1, hi1, hc1, ho1, hd1, hf1⟩ :=
      interruption_sample P N h idx ctx (cmp above k) (cmp xi k) rfl hidx hctx (cmp_ok ha k hk0) (cmp_ok hx k hk0)
        (sign_cases (cmp above k - cmp left k)) (Or.inl rfl)
    obtain ⟨w2, ctx2, rs, he2, hi2, hc2, ho2, hd2, hf2⟩ :=
      ints_roundtrip P N h comps idx left above xi hidx ha hx ks ctx1 hk' hi1
    refine ⟨w1 ++ w2, ctx2, _ :: rs, ?_, hi2, AllRel.cons hc1 hc2, List.forall_mem_cons.mpr ⟨ho1, ho2⟩, ?_,
      fit_append hf1 hf2⟩
    · simp only [encInts, he1, he2]
    · intro rest
      simp only [decInts]
      rw [writesBits_append, List.append_assoc, hd1 (writesBits w2 ++ rest)]
      simp only [hd2 rest]

structure StInv (run : St) : Prop where
  idx : 0 ≤ run.runIndex ∧ run.runIndex ≤ 31
  c0 : RunCtx 0 run.ctx0
  c1 : RunCtx 1 run.ctx1

theorem ids_idx_ok (t : Traits) (s : LSt) (ks : List Nat) :
    ∀ i ∈ ids t s ks, 0 ≤ ApplySign i.1 (BitwiseSign i.1) ∧ ApplySign i.1 (BitwiseSign i.1) ≤ 364 := by
  intro i hi
  simp only [ids, List.mem_map] at hi
  obtain ⟨k, _, rfl⟩ := hi
  exact (context_index_range _ _ _ _ _).2

theorem map_cmp_range {p : Pixel} {n : Nat} (h : p.length = n) : (List.range n).map (cmp p) = p := by
  subst h
  apply List.ext_getElem
  · simp
  · intro i h1 h2
    simp only [List.getElem_map, List.getElem_range, cmp]
    rw [← List.getElem_eq_getD (h := by simpa using h2) 0]

theorem isRun_close {comps : Nat} {M N : Int} {left p : Pixel} (hl : PixOk comps M left) (hp : PixOk comps M p)
    (hr : isRun N left p (List.range comps) = true) : PixClose N left p := by
  apply AllRel.of_getD 0 left p (by rw [hl.1, hp.1])
  intro k hk
  unfold isRun at hr
  rw [List.all_eq_true] at hr
  have := of_decide_eq_true (hr k (by rw [hl.1] at hk; simpa using hk))
  have := Go.abs_cases (cmp p k - cmp left k)
  unfold SClose cmp at *
  omega

theorem not_isRun_one {N : Int} {left p : Pixel} (hr : ¬ isRun N left p (List.range 1) = true) :
    Go.abs (cmp p 0 - cmp left 0) > N := by
  unfold isRun at hr
  have : List.range 1 = [0] := by decide
  rw [this] at hr
  simp only [List.all_cons, List.all_nil, Bool.and_true, decide_eq_true_eq] at hr
  omega

theorem ints_pixel (P : Nat) (N : Int) (h : Admissible P N) (comps : Nat) (idx : Int) (left above xi : Pixel) (run : St)
    (hidx : 0 ≤ idx ∧ idx ≤ 31) (hinv : StInv run) (ha : PixOk comps ((2 : Int) ^ P - 1) above)
    (hx : PixOk comps ((2 : Int) ^ P - 1) xi) :
    ∃ ws ctx' rec, encInts (traits P N) idx left above xi (List.range comps) run.ctx0 = .ok (ws, ctx', rec) ∧
      StInv (St.mk (decRunIndex idx) ctx' run.ctx1) ∧ PixOk comps ((2 : Int) ^ P - 1) rec ∧ PixClose N rec xi ∧
      (∀ rest, decInts (traits P N) idx left above (List.range comps) run.ctx0 (writesBits ws ++ rest) =
        .ok (ctx', rec, rest)) ∧ WritesFit ws := by
  obtain ⟨ws, ctx', rec, he, hi', hc, ho, hd, hf⟩ :=
    ints_roundtrip P N h comps idx left above xi hidx ha hx (List.range comps) run.ctx0
      (fun _ => List.mem_range.mp) hinv.c0
  rw [map_cmp_range hx.1] at hc
  exact ⟨ws, ctx', rec, he, ⟨dec_range idx hidx, hi', hinv.c1⟩, ⟨hc.length_eq.trans hx.1, ho⟩, hc, hd, hf⟩

theorem int0_pixel (P : Nat) (N : Int) (h : Admissible P N) (idx : Int) (left above xi : Pixel) (run : St)
    (hidx : 0 ≤ idx ∧ idx ≤ 31) (hinv : StInv run) (hl : PixOk 1 ((2 : Int) ^ P - 1) left)
    (ha : PixOk 1 ((2 : Int) ^ P - 1) above) (hx : PixOk 1 ((2 : Int) ^ P - 1) xi)
    (hnot : ¬ isRun N left xi (List.range 1) = true) :
    ∃ ws run' r, encInt0 (traits P N) idx (cmp left 0) (cmp above 0) (cmp xi 0) run = .ok (ws, run', r) ∧
      StInv run' ∧ PixOk 1 ((2 : Int) ^ P - 1) [r] ∧ PixClose N [r] xi ∧
      (∀ rest, decInt0 (traits P N) idx (cmp left 0) (cmp above 0) run (writesBits ws ++ rest) = .ok (run', r, rest)) ∧
      WritesFit ws := by
  have hra := cmp_ok hl 0 (by decide)
  have hrb := cmp_ok ha 0 (by decide)
  have hxi := cmp_ok hx 0 (by decide)
  have hout := not_isRun_one hnot
  have hpix : ∀ r, SClose N r (cmp xi 0) → SampOk ((2 : Int) ^ P - 1) r →
      PixOk 1 ((2 : Int) ^ P - 1) [r] ∧ PixClose N [r] xi := fun r hc ho =>
    ⟨⟨rfl, List.forall_mem_singleton.mpr ho⟩, map_cmp_range hx.1 ▸ AllRel.cons hc AllRel.nil⟩
  generalize cmp left 0 = ra, cmp above 0 = rb at *
  obtain ⟨_, h0, h1⟩ := hinv
  unfold encInt0 decInt0
  rw [show (traits P N).Near = N from rfl]
  by_cases hnear : Go.abs (ra - rb) ≤ N
  · simp only [hnear, if_true]
    obtain ⟨ws, ctx', he, hi', hc, ho, hd, hfw⟩ :=
      interruption_sample P N h idx run.ctx1 ra (cmp xi 0) (Int.one_mul _).symm hidx h1 hra hxi
        (Or.inl rfl) (Or.inr (cev_ne_zero P N h (cmp xi 0 - ra) (by unfold SampOk at hra hxi; omega) hout))
    rw [Int.mul_one] at hc ho
    exact ⟨ws, St.mk (decRunIndex idx) run.ctx0 ctx', _, by rw [he], ⟨dec_range idx hidx, h0, hi'⟩,
      (hpix _ hc ho).1, (hpix _ hc ho).2, fun rest => by rw [hd rest], hfw⟩
  · simp only [hnear, if_false]
    obtain ⟨ws, ctx', he, hi', hc, ho, hd, hfw⟩ :=
      interruption_sample P N h idx run.ctx0 rb (cmp xi 0) (Int.mul_comm _ _) hidx h0 hrb hxi
        (sign_cases (rb - ra)) (Or.inl rfl)
    exact ⟨ws, St.mk (decRunIndex idx) ctx' run.ctx1, _, by rw [he], ⟨dec_range idx hidx, hi', h1⟩,
      (hpix _ hc ho).1, (hpix _ hc ho).2, fun rest => by rw [hd rest], hfw⟩

/-- The run test is taken as a variable `f` (`hf`), so that the caller can `generalize` it out of the unfolded
    `encStep`/`decStep`, where it occurs as a closure over the state. -/
theorem run_split {comps : Nat} {M N : Int} {left : Pixel} (hl : PixOk comps M left) {todo : List Pixel}
    (hok : ∀ p ∈ todo, PixOk comps M p) {f : Pixel → Bool} (hf : (fun p => isRun N left p (List.range comps)) = f) :
    todo.takeWhile f ++ todo.dropWhile f = todo ∧
    AllRel (PixClose N) (List.replicate (todo.takeWhile f).length left) (todo.takeWhile f) ∧
    (todo.dropWhile f).isEmpty = ((((todo.takeWhile f).length : Nat) : Int) == ((todo.length : Nat) : Int)) ∧
    ∀ xj rest', todo.dropWhile f = xj :: rest' → ¬ isRun N left xj (List.range comps) = true := by
  have htd : todo.takeWhile f ++ todo.dropWhile f = todo := List.takeWhile_append_dropWhile
  refine ⟨htd, AllRel.replicate _ _ (fun p hp => ?_), ?_, fun xj rest' hafter => ?_⟩
  · have h1 := List.all_eq_true.mp List.all_takeWhile p hp
    rw [← hf] at h1
    exact isRun_close hl (hok p (by rw [← htd]; exact List.mem_append_left _ hp)) h1
  · have hlen := congrArg List.length htd
    rw [List.length_append] at hlen
    cases hdw : todo.dropWhile f with
    | nil => rw [hdw] at hlen; simp at hlen ⊢; omega
    | cons a r => rw [hdw] at hlen; simp at hlen ⊢; omega
  · have hx := List.head?_dropWhile_not f todo
    rw [hafter, ← hf] at hx
    have hx' : isRun N left xj (List.range comps) = false := hx
    rw [hx']
    decide

/-- what holds of the shared state at every column -/
structure SInv (comps : Nat) (M : Int) (w : Nat) (s : LSt) : Prop where
  prev : ∀ p ∈ s.prev, PixOk comps M p
  done : ∀ p ∈ s.done, PixOk comps M p
  width : s.prev.length = w
  ctxs : s.ctxs.size = 365
  run : StInv s.run

/-- invariant of the walk along one line: `todo` is the not yet coded part of `line`, and the
    reconstructed part is within NEAR of the coded part -/
def LInv (comps : Nat) (M N : Int) (line : List Pixel) (s : LSt) (todo : List Pixel) : Prop :=
  SInv comps M line.length s ∧ (∀ p ∈ line, PixOk comps M p) ∧
  ∃ coded, line = coded ++ todo ∧ AllRel (PixClose N) s.done.reverse coded

theorem LInv.length {comps : Nat} {M N : Int} {line : List Pixel} {s : LSt} {todo : List Pixel}
    (h : LInv comps M N line s todo) : line.length = s.done.length + todo.length := by
  obtain ⟨_, _, coded, hsplit, hclose⟩ := h
  rw [hsplit, List.length_append, ← hclose.length_eq, List.length_reverse]

theorem LInv.todo_ok {comps : Nat} {M N : Int} {line : List Pixel} {s : LSt} {todo : List Pixel}
    (h : LInv comps M N line s todo) : ∀ p ∈ todo, PixOk comps M p := by
  obtain ⟨_, hline, coded, hsplit, _⟩ := h
  exact fun p hp => hline p (by rw [hsplit]; exact List.mem_append_right _ hp)

theorem pixAt_ok {comps : Nat} {M : Int} {w : Nat} {s : LSt} (h : SInv comps M w s) (i : Nat) (hi : i < w) :
    PixOk comps M (pixAt s.prev i) :=
  h.prev _ (List.getD_mem (h.width ▸ hi) [])

theorem leftPixel_ok {comps : Nat} {M : Int} {w : Nat} {s : LSt} (h : SInv comps M w s) (hw : 0 < w) :
    PixOk comps M (leftPixel s) := by
  unfold leftPixel
  split
  · rename_i p rest hd
    exact h.done p (by rw [hd]; simp)
  · exact pixAt_ok h 0 hw

/-- the walk moves on: the source pixels `coded` have been coded, `new` are their reconstructions (in
    line order); context table and run state may have changed -/
theorem linv_advance {comps : Nat} {M N : Int} {line : List Pixel} {s : LSt} {coded rest : List Pixel}
    (hinv : LInv comps M N line s (coded ++ rest)) (new : List Pixel) (ctxs : Array Context) (run : St)
    (hok : ∀ p ∈ new, PixOk comps M p) (hcl : AllRel (PixClose N) new coded)
    (hsz : ctxs.size = 365) (hrun : StInv run) :
    LInv comps M N line (LSt.mk s.prev (new.reverse ++ s.done) s.pplf ctxs run) rest := by
  obtain ⟨hS, hline, before, hsplit, hclose⟩ := hinv
  refine ⟨⟨hS.prev, fun p hp => ?_, hS.width, hsz, hrun⟩, hline, before ++ coded, by rw [hsplit, List.append_assoc], ?_⟩
  · simp only [List.mem_append, List.mem_reverse] at hp
    exact hp.elim (hok p) (hS.done p)
  · simp only [List.reverse_append, List.reverse_reverse]
    exact AllRel.append hclose hcl

theorem linv_push {comps : Nat} {M N : Int} {line : List Pixel} {s : LSt} {xi : Pixel} {rest : List Pixel}
    (hinv : LInv comps M N line s (xi :: rest)) (rec : Pixel) (ctxs : Array Context) (run : St)
    (hok : PixOk comps M rec) (hcl : PixClose N rec xi) (hsz : ctxs.size = 365) (hrun : StInv run) :
    LInv comps M N line (LSt.mk s.prev (rec :: s.done) s.pplf ctxs run) rest :=
  linv_advance (coded := [xi]) hinv [rec] ctxs run (List.forall_mem_singleton.mpr hok)
    (AllRel.cons hcl AllRel.nil) hsz hrun

theorem step_regular (P : Nat) (N : Int) (h : Admissible P N) (comps : Nat) (line : List Pixel) (s : LSt)
    (xi : Pixel) (rest : List Pixel) (hinv : LInv comps ((2 : Int) ^ P - 1) N line s (xi :: rest))
    (hq : ¬ ((ids (traits P N) s (List.range comps)).all (fun i => i.1 == 0)) = true) :
    ∃ ws s', encStep (traits P N) (List.range comps) s (xi :: rest) = .ok (ws, s', rest) ∧
      LInv comps ((2 : Int) ^ P - 1) N line s' rest ∧ WritesFit ws ∧
      ∀ tl, decStep (traits P N) (List.range comps) s (xi :: rest).length (writesBits ws ++ tl) = .ok (s', rest.length, tl) := by
  have hxi : PixOk comps ((2 : Int) ^ P - 1) xi := hinv.todo_ok xi (by simp)
  obtain ⟨ws, cs', rec, he, hsz, hc, hr, hd, hfw⟩ :=
    regs_roundtrip P N h (ids (traits P N) s (List.range comps)) xi s.ctxs
      (by simp [ids, hxi.1]) hinv.1.ctxs (ids_idx_ok _ _ _) hxi.2
  refine ⟨ws, { s with done := rec :: s.done, ctxs := cs' }, ?_, ?_, hfw, ?_⟩
  · simp only [encStep, hq, Bool.false_eq_true, if_false, he]
  · exact linv_push hinv rec cs' s.run ⟨hc.length_eq.trans hxi.1, hr⟩ hc hsz hinv.1.run
  · intro tl
    have hne : (xi :: rest).length ≠ 0 := by simp
    simp only [decStep, hne, if_false, hq, Bool.false_eq_true, hd tl]
    simp

theorem step_run (P : Nat) (N : Int) (h : Admissible P N) (comps : Nat) (hc : 1 ≤ comps) (line : List Pixel) (s : LSt)
    (xi : Pixel) (rest : List Pixel) (hinv : LInv comps ((2 : Int) ^ P - 1) N line s (xi :: rest))
    (hq : ((ids (traits P N) s (List.range comps)).all (fun i => i.1 == 0)) = true) :
    ∃ ws s' todo', encStep (traits P N) (List.range comps) s (xi :: rest) = .ok (ws, s', todo') ∧
      todo'.length < (xi :: rest).length ∧ LInv comps ((2 : Int) ^ P - 1) N line s' todo' ∧ WritesFit ws ∧
      ∀ tl, decStep (traits P N) (List.range comps) s (xi :: rest).length (writesBits ws ++ tl) =
        .ok (s', todo'.length, tl) := by
  have hS := hinv.1
  have hlen_todo := hinv.length
  rw [List.length_cons] at hlen_todo
  have hleft := leftPixel_ok hS (by omega : 0 < line.length)
  have htodo_ok := hinv.todo_ok
  generalize hf : (fun p => isRun (traits P N).Near (leftPixel s) p (List.range comps)) = f
  obtain ⟨htd, hrep, hflag, hnot⟩ := run_split (N := N) hleft htodo_ok hf
  have hlens := congrArg List.length htd
  rw [List.length_append, List.length_cons] at hlens
  have hst := hS.run
  have hidx := hst.idx
  obtain ⟨idx', ws, he, hi', hd, hfw⟩ := runlength_roundtrip s.run.runIndex ((xi :: rest).takeWhile f).length
    ((xi :: rest).length : Nat) hidx (by constructor <;> simp <;> omega) (by simp; omega)
  unfold encStep decStep
  have hne : (xi :: rest).length ≠ 0 := by simp
  simp only [hq, if_true, hne, if_false, hf]
  rw [hflag, he]
  simp only []
  generalize (xi :: rest).takeWhile f = runPx at *
  have hrun : LInv comps ((2 : Int) ^ P - 1) N line (LSt.mk s.prev (List.replicate runPx.length (leftPixel s) ++ s.done)
      s.pplf s.ctxs (St.mk idx' s.run.ctx0 s.run.ctx1)) ((xi :: rest).dropWhile f) := by
    have := linv_advance (coded := runPx) (by rw [htd]; exact hinv) (List.replicate runPx.length (leftPixel s)) s.ctxs
      (St.mk idx' s.run.ctx0 s.run.ctx1) (List.forall_mem_replicate.mpr (Or.inr hleft)) hrep hS.ctxs
      { hst with idx := hi' }
    rwa [List.reverse_replicate] at this
  cases hafter : (xi :: rest).dropWhile f with
  | nil =>
    rw [hafter] at hlens hrun
    refine ⟨ws, _, [], rfl, by simp, hrun, hfw, fun tl => ?_⟩
    rw [hd tl]
    have hge : ((runPx.length : Nat) : Int) ≥ (((xi :: rest).length : Nat) : Int) := by simp at hlens ⊢; omega
    simp only [hge, if_true, Int.toNat_natCast, List.length_nil]
  | cons xj rest' =>
    rw [hafter] at hlens hrun
    rw [List.length_cons] at hlens
    have hxj_ok := hrun.todo_ok xj (by simp)
    have habove : PixOk comps ((2 : Int) ^ P - 1) (pixAt s.prev (s.done.length + runPx.length)) :=
      pixAt_ok hS _ (by omega)
    have hlt : ¬ (((runPx.length : Nat) : Int) ≥ (((xi :: rest).length : Nat) : Int)) := by simp; omega
    have hrem : (xi :: rest).length - runPx.length - 1 = rest'.length := by simp; omega
    have hless : rest'.length < (xi :: rest).length := by omega
    by_cases hcomps : (List.range comps).length > 1
    · simp only [hcomps, if_true]
      obtain ⟨w1, ctx0', rec, he1, hinv1, hok1, hcl1, hd1, hf1⟩ :=
        ints_pixel P N h comps idx' (leftPixel s) (pixAt s.prev (s.done.length + runPx.length)) xj s.run hi'
          hst habove hxj_ok
      rw [he1]
      refine ⟨ws ++ w1, _, rest', rfl, hless, linv_push hrun rec _ _ hok1 hcl1 hS.ctxs hinv1,
        fit_append hfw hf1, fun tl => ?_⟩
      rw [writesBits_append, List.append_assoc, hd (writesBits w1 ++ tl)]
      simp only [hlt, if_false, Int.toNat_natCast, hd1 tl, hrem]
    · simp only [hcomps, if_false]
      have hc1' : comps = 1 := by simp at hcomps; omega
      subst hc1'
      obtain ⟨w1, run', r, he1, hinv1, hok1, hcl1, hd1, hf1⟩ :=
        int0_pixel P N h idx' (leftPixel s) (pixAt s.prev (s.done.length + runPx.length)) xj s.run hi'
          hst hleft habove hxj_ok (hnot xj rest' hafter)
      rw [he1]
      refine ⟨ws ++ w1, _, rest', rfl, hless, linv_push hrun [r] _ _ hok1 hcl1 hS.ctxs hinv1,
        fit_append hfw hf1, fun tl => ?_⟩
      rw [writesBits_append, List.append_assoc, hd (writesBits w1 ++ tl)]
      simp only [hlt, if_false, Int.toNat_natCast, hd1 tl, hrem]

theorem step_agree (P : Nat) (N : Int) (h : Admissible P N) (comps : Nat) (hc : 1 ≤ comps) (line : List Pixel)
    (s : LSt) (todo : List Pixel) (hne : todo ≠ []) (hinv : LInv comps ((2 : Int) ^ P - 1) N line s todo) :
    ∃ ws s' todo', encStep (traits P N) (List.range comps) s todo = .ok (ws, s', todo') ∧
      todo'.length < todo.length ∧ LInv comps ((2 : Int) ^ P - 1) N line s' todo' ∧ WritesFit ws ∧
      ∀ rest, decStep (traits P N) (List.range comps) s todo.length (writesBits ws ++ rest) = .ok (s', todo'.length, rest) := by
  cases todo with
  | nil => exact absurd rfl hne
  | cons xi rest =>
    by_cases hq : ((ids (traits P N) s (List.range comps)).all (fun i => i.1 == 0)) = true
    · exact step_run P N h comps hc line s xi rest hinv hq
    · obtain ⟨ws, s', he, hi, hf, hd⟩ := step_regular P N h comps line s xi rest hinv hq
      exact ⟨ws, s', rest, he, by simp, hi, hf, hd⟩

theorem line_roundtrip (P : Nat) (N : Int) (h : Admissible P N) (comps : Nat) (hc : 1 ≤ comps) (line : List Pixel)
    (s : LSt) (hinv : LInv comps ((2 : Int) ^ P - 1) N line s line) :
    ∃ ws sf, encLine (traits P N) (List.range comps) s line = .ok (ws, sf) ∧
      LInv comps ((2 : Int) ^ P - 1) N line sf [] ∧ WritesFit ws ∧
      ∀ rest, decLine (traits P N) (List.range comps) line.length s (writesBits ws ++ rest) = .ok (sf, rest) :=
  lockstep_var2 writesBits writesBits_nil writesBits_append WritesFit fit_nil (fun _ _ => fit_append) Fail.err
    (encStep (traits P N) (List.range comps)) (decStep (traits P N) (List.range comps))
    (LInv comps ((2 : Int) ^ P - 1) N line)
    (fun s todo hne hinv => step_agree P N h comps hc line s todo hne hinv)
    (line.length + 1) s line (by omega) hinv

def BInv (comps : Nat) (M : Int) (w : Nat) (s : LSt) : Prop := SInv comps M w s ∧ s.done = []

def LineOk (comps : Nat) (M : Int) (w : Nat) (line : List Pixel) : Prop :=
  line.length = w ∧ ∀ p ∈ line, PixOk comps M p

theorem nextLine_inv {comps : Nat} {M N : Int} {line : List Pixel} {sf : LSt}
    (hi : LInv comps M N line sf []) : BInv comps M line.length (nextLine sf) ∧
      AllRel (PixClose N) sf.done.reverse line ∧ (∀ p ∈ sf.done.reverse, PixOk comps M p) := by
  have hlen := hi.length
  obtain ⟨hS, _, coded, hsplit, hclose⟩ := hi
  rw [List.append_nil] at hsplit
  subst hsplit
  have hmem : ∀ p ∈ sf.done.reverse, PixOk comps M p := fun p hp => hS.done p (List.mem_reverse.mp hp)
  exact ⟨⟨⟨hmem, by simp [nextLine], by simp [nextLine, hlen], hS.ctxs, hS.run⟩, rfl⟩, hclose, hmem⟩

theorem lines_roundtrip (P : Nat) (N : Int) (h : Admissible P N) (comps : Nat) (hc : 1 ≤ comps) (w : Nat) :
    ∀ (lines : List (List Pixel)) (s : LSt), BInv comps ((2 : Int) ^ P - 1) w s →
      (∀ l ∈ lines, LineOk comps ((2 : Int) ^ P - 1) w l) →
      ∃ ws recs, encLines (traits P N) (List.range comps) lines s = .ok (ws, recs) ∧
        AllRel (AllRel (PixClose N)) recs lines ∧
        (∀ l ∈ recs, ∀ p ∈ l, PixOk comps ((2 : Int) ^ P - 1) p) ∧ WritesFit ws ∧
        ∀ rest, decLines (traits P N) (List.range comps) w lines.length s (writesBits ws ++ rest) = .ok (recs, rest)
  | [], s, _, _ => ⟨[], [], rfl, AllRel.nil, by simp, fit_nil, fun rest => by simp [decLines, writesBits]⟩
  | line :: more, s, hb, hl => by
    obtain ⟨⟨rfl, hlok⟩, hl'⟩ := List.forall_mem_cons.mp hl
    have hinv : LInv comps ((2 : Int) ^ P - 1) N line s line :=
      ⟨hb.1, hlok, [], rfl, by rw [hb.2]; exact AllRel.nil⟩
    obtain ⟨ws, sf, he, hi, hfw, hd⟩ := line_roundtrip P N h comps hc line s hinv
    obtain ⟨hbn, hcl, hok⟩ := nextLine_inv hi
    obtain ⟨ws2, recs, he2, hc2, hok2, hfw2, hd2⟩ :=
      lines_roundtrip P N h comps hc line.length more (nextLine sf) hbn hl'
    refine ⟨ws ++ ws2, sf.done.reverse :: recs, ?_, AllRel.cons hcl hc2, ?_, fit_append hfw hfw2, ?_⟩
    · simp only [encLines, he, he2]
    · exact List.forall_mem_cons.mpr ⟨hok, hok2⟩
    · intro rest
      simp only [List.length_cons, decLines]
      rw [writesBits_append, List.append_assoc, hd (writesBits ws2 ++ rest)]
      simp only [hd2 rest]

theorem initL_inv (P : Nat) (N : Int) (h : Admissible P N) (w comps : Nat) :
    BInv comps ((2 : Int) ^ P - 1) w (initL (traits P N) w comps) := by
  obtain ⟨hR2, hRP, h16⟩ := traits_range P N h
  have hR16 : (traits P N).Range ≤ 65536 := by omega
  have hz : PixOk comps ((2 : Int) ^ P - 1) (List.replicate comps 0) :=
    ⟨List.length_replicate, List.forall_mem_replicate.mpr (Or.inr ⟨Int.le_refl 0, maxVal_nonneg P N⟩)⟩
  refine ⟨⟨List.forall_mem_replicate.mpr (Or.inr hz), by simp [initL], by simp [initL], by simp [initL, JpegLsScan.initSt],
    ?_⟩, rfl⟩
  exact ⟨by simp [initL, JpegLsScan.initSt], ⟨newRunModeContext_inv 0 _ (Or.inl rfl) ⟨hR2, hR16⟩, rfl⟩,
      ⟨newRunModeContext_inv 1 _ (Or.inr rfl) ⟨hR2, hR16⟩, rfl⟩⟩

theorem image_roundtrip (P : Nat) (N : Int) (h : Admissible P N) (comps : Nat) (hc : 1 ≤ comps) (w : Nat)
    (lines : List (List Pixel)) (hl : ∀ l ∈ lines, LineOk comps ((2 : Int) ^ P - 1) w l) :
    ∃ ws recs, encodeImage (traits P N) w comps lines = .ok (ws, recs) ∧
      AllRel (AllRel (PixClose N)) recs lines ∧
      (∀ l ∈ recs, ∀ p ∈ l, PixOk comps ((2 : Int) ^ P - 1) p) ∧ WritesFit ws ∧
      ∀ rest, decodeImage (traits P N) w lines.length comps (writesBits ws ++ rest) = .ok (recs, rest) :=
  lines_roundtrip P N h comps hc w lines _ (initL_inv P N h w comps) hl

theorem pixClose_zero_eq {r p : Pixel} (hrp : PixClose 0 r p) : r = p :=
  (hrp.mono (fun a b hab => by unfold SClose at hab; omega)).eq

theorem image_close_zero_eq {recs lines : List (List Pixel)} (hrl : AllRel (AllRel (PixClose 0)) recs lines) :
    recs = lines :=
  (hrl.mono (fun _ _ hab => (hab.mono (fun _ _ => pixClose_zero_eq)).eq)).eq

theorem image_bytes_roundtrip (P : Nat) (N : Int) (h : Admissible P N) (comps : Nat) (hc : 1 ≤ comps) (w : Nat)
    (lines : List (List Pixel)) (hl : ∀ l ∈ lines, LineOk comps ((2 : Int) ^ P - 1) w l) :
    ∃ ws recs k, encodeImage (traits P N) w comps lines = .ok (ws, recs) ∧
      AllRel (AllRel (PixClose N)) recs lines ∧
      (∀ l ∈ recs, ∀ p ∈ l, PixOk comps ((2 : Int) ^ P - 1) p) ∧
      decodeImage (traits P N) w lines.length comps
        (destuff (finish (writeAll Writer.new ws)).out false) = .ok (recs, List.replicate k false) := by
  obtain ⟨ws, recs, he, hcl, hok, hfit, hd⟩ := image_roundtrip P N h comps hc w lines hl
  obtain ⟨k, hk⟩ := writer_destuff ws hfit
  exact ⟨ws, recs, k, he, hcl, hok, by rw [hk]; exact hd _⟩

end JpegLsScanL
