import GdcVerif.Model.J2kBandState
/-!
  Band-state bookkeeping of `decodePacket` through two closed forms that do not mention each other: what `gather`
  collects is a `filter`/`map` of the band list (creating an absent context does not change what is read from it
  later), and `writeBack` of one state per live band is a pointwise update.
-/
namespace J2kBand

variable {S : Type}

theorem getD_setCtx (c : Ctx S) (fresh : S) (b x : Nat) :
    ((setCtx c b ((c b).getD fresh)) x).getD fresh = (c x).getD fresh := by
  unfold setCtx
  split
  · next h => rw [h]; rfl
  · rfl

theorem gather_spec (nonEmpty : Nat → Bool) (fresh : S) : ∀ (bands : List Nat) (c : Ctx S),
    (gather nonEmpty fresh bands c).2 = (bands.filter nonEmpty).map (fun b => (c b).getD fresh) ∧
    ∀ x, (gather nonEmpty fresh bands c).1 x =
      if x ∈ bands ∧ nonEmpty x = true then some ((c x).getD fresh) else c x := by
  intro bands
  induction bands with
  | nil => intro c; simp [gather]
  | cons b bs ih =>
    intro c
    cases hb : nonEmpty b with
    | true =>
      obtain ⟨h1, h2⟩ := ih (setCtx c b ((c b).getD fresh))
      simp only [gather, hb, if_true, List.filter_cons_of_pos, List.map_cons, h1, getD_setCtx]
      refine ⟨trivial, fun x => ?_⟩
      rw [h2, getD_setCtx]
      by_cases hxb : x = b
      · subst hxb
        by_cases hm : x ∈ bs <;> simp [hm, hb, setCtx]
      · simp [hxb, setCtx]
    | false =>
      obtain ⟨h1, h2⟩ := ih c
      simp only [gather, hb, Bool.false_eq_true, if_false, h1]
      refine ⟨by simp [hb], fun x => ?_⟩
      rw [h2]
      by_cases hxb : x = b
      · subst hxb; simp [hb]
      · simp [hxb]

theorem writeBack_spec (nonEmpty : Nat → Bool) (f : Nat → S) : ∀ (bands : List Nat) (c : Ctx S), bands.Nodup →
    (∀ b ∈ bands, (c b).isSome = nonEmpty b) →
    ∀ x, writeBack bands ((bands.filter nonEmpty).map f) c x =
      if x ∈ bands ∧ nonEmpty x = true then some (f x) else c x := by
  intro bands
  induction bands with
  | nil => intro c _ _ x; simp [writeBack]
  | cons b bs ih =>
    intro c hnd hc x
    obtain ⟨hnb, hnd'⟩ := List.nodup_cons.mp hnd
    have hb := hc b (by simp)
    cases hne : nonEmpty b with
    | true =>
      obtain ⟨s, hs⟩ := Option.isSome_iff_exists.mp (hb.trans hne)
      simp only [List.filter_cons_of_pos hne, List.map_cons, writeBack, hs]
      rw [ih (setCtx c b (f b)) hnd' (fun a ha => by
        have hab : a ≠ b := fun h => hnb (h ▸ ha)
        simp only [setCtx, hab, if_false]; exact hc a (by simp [ha])) x]
      by_cases hxb : x = b
      · subst hxb; simp [hnb, hne, setCtx]
      · simp [hxb, setCtx]
    | false =>
      have hn : c b = none := by simpa [hne] using hb
      have e : (List.filter nonEmpty (b :: bs)) = List.filter nonEmpty bs := by simp [hne]
      rw [e]
      have e2 : ∀ st : List S, writeBack (b :: bs) st c = writeBack bs st c := by
        intro st; simp [writeBack, hn]
      rw [e2, ih c hnd' (fun a ha => hc a (by simp [ha])) x]
      by_cases hxb : x = b
      · subst hxb; simp [hne, hn]
      · simp [hxb]

theorem packetStep_eq (nonEmpty : Nat → Bool) (fresh : S) (p : S → S) (bands : List Nat) (c : Ctx S)
    (hnd : bands.Nodup) (hempty : ∀ b ∈ bands, nonEmpty b = false → c b = none) (x : Nat) :
    packetStep nonEmpty fresh p bands c x =
      if x ∈ bands ∧ nonEmpty x = true then some (p ((c x).getD fresh)) else c x := by
  obtain ⟨h1, h2⟩ := gather_spec nonEmpty fresh bands c
  unfold packetStep
  simp only [h1, List.map_map]
  rw [writeBack_spec nonEmpty _ bands _ hnd (fun b hb => ?_) x, h2]
  · by_cases hx : x ∈ bands ∧ nonEmpty x = true <;> simp [hx]
  · rw [h2]
    cases hne : nonEmpty b <;> simp [hb, hne, hempty b hb]

end J2kBand
