import GdcVerif.Model.J2kMct
/-!
  C08: the decoder side of the Part-2 multi-component transform never indexes out of range
  (`Mct.transform … ≠ none` for every list of parsed MCT / MCC / MCO segments and every component count).
-/
namespace Mct

theorem mapO_total {α β : Type} {f : α → Option β} {l : List α} {Q : β → Prop}
    (h : ∀ x ∈ l, ∃ y, f x = some y ∧ Q y) :
    ∃ r, mapO f l = some r ∧ r.length = l.length ∧ ∀ y ∈ r, Q y := by
  induction l with
  | nil => exact ⟨[], rfl, rfl, fun _ hy => nomatch hy⟩
  | cons x xs ih =>
    obtain ⟨y, hy, hq⟩ := h x (List.mem_cons_self ..)
    obtain ⟨ys, hys, hl, hm⟩ := ih fun z hz => h z (List.mem_cons_of_mem _ hz)
    exact ⟨y :: ys, by simp [mapO, hy, hys], by simp [hl], List.forall_mem_cons.mpr ⟨hq, hm⟩⟩

def Square (m : Mat) (n : Nat) : Prop := m.length = n ∧ ∀ row ∈ m, row.length = n

def SquareO (o : Option Mat) (n : Nat) : Prop := ∀ m, o = some m → Square m n

theorem readRow_some (vals : List Int) (start comps : Nat) (h : start + comps ≤ vals.length) :
    ∃ r, readRow vals start comps = some r ∧ r.length = comps := by
  obtain ⟨r, hr, hl, _⟩ := mapO_total (f := fun c => vals[start + c]?) (l := List.range comps) (Q := fun _ => True)
    fun c hc => by
      have : c < comps := List.mem_range.mp hc
      exact ⟨vals[start + c]'(by omega), List.getElem?_eq_getElem (by omega), trivial⟩
  exact ⟨r, hr, by simpa using hl⟩

theorem readMatrix_some (vals : List Int) (comps : Nat) (h : comps * comps ≤ vals.length) :
    ∃ m, readMatrix vals comps = some m ∧ Square m comps := by
  obtain ⟨m, hm, hl, hrows⟩ := mapO_total (f := fun r => readRow vals (r * comps) comps) (l := List.range comps)
    (Q := fun row => row.length = comps) fun r hr => by
      have : (r + 1) * comps ≤ comps * comps := Nat.mul_le_mul_right comps (List.mem_range.mp hr)
      rw [Nat.succ_mul] at this
      exact readRow_some vals (r * comps) comps (by omega)
  exact ⟨m, hm, by simpa using hl, hrows⟩

theorem elems_enough (s : MctSeg) (k : Nat) (hwf : s.WF) (hes : elemSize s.elemType ≠ 0)
    (h : ¬ s.dataLen < k * elemSize s.elemType) : k ≤ s.vals.length := by
  unfold MctSeg.dataLen at h
  unfold MctSeg.WF at hwf
  cases hwf with
  | inr h0 => exact absurd h0 hes
  | inl hp =>
    refine Nat.le_of_not_lt fun hk => ?_
    have h1 : (s.vals.length + 1) * elemSize s.elemType ≤ k * elemSize s.elemType :=
      Nat.mul_le_mul_right _ hk
    rw [Nat.succ_mul, Nat.mul_comm s.vals.length] at h1
    omega

theorem decodeMatrix_spec (s : MctSeg) (comps : Nat) (hwf : s.WF) :
    ∃ r, decodeMatrix s comps = some r ∧ SquareO r comps := by
  unfold decodeMatrix
  simp only
  split
  · exact ⟨none, rfl, nofun⟩
  · split
    · exact ⟨none, rfl, nofun⟩
    · rename_i h1 h2
      have hk := elems_enough s (comps * comps) hwf (fun h0 => h1 (Or.inr h0)) h2
      obtain ⟨m, hm, hsq⟩ := readMatrix_some s.vals comps hk
      rw [hm]
      exact ⟨some m, rfl, fun m' hm' => Option.some.inj hm' ▸ hsq⟩

theorem decodeWithInts_spec (s : MctSeg) (comps : Nat) (hwf : s.WF) :
    ∃ f i, decodeWithInts s comps = some (f, i) ∧ SquareO f comps ∧ SquareO i comps := by
  obtain ⟨r, hr, hsq⟩ := decodeMatrix_spec s comps hwf
  unfold decodeWithInts
  rw [hr]
  simp only
  split
  · exact ⟨r, r, rfl, hsq, hsq⟩
  · exact ⟨r, none, rfl, hsq, nofun⟩

theorem decodeOffsets_total (s : MctSeg) (comps : Nat) (hwf : s.WF) : ∃ r, decodeOffsets s comps = some r := by
  unfold decodeOffsets
  simp only
  split
  · exact ⟨none, rfl⟩
  · split
    · exact ⟨none, rfl⟩
    · rename_i h1 h2
      have hk := elems_enough s comps hwf (fun h0 => h1 (Or.inr h0)) h2
      obtain ⟨o, ho, _⟩ := readRow_some s.vals 0 comps (by omega)
      rw [ho]
      exact ⟨some o, rfl⟩

/-- what `extractBindings` guarantees about every binding it stores -/
structure BindOK (components : Nat) (b : Binding) : Prop where
  ids_lt : ∀ id ∈ b.ids, id < components
  matF : SquareO b.matF b.ids.length
  matI : SquareO b.matI b.ids.length

theorem lastMct_mem (l : List MctSeg) (idx : Nat) (s : MctSeg) (h : lastMct l idx = some s) : s ∈ l := by
  unfold lastMct at h
  have := List.mem_of_find?_eq_some h
  simpa using this

theorem lookupMats_spec (cs : Cs) (decorr n : Nat) (hwf : ∀ s ∈ cs.mct, s.WF) :
    ∃ f i, lookupMats cs decorr n = some (f, i) ∧ SquareO f n ∧ SquareO i n := by
  have nn : ∃ f i, (some (none, none) : Option (Option Mat × Option Mat)) = some (f, i) ∧ SquareO f n ∧ SquareO i n :=
    ⟨none, none, rfl, nofun, nofun⟩
  unfold lookupMats
  split
  · split
    · rename_i m hl
      split
      · exact decodeWithInts_spec m n (hwf m (lastMct_mem _ _ _ hl))
      · exact nn
    · exact nn
  · exact nn

theorem lookupOffs_total (cs : Cs) (offs n : Nat) (hwf : ∀ s ∈ cs.mct, s.WF) : ∃ o, lookupOffs cs offs n = some o := by
  unfold lookupOffs
  split
  · split
    · rename_i m hl
      split
      · exact decodeOffsets_total m n (hwf m (lastMct_mem _ _ _ hl))
      · exact ⟨none, rfl⟩
    · exact ⟨none, rfl⟩
  · exact ⟨none, rfl⟩

theorem mkBinding_spec (cs : Cs) (components idx : Nat) (hwf : ∀ s ∈ cs.mct, s.WF) :
    ∃ r, mkBinding cs components idx = some r ∧ ∀ b, r = some b → BindOK components b := by
  have skip : ∃ r, (some none : Option (Option Binding)) = some r ∧ ∀ b, r = some b → BindOK components b :=
    ⟨none, rfl, nofun⟩
  unfold mkBinding
  cases hm : lastMcc cs.mcc idx with
  | none => exact skip
  | some seg =>
    simp only
    by_cases h1 : seg.collType ≠ 0 ∧ seg.collType ≠ 1
    · rw [if_pos h1]; exact skip
    · rw [if_neg h1]
      generalize (if seg.compIDs.isEmpty = true ∧ seg.numComps > 0 then List.range seg.numComps else seg.compIDs) = ids
      by_cases h2 : ¬ seg.outIDs.isEmpty = true ∧ seg.outIDs ≠ ids
      · rw [if_pos h2]; exact skip
      · rw [if_neg h2]
        by_cases h3 : ids.isEmpty = true
        · rw [if_pos h3]; exact skip
        · rw [if_neg h3]
          by_cases h4 : (ids.any fun id => decide (id ≥ components)) = true
          · rw [if_pos h4]; exact skip
          · rw [if_neg h4]
            -- the guard of 43b6ee7 is what makes every id an index of the image
            have hin : ∀ id ∈ ids, id < components := fun id hid =>
              Nat.lt_of_not_le fun hge => h4 (List.any_eq_true.mpr ⟨id, hid, decide_eq_true hge⟩)
            obtain ⟨f, i, hfi, hsf, hsi⟩ := lookupMats_spec cs seg.decorr ids.length hwf
            obtain ⟨o, ho⟩ := lookupOffs_total cs seg.offs ids.length hwf
            rw [hfi, ho]
            simp only
            by_cases h5 : f.isNone = true ∧ i.isNone = true ∧ o.isNone = true
            · rw [if_pos h5]; exact skip
            · rw [if_neg h5]
              exact ⟨_, rfl, fun b hb => Option.some.inj hb ▸ ⟨hin, hsf, hsi⟩⟩

theorem extract_spec (cs : Cs) (components : Nat) (hwf : ∀ s ∈ cs.mct, s.WF) :
    ∃ bs, extract cs components = some bs ∧ ∀ b ∈ bs, BindOK components b := by
  unfold extract
  split
  · exact ⟨[], rfl, fun b hb => nomatch hb⟩
  · obtain ⟨r, hr, _, hm⟩ := mapO_total (l := stageOrder cs) fun idx _ => mkBinding_spec cs components idx hwf
    rw [hr]
    refine ⟨_, rfl, fun b hb => ?_⟩
    obtain ⟨a, ha, hab⟩ := List.mem_filterMap.mp hb
    exact hm a ha b hab

/-! The application half: a pixel is a list `v` of `n` values, one per component, and every id of a binding is below
    `n`; each step keeps the length. -/

theorem getC_some (v : List Int) (ids : List Nat) (k : Nat) (hk : k < ids.length) (hin : ∀ id ∈ ids, id < v.length) :
    ∃ x, getC v ids k = some x := by
  unfold getC
  rw [List.getElem?_eq_getElem hk]
  exact ⟨v[ids[k]]'(hin _ (List.getElem_mem hk)), List.getElem?_eq_getElem _⟩

theorem dot_some (row : List Int) (ids : List Nat) (v : List Int) (c : Nat) (hrow : c ≤ row.length) (hc : c ≤ ids.length)
    (hin : ∀ id ∈ ids, id < v.length) : ∃ s, dot row ids v c = some s := by
  unfold dot
  obtain ⟨ts, hts, _⟩ := mapO_total (f := term row ids v) (l := List.range c) (Q := fun _ => True) fun kk hkk => by
    have hk : kk < c := List.mem_range.mp hkk
    obtain ⟨x, hx⟩ := getC_some v ids kk (by omega) hin
    unfold term
    rw [List.getElem?_eq_getElem (show kk < row.length by omega), hx]
    exact ⟨_, rfl, trivial⟩
  rw [hts]
  exact ⟨_, rfl⟩

theorem setC_some {n : Nat} (v : List Int) (cid : Nat) (x : Int) (hv : v.length = n) (h : cid < n) :
    ∃ v', setC v cid x = some v' ∧ v'.length = n := by
  unfold setC
  rw [if_pos (hv ▸ h)]
  exact ⟨_, rfl, List.length_set.trans hv⟩

theorem writeBack_some {n : Nat} (out : List Int) (ids : List Nat) (rr : Nat) (v : List Int)
    (h : rr + out.length ≤ ids.length) (hin : ∀ id ∈ ids, id < n) (hv : v.length = n) :
    ∃ v', writeBack out ids rr v = some v' ∧ v'.length = n := by
  induction out generalizing rr v with
  | nil => exact ⟨v, rfl, hv⟩
  | cons x xs ih =>
    simp only [List.length_cons] at h
    unfold writeBack
    rw [List.getElem?_eq_getElem (show rr < ids.length by omega)]
    simp only
    obtain ⟨v', hv', hl⟩ := setC_some v ids[rr] x hv (hin _ (List.getElem_mem _))
    rw [hv']
    exact ih (rr + 1) v' (by omega) hl

theorem applyMat_some {n : Nat} (m : Mat) (ids : List Nat) (v : List Int) (wrap : Bool)
    (hsq : Square m ids.length) (hne : ids ≠ []) (hin : ∀ id ∈ ids, id < n) (hv : v.length = n) :
    ∃ v', applyMat m ids v wrap = some v' ∧ v'.length = n := by
  obtain ⟨hlen, hrows⟩ := hsq
  have hpos : 0 < ids.length := List.length_pos_iff.mpr hne
  unfold applyMat
  rw [List.getElem?_eq_getElem (show 0 < m.length by omega)]
  simp only
  have h0 : (m[0]'(by omega)).length = ids.length := hrows _ (List.getElem_mem _)
  obtain ⟨out, hout, hol, _⟩ := mapO_total (f := fun row => dot row ids v (m[0]'(by omega)).length) (l := m)
    (Q := fun _ => True) fun row hrow => by
      obtain ⟨s, hs⟩ := dot_some row ids v ids.length (by rw [hrows row hrow]; exact Nat.le_refl _) (Nat.le_refl _)
        (hv ▸ hin)
      exact ⟨s, h0 ▸ hs, trivial⟩
  rw [hout]
  exact writeBack_some _ ids 0 v (by cases wrap <;> simp <;> omega) hin hv

theorem addOffsets_some {n : Nat} (o : List Int) (ids : List Nat) (idx : Nat) (v : List Int)
    (h : idx + ids.length ≤ o.length) (hin : ∀ id ∈ ids, id < n) (hv : v.length = n) :
    ∃ v', addOffsets o ids idx v = some v' ∧ v'.length = n := by
  induction ids generalizing idx v with
  | nil => exact ⟨v, rfl, hv⟩
  | cons cid rest ih =>
    simp only [List.length_cons] at h
    unfold addOffsets
    rw [List.getElem?_eq_getElem (show idx < o.length by omega)]
    simp only
    have hrest : ∀ id ∈ rest, id < n := fun id hid => hin id (List.mem_cons_of_mem _ hid)
    split
    · exact ih (idx + 1) v (by omega) hrest hv
    · have hc : cid < v.length := hv ▸ hin cid (List.mem_cons_self ..)
      rw [List.getElem?_eq_getElem hc]
      simp only
      obtain ⟨v', hv', hl⟩ := setC_some v cid (wrap32 (v[cid] + o[idx])) hv (hv ▸ hc)
      rw [hv']
      exact ih (idx + 1) v' (by omega) hrest hl

theorem applyOffsets_some {n : Nat} (b : Binding) (v : List Int) (hin : ∀ id ∈ b.ids, id < n) (hv : v.length = n) :
    ∃ v', applyOffsets b v = some v' ∧ v'.length = n := by
  unfold applyOffsets
  split
  · rename_i o _
    split
    · exact addOffsets_some o b.ids 0 v (by omega) hin hv
    · exact ⟨v, rfl, hv⟩
  · exact ⟨v, rfl, hv⟩

theorem matStep_some {n : Nat} (b : Binding) (v : List Int) (hb : BindOK n b) (hne : b.ids ≠ []) (hv : v.length = n) :
    ∃ v', matStep b v = some v' ∧ v'.length = n := by
  unfold matStep
  split
  · split
    · exact applyMat_some _ b.ids v true (hb.matI _ ‹_›) hne hb.ids_lt hv
    · exact ⟨v, rfl, hv⟩
  · split
    · split
      · exact applyMat_some _ b.ids v false (hb.matF _ ‹_›) hne hb.ids_lt hv
      · exact ⟨v, rfl, hv⟩
    · exact ⟨v, rfl, hv⟩

theorem applyBinding_some {n : Nat} (b : Binding) (v : List Int) (hb : BindOK n b) (hv : v.length = n) :
    ∃ v', applyBinding b v = some v' ∧ v'.length = n := by
  unfold applyBinding
  split
  · exact ⟨v, rfl, hv⟩
  · rename_i he
    obtain ⟨v1, hv1, hl1⟩ := matStep_some b v hb (fun h0 => he (h0 ▸ rfl)) hv
    rw [hv1]
    exact applyOffsets_some b v1 hb.ids_lt hl1

theorem applyBindings_some {n : Nat} (bs : List Binding) (v : List Int) (hb : ∀ b ∈ bs, BindOK n b) (hv : v.length = n) :
    ∃ v', applyBindings bs v = some v' ∧ v'.length = n := by
  induction bs generalizing v with
  | nil => exact ⟨v, rfl, hv⟩
  | cons b rest ih =>
    unfold applyBindings
    obtain ⟨v1, hv1, hl1⟩ := applyBinding_some b v (hb b (List.mem_cons_self ..)) hv
    rw [hv1]
    exact ih v1 (fun b' hb' => hb b' (List.mem_cons_of_mem _ hb')) hl1

theorem legacyInv_spec (mct : List MctSeg) (components : Nat) (hwf : ∀ s ∈ mct, s.WF) :
    ∃ r, legacyInv mct components = some r ∧ SquareO r components := by
  induction mct with
  | nil => exact ⟨none, rfl, nofun⟩
  | cons s rest ih =>
    have ih' := ih fun s' hs' => hwf s' (List.mem_cons_of_mem _ hs')
    unfold legacyInv
    split
    · obtain ⟨r, hr, hsq⟩ := decodeMatrix_spec s components (hwf s (List.mem_cons_self ..))
      rw [hr]
      cases r with
      | none => exact ih'
      | some m => exact ⟨some m, rfl, hsq⟩
    · exact ih'

theorem legacyOffs_total (mct : List MctSeg) (components : Nat) (hwf : ∀ s ∈ mct, s.WF) :
    ∃ r, legacyOffs mct components = some r := by
  induction mct with
  | nil => exact ⟨none, rfl⟩
  | cons s rest ih =>
    have ih' := ih fun s' hs' => hwf s' (List.mem_cons_of_mem _ hs')
    unfold legacyOffs
    split
    · obtain ⟨r, hr⟩ := decodeOffsets_total s components (hwf s (List.mem_cons_self ..))
      rw [hr]
      cases r with
      | none => exact ih'
      | some o => exact ⟨some o, rfl⟩
    · exact ih'

theorem applyCustom_some (inv : Mat) (offs : Option (List Int)) (components : Nat) (v : List Int)
    (hsq : Square inv components) (hv : v.length = components) :
    ∃ v', applyCustom inv offs components v = some v' := by
  subst hv
  obtain ⟨hlen, hrows⟩ := hsq
  have hin : ∀ id ∈ List.range v.length, id < v.length := fun id hid => List.mem_range.mp hid
  unfold applyCustom
  simp only
  obtain ⟨out, hout, hol, _⟩ := mapO_total (f := customRow inv v.length v) (l := List.range v.length)
    (Q := fun _ => True) fun r hr => by
      have hr' : r < inv.length := hlen ▸ List.mem_range.mp hr
      unfold customRow
      rw [List.getElem?_eq_getElem hr']
      obtain ⟨s, hs⟩ := dot_some inv[r] _ v v.length (by rw [hrows _ (List.getElem_mem _)]; exact Nat.le_refl _)
        (by simp) hin
      exact ⟨s, hs, trivial⟩
  rw [hout]
  simp only [List.length_range] at hol ⊢
  split
  · rename_i o
    split
    · obtain ⟨v', hv', _⟩ := addOffsets_some o (List.range v.length) 0 out (by simp; omega) hin hol
      exact ⟨v', hv'⟩
    · exact ⟨out, rfl⟩
  · exact ⟨out, rfl⟩

theorem transform_total (cs : Cs) (components : Nat) (v : List Int) (hwf : ∀ s ∈ cs.mct, s.WF)
    (hv : v.length = components) : ∃ v', transform cs components v = some v' := by
  obtain ⟨bs, hbs, hok⟩ := extract_spec cs components hwf
  unfold transform
  rw [hbs]
  simp only
  split
  · obtain ⟨v', hv', _⟩ := applyBindings_some bs v hok hv
    exact ⟨v', hv'⟩
  · split
    · obtain ⟨inv, hinv, hsq⟩ := legacyInv_spec cs.mct components hwf
      obtain ⟨offs, hoffs⟩ := legacyOffs_total cs.mct components hwf
      rw [hinv, hoffs]
      simp only
      split
      · split
        · exact applyCustom_some _ offs components v (hsq _ rfl) hv
        · exact ⟨v, rfl⟩
      · exact ⟨v, rfl⟩
    · exact ⟨v, rfl⟩

end Mct
