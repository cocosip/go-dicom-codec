import GdcVerif.Model.JpegAddr
import GdcVerif.Lemmas.Radix
import GdcVerif.Lemmas.Basics
import GdcVerif.Lemmas.GoBits
/-! Block addresses are two-digit numerals (`Radix`); the scan collection loop (`scanSplitGo`) against the
  marker filter (`scanFilterGo`); restart bookkeeping. -/
namespace JpegAddr

theorem mem_walk (f : Frame) (c : Comp) (b : Nat × Nat) :
    b ∈ walk f c ↔ b.1 < mcuCols f * c.H ∧ b.2 < mcuRows f * c.V := by
  simp only [walk, List.mem_flatMap, List.mem_map, List.mem_range]
  constructor
  · rintro ⟨my, hmy, mx, hmx, v, hv, h, hh, rfl⟩
    exact ⟨Radix.lt hmx hh, Radix.lt hmy hv⟩
  · rintro ⟨h1, h2⟩
    obtain ⟨hx1, hx2, hx3⟩ := Radix.digits h1
    obtain ⟨hy1, hy2, hy3⟩ := Radix.digits h2
    exact ⟨b.2 / c.V, hy1, b.1 / c.H, hx1, b.2 % c.V, hy2, b.1 % c.H, hx2, Prod.ext hx3 hy3⟩

theorem offset_inj (cw bx by' bx' by'' : Nat) (h1 : bx < cw) (h2 : bx' < cw)
    (he : blockOffset cw bx by' = blockOffset cw bx' by'') : bx = bx' ∧ by' = by'' := by
  simp only [blockOffset] at he
  have := Radix.inj h1 h2 (show by' * cw + bx = by'' * cw + bx' by omega)
  exact ⟨this.2, this.1⟩

theorem inblock_lt (cw ch bx by' : Nat) (h1 : bx < cw) (h2 : by' < ch) (r : Nat) (hr : r < 64) :
    blockOffset cw bx by' + r < cw * ch * 64 := by
  rw [Nat.mul_comm cw ch]
  exact Radix.lt (Radix.lt h2 h1) hr

theorem writeOffset_some (cw len : Nat) (b : Nat × Nat) (h : blockOffset cw b.1 b.2 + 63 < len) :
    writeOffset cw len b = some (blockOffset cw b.1 b.2) := by
  unfold writeOffset
  simp only []
  rw [if_neg (by omega)]

theorem divCeil_mul_le (n v d : Nat) (hd : 0 < d) : divCeil (n * v) d ≤ divCeil n d * v :=
  Nat.ceilDiv_mul_le n v hd

theorem divCeil_divCeil (a b c : Nat) (hb : 0 < b) (hc : 0 < c) : divCeil (divCeil a b) c = divCeil a (b * c) :=
  Nat.ceilDiv_ceilDiv a hb hc

/-- the data unit of a pixel lies in the grid of the component's own scan -/
theorem block_lt_ni {x n H m : Nat} (hH : 0 < H) (hm : 0 < m) (hx : x < n) :
    x * H / m / 8 < divCeil (divCeil (n * H) m) 8 :=
  Nat.div_lt_ceilDiv (by omega) (Nat.div_lt_ceilDiv hm (Nat.mul_lt_mul_of_pos_right hx hH))

/-- the grid of the component's own scan fits the component buffer allocated by parseSOF (whole MCUs) -/
theorem ni_le (n H m : Nat) (hm : 0 < m) :
    divCeil (divCeil (n * H) m) 8 ≤ divCeil n (m * 8) * H := by
  rw [divCeil_divCeil _ _ 8 hm (by omega)]
  exact divCeil_mul_le _ _ _ (by omega)

theorem block_lt {x n H m : Nat} (hH : 0 < H) (hm : 0 < m) (hx : x < n) :
    x * H / m / 8 < divCeil n (m * 8) * H :=
  Nat.lt_of_lt_of_le (block_lt_ni hH hm hx) (ni_le n H m hm)

theorem pixLen_ge (w h : Nat) (h0 : 0 < w) (h1 : 0 < h) :
    w * h ≤ pixLen w h ∧ (pixLen w h = w * h → w % 8 = 0 ∧ h % 8 = 0) := by
  have hw : w ≤ 8 * divCeil w 8 := by simp only [divCeil]; omega
  have hh : h ≤ 8 * divCeil h 8 := by simp only [divCeil]; omega
  refine ⟨Nat.mul_le_mul hw hh, fun he => ?_⟩
  simp only [pixLen] at he
  have e1 : 8 * divCeil w 8 = w := by
    rcases Nat.lt_or_ge w (8 * divCeil w 8) with hlt | hge
    · have := Nat.lt_of_lt_of_le (Nat.mul_lt_mul_of_pos_right hlt h1) (Nat.mul_le_mul_left _ hh)
      omega
    · omega
  rw [e1] at he
  have e2 := Nat.eq_of_mul_eq_mul_left h0 he
  omega

theorem scanFilterGo_fill (n : Nat) (s : List Nat) :
    scanFilterGo (List.replicate n 0xFF ++ s) true = scanFilterGo s true := by
  induction n with
  | zero => rfl
  | succ n ih => rw [List.replicate_succ, List.cons_append, scanFilterGo, if_pos rfl, ih]

theorem scanSplitGo_fill (n : Nat) (s cur : List Nat) (acc : List (List Nat)) :
    scanSplitGo (List.replicate n 0xFF ++ s) true cur acc = scanSplitGo s true cur acc := by
  induction n with
  | zero => rfl
  | succ n ih => rw [List.replicate_succ, List.cons_append, scanSplitGo, if_pos rfl, ih]

theorem sf_rst (k : Nat) (rest : List Nat) (hk : k < 8) : scanFilter (0xFF :: (0xD0 + k) :: rest) = scanFilter rest := by
  have h1 : isRST (0xD0 + k) = true := by simp [isRST]; omega
  have h2 : ¬ (0xD0 + k = 0) := by omega
  have h3 : ¬ (0xD0 + k = 0xFF) := by omega
  simp only [scanFilter, scanFilterGo, if_true, h2, h3, if_false, h1]

theorem sf_eoi (rest : List Nat) : scanFilter (0xFF :: 0xD9 :: rest) = [] := by
  simp [scanFilter, scanFilterGo, isRST]

/-- the intervals joined are exactly the scan filter (what `scanIntervals` returns without DRI) -/
theorem scanSplitGo_flatten (s : List Nat) (ff : Bool) (cur : List Nat) (acc : List (List Nat)) :
    (scanSplitGo s ff cur acc).flatten = acc.flatten ++ cur ++ scanFilterGo s ff := by
  -- the two loops branch alike: a byte the filter emits is a byte the splitter appends to `cur`
  fun_induction scanSplitGo s ff cur acc with
  | case1 ff => cases ff <;> simp [scanFilterGo]
  | _ => simp [scanFilterGo, *]

theorem scanSplit_flatten (s cur : List Nat) (acc : List (List Nat)) :
    (scanSplitAux s cur acc).flatten = acc.flatten ++ cur ++ scanFilter s :=
  scanSplitGo_flatten s false cur acc

theorem scanSplit_prefix (pre rest cur : List Nat) (acc : List (List Nat)) (hw : wellStuffed pre = true)
    (hne : ∀ b ∈ pre.getLast?, b ≠ 0xFF) :
    scanSplitAux (pre ++ rest) cur acc = scanSplitAux rest (cur ++ pre) acc := by
  -- along `wellStuffed`'s own recursion, which takes FF 00 in one step
  fun_induction wellStuffed pre generalizing cur with
  | case1 => simp
  | case2 b => simp [scanSplitAux, scanSplitGo, show b ≠ 0xFF by simpa using hw]
  | case3 b2 t ih =>
    obtain ⟨h0, hw'⟩ : b2 = 0 ∧ wellStuffed t = true := by simpa using hw
    have hl : ∀ x ∈ t.getLast?, x ≠ 0xFF := fun x hx => by
      cases t with
      | nil => simp at hx
      | cons a as => exact hne x (by simpa [List.getLast?_cons_cons] using hx)
    have := ih (cur ++ [0xFF, 0]) hw' hl
    simp only [scanSplitAux] at this
    simp [scanSplitAux, scanSplitGo, h0, this]
  | case4 b b2 t hb ih =>
    have := ih (cur ++ [b]) hw fun x hx => hne x (by simpa [List.getLast?_cons_cons] using hx)
    simp only [List.cons_append, scanSplitAux] at this ⊢
    rw [scanSplitGo, if_neg hb, this]
    simp

theorem scanFilter_prefix : ∀ (pre rest : List Nat), wellStuffed pre = true → (∀ b ∈ pre.getLast?, b ≠ 0xFF) →
    scanFilter (pre ++ rest) = pre ++ scanFilter rest := by
  intro pre rest hw hne
  have h := scanSplit_flatten (pre ++ rest) [] []
  rw [scanSplit_prefix pre rest [] [] hw hne, scanSplit_flatten] at h
  simpa using h.symm

theorem mcuInterval_spec (ri : Nat) (hri : 0 < ri) : ∀ n, (mcuInterval ri n).1 = n / ri ∧
    ((mcuInterval ri n).2 = true ↔ (0 < n ∧ n % ri = 0))
  | 0 => by simp [mcuInterval]
  | n + 1 => by
    have ih := (mcuInterval_spec ri hri n).1
    have hd := @Nat.succ_div n ri
    by_cases h : (n + 1) % ri = 0
    · rw [if_pos (Nat.dvd_of_mod_eq_zero h)] at hd
      simp [mcuInterval, hri, h, ih, hd]
    · rw [if_neg (fun hdvd => h (Nat.mod_eq_zero_of_dvd hdvd))] at hd
      simp [mcuInterval, hri, h, ih, hd]

end JpegAddr
