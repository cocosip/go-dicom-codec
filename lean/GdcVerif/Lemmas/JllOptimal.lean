import GdcVerif.Lemmas.JllOptimalMerge
import GdcVerif.Lemmas.JllOptimalBits
/-!
  L6: `BuildOptimalHuffmanTable` (model `JLL.Opt.buildOptimal`, T.81 Annex K.2).

  * `buildOptimal_total`: the construction cannot panic or diverge for ANY 256 frequencies:
    257 leaves (with the pseudo-symbol) mean at most 256 merges, so every code size is ≤ 256 =
    `maxHuffmanCodeLength` and `bits[size]++` stays inside the 257-entry work array; the
    length-limiting loop of Figure K.3 (sizes 256 down to 17) always finds its prefix and
    terminates.  (`buildOptimal_lossless_ok`: restricted form.  Before fix
    9f5cc40 the array had 33 entries and the function panicked when a code size
    exceeded 32.)
  * `buildOptimal_valid`: the result is a valid table
    specification (16 non-negative counts summing to the number of values, the values are exactly
    the symbols of non-zero frequency without repetition, Kraft sum < 1).

  The model is evaluated on every check run by the driver op `jll-opt` against the real
  `BuildOptimalHuffmanTable` (several hundred frequency vectors, including ones whose unrestricted
  code is deeper than 32).
-/
namespace JLL.Opt

theorem codeSize_toList (st : St) (hsz : st.codeSize.size = 257) :
    st.codeSize.toList = (List.range 257).map (fun i => st.cs i) := by
  apply List.ext_getElem?
  intro i
  rw [Array.getElem?_toList, List.getElem?_map]
  by_cases hi : i < 257
  · simp [List.getElem?_range hi, St.cs, Array.getElem?_eq_getElem (hsz ▸ hi)]
  · rw [Array.getElem?_eq_none (by omega), List.getElem?_eq_none (by simp; omega)]
    rfl

theorem forall_codeSize {st : St} {Q : Nat → Prop} (h : ∀ a, Q (st.cs a)) : ∀ x ∈ st.codeSize.toList, Q x := by
  intro x hx
  obtain ⟨j, hj, rfl⟩ := List.getElem_of_mem hx
  simpa [St.cs, show j < st.codeSize.size by simpa using hj] using h j

theorem Merged.mem_lt {f K st chain} (m : Merged f K st chain) : ∀ a ∈ chain, a < 257 := fun a ha => by
  have := (m.mem a).1 ha
  omega

theorem Merged.sum_codeSize {f K st chain} (m : Merged f K st chain) (g : Nat → Int) (hg : g 0 = 0) :
    (st.codeSize.toList.map g).sum = (chain.map fun a => g (st.cs a)).sum := by
  rw [codeSize_toList st m.szC, List.map_map]
  refine List.sum_range_eq_sum_support chain _ 257 m.nodup m.mem_lt fun i hi => ?_
  have : st.cs i = 0 := Classical.byContradiction fun hne => hi (m.cover i hne)
  simp [this, hg]

theorem Merged.countSizes {f st chain} (m : Merged f 256 st chain) (hlen : f.length = 256)
    (hp : ∀ a ∈ chain, 1 ≤ st.cs a) :
    ∃ b1, countSizes st.codeSize.toList (Array.replicate 257 0) = .ok b1 ∧ BInv chain.length b1 256 := by
  have hl256 : ∀ x ∈ st.codeSize.toList, x ≤ 256 :=
    forall_codeSize fun i => Nat.le_trans (m.csle i) (hlen ▸ List.countP_le_length)
  obtain ⟨b1, e1, e2, e3⟩ := countSizes_ok st.codeSize.toList (Array.replicate 257 0) shape_zero hl256
  have hsum : ∀ w : Nat → Int, bsum w b1 = (chain.map fun a => w (st.cs a)).sum := fun w => by
    rw [e3, bsum_replicate_zero, Int.zero_add, m.sum_codeSize _ (by simp)]
    exact congrArg List.sum (List.map_congr_left fun a ha => if_pos (show st.cs a > 0 from hp a ha))
  refine ⟨b1, e1, e2, ?_, ?_, m.nodup.length_le_of_forall_lt m.mem_lt⟩
  · have := List.natCast_sum_map (fun a => 2 ^ (256 - st.cs a)) chain
    rw [m.kraft] at this
    exact (hsum kw).trans this.symm
  · rw [hsum, List.map_const', List.sum_replicate_int, Int.mul_one]

theorem buildOptimal_run {f : List Nat} {st : St} {b1 b2 : Array Int}
    (h1 : mergeLoop 258 (st0 f) = .ok st)
    (h2 : countSizes st.codeSize.toList (Array.replicate 257 0) = .ok b1)
    (h3 : limitLoop ((List.range' 17 240).reverse) b1 = .ok b2) :
    buildOptimal f = .ok (cut (removePseudo ((List.range' 1 256).reverse) b2), sortValues st.codeSize) := by
  unfold st0 at h1
  simp only [buildOptimal, maxLen, Nat.reduceAdd, bind, h1, h2, h3]
  rfl

/-- the merge loop's chain and the `Bits` it leads to.  If nothing was merged (only the pseudo-symbol is
    present) the work array stays empty; otherwise it holds a complete prefix code, which is limited to 16
    bits and then loses one word -/
theorem buildOptimal_spec (f : List Nat) (hlen : f.length = 256) :
    ∃ st chain bits, Merged f 256 st chain ∧ buildOptimal f = .ok (bits, sortValues st.codeSize) ∧
      bits.length = 16 ∧ (∀ x ∈ bits, 0 ≤ x) ∧ (bits.map Int.toNat).sum + 1 = chain.length ∧
      kraft16 bits < 65536 := by
  obtain ⟨st, chain, run, m⟩ := mergeLoop_spec f hlen 256 (hlen ▸ List.countP_le_length)
  by_cases hz : ∀ a, st.cs a = 0
  · have l1 := limitLoop_zero ((List.range' 17 240).reverse) (by
      intro x hx
      simp only [List.mem_reverse, List.mem_range'_1] at hx
      omega)
    have h256 : 256 ∈ chain := (m.mem 256).2 (Or.inr rfl)
    have hch : chain.Perm [256] := (List.perm_ext_iff_of_nodup m.nodup (List.pairwise_singleton _ 256)).2 fun a =>
      ⟨fun ha => List.mem_singleton.2 (m.single h256 (hz 256) a ha), fun ha => List.mem_singleton.1 ha ▸ h256⟩
    refine ⟨st, chain, _, m, buildOptimal_run run (countSizes_zero _ _ (forall_codeSize hz)) l1, ?_⟩
    rw [table_zero, hch.length_eq]
    exact ⟨List.length_replicate, fun x hx => Int.le_of_eq (List.eq_of_mem_replicate hx).symm, by decide, by decide⟩
  · -- some leaf has been deepened, so (`Merged.single`) none is at depth 0
    have hp : ∀ b ∈ chain, 1 ≤ st.cs b := fun b hb => Nat.pos_of_ne_zero fun h0 => hz fun a =>
      Classical.byContradiction fun ha => ha (m.single hb h0 a (m.cover a ha) ▸ h0)
    obtain ⟨b1, c1, c2⟩ := m.countSizes hlen hp
    obtain ⟨b2, l1, l2⟩ := limitLoop_ok 240 16 b1 (by omega) c2
    obtain ⟨bits, e, t⟩ := l2.table
    exact ⟨st, chain, bits, m, e ▸ buildOptimal_run run c1 l1, t⟩

/-- for ANY 256 frequencies the table construction returns normally: no index
    panic (`bits[size]` with a code size beyond the 257-entry work array, `bits[prefixSize]` with `prefixSize` below 0, …)
    and no non-terminating chain walk.  No hypothesis on the counts, their total or the depth. -/
theorem buildOptimal_total (f : List Nat) (hlen : f.length = 256) : ∃ r, buildOptimal f = .ok r := by
  obtain ⟨_, _, _, _, h, _⟩ := buildOptimal_spec f hlen
  exact ⟨_, h⟩

/-- frequencies of the lossless alphabet: 256 entries, non-zero only at the 17 difference
    categories 0..16 -/
def LosslessFreq (f : List Nat) : Prop := f.length = 256 ∧ ∀ i, 17 ≤ i → f[i]?.getD 0 = 0

/-- on the lossless alphabet `BuildOptimalHuffmanTable` neither panics nor diverges. -/
theorem buildOptimal_lossless_ok (f : List Nat) (hf : LosslessFreq f) : ∃ r, buildOptimal f = .ok r :=
  buildOptimal_total f hf.1

theorem kw_16 : kw 16 = 2 ^ 240 := by decide

theorem sortValues_mem (cs : Array Nat) (hsz : cs.size = 257) (i : Nat) :
    i ∈ sortValues cs ↔ i < 256 ∧ 1 ≤ cs[i]?.getD 0 ∧ cs[i]?.getD 0 ≤ 256 := by
  unfold sortValues
  simp only [List.mem_flatMap, List.mem_filter, List.mem_range, List.mem_range'_1, decide_eq_true_eq, maxLen]
  constructor
  · rintro ⟨size, hs, hi, he⟩
    rw [he]
    exact ⟨hi, by simp; omega, by simp; omega⟩
  · rintro ⟨hi, h1, h2⟩
    rw [Array.getElem?_eq_getElem (by omega), Option.getD_some] at h1 h2
    exact ⟨cs[i], by omega, hi, Array.getElem?_eq_getElem (by omega)⟩

theorem sortValues_nodup (cs : Array Nat) : (sortValues cs).Nodup := by
  unfold sortValues List.Nodup
  rw [List.pairwise_flatMap]
  refine ⟨fun a _ => List.Pairwise.filter _ List.nodup_range, ?_⟩
  refine List.Pairwise.imp ?_ (List.pairwise_lt_range' (s := 1) (n := maxLen) 1)
  intro a b hab x hx y hy e
  subst e
  simp only [List.mem_filter, decide_eq_true_eq] at hx hy
  have := hx.2.symm.trans hy.2
  simp at this
  omega

/-- for ANY 256 frequencies the produced `(Bits, Values)` is a valid table
    specification.  `Values` are exactly the symbols with non-zero frequency, each once; `Bits` has
    16 non-negative entries summing to `len(Values)`, and the Kraft sum is strictly below 1 (the
    all-ones code word stays reserved). -/
theorem buildOptimal_valid (f : List Nat) (hlen : f.length = 256) :
    ∃ bits values, buildOptimal f = .ok (bits, values) ∧
      bits.length = 16 ∧ (∀ x ∈ bits, 0 ≤ x) ∧
      (bits.map Int.toNat).sum = values.length ∧
      values.Nodup ∧
      (∀ i, i ∈ values ↔ i < 256 ∧ f[i]?.getD 0 ≠ 0) ∧
      kraft16 bits < 65536 := by
  obtain ⟨st, chain, bits, m, hrun, t1, t2, t3, t4⟩ := buildOptimal_spec f hlen
  have hle : ∀ a, st.cs a ≤ 256 := fun a => Nat.le_trans (m.csle a) (hlen ▸ List.countP_le_length)
  have hmem : ∀ i, i ∈ sortValues st.codeSize ↔ i < 256 ∧ f[i]?.getD 0 ≠ 0 := by
    intro i
    rw [sortValues_mem st.codeSize m.szC]
    constructor
    · rintro ⟨hi, h1, _⟩
      have := (m.mem i).1 (m.cover i (by unfold St.cs; omega))
      exact ⟨hi, by omega⟩
    · rintro ⟨hi, hf⟩
      refine ⟨hi, Nat.pos_of_ne_zero fun h0 => ?_, hle i⟩
      -- at depth 0 it would be the only leaf, but the pseudo-symbol is one
      have := m.single ((m.mem i).2 (Or.inl ⟨hi, hf⟩)) h0 256 ((m.mem 256).2 (Or.inr rfl))
      omega
  -- the chain is the value list plus the pseudo-symbol
  have hlenV : (sortValues st.codeSize).length + 1 = chain.length := by
    have : (256 :: sortValues st.codeSize).Perm chain :=
      (List.perm_ext_iff_of_nodup
        (List.nodup_cons.2 ⟨fun h => by have := (hmem 256).1 h; omega, sortValues_nodup _⟩) m.nodup).2 fun a => by
        rw [List.mem_cons, hmem a, m.mem a, or_comm]
    exact this.length_eq
  exact ⟨bits, _, hrun, t1, t2, by omega, sortValues_nodup _, hmem, t4⟩

theorem buildOptimal_lossless_values (f : List Nat) (hf : LosslessFreq f) (bits : List Int) (values : List Nat)
    (h : buildOptimal f = .ok (bits, values)) : (∀ v ∈ values, v ≤ 16) ∧ values.length ≤ 17 := by
  obtain ⟨bits', values', h', _, _, _, hnd, hmem, _⟩ := buildOptimal_valid f hf.1
  rw [h] at h'
  injection h' with h'
  injection h' with _ hv
  subst hv
  have hv : ∀ v ∈ values, v ≤ 16 := fun v hv =>
    Classical.byContradiction fun hn => ((hmem v).1 hv).2 (hf.2 v (by omega))
  exact ⟨hv, hnd.length_le_of_forall_lt (n := 17) (fun a ha => by have := hv a ha; omega)⟩

end JLL.Opt
