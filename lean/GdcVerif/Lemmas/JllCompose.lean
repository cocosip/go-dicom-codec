import GdcVerif.Lemmas.JllScan
import GdcVerif.Lemmas.JllOptimal
/-! Glue between L6 (optimal table) and L5/L7 (canonical tables, whole scan). -/
namespace JLL
open JLL.Opt

theorem kraft_wsum : ∀ (bits : List Int) (l : Nat), (∀ x ∈ bits, 0 ≤ x) →
    ((kraft (bits.map Int.toNat) l : Nat) : Int) = wsum (fun l => ((2 ^ (15 - l) : Nat) : Int)) bits l
  | [], _, _ => by simp [kraft, wsum]
  | x :: xs, l, h => by
    have hx : 0 ≤ x := h x (by simp)
    have ih := kraft_wsum xs (l + 1) (fun y hy => h y (by simp [hy]))
    simp only [List.map_cons, kraft, wsum]
    rw [← ih]
    have : ((x.toNat : Nat) : Int) = x := Int.toNat_of_nonneg hx
    simp [this]

theorem kraft_bridge (bits : List Int) (h : ∀ x ∈ bits, 0 ≤ x) :
    ((kraft (bits.map Int.toNat) 0 : Nat) : Int) = kraft16 bits := kraft_wsum bits 0 h

/-- frequency vector (256 entries) of a list of categories: what the frequency pass
    `optimizeHuffmanTables` accumulates (`frequencies[diffCategory(diff)]++`) -/
def catFreq (cats : List Nat) : List Nat := (List.range 256).map fun k => cats.count k

theorem catFreq_get (cats : List Nat) (k : Nat) (hk : k < 256) :
    (catFreq cats)[k]? = some (cats.count k) := by
  simp only [catFreq]
  rw [List.getElem?_map, List.getElem?_range hk]
  rfl

theorem catFreq_getD (cats : List Nat) (k : Nat) :
    (catFreq cats)[k]?.getD 0 = if k < 256 then cats.count k else 0 := by
  split
  · next h => rw [catFreq_get cats k h]; rfl
  · next h => rw [List.getElem?_eq_none (by simpa [catFreq] using h)]; rfl

theorem catFreq_lossless (cats : List Nat) (h : ∀ k ∈ cats, k ≤ 16) : LosslessFreq (catFreq cats) := by
  refine ⟨by simp [catFreq], fun i hi => ?_⟩
  rw [catFreq_getD]
  split
  · exact List.count_eq_zero.mpr fun hm => by have := h i hm; omega
  · rfl

theorem catFreq_mem (cats : List Nat) (k : Nat) (hk : k ∈ cats) (h16 : k ≤ 16) :
    (catFreq cats)[k]?.getD 0 ≠ 0 := by
  rw [catFreq_getD, if_pos (by omega)]
  exact Nat.ne_of_gt (List.count_pos_iff.mpr hk)

/-- L6 in the vocabulary of L5, for any alphabet (the counts are non-negative, which `Int.toNat` would forget) -/
theorem optimal_table_valid_nonneg (f : List Nat) (hlen : f.length = 256) :
    ∃ bits values, buildOptimal f = .ok (bits, values) ∧ (∀ x ∈ bits, 0 ≤ x) ∧
      ValidTable (bits.map Int.toNat) values.toArray = true ∧
      KraftStrict (bits.map Int.toNat) = true ∧
      (∀ i, i ∈ values ↔ i < 256 ∧ f[i]?.getD 0 ≠ 0) := by
  obtain ⟨bits, values, hb, h16, hnn, hsum, hnd, hmem, hk⟩ := buildOptimal_valid f hlen
  have hkr : kraft (bits.map Int.toNat) 0 < 65536 := by
    have := kraft_bridge bits hnn
    omega
  refine ⟨bits, values, hb, hnn, ?_, by simpa [KraftStrict] using hkr, hmem⟩
  simp only [ValidTable, Bool.and_eq_true, beq_iff_eq, decide_eq_true_eq, List.length_map,
    List.all_eq_true, List.size_toArray]
  exact ⟨⟨⟨⟨h16, hsum⟩, by simpa using hnd⟩, fun v hv => ((hmem v).mp (by simpa using hv)).1⟩, by omega⟩

theorem optimal_table_emitted (sv1 : Bool) (P predictor w h nc : Nat) (s : Planes) :
    ∃ bits values, buildOptimal (catFreq (emittedCats sv1 P predictor w h nc s)) = .ok (bits, values) ∧
      (∀ x ∈ bits, 0 ≤ x) ∧ ValidTable (bits.map Int.toNat) values.toArray = true ∧
      KraftStrict (bits.map Int.toNat) = true ∧ values.length ≤ 17 ∧
      ∀ k ∈ emittedCats sv1 P predictor w h nc s, k ∈ values.toArray.toList := by
  have hle := emittedCats_le sv1 P predictor w h nc s
  have hlf := catFreq_lossless _ hle
  obtain ⟨bits, values, hb, hnn, hv, hks, hmem⟩ := optimal_table_valid_nonneg _ hlf.1
  refine ⟨bits, values, hb, hnn, hv, hks, (buildOptimal_lossless_values _ hlf bits values hb).2, fun k hk => ?_⟩
  have h16 := hle k hk
  simpa using (hmem k).mpr ⟨by omega, catFreq_mem _ k hk h16⟩

end JLL
