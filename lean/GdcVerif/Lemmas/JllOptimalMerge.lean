import GdcVerif.Model.OptimalHuffman
import GdcVerif.Lemmas.JpegLossless
import GdcVerif.Lemmas.Basics
/-!
  L6, the merge loop of `BuildOptimalHuffmanTable` (T.81 Annex K.2).  `mergeLoop_spec`: for ANY 256
  frequencies the loop returns normally and leaves one `others` chain (`Merged`) whose code sizes are
  bounded by the number of merges and satisfy the Kraft equality.  The invariant `Inv` (disjoint
  duplicate-free chains, one `Tree` per live index) is kept by merging the two lightest live indices:
  `merge_walks` runs the three chain walks of one merge, `Inv.merge` is their effect on the invariant.
  Safety needs the chains, the Kraft sum and the merge count only; the Fibonacci fields (`Tree.fibW`,
  `Inv.fibM`, `Inv.tot`, with the minimality hypotheses `hm1`, `hm2` of `Inv.merge`) ride along in the same
  invariant, so that one step lemma serves, and are read only by the depth bound `depth_fib` (JllOptimalGen).
  The Kraft equality is stated at a budget `K` (`2 ^ (K - size)` stays a natural number for `K` at least the
  number of merges); whoever reads it takes `K = 256`, the size of the work array, which `kw` in
  JllOptimalBits has built in.
-/
namespace JLL.Opt

theorem smallestGo_spec (excluded : Int) : ∀ (l : List Nat) (i : Nat) (symbol : Int) (smallest : Nat),
    (smallestGo excluded l i symbol smallest = symbol ∧
      ∀ p ∈ l.zipIdx i, p.1 ≠ 0 → (p.2 : Int) ≠ excluded → 0 ≤ symbol ∧ smallest < p.1) ∨
    (∃ q ∈ l.zipIdx i, smallestGo excluded l i symbol smallest = (q.2 : Int) ∧
      q.1 ≠ 0 ∧ (q.2 : Int) ≠ excluded ∧ (0 ≤ symbol → q.1 ≤ smallest) ∧
      ∀ p ∈ l.zipIdx i, p.1 ≠ 0 → (p.2 : Int) ≠ excluded → q.1 ≤ p.1)
  | [], _, _, _ => by simp [smallestGo]
  | v :: rest, i, symbol, smallest => by
    rw [smallestGo]
    simp only [List.zipIdx_cons, List.mem_cons, forall_eq_or_imp, exists_eq_or_imp]
    split
    · next hc =>
      right
      rcases smallestGo_spec excluded rest (i + 1) i v with ⟨h1, h2⟩ | ⟨q, hq, h1, h2, h3, h4, h5⟩
      · left
        exact ⟨h1, hc.1, hc.2.1, fun hs => by omega, fun _ _ => Nat.le_refl _,
          fun p hp a b => Nat.le_of_lt (h2 p hp a b).2⟩
      · right
        have := h4 (by omega)
        exact ⟨q, hq, h1, h2, h3, fun hs => by omega, fun _ _ => this, h5⟩
    · next hc =>
      have hv : v ≠ 0 → (i : Int) ≠ excluded → 0 ≤ symbol ∧ smallest < v := by
        intro a b
        apply Classical.byContradiction
        intro hn
        exact hc ⟨a, b, by omega⟩
      rcases smallestGo_spec excluded rest (i + 1) symbol smallest with ⟨h1, h2⟩ | ⟨q, hq, h1, h2, h3, h4, h5⟩
      · left
        exact ⟨h1, hv, h2⟩
      · right; right
        refine ⟨q, hq, h1, h2, h3, h4, fun a b => ?_, h5⟩
        have := hv a b
        have := h4 this.1
        omega

def live (freq : Array Nat) (i : Nat) : Prop := freq[i]?.getD 0 ≠ 0

theorem live_lt {freq : Array Nat} {i : Nat} (h : live freq i) : i < freq.size := by
  apply Classical.byContradiction
  intro hn
  exact h (by rw [Array.getElem?_eq_none (by omega)]; rfl)

theorem sfs_cases (freq : Array Nat) (excluded : Int) :
    (smallestFrequencySymbol freq excluded = -1 ∧ ∀ j, live freq j → (j : Int) = excluded) ∨
    ∃ j : Nat, smallestFrequencySymbol freq excluded = (j : Int) ∧ live freq j ∧ (j : Int) ≠ excluded ∧
      ∀ i, live freq i → (i : Int) ≠ excluded → freq[j]?.getD 0 ≤ freq[i]?.getD 0 := by
  have hget : ∀ p ∈ freq.toList.zipIdx, freq[p.2]?.getD 0 = p.1 := by
    intro p hp
    rw [List.mem_zipIdx_iff_getElem?, Array.getElem?_toList] at hp
    rw [hp]
    rfl
  have hmem : ∀ i, live freq i → (freq[i]?.getD 0, i) ∈ freq.toList.zipIdx := by
    intro i hi
    have := live_lt hi
    rw [List.mk_mem_zipIdx_iff_getElem?, Array.getElem?_toList]
    simp [this]
  unfold smallestFrequencySymbol
  rcases smallestGo_spec excluded freq.toList 0 (-1) 0 with ⟨h1, h2⟩ | ⟨q, hq, h1, h2, h3, _, h5⟩
  · left
    refine ⟨h1, fun j hj => Classical.byContradiction fun hne => ?_⟩
    have := (h2 _ (hmem j hj) hj hne).1
    omega
  · right
    have hq' := hget q hq
    refine ⟨q.2, h1, by unfold live; rw [hq']; exact h2, h3, fun i hi hne => ?_⟩
    rw [hq']
    exact h5 _ (hmem i hi) hi hne

/-- walking the `others` links from pointer `s` visits exactly the indices `l`, then reaches a
    negative link -/
def IsChain (o : Array Int) : Int → List Nat → Prop
  | s, [] => s < 0
  | s, a :: l => s = (a : Int) ∧ ∃ nxt, o[a]? = some nxt ∧ IsChain o nxt l

theorem IsChain.mem_lt {o : Array Int} : ∀ {l : List Nat} {s : Int}, IsChain o s l → ∀ a ∈ l, a < o.size
  | b :: l, _, ⟨_, _, h2, h3⟩, a, ha => by
    rcases List.mem_cons.1 ha with rfl | ha
    · exact (Array.getElem?_eq_some_iff.1 h2).1
    · exact h3.mem_lt a ha

theorem IsChain.frame {o : Array Int} (x : Nat) (v : Int) :
    ∀ {l : List Nat} {s : Int}, IsChain o s l → x ∉ l → IsChain (o.setIfInBounds x v) s l
  | [], _, h, _ => h
  | b :: l, s, ⟨h1, nxt, h2, h3⟩, hx => by
    rw [List.mem_cons, not_or] at hx
    exact ⟨h1, nxt, by rwa [Array.getElem?_setIfInBounds_ne hx.1], h3.frame x v hx.2⟩

theorem IsChain.append {o : Array Int} (v : Nat) (l2 : List Nat) :
    ∀ {l : List Nat} {s : Int} (hne : l ≠ []), IsChain o s l → l.Nodup →
      IsChain (o.setIfInBounds (l.getLast hne) v) v l2 →
      IsChain (o.setIfInBounds (l.getLast hne) v) s (l ++ l2)
  | [], _, hne, _, _, _ => absurd rfl hne
  | [b], s, _, ⟨h1, _, h3, _⟩, _, h2 => by
    have hb : b < o.size := (Array.getElem?_eq_some_iff.1 h3).1
    exact ⟨h1, (v : Int), by simp [hb], h2⟩
  | b :: c :: l, s, _, ⟨h1, nxt, h3, h4⟩, hnd, h2 => by
    rw [List.nodup_cons] at hnd
    rw [List.getLast_cons (by simp)] at h2 ⊢
    refine ⟨h1, nxt, ?_, IsChain.append v l2 (by simp) h4 hnd.2 h2⟩
    rwa [Array.getElem?_setIfInBounds_ne]
    intro e
    exact hnd.1 (e ▸ List.getLast_mem _)

theorem IsChain.head {o : Array Int} {s : Nat} : ∀ {l : List Nat}, IsChain o (s : Int) l → ∃ t, l = s :: t
  | [], h => absurd h (by simp [IsChain])
  | a :: t, ⟨h1, _⟩ => ⟨t, by rw [Int.natCast_inj.1 h1]⟩

theorem incrementCodeSize_ok (o : Array Int) :
    ∀ (l : List Nat) (fuel : Nat) (cs : Array Nat) (s : Int), IsChain o s l → l.length < fuel →
      cs.size = o.size →
      ∃ cs', incrementCodeSize o fuel cs s = .ok cs' ∧ cs'.size = cs.size ∧
        ∀ a, cs'[a]?.getD 0 = cs[a]?.getD 0 + l.count a
  | _, 0, _, _, _, hf, _ => by omega
  | [], fuel + 1, cs, s, h, _, _ => by
    refine ⟨cs, ?_, rfl, by simp⟩
    rw [incrementCodeSize, if_neg (Int.not_le.2 h)]
  | b :: l, fuel + 1, cs, s, h, hf, hsz => by
    have hb : b < cs.size := hsz ▸ h.mem_lt b (by simp)
    obtain ⟨rfl, nxt, h2, h3⟩ := h
    have ⟨cs', e1, e2, e3⟩ := incrementCodeSize_ok o l fuel (cs.setIfInBounds b (cs[b] + 1)) nxt h3
      (by simpa using hf) (by simpa using hsz)
    refine ⟨cs', ?_, by simpa using e2, fun a => ?_⟩
    · rw [incrementCodeSize, if_pos (by omega)]
      simpa [h2, hb] using e1
    · rw [e3 a, Array.getElem?_setIfInBounds, List.count_cons]
      by_cases hab : b = a
      · subst hab
        simp [hb]
        omega
      · simp [hab]

theorem lastBranchSymbol_ok (o : Array Int) :
    ∀ (l : List Nat) (fuel : Nat) (s : Int) (hne : l ≠ []), IsChain o s l → l.length ≤ fuel →
      lastBranchSymbol o fuel s = .ok (l.getLast hne)
  | [], _, _, hne, _, _ => absurd rfl hne
  | _ :: _, 0, _, _, _, hf => by simp at hf
  | [b], fuel + 1, s, _, ⟨h1, nxt, h2, h3⟩, _ => by
    subst h1
    have : ¬ nxt ≥ 0 := Int.not_le.2 h3
    simp [lastBranchSymbol, h2, this]
  | b :: c :: l, fuel + 1, s, _, ⟨h1, nxt, h2, h3⟩, hf => by
    subst h1
    have ih := lastBranchSymbol_ok o (c :: l) fuel nxt (by simp) h3 (by simpa using hf)
    have hn : nxt ≥ 0 := by rw [h3.1]; omega
    have hb : ¬ (b : Int) < 0 := by omega
    simpa [lastBranchSymbol, h2, hn, hb] using ih

/-- the three chain walks of one merge: every member of either chain gets one more bit, and the second
    chain is hung onto the end of the first -/
theorem merge_walks {o : Array Int} {cs : Array Nat} {c1 c2 : Nat} {l1 l2 : List Nat}
    (w1 : IsChain o (c1 : Int) l1) (w2 : IsChain o (c2 : Int) l2) (hnd : (l1 ++ l2).Nodup)
    (hO : o.size = 257) (hC : cs.size = 257) :
    ∃ cs1 cs2 last, incrementCodeSize o 258 cs (c1 : Int) = .ok cs1 ∧
      lastBranchSymbol o 258 (c1 : Int) = .ok last ∧
      incrementCodeSize (o.setIfInBounds last (c2 : Int)) 258 cs1 (c2 : Int) = .ok cs2 ∧
      last ∈ l1 ∧ cs2.size = 257 ∧ IsChain (o.setIfInBounds last (c2 : Int)) (c1 : Int) (l1 ++ l2) ∧
      ∀ a, cs2[a]?.getD 0 = cs[a]?.getD 0 + if a ∈ l1 ++ l2 then 1 else 0 := by
  obtain ⟨n1, n2, hd⟩ := List.nodup_append.1 hnd
  have hne : l1 ≠ [] := by
    obtain ⟨t, e⟩ := w1.head
    simp [e]
  have hl1 := hO ▸ n1.length_le_of_forall_lt w1.mem_lt
  have hl2 := hO ▸ n2.length_le_of_forall_lt w2.mem_lt
  obtain ⟨cs1, e1, s1, v1⟩ := incrementCodeSize_ok o l1 258 cs c1 w1 (by omega) (by rw [hC, hO])
  have hlast : l1.getLast hne ∈ l1 := List.getLast_mem _
  have w2' := w2.frame (l1.getLast hne) (c2 : Int) fun hx => hd _ hlast _ hx rfl
  obtain ⟨cs2, e3, s2, v2⟩ := incrementCodeSize_ok _ l2 258 cs1 c2 w2' (by omega)
    (by rw [s1, hC, Array.size_setIfInBounds, hO])
  exact ⟨cs1, cs2, _, e1, lastBranchSymbol_ok o l1 258 c1 hne w1 (by omega), e3, hlast, by rw [s2, s1, hC],
    IsChain.append c2 l2 hne w1 n1 w2', fun a => by rw [v2, v1, Nat.add_assoc, ← List.count_append, hnd.count]⟩

def nz (freq : Array Nat) : Nat := freq.toList.countP (fun x => x != 0)

theorem nz_pos_of_live {freq : Array Nat} {i : Nat} (h : live freq i) : 0 < nz freq := by
  have hi := live_lt h
  refine List.countP_pos_iff.2 ⟨freq[i], by simp, ?_⟩
  simpa [live, hi] using h

theorem nz_set (freq : Array Nat) (i v : Nat) (hi : i < freq.size) :
    nz (freq.setIfInBounds i v) + (if freq[i]?.getD 0 ≠ 0 then 1 else 0)
      = nz freq + (if v ≠ 0 then 1 else 0) := by
  have hpos : freq[i]?.getD 0 ≠ 0 → 0 < nz freq := nz_pos_of_live
  unfold nz at hpos ⊢
  rw [Array.toList_setIfInBounds, List.countP_set (by simpa using hi)]
  simp only [Array.getElem_toList, bne_iff_ne, ne_eq, Array.getElem?_eq_getElem hi, Option.getD_some] at hpos ⊢
  split <;> split <;> omega

/-- `freq[c1] += freq[c2]; freq[c2] = 0`.  Irreducible: to match `mergeFreq ..` with the `.freq` of a
    structure literal that holds it, the unifier would unfold `mergeFreq` first, down to the bound checks
    (some 200k heartbeats each time). -/
@[irreducible] def mergeFreq (freq : Array Nat) (c1 c2 : Nat) : Array Nat :=
  (freq.setIfInBounds c1 (freq[c1]?.getD 0 + freq[c2]?.getD 0)).setIfInBounds c2 0

theorem mergeFreq_get {freq : Array Nat} {c1 c2 : Nat} (h1 : live freq c1) (h2 : live freq c2) (j : Nat) :
    (mergeFreq freq c1 c2)[j]?.getD 0 =
    if j = c2 then 0 else if j = c1 then freq[c1]?.getD 0 + freq[c2]?.getD 0 else freq[j]?.getD 0 := by
  have hF1 := live_lt h1
  have hF2 := live_lt h2
  unfold mergeFreq
  rw [Array.getElem?_setIfInBounds, Array.getElem?_setIfInBounds]
  by_cases hj2 : c2 = j
  · simp [← hj2, hF2]
  · by_cases hj1 : c1 = j
    · subst hj1
      simp [hj2, Ne.symm hj2, hF1]
    · simp [hj1, hj2, Ne.symm hj1, Ne.symm hj2]

theorem live_mergeFreq {freq : Array Nat} {c1 c2 : Nat} (h1 : live freq c1) (h2 : live freq c2)
    (hne : c1 ≠ c2) (i : Nat) : live (mergeFreq freq c1 c2) i ↔ i ≠ c2 ∧ live freq i := by
  unfold live at h1 h2 ⊢
  rw [mergeFreq_get h1 h2]
  by_cases hi2 : i = c2
  · simp [hi2]
  · by_cases hi1 : i = c1
    · simp only [hi1, if_neg hne, if_true]
      exact ⟨fun _ => ⟨hne, h1⟩, fun _ => by omega⟩
    · simp [hi1, hi2]

theorem nz_mergeFreq {freq : Array Nat} {c1 c2 : Nat} (h1 : live freq c1) (h2 : live freq c2)
    (hne : c1 ≠ c2) : nz (mergeFreq freq c1 c2) + 1 = nz freq := by
  have a1 := nz_set freq c1 (freq[c1]?.getD 0 + freq[c2]?.getD 0) (live_lt h1)
  have a2 := nz_set (freq.setIfInBounds c1 (freq[c1]?.getD 0 + freq[c2]?.getD 0)) c2 0
    (by simpa using live_lt h2)
  rw [Array.getElem?_setIfInBounds_ne hne] at a2
  unfold live at h1 h2
  rw [if_pos h1, if_pos (by omega)] at a1
  rw [if_pos h2, if_neg (by simp)] at a2
  unfold mergeFreq
  omega

theorem sum_mergeFreq {freq : Array Nat} {c1 c2 : Nat} (h1 : live freq c1) (h2 : live freq c2)
    (hne : c1 ≠ c2) : (mergeFreq freq c1 c2).toList.sum = freq.toList.sum := by
  have s1 := List.sum_set_nat freq.toList c1 (freq[c1]?.getD 0 + freq[c2]?.getD 0) (by simpa using live_lt h1)
  have s2 := List.sum_set_nat (freq.toList.set c1 (freq[c1]?.getD 0 + freq[c2]?.getD 0)) c2 0
    (by simpa using live_lt h2)
  rw [List.getElem?_set_ne hne] at s2
  rw [Array.getElem?_toList] at s1 s2
  unfold mergeFreq
  rw [Array.toList_setIfInBounds, Array.toList_setIfInBounds]
  omega

def fib : Nat → Nat
  | 0 => 0
  | 1 => 1
  | n + 2 => fib n + fib (n + 1)

theorem fib_add_two (n : Nat) : fib (n + 2) = fib n + fib (n + 1) := by rw [fib]

abbrev St.cs (st : St) (a : Nat) : Nat := st.codeSize[a]?.getD 0
abbrev St.w (st : St) (i : Nat) : Nat := st.freq[i]?.getD 0

/-- the `others` chain `l` of a live index `i` holds the leaves of one subtree -/
structure Tree (K : Nat) (st : St) (i : Nat) (l : List Nat) : Prop where
  walk : IsChain st.others (i : Int) l
  nodup : l.Nodup
  kraft : (l.map fun a => 2 ^ (K - st.cs a)).sum = 2 ^ K
  fibW : ∀ a ∈ l, fib (st.cs a + 2) ≤ st.w i

theorem Tree.frame {K : Nat} {st st' : St} {i : Nat} {l : List Nat} (t : Tree K st i l)
    (ho : IsChain st'.others (i : Int) l) (hcs : ∀ a ∈ l, st'.cs a = st.cs a) (hw : st'.w i = st.w i) :
    Tree K st' i l where
  walk := ho
  nodup := t.nodup
  kraft := by
    rw [← t.kraft]
    exact congrArg List.sum (List.map_congr_left fun a ha => by rw [hcs a ha])
  fibW := fun a ha => by rw [hcs a ha, hw]; exact t.fibW a ha

theorem Tree.merge {K : Nat} {st st' : St} {c1 c2 : Nat} {l1 l2 : List Nat}
    (t1 : Tree K st c1 l1) (t2 : Tree K st c2 l2) (hnd : (l1 ++ l2).Nodup)
    (ho : IsChain st'.others (c1 : Int) (l1 ++ l2))
    (hcs : ∀ a ∈ l1 ++ l2, st'.cs a = st.cs a + 1) (hK : ∀ a, st.cs a + 1 ≤ K)
    (hw : st'.w c1 = st.w c1 + st.w c2)
    (hM1 : ∀ a, fib (st.cs a + 1) ≤ st.w c1) (hM2 : ∀ a, fib (st.cs a + 1) ≤ st.w c2) :
    Tree K st' c1 (l1 ++ l2) where
  walk := ho
  nodup := hnd
  kraft := by
    -- every term halves, and the two old sums were `2 ^ K` each
    have := List.mul_sum_map 2 (fun a => 2 ^ (K - st.cs a)) (fun a => 2 ^ (K - st'.cs a)) (l1 ++ l2)
      (fun a ha => by
        have := hK a
        rw [hcs a ha, show K - st.cs a = (K - (st.cs a + 1)) + 1 by omega, Nat.pow_succ]
        omega)
    simp only [List.map_append, List.sum_append] at this ⊢
    rw [t1.kraft, t2.kraft] at this
    omega
  fibW := fun a ha => by
    -- `fib (d + 3) = fib (d + 1) + fib (d + 2)`: one summand from each part
    rw [hcs a ha, hw, fib_add_two]
    rcases List.mem_append.1 ha with ha | ha
    · exact Nat.add_comm _ _ ▸ Nat.add_le_add (t1.fibW a ha) (hM2 a)
    · exact Nat.add_le_add (hM1 a) (t2.fibW a ha)

/-- invariant of the merge loop: `ch i` is the `others` chain of the live index `i`; `k` merges have
    been performed; `P` = the initially live indices, `N` their number, `T` their total weight; `K`
    a code-length budget.  `fibM`: the larger part of the merge that put a leaf at depth `d ≥ 1` is
    at least `fib (d + 1)`, and merge weights only grow. -/
structure Inv (P : Nat → Prop) (N K T : Nat) (st : St) (ch : Nat → List Nat) (k : Nat) : Prop where
  szC : st.codeSize.size = 257
  szO : st.others.size = 257
  tree : ∀ i, live st.freq i → Tree K st i (ch i)
  disj : ∀ i j, live st.freq i → live st.freq j → i ≠ j → ∀ a, a ∈ ch i → a ∉ ch j
  forest : ∀ a, (∃ i, live st.freq i ∧ a ∈ ch i) ↔ P a
  cover : ∀ a, st.cs a ≠ 0 → P a
  cnt : nz st.freq + k = N
  csle : ∀ a, st.cs a ≤ k
  tot : st.freq.toList.sum = T
  fibM : ∀ a j, live st.freq j → fib (st.cs a + 1) ≤ st.w j

/-- merging the two lightest live indices keeps the invariant: about any state `st'` that holds what
    `mergeFreq` and the walks of `merge_walks` leave -/
theorem Inv.merge {P N K T st ch k} (h : Inv P N K T st ch k) (hK : N ≤ K + 1) {c1 c2 : Nat}
    (h1 : live st.freq c1) (h2 : live st.freq c2) (hne : c1 ≠ c2)
    (hm1 : ∀ j, live st.freq j → st.w c1 ≤ st.w j)
    (hm2 : ∀ j, live st.freq j → j ≠ c1 → st.w c2 ≤ st.w j)
    (hnd : (ch c1 ++ ch c2).Nodup) {st' : St} {last : Nat} (hlast : last ∈ ch c1)
    (hf : st'.freq = mergeFreq st.freq c1 c2) (ho : st'.others = st.others.setIfInBounds last (c2 : Int))
    (hC : st'.codeSize.size = 257) (w12 : IsChain st'.others (c1 : Int) (ch c1 ++ ch c2))
    (hcs : ∀ a, st'.cs a = st.cs a + if a ∈ ch c1 ++ ch c2 then 1 else 0) :
    Inv P N K T st' (fun i => if i = c1 then ch c1 ++ ch c2 else ch i) (k + 1) := by
  have t1 := h.tree c1 h1
  have t2 := h.tree c2 h2
  have hcs_in : ∀ a ∈ ch c1 ++ ch c2, st'.cs a = st.cs a + 1 := fun a ha => by rw [hcs, if_pos ha]
  have hcs_out : ∀ a, a ∉ ch c1 ++ ch c2 → st'.cs a = st.cs a := fun a ha => by rw [hcs, if_neg ha, Nat.add_zero]
  have hw : ∀ j, st'.w j = if j = c2 then 0 else if j = c1 then st.w c1 + st.w c2 else st.w j := fun j => by
    unfold St.w
    rw [hf]
    exact mergeFreq_get h1 h2 j
  have hlive : ∀ i, live st'.freq i ↔ i ≠ c2 ∧ live st.freq i := hf ▸ live_mergeFreq h1 h2 hne
  have hlive1 : live st'.freq c1 := (hlive c1).2 ⟨hne, h1⟩
  have hnz : nz st'.freq + 1 = nz st.freq := hf ▸ nz_mergeFreq h1 h2 hne
  have hk : k + 1 ≤ K := by
    have := nz_pos_of_live hlive1
    have := h.cnt
    omega
  have hmem : ∀ i a, a ∈ (if i = c1 then ch c1 ++ ch c2 else ch i) ↔ a ∈ ch i ∨ i = c1 ∧ a ∈ ch c2 := by
    intro i a
    by_cases hi1 : i = c1
    · simp [hi1]
    · simp [hi1]
  exact
    { szC := hC
      szO := by rw [ho, Array.size_setIfInBounds, h.szO]
      tree := by
        intro i hi
        have ⟨hi2, hi'⟩ := (hlive i).1 hi
        by_cases hi1 : i = c1
        · subst hi1
          rw [if_pos rfl]
          exact t1.merge t2 hnd w12 hcs_in (fun a => by have := h.csle a; omega)
            (by rw [hw i, if_neg hi2, if_pos rfl]) (fun a => h.fibM a i h1) (fun a => h.fibM a c2 h2)
        · rw [if_neg hi1]
          have hn : ∀ a ∈ ch i, a ∉ ch c1 ++ ch c2 := fun a ha hx =>
            (List.mem_append.1 hx).elim (fun hx => h.disj c1 i h1 hi' (Ne.symm hi1) a hx ha)
              (fun hx => h.disj c2 i h2 hi' (Ne.symm hi2) a hx ha)
          exact (h.tree i hi').frame
            (ho ▸ (h.tree i hi').walk.frame _ _ fun hx => hn _ hx (List.mem_append_left _ hlast))
            (fun a ha => hcs_out a (hn a ha)) (by rw [hw i, if_neg hi2, if_neg hi1])
      disj := by
        intro i j hi hj hij a
        have ⟨hi2, hi'⟩ := (hlive i).1 hi
        have ⟨hj2, hj'⟩ := (hlive j).1 hj
        rw [hmem i, hmem j]
        rintro (ha | ⟨rfl, ha⟩) (hb | ⟨rfl, hb⟩)
        · exact h.disj i j hi' hj' hij a ha hb
        · exact h.disj i c2 hi' h2 hi2 a ha hb
        · exact h.disj c2 j h2 hj' (Ne.symm hj2) a ha hb
        · exact hij rfl
      forest := by
        intro a
        rw [← h.forest a]
        constructor
        · rintro ⟨i, hi, ha⟩
          rcases (hmem i a).1 ha with ha | ⟨_, ha⟩
          · exact ⟨i, ((hlive i).1 hi).2, ha⟩
          · exact ⟨c2, h2, ha⟩
        · rintro ⟨i, hi, ha⟩
          by_cases hi2 : i = c2
          · exact ⟨c1, hlive1, (hmem c1 a).2 (Or.inr ⟨rfl, hi2 ▸ ha⟩)⟩
          · exact ⟨i, (hlive i).2 ⟨hi2, hi⟩, (hmem i a).2 (Or.inl ha)⟩
      cover := by
        intro a ha
        by_cases hin : a ∈ ch c1 ++ ch c2
        · rcases List.mem_append.1 hin with hin | hin
          · exact (h.forest a).1 ⟨c1, h1, hin⟩
          · exact (h.forest a).1 ⟨c2, h2, hin⟩
        · exact h.cover a (hcs_out a hin ▸ ha)
      cnt := by
        have := h.cnt
        omega
      csle := by
        intro a
        have := h.csle a
        rw [hcs]
        split <;> omega
      tot := by
        rw [hf]
        exact (sum_mergeFreq h1 h2 hne).trans h.tot
      fibM := by
        -- every live weight is now at least that of `c2`, the second lightest, and a deepened leaf
        -- had `fib (d + 2)` below it
        intro a j hj
        have ⟨hj2, hj'⟩ := (hlive j).1 hj
        have hmin : st.w c2 ≤ st'.w j := by
          rw [hw j, if_neg hj2]
          split
          · exact Nat.le_add_left _ _
          · next hj1 => exact hm2 j hj' hj1
        refine Nat.le_trans ?_ hmin
        by_cases hin : a ∈ ch c1 ++ ch c2
        · rw [hcs_in a hin]
          rcases List.mem_append.1 hin with ha | ha
          · exact Nat.le_trans (t1.fibW a ha) (hm1 c2 h2)
          · exact t2.fibW a ha
        · rw [hcs_out a hin]
          exact h.fibM a c2 h2 }

theorem mergeLoop_ok {P : Nat → Prop} {N K T : Nat} (hK : N ≤ K + 1) :
    ∀ (fuel : Nat) (st : St) (ch : Nat → List Nat) (k : Nat),
    Inv P N K T st ch k → (∃ i, live st.freq i) → nz st.freq ≤ fuel →
    ∃ st' ch' k' c, mergeLoop fuel st = .ok st' ∧ Inv P N K T st' ch' k' ∧
      live st'.freq c ∧ ∀ j, live st'.freq j → j = c
  | 0, st, _, _, _, ⟨i, hi⟩, hf => by
    have := nz_pos_of_live hi
    omega
  | fuel + 1, st, ch, k, h, ⟨i, hi⟩, hf => by
    rcases sfs_cases st.freq (-1) with ⟨_, hall⟩ | ⟨j1, e1, l1, _, m1⟩
    · have := hall i hi
      omega
    rcases sfs_cases st.freq (j1 : Int) with ⟨e2, hall⟩ | ⟨j2, e2, l2, n2, m2⟩
    · refine ⟨st, ch, k, j1, ?_, h, l1, fun j hj => Int.natCast_inj.1 (hall j hj)⟩
      rw [mergeLoop]
      simp [e1, e2]
    · have hne : j1 ≠ j2 := fun e => n2 (by rw [e])
      have t1 := h.tree j1 l1
      have t2 := h.tree j2 l2
      have hnd : (ch j1 ++ ch j2).Nodup :=
        List.nodup_append.2 ⟨t1.nodup, t2.nodup, fun a ha b hb e => h.disj j1 j2 l1 l2 hne a ha (e ▸ hb)⟩
      obtain ⟨cs1, cs2, last, a1, a2, a3, hlast, s2, w12, hcs⟩ := merge_walks t1.walk t2.walk hnd h.szO h.szC
      have hinv := h.merge hK l1 l2 hne (fun j hj => m1 j hj (by omega)) (fun j hj hjn => m2 j hj (by omega)) hnd
        hlast (st' := ⟨mergeFreq st.freq j1 j2, cs2, st.others.setIfInBounds last j2⟩) rfl rfl s2 w12 hcs
      have hnz : nz (mergeFreq st.freq j1 j2) ≤ fuel := by
        have := nz_mergeFreq l1 l2 hne
        omega
      obtain ⟨st', ch', k', c, r1, r2, r3⟩ := mergeLoop_ok hK fuel _ _ _ hinv
        ⟨j1, (live_mergeFreq l1 l2 hne j1).2 ⟨hne, l1⟩⟩ hnz
      refine ⟨st', ch', k', c, ?_, r2, r3⟩
      have g1 := Array.getElem?_eq_getElem (live_lt l1)
      have g2 := Array.getElem?_eq_getElem (live_lt l2)
      rw [mergeLoop]
      simp only [e1, e2, Int.toNat_natCast, g1, g2]
      rw [if_neg (by omega), if_neg (by omega)]
      simp only [a1, a2, a3, Outcome.ok_bind]
      simpa [mergeFreq, g1, g2] using r1

def st0 (f : List Nat) : St :=
  { freq := (f ++ [1]).toArray, codeSize := Array.replicate 257 0, others := Array.replicate 257 (-1) }

theorem st0_cs (f : List Nat) (a : Nat) : (st0 f).cs a = 0 := by
  unfold St.cs st0
  simp only [Array.getElem?_replicate]
  split <;> rfl

theorem live_st0_iff (f : List Nat) (hlen : f.length = 256) (i : Nat) :
    live (st0 f).freq i ↔ (i < 256 ∧ f[i]?.getD 0 ≠ 0) ∨ i = 256 := by
  unfold live st0
  simp only [List.getElem?_toArray, List.getElem?_append]
  by_cases hi : i < 256
  · simp [hlen, hi, Nat.ne_of_lt hi]
  · by_cases h2 : i = 256
    · simp [hlen, h2]
    · have e : ([1] : List Nat)[i - 256]? = none := by
        simp; omega
      simp [hlen, hi, h2, e]

theorem nz_st0 (f : List Nat) : nz (st0 f).freq = f.countP (fun x => x != 0) + 1 := by
  simp [nz, st0, List.countP_append]

theorem inv_st0 (f : List Nat) (hlen : f.length = 256) (K : Nat) :
    Inv (live (st0 f).freq) (nz (st0 f).freq) K (f.sum + 1) (st0 f) (fun i => [i]) 0 := by
  have hw : ∀ j, live (st0 f).freq j → 1 ≤ (st0 f).w j := fun j hj => Nat.pos_of_ne_zero hj
  refine
    { szC := by simp [st0], szO := by simp [st0],
      tree := fun i hi => ?_, disj := ?_, forest := fun a => ⟨?_, fun ha => ⟨a, ha, by simp⟩⟩,
      cover := fun a ha => absurd (st0_cs f a) ha, cnt := rfl,
      csle := fun a => Nat.le_of_eq (st0_cs f a), tot := by simp [st0],
      fibM := fun a j hj => by rw [st0_cs]; exact hw j hj }
  · have : i < 257 := by simpa [st0, hlen] using live_lt hi
    exact
      { walk := ⟨rfl, -1, by simp [st0, this], by simp [IsChain]⟩
        nodup := by simp
        kraft := by simp [st0_cs]
        fibW := fun a ha => by
          rw [List.mem_singleton.1 ha, st0_cs]
          exact hw i hi }
  · intro i j _ _ hij a ha hb
    simp at ha hb
    omega
  · rintro ⟨i, hi, ha⟩
    rwa [List.mem_singleton.1 ha]

/-- the single chain the merge loop leaves behind: the pseudo-symbol and the symbols that occur -/
structure Merged (f : List Nat) (K : Nat) (st : St) (chain : List Nat) : Prop where
  szC : st.codeSize.size = 257
  nodup : chain.Nodup
  mem : ∀ a, a ∈ chain ↔ (a < 256 ∧ f[a]?.getD 0 ≠ 0) ∨ a = 256
  cover : ∀ a, st.cs a ≠ 0 → a ∈ chain
  csle : ∀ a, st.cs a ≤ f.countP (fun x => x != 0)
  kraft : (chain.map fun a => 2 ^ (K - st.cs a)).sum = 2 ^ K
  fibW : ∀ a, fib (st.cs a + 2) ≤ f.sum + 1

theorem mergeLoop_spec (f : List Nat) (hlen : f.length = 256) (K : Nat)
    (hK : f.countP (fun x => x != 0) ≤ K) :
    ∃ st chain, mergeLoop 258 (st0 f) = .ok st ∧ Merged f K st chain := by
  have h256 : live (st0 f).freq 256 := (live_st0_iff f hlen 256).2 (Or.inr rfl)
  have hN := nz_st0 f
  have : f.countP (fun x => x != 0) ≤ f.length := List.countP_le_length
  obtain ⟨st, ch, k, c, run, h, hc, hall⟩ :=
    mergeLoop_ok (K := K) (by omega) 258 (st0 f) _ 0 (inv_st0 f hlen K) ⟨256, h256⟩ (by omega)
  have t := h.tree c hc
  have hmem : ∀ a, a ∈ ch c ↔ live (st0 f).freq a := fun a =>
    ⟨fun ha => (h.forest a).1 ⟨c, hc, ha⟩, fun ha => by
      obtain ⟨j, hj, hm⟩ := (h.forest a).2 ha
      exact hall j hj ▸ hm⟩
  have hcover : ∀ a, st.cs a ≠ 0 → a ∈ ch c := fun a ha => (hmem a).2 (h.cover a ha)
  refine ⟨st, ch c, run, h.szC, t.nodup, fun a => (hmem a).trans (live_st0_iff f hlen a), hcover, ?_,
    t.kraft, ?_⟩
  · intro a
    have := h.csle a
    have := h.cnt
    have := nz_pos_of_live hc
    omega
  · intro a
    have hT : st.w c ≤ f.sum + 1 := by
      have := List.sum_set_nat st.freq.toList c 0 (by simpa using live_lt hc)
      rw [Array.getElem?_toList, h.tot] at this
      show st.freq[c]?.getD 0 ≤ f.sum + 1
      omega
    by_cases ha : st.cs a = 0
    · rw [ha]
      exact Nat.le_add_left 1 _
    · exact Nat.le_trans (t.fibW a (hcover a ha)) hT

/-- a leaf of depth 0 weighs the whole budget, so by the Kraft equality it is the only one -/
theorem Merged.single {f K st chain} (m : Merged f K st chain) {a : Nat} (ha : a ∈ chain) (h0 : st.cs a = 0) :
    ∀ b ∈ chain, b = a := by
  intro b hb
  apply Classical.byContradiction
  intro hne
  have hs := ((List.perm_cons_erase ha).map fun a => 2 ^ (K - st.cs a)).sum_nat
  have hb' := List.le_sum_of_mem
    (List.mem_map_of_mem (f := fun a => 2 ^ (K - st.cs a)) ((List.mem_erase_of_ne hne).2 hb))
  rw [m.kraft, List.map_cons, List.sum_cons, h0, Nat.sub_zero] at hs
  have : 0 < 2 ^ (K - st.cs b) := Nat.pow_pos (by omega)
  omega

end JLL.Opt
