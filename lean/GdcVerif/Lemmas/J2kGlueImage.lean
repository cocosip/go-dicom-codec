import GdcVerif.Model.J2kGlueImage
import GdcVerif.Lemmas.J2kGlueTile
import GdcVerif.Lemmas.Dwt53Int32
import GdcVerif.Lemmas.Rct
import GdcVerif.Lemmas.J2kSample
/-! image level: RCT + DWT around `tile_planes_roundtrip_for` -/
namespace J2kGlue
open Dwt53 Gen.J2kColor

theorem getD_toFn {n : Nat} (v : Vector Int n) (i : Nat) : (v.toArray[i]?).getD 0 = toFn v i := by
  unfold toFn
  by_cases h : i < n
  · simp [h]
  · simp [h]

theorem toFn_vecOfPlane (W H : Nat) (f : Plane) (i : Nat) (hi : i < H * W) :
    toFn (vecOfPlane W H f) i = f (i % W) (i / W) := by
  unfold toFn vecOfPlane
  simp [hi]

theorem planeOfVec_vecOfPlane (W H : Nat) (f : Plane) (x y : Nat) (hx : x < W) (hy : y < H) :
    planeOfVec W H (vecOfPlane W H f) x y = f x y := by
  unfold planeOfVec
  simp only [hx, hy, and_self, if_true]
  rw [getD_toFn, toFn_vecOfPlane W H f _ (Radix.lt hy hx), (Radix.div_mod y hx).1, (Radix.div_mod y hx).2]

theorem vecOfPlane_congr (W H : Nat) (f g : Plane) (h : ∀ x y, x < W → y < H → f x y = g x y) :
    vecOfPlane W H f = vecOfPlane W H g := by
  apply ext_toFn
  intro i hi
  rw [toFn_vecOfPlane W H f i hi, toFn_vecOfPlane W H g i hi]
  exact h _ _ (Radix.digits hi).2.1 (Radix.digits hi).1

theorem vecOfPlane_planeOfVec (W H : Nat) (v : Vector Int (H * W)) : vecOfPlane W H (planeOfVec W H v) = v := by
  apply ext_toFn
  intro i hi
  rw [toFn_vecOfPlane W H _ i hi]
  unfold planeOfVec
  simp only [(Radix.digits hi).2.1, (Radix.digits hi).1, and_self, if_true]
  have : i / W * W + i % W = i := by rw [Nat.mul_comm]; exact Nat.div_add_mod i W
  rw [getD_toFn, this]

theorem planeOfVec_bnd (W H : Nat) (v : Vector Int (H * W)) (M : Int) (hM : 0 ≤ M) (hb : Bnd M (toFn v)) (x y : Nat) :
    -M ≤ planeOfVec W H v x y ∧ planeOfVec W H v x y ≤ M := by
  unfold planeOfVec
  split
  · rw [getD_toFn]; exact hb _
  · omega

-- 536870911 = 2^29 - 1: below it no int32 operation of the 5/3 lifting wraps (`Dwt53.levels_bnd`)
theorem forwardLevels_bnd {n : Nat} (stride : Nat) (levels : Nat) :
    ∀ (win : Window) (data dF : Vector Int n) (M : Int), WinOk n stride win → 0 ≤ M → bndL levels M ≤ 536870911 →
      Bnd M (toFn data) → forwardLevels id stride levels data win = some dF → Bnd (bndL levels M) (toFn dF) := by
  intro win data dF M hok hM0 hML hd hF
  obtain ⟨dF', h1, h2, -⟩ := levels_bnd exact32_id stride levels win data hok hM0 hML hd
  obtain rfl := Option.some.inj (h1.symm.trans hF)
  exact h2

theorem dwt_component {n : Nat} (data : Vector Int n) (width height levels : Nat) (hn : height * width ≤ n)
    {M : Int} (hM0 : 0 ≤ M) (hML : bndL levels M ≤ 536870911) (hd : Bnd M (toFn data)) :
    ∃ dF, forwardMultilevel Go.wrap32 data width height levels 0 0 = some dF ∧
      inverseMultilevel Go.wrap32 dF width height levels 0 0 = some data ∧ Bnd (bndL levels M) (toFn dF) := by
  obtain ⟨dF, h1, h2, h3⟩ := levels_bnd exact32_wrap32 width levels ((width : Int), (height : Int), 0, 0) data
    (winOk_image width height 0 0 hn) hM0 hML hd
  exact ⟨dF, h1, h3, h2⟩

theorem rctFwd_bnd (v : Nat → Plane) (M : Int) (hv : ∀ k x y, -M ≤ v k x y ∧ v k x y < M) (k x y : Nat) :
    -(2 * M) ≤ rctFwd v k x y ∧ rctFwd v k x y ≤ 2 * M := by
  have hle : ∀ j, -M ≤ v j x y ∧ v j x y ≤ M := fun j => ⟨(hv j x y).1, Int.le_of_lt (hv j x y).2⟩
  have hb := Rct.forward_bounds (hle 0) (hle 1) (hle 2)
  have h3 := hv k x y
  unfold rctFwd
  simp only []
  split
  · omega
  · split
    · exact hb.2.1
    · split
      · exact hb.2.2
      · omega

theorem rctInv_rctFwd (q v : Nat → Plane) (x y : Nat) (hq : ∀ j, j < 3 → q j x y = rctFwd v j x y) (k : Nat) (hk : k < 3) :
    rctInv q k x y = v k x y := by
  have e0 : rctFwd v 0 x y = (RCTForward (v 0 x y) (v 1 x y) (v 2 x y)).1 := by simp [rctFwd]
  have e1 : rctFwd v 1 x y = (RCTForward (v 0 x y) (v 1 x y) (v 2 x y)).2.1 := by simp [rctFwd]
  have e2 : rctFwd v 2 x y = (RCTForward (v 0 x y) (v 1 x y) (v 2 x y)).2.2 := by simp [rctFwd]
  unfold rctInv
  simp only []
  rw [hq 0 (by omega), hq 1 (by omega), hq 2 (by omega), e0, e1, e2, Rct.inverse_forward]
  have : k = 0 ∨ k = 1 ∨ k = 2 := by omega
  rcases this with rfl | rfl | rfl <;> simp

theorem planesOf_map (c : ICfg) (g : Nat → Vector Int (c.H * c.W)) (k : Nat) :
    planesOf c ((List.range c.C).map g) k = if k < c.C then planeOfVec c.W c.H (g k) else fun _ _ => 0 := by
  unfold planesOf
  by_cases hk : k < c.C
  · have : ((List.range c.C).map g)[k]? = some (g k) := by simp [hk]
    rw [this, if_pos hk]
  · have : ((List.range c.C).map g)[k]? = none := by simp; omega
    rw [this, if_neg hk]

/-- the inverse is stated for any planes that agree with the coefficients on the image, which is all the tile layer
    guarantees of what it pastes -/
theorem dwt_planes (c : ICfg) (p : Nat → Plane) (M : Int) (hM0 : 0 ≤ M) (hML : bndL c.L M ≤ 536870911)
    (hp : ∀ k x y, -M ≤ p k x y ∧ p k x y ≤ M) :
    ∃ vs, dwtFwd c p = some vs ∧
      (∀ k x y, -bndL c.L M ≤ planesOf c vs k x y ∧ planesOf c vs k x y ≤ bndL c.L M) ∧
      ∀ q : Nat → Plane, (∀ k x y, k < c.C → x < c.W → y < c.H → q k x y = planesOf c vs k x y) →
        ∃ vs', dwtInv c q = some vs' ∧ ∀ k x y, k < c.C → x < c.W → y < c.H → planesOf c vs' k x y = p k x y := by
  obtain ⟨dF, hdF⟩ : ∃ dF : Nat → Vector Int (c.H * c.W), ∀ k,
      forwardMultilevel Go.wrap32 (vecOfPlane c.W c.H (p k)) c.W c.H c.L 0 0 = some (dF k) ∧
      inverseMultilevel Go.wrap32 (dF k) c.W c.H c.L 0 0 = some (vecOfPlane c.W c.H (p k)) ∧
      Bnd (bndL c.L M) (toFn (dF k)) := by
    refine Classical.skolem.mp fun k => dwt_component _ c.W c.H c.L (Nat.le_refl _) hM0 hML fun i => ?_
    by_cases hi : i < c.H * c.W
    · rw [toFn_vecOfPlane c.W c.H (p k) i hi]
      exact hp _ _ _
    · simp only [toFn, hi, dif_neg, not_false_eq_true]
      omega
  have hBL0 : (0 : Int) ≤ bndL c.L M := Int.le_trans hM0 (le_bndL c.L _ hM0)
  refine ⟨(List.range c.C).map dF, Loop.mapM_pure _ dF _ (fun k _ => (hdF k).1), fun k x y => ?_, fun q hq => ?_⟩
  · rw [planesOf_map]
    split
    · exact planeOfVec_bnd c.W c.H (dF k) _ hBL0 (hdF k).2.2 x y
    · show -bndL c.L M ≤ 0 ∧ (0 : Int) ≤ bndL c.L M
      omega
  · refine ⟨(List.range c.C).map fun k => vecOfPlane c.W c.H (p k), Loop.mapM_pure _ _ _ fun k hk => ?_, ?_⟩
    · have hkC : k < c.C := List.mem_range.mp hk
      have : vecOfPlane c.W c.H (q k) = dF k := by
        rw [← vecOfPlane_planeOfVec c.W c.H (dF k)]
        apply vecOfPlane_congr
        intro x y hx hy
        rw [hq k x y hkC hx hy, planesOf_map, if_pos hkC]
      rw [this]
      exact (hdF k).2.1
    · intro k x y hk hx hy
      rw [planesOf_map, if_pos hk]
      exact planeOfVec_vecOfPlane c.W c.H (p k) x y hx hy

/-- The core of the reversible pipeline, single tile: one body, decoded whatever follows it (the EOC marker follows
    the body in the codestream). -/
theorem image_core_roundtrip (c : ICfg) (v : Nat → Plane)
    (hw : 0 < c.cbw) (hh : 0 < c.cbh) (hP1 : 1 ≤ c.P) (hP2 : c.P ≤ 16)
    (hL : bndL c.L (2 ^ c.P) < 2 ^ 25)
    (hv : ∀ k x y, -(2 ^ (c.P - 1)) ≤ v k x y ∧ v k x y < 2 ^ (c.P - 1))
    (hs : SegmentLenFor c.cbw c.cbh) :
    ∃ body, encodeBody c v = some body ∧ ∀ tail, ∃ v', decodeBody c (body ++ tail) = some v' ∧
      ∀ k x y, k < c.C → x < c.W → y < c.H → v' k x y = v k x y := by
  have hM0 : (0 : Int) ≤ 2 ^ c.P := Int.le_of_lt (Int.pow_pos (by decide))
  have hsplit := Int.two_pow_pred hP1
  have h25 : (2 : Int) ^ 25 = 33554432 := by decide
  -- the planes entering the wavelet transform are bounded by 2^P (one bit more than the samples after the RCT)
  have hp : ∀ k x y, -(2 ^ c.P) ≤ (if c.useRct then rctFwd v else v) k x y ∧
      (if c.useRct then rctFwd v else v) k x y ≤ 2 ^ c.P := by
    intro k x y
    split
    · rw [hsplit]; exact rctFwd_bnd v _ hv k x y
    · have := hv k x y; omega
  obtain ⟨vs, hfwd, hbnd, hinv⟩ := dwt_planes c _ (2 ^ c.P) hM0 (by omega) hp
  have hpl : ∀ k x y, (planesOf c vs k x y).natAbs < 2 ^ 25 := by
    intro k x y
    have := hbnd k x y
    have : ((2 : Nat) ^ 25 : Nat) = 33554432 := by decide
    omega
  have hnb : ∀ r b, c.tcfg.nb r b < 32 := by
    intro r b
    show c.P + gain r b + 1 < 32
    unfold gain; split <;> (try split) <;> omega
  obtain ⟨bytes, henc, htile⟩ := tile_planes_roundtrip_for c.tcfg c.C c.prog (planesOf c vs) hw hh hnb hpl hs
  have hE : encodeBody c v = some bytes := by
    unfold encodeBody
    rw [hfwd]
    exact henc
  refine ⟨bytes, hE, fun tail => ?_⟩
  obtain ⟨out, hdec, hpaste⟩ := htile tail
  obtain ⟨vs', hinv', hq⟩ := hinv _ hpaste
  have hD : decodeBody c (bytes ++ tail) = some (if c.useRct then rctInv (planesOf c vs') else planesOf c vs') := by
    unfold decodeBody
    rw [hdec]
    simp only []
    rw [hinv']
  refine ⟨_, hD, fun k x y hk hx hy => ?_⟩
  by_cases hr : c.useRct = true
  · have hC3 : c.C = 3 := by
      unfold ICfg.useRct at hr
      simp only [Bool.and_eq_true, beq_iff_eq] at hr
      exact hr.2
    simp only [hr, if_true] at hq ⊢
    exact rctInv_rctFwd _ v x y (fun j hj => hq j x y (by omega) hx hy) k (by omega)
  · simp only [hr, Bool.false_eq_true, if_false] at hq ⊢
    exact hq k x y hk hx hy

/-- The sample layer in front of and behind the core, and any framing `frame` / `unfr` in which the parser hands the
    decoder the encoder's tile-part body followed by anything.  Stated on the bodies of `encodeImage` / `decodeImage`
    (Props/C04). -/
theorem image_roundtrip (c : ICfg) (samp : Nat → Nat → Nat → Int)
    (hw : 0 < c.cbw) (hh : 0 < c.cbh) (hP1 : 1 ≤ c.P) (hP2 : c.P ≤ 16) (hL : bndL c.L (2 ^ c.P) < 2 ^ 25)
    (hr : ∀ k x y, J2k.inRange c.P c.signed (samp k x y)) (hs : SegmentLenFor c.cbw c.cbh)
    (unfr : List Nat → Option (List Nat))
    (hframe : ∀ body, (encodeBody c fun k x y => J2k.frontSample c.P c.signed (samp k x y)) = some body →
      ∃ stream tail, frame c body = some stream ∧ unfr stream = some (body ++ tail)) :
    ∃ stream, (encodeBody c fun k x y => J2k.frontSample c.P c.signed (samp k x y)).bind (frame c) = some stream ∧
      ∃ out, (((unfr stream).bind (decodeBody c)).map fun v k x y =>
          J2k.writeSample c.P c.signed (J2k.dcUnshift c.P c.signed (v k x y))) = some out ∧
        ∀ k x y, k < c.C → x < c.W → y < c.H → out k x y = J2k.container c.P (samp k x y) := by
  have hv : ∀ k x y, -(2 ^ (c.P - 1)) ≤ J2k.frontSample c.P c.signed (samp k x y) ∧
      J2k.frontSample c.P c.signed (samp k x y) < 2 ^ (c.P - 1) := by
    intro k x y
    have := J2k.frontSample_bound (c.P : Int) c.signed (samp k x y) (by omega) (by omega) (hr k x y)
    rwa [Int.toNat_natCast] at this
  obtain ⟨body, henc, hcore⟩ := image_core_roundtrip c _ hw hh hP1 hP2 hL hv hs
  obtain ⟨stream, tail, hfr, hun⟩ := hframe body henc
  obtain ⟨v', hdec, hv'⟩ := hcore tail
  refine ⟨stream, by rw [henc]; exact hfr, _, by rw [hun, Option.bind_some, hdec, Option.map_some], ?_⟩
  intro k x y hk hx hy
  rw [hv' k x y hk hx hy, ← J2k.sampleRoundTrip_front]
  exact J2k.sample_roundtrip' (c.P : Int) c.signed (samp k x y) (by omega) (by omega) (hr k x y)

end J2kGlue
