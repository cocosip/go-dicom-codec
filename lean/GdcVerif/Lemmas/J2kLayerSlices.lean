import GdcVerif.Lemmas.J2kBodies
import GdcVerif.Model.T1Layered
import GdcVerif.Model.JpegContainer
/-!
  C16, multi-layer tile-part bodies.  With several quality layers one code-block's MQ stream `data` is cut at the
  cumulative pass rates that `t1/encoder_layered.go` `normalizePassRates` returns (model `T1.normalizeRates`, C20), and
  the slices `data[a:b]` go to different packets (`finalizeBlock` / `allocateRDLayerData` in jpeg2000/encoder.go: the
  end points are 0, a normalised rate, or `len(data)`).  Here: every normalised rate is a cut that is NOT immediately
  after an 0xFF byte, so no slice ends on 0xFF, and every slice of a marker-free stream is marker free.
-/
namespace JpegC
open StrictJ2k

def NoDoubleFF (data : List Nat) : Prop := ∀ j, data.getD j 0 = 0xFF → data.getD (j + 1) 0 ≠ 0xFF

/-- `CutOk` and `NoDoubleFF` read a byte as `getD · 0`, `Mqc.StreamOk` and `getLast?` as `[·]?` -/
theorem getD_ff {data : List Nat} {j : Nat} : data.getD j 0 = 0xFF ↔ data[j]? = some 255 := by
  rw [List.getD_eq_getElem?_getD]
  cases data[j]? <;> simp

theorem streamOk_noDoubleFF (data : List Nat) (h : Mqc.StreamOk data) : NoDoubleFF data := by
  intro j hj hj1
  obtain ⟨b, hb, hle⟩ := h.2 j (getD_ff.1 hj)
  cases hb.symm.trans (getD_ff.1 hj1)
  omega

/-- one round of the `for i := len(passes)-1; i >= 0; i--` loop of `normalizePassRates`, on (rate, lastRate) -/
def normStep (data : List Nat) (rate lastRate : Nat) : Nat × Nat :=
  let (rate, lastRate) := if rate > lastRate then (lastRate, lastRate) else (rate, rate)
  if rate > 0 ∧ rate ≤ data.length ∧ data.getD (rate - 1) 0 = 0xFF then (rate - 1, rate - 1) else (rate, lastRate)

/-- one byte back from a position just behind an 0xFF -/
def backOff (data : List Nat) (r : Nat) : Nat :=
  if r > 0 ∧ r ≤ data.length ∧ data.getD (r - 1) 0 = 0xFF then r - 1 else r

/-- a round stores one number, as the pass's rate and as the new `lastRate` -/
theorem normStep_eq (data : List Nat) (rate lastRate : Nat) :
    normStep data rate lastRate = (backOff data (min rate lastRate), backOff data (min rate lastRate)) := by
  unfold normStep backOff
  by_cases h1 : rate > lastRate
  · simp only [h1, if_true, Nat.min_eq_right (Nat.le_of_lt h1)]
    split <;> rfl
  · simp only [h1, if_false, Nat.min_eq_left (Nat.le_of_not_gt h1)]
    split <;> rfl

theorem backOff_ok (data : List Nat) (hd : NoDoubleFF data) (r : Nat) (hr : r ≤ data.length) :
    CutOk data (backOff data r) ∧ backOff data r ≤ r := by
  unfold backOff
  split
  · next h =>
    refine ⟨⟨by omega, fun _ hff => ?_⟩, by omega⟩
    -- stepping back over an 0xFF cannot land after another 0xFF
    have := hd (r - 1 - 1) hff
    rw [show r - 1 - 1 + 1 = r - 1 by omega] at this
    exact this h.2.2
  · next h => exact ⟨⟨hr, fun hp hff => h ⟨hp, hr, hff⟩⟩, Nat.le_refl _⟩

/-- what the loop of `normalizePassRates` keeps true of (rates stored so far, lastRate) -/
structure RatesOk (data : List Nat) (acc : List Nat × Nat) : Prop where
  last : acc.2 ≤ data.length
  cut : ∀ r ∈ acc.1, CutOk data r ∧ acc.2 ≤ r
  asc : acc.1.Pairwise (· ≤ ·)

theorem RatesOk.push {data : List Nat} {acc : List Nat × Nat} (h : RatesOk data acc) {x : Nat} (hc : CutOk data x)
    (hx : x ≤ acc.2) : RatesOk data (x :: acc.1, x) :=
  ⟨hc.1, List.forall_mem_cons.mpr ⟨⟨hc, Nat.le_refl _⟩, fun r hr => ⟨(h.cut r hr).1, Nat.le_trans hx (h.cut r hr).2⟩⟩,
    List.pairwise_cons.mpr ⟨fun r hr => Nat.le_trans hx (h.cut r hr).2, h.asc⟩⟩

theorem normalizeRates_ok (data : List Nat) (hd : NoDoubleFF data) (rates : List Nat) :
    (∀ r ∈ T1.normalizeRates rates data, CutOk data r) ∧ (T1.normalizeRates rates data).Pairwise (· ≤ ·) := by
  have result : ∀ acc, RatesOk data acc → (∀ r ∈ acc.1, CutOk data r) ∧ acc.1.Pairwise (· ≤ ·) :=
    fun acc h => ⟨fun r hr => (h.cut r hr).1, h.asc⟩
  -- induction along the model's own `foldr`; its lambda is `normStep` on `lastRate = acc.2`, by unfolding
  refine result _ (List.foldrRecOn rates _ ⟨Nat.le_refl _, nofun, .nil⟩ fun acc h rate _ => ?_)
  show RatesOk data ((normStep data rate acc.2).1 :: acc.1, (normStep data rate acc.2).2)
  rw [normStep_eq]
  obtain ⟨hc, hle⟩ := backOff_ok data hd (min rate acc.2) (by have := h.last; omega)
  exact h.push hc (by omega)

theorem getLast_slice (data : List Nat) (a b : Nat) (hab : a < b) (hb : b ≤ data.length) :
    ((data.take b).drop a).getLast? = data[b - 1]? := by
  have hl : ((data.take b).drop a).length = b - a := by rw [List.length_drop, List.length_take, Nat.min_eq_left hb]
  rw [List.getLast?_eq_getElem?, hl, List.getElem?_drop, List.getElem?_take, show a + (b - a - 1) = b - 1 by omega,
    if_pos (by omega)]

theorem slice_bodyOk (data : List Nat) (a b : Nat) (hp : PairBelow 0x90 data) (hb : CutOk data b) :
    BodyOk ((data.take b).drop a) := by
  refine ⟨PairBelow.drop a _ (PairBelow.take b _ hp), ?_⟩
  by_cases hab : a < b
  · rw [getLast_slice data a b hab hb.1]
    exact fun h => hb.2 (by omega) (getD_ff.2 h)
  · have : (data.take b).drop a = [] := by
      apply List.drop_eq_nil_of_le; simp; omega
    simp [this]

theorem cutOk_length (data : List Nat) (hl : data.getLast? ≠ some 255) : CutOk data data.length :=
  ⟨Nat.le_refl _, fun _ hff => hl (by rw [List.getLast?_eq_getElem?]; exact getD_ff.1 hff)⟩

theorem layer_slice_bodyOk (n : Nat) (ds : List (Nat × Nat)) (hds : ∀ d ∈ ds, d.2 < n) (rates : List Nat) :
    ∃ bytes, Mqc.encodeBytes n ds = some bytes ∧
      ∀ a b, b ∈ 0 :: bytes.length :: T1.normalizeRates rates bytes → BodyOk ((bytes.take b).drop a) := by
  obtain ⟨bytes, h1, h2⟩ := Mqc.encoder_stream n ds hds
  refine ⟨bytes, h1, fun a b hb => slice_bodyOk bytes a b (streamOk_pairBelow bytes h2) ?_⟩
  simp only [List.mem_cons] at hb
  rcases hb with rfl | rfl | hb
  · exact ⟨Nat.zero_le _, fun h => absurd h (Nat.lt_irrefl 0)⟩
  · exact cutOk_length _ h2.no_trailing_ff
  · exact (normalizeRates_ok bytes (streamOk_noDoubleFF bytes h2) rates).1 b hb

inductive LPiece where
  | header (bits : List Bool)
  | mqSlice (numContexts : Nat) (decisions : List (Nat × Nat)) (rawRates : List Nat) (a b : Nat)

open J2k in
def LPiece.bytes : LPiece → List Nat
  | .header bits => (BioW.new.writeBitsList bits).flush
  | .mqSlice n ds _ a b => (((Mqc.encodeBytes n ds).getD []).take b).drop a

def LPiece.Wf : LPiece → Prop
  | .header _ => True
  | .mqSlice n ds rates _ b => (∀ d ∈ ds, d.2 < n) ∧
      b ∈ 0 :: ((Mqc.encodeBytes n ds).getD []).length :: T1.normalizeRates rates ((Mqc.encodeBytes n ds).getD [])

theorem lpiece_bodyOk (p : LPiece) (h : p.Wf) : BodyOk p.bytes := by
  cases p with
  | header bits => exact bio_header_bodyOk bits
  | mqSlice n ds rates a b =>
    obtain ⟨bytes, h1, h2⟩ := layer_slice_bodyOk n ds h.1 rates
    have hb := h.2
    simp only [h1, Option.getD_some] at hb
    simpa [LPiece.bytes, h1] using h2 a b hb

end JpegC
