import GdcVerif.Model.J2kSample
import GdcVerif.Lemmas.GoBits
import GdcVerif.Lemmas.Basics
/-!
  The sample layer of C04: convertPixelData reads an in-range sample back from its container bytes
  (`readSample_container`), GetPixelData writes it as those bytes (`writeSample_container`); the DC level shift
  and its inverse cancel in between.
-/
namespace J2k

theorem Go_or_lohi (u : Int) (h0 : 0 ≤ u) (h1 : u < 65536) : Go.or (u % 256) (Go.shl (u / 256) 8) = u := by
  have h := Go.or_shl8 (u % 256).toNat (u / 256).toNat (by omega) (by omega)
  rw [Int.toNat_of_nonneg (by omega), Int.toNat_of_nonneg (by omega)] at h
  omega

theorem shl_one (k : Nat) : Go.shl 1 (k : Int) = 2 ^ k := Go.shl_one k

/-- the powers of two that the sample layer computes for a precision `1 ≤ P ≤ 16`: `M = 2^P`, its half, what Go's
    shifts give -/
structure PrecFacts (P : Int) : Prop where
  split : (2 : Int) ^ P.toNat = 2 * 2 ^ (P.toNat - 1)
  half_pos : (0 : Int) < 2 ^ (P.toNat - 1)
  le16 : (2 : Int) ^ P.toNat ≤ 65536
  le8 : P ≤ 8 → (2 : Int) ^ P.toNat ≤ 256
  shl_half : Go.shl 1 (P - 1) = 2 ^ (P.toNat - 1)
  shl_full : Go.shl 1 P = 2 ^ P.toNat

theorem prec_facts (P : Int) (hP1 : 1 ≤ P) (hP2 : P ≤ 16) : PrecFacts P := by
  have h16 : (2 : Int) ^ P.toNat ≤ 2 ^ 16 := Int.two_pow_mono (by omega)
  refine ⟨Int.two_pow_pred (by omega), Int.pow_pos (by decide), by simpa using h16, fun h => ?_, ?_, ?_⟩
  · have : (2 : Int) ^ P.toNat ≤ 2 ^ 8 := Int.two_pow_mono (by omega)
    simpa using this
  · have : P - 1 = ((P.toNat - 1 : Nat) : Int) := by omega
    rw [this, shl_one]
  · unfold Go.shl; simp

theorem emod_range (s M : Int) (h1 : -M ≤ s) (h2 : s < M) : s % M = if s < 0 then s + M else s := by
  split
  · rw [← Int.add_emod_right]; exact Int.emod_eq_of_lt (by omega) (by omega)
  · exact Int.emod_eq_of_lt (by omega) h2

/-- convertPixelData + applyDCLevelShift on the container bytes of an in-range sample -/
def frontSample (P : Int) (signed : Bool) (s : Int) : Int :=
  let c := container P s
  dcShift P signed (readSample P signed c.1 c.2)

theorem readSample_container (P : Int) (signed : Bool) (s : Int) (hP1 : 1 ≤ P) (hP2 : P ≤ 16)
    (hr : inRange P signed s) : readSample P signed (container P s).1 (container P s).2 = s := by
  obtain ⟨hM2, hHf, hMle, hM8, hsh1, hsh⟩ := prec_facts P hP1 hP2
  unfold inRange at hr
  unfold container readSample
  simp only [hsh1, hsh, Go.and_mask _ P.toNat (by omega)]
  generalize (2 : Int) ^ P.toNat = M at *
  generalize (2 : Int) ^ (P.toNat - 1) = Hf at *
  have hs : -M ≤ s ∧ s < M := by
    cases signed <;> simp only [↓reduceIte, Bool.false_eq_true] at hr <;> omega
  rw [emod_range s M hs.1 hs.2]
  by_cases h8 : P ≤ 8
  · have := hM8 h8
    simp only [h8, if_true]
    cases signed <;> simp only [↓reduceIte, Bool.false_eq_true] at hr ⊢
    · split <;> omega
    · rw [Int.emod_eq_of_lt (by split <;> omega) (by split <;> omega)]
      split <;> split <;> omega
  · simp only [h8, if_false]
    rw [Go_or_lohi _ (by split <;> omega) (by split <;> omega)]
    cases signed <;> simp only [↓reduceIte, Bool.false_eq_true, Bool.true_and, Bool.false_and, decide_eq_true_eq] at hr ⊢
    · split <;> omega
    · split <;> split <;> omega

theorem wrap_bytes (P u : Int) (h0 : 0 ≤ u) (h8 : P ≤ 8 → u < 256) (h16 : u < 65536) :
    (if P ≤ 8 then (u % 256, (0 : Int)) else (u % 256, u / 256 % 256)) = if P ≤ 8 then (u, 0) else (u % 256, u / 256) := by
  split
  · rename_i h; have := h8 h; congr 1; omega
  · congr 1; omega

/-- no clamp applies, and the two's complement of a negative sample is its residue mod `2^P` -/
theorem writeSample_container (P : Int) (signed : Bool) (s : Int) (hP1 : 1 ≤ P) (hP2 : P ≤ 16)
    (hr : inRange P signed s) : writeSample P signed s = container P s := by
  obtain ⟨hM2, hHf, hMle, hM8, hsh1, hsh⟩ := prec_facts P hP1 hP2
  unfold inRange at hr
  unfold container writeSample Go.uwrap8
  simp only [hsh1, hsh, Go.shr_eight]
  generalize (2 : Int) ^ P.toNat = M at *
  generalize (2 : Int) ^ (P.toNat - 1) = Hf at *
  cases signed <;> simp only [↓reduceIte, Bool.false_eq_true] at hr ⊢
  · have c1 : ¬ s < 0 := by omega
    have c2 : ¬ s > M - 1 := by omega
    simp only [Int.emod_eq_of_lt hr.1 hr.2, c1, c2, if_false]
    exact wrap_bytes P s hr.1 (fun h => by have := hM8 h; omega) (by omega)
  · have c1 : ¬ s < -Hf := by omega
    have c2 : ¬ s > Hf - 1 := by omega
    simp only [emod_range s M (by omega) (by omega), c1, c2, if_false]
    exact wrap_bytes P _ (by split <;> omega) (fun h => by have := hM8 h; split <;> omega) (by split <;> omega)

theorem frontSample_eq (P : Int) (signed : Bool) (s : Int) (hP1 : 1 ≤ P) (hP2 : P ≤ 16) (hr : inRange P signed s) :
    frontSample P signed s = if signed then s else s - 2 ^ (P.toNat - 1) := by
  show dcShift P signed (readSample P signed (container P s).1 (container P s).2) = _
  rw [readSample_container P signed s hP1 hP2 hr, dcShift, (prec_facts P hP1 hP2).shl_half]

theorem frontSample_bound (P : Int) (signed : Bool) (s : Int) (hP1 : 1 ≤ P) (hP2 : P ≤ 16) (hr : inRange P signed s) :
    -(2 ^ (P.toNat - 1)) ≤ frontSample P signed s ∧ frontSample P signed s < 2 ^ (P.toNat - 1) := by
  rw [frontSample_eq P signed s hP1 hP2 hr]
  have hM2 := (prec_facts P hP1 hP2).split
  unfold inRange at hr
  cases signed <;> simp only [↓reduceIte, Bool.false_eq_true] at hr ⊢ <;> omega

theorem sampleRoundTrip_front (P : Int) (signed : Bool) (s : Int) :
    sampleRoundTrip P signed s = writeSample P signed (dcUnshift P signed (frontSample P signed s)) := rfl

theorem sample_roundtrip' (P : Int) (signed : Bool) (s : Int) (hP1 : 1 ≤ P) (hP2 : P ≤ 16)
    (hr : inRange P signed s) :
    sampleRoundTrip P signed s = container P s := by
  have hun : dcUnshift P signed (dcShift P signed s) = s := by
    unfold dcUnshift dcShift; cases signed <;> simp
  unfold sampleRoundTrip
  simp only []
  rw [readSample_container P signed s hP1 hP2 hr, hun, writeSample_container P signed s hP1 hP2 hr]

end J2k
