import GdcVerif.Lemmas.T1SegFrame
import GdcVerif.Lemmas.T1LayeredStep
/-!
  The pass loops of `EncodeLayered` / `DecodeLayeredWithMode`, one codeword segment at a time: where the decoder's loop
  stands when the encoder starts a segment (`DecAt`), what a segment contributes to both loops (`SegLock`), what the
  loops deliver from a segment start on (`LoopsRun`), and how a segment is put in front of the rest (`LoopsRun.cons`).
-/
namespace T1
open Gen

/-- every rate is at least the latest terminated rate in front of it (`lo` at the start) -/
def RecsOk : Nat → List PassRec → Prop
  | _, [] => True
  | lo, (r, t) :: rest => lo ≤ r ∧ RecsOk (if t = true then r else lo) rest

theorem recsOk_append (lo : Nat) (A B : List PassRec) (hA : ∀ x ∈ A, x.2 = false ∧ lo ≤ x.1) (hB : RecsOk lo B) :
    RecsOk lo (A ++ B) := by
  induction A with
  | nil => exact hB
  | cons x A ih =>
    obtain ⟨r, t⟩ := x
    obtain ⟨ht, hr⟩ := hA (r, t) List.mem_cons_self
    have ht' : t = false := ht
    subst ht'
    refine ⟨hr, ?_⟩
    simp only [Bool.false_eq_true, if_false]
    exact ih (fun y hy => hA y (List.mem_cons_of_mem _ hy))

theorem numBytes_eq (e : Mqc.Enc) (h1 : 1 ≤ e.bp) : numBytes e = e.bp - 1 := by
  unfold numBytes; rw [if_neg (by unfold Mqc.start; omega)]; rfl

/-- the decoder's loop state at the start of the codeword segment that the encoder `es` (a restart pending if `prevT`)
writes from pass `i` on: the segment's bytes begin where the encoder's will, and the contexts the decoder opens its coder
with (fresh ones at pass 0 and under RESET, else those kept in `prevCtx`) are the encoder's -/
structure DecAt (style : Nat) (es : EncSt) (prevT : Bool) (i : Nat) (s : LDec) : Prop where
  fresh : s.newSegment = true
  pos : s.prevEnd = (restartIf prevT es).mq.bp
  ctxR : i = 0 ∨ styReset style = true → es.mq.ctx = ctx3 (Array.replicate 19 0)
  ctxK : 0 < i → styReset style = false → s.prevCtx = es.mq.ctx

theorem DecAt.next {style w h : Nat} {V : Array Int} {es : EncSt} (hok : EncOkT w h V es true) {i : Nat} (hi : 0 < i)
    (ds : DecSt) (pc : Array Nat) {p0 : Nat} {b0 ctx0 : Array Nat} (hE : SegEnd style p0 b0 ctx0 es)
    (hb : styReset style = false → pc = ctx0) :
    DecAt style es true i { st := ds, prevEnd := es.mq.bp - 1, prevCtx := pc, newSegment := true } :=
  ⟨rfl, (restartT hok).1.symm, fun hc => hc.elim (fun h0 => by omega) hE.ctxR,
    fun _ hr => (hb hr).trans (hE.ctxK hr).symm⟩

/-- the coder the decoder's loop opens at the segment start; `j` is the last pass of the segment, whose rate is where
the encoder's terminated buffer ends -/
theorem DecAt.coder {style : Nat} {es : EncSt} {prevT : Bool} {i : Nat} {s : LDec} (hs : DecAt style es prevT i s)
    {b0 ctx0 : Array Nat} {es' : EncSt} (hE : SegEnd style (restartIf prevT es).mq.bp b0 ctx0 es')
    {bytesF : List Nat} (hag : Agree bytesF es'.mq) {raw : Bool} {term : Int → Nat → Bool} {PL : List Nat} {mq : Mqc.Dec}
    {n : Int} {pt j : Nat} (hj : segLast term PL.length PL.length i n pt = j) (hPL : PL[j]? = some (es'.mq.bp - 1)) :
    coderG (styReset style) raw term PL bytesF s mq n i pt =
      match (if raw = true then some (Mqc.Dec.newRaw ((bytesF.take (es'.mq.bp - 1)).drop (restartIf prevT es).mq.bp))
             else decWithContexts ((bytesF.take (es'.mq.bp - 1)).drop (restartIf prevT es).mq.bp) es.mq.ctx) with
      | none => .panic
      | some d => .ok (d, es'.mq.bp - 1) := by
  rw [coderG_open _ _ _ PL bytesF s _ _ i pt j (es'.mq.bp - 1) hs.fresh hj hPL
    (by rw [hs.pos]; have := hE.grow; omega) hag.2, hs.pos]
  unfold segDecoder
  by_cases hc : i = 0 ∨ styReset style = true
  · rw [if_pos hc, dec_init_fresh, ← hs.ctxR hc]; rfl
  · rw [if_neg hc, hs.ctxK (Nat.pos_of_ne_zero fun h0 => hc (.inl h0)) (Bool.eq_false_iff.mpr fun hr => hc (.inr hr))]; rfl

section Seg
variable (w h : Nat) (V : Array Int)

/-- One codeword segment in both loops, by pass index.  From the segment start, pass `i` (fuel `f + (n + 1)`), the loops
run through the `n + 1` passes of the segment, the last of which is terminated, and stand at pass `i + n + 1` (fuel `f`)
with encoder state `es'`; `pre` are the records of the `n` passes in front of the last.  The decoder gets there on any
byte string that agrees with the encoder's buffer at the end of the segment. -/
structure SegLock (orient style mb np : Nat) (u : Bool) (f : Nat) (es : EncSt) (prevT : Bool) (i n : Nat)
    (pre : List PassRec) (es' : EncSt) : Prop where
  len : pre.length = n
  enc : ∀ acc, encLoopL w h orient style V mb np (f + (n + 1)) es (planeI mb i) i (typeOf i) prevT acc =
    encLoopL w h orient style V mb np f es' (planeI mb (i + n + 1)) (i + n + 1) (typeOf (i + n + 1)) true
      (acc ++ pre ++ [(es'.mq.bp - 1, true)])
  unterm : ∀ x ∈ pre, x.2 = false ∧ (restartIf prevT es).mq.bp ≤ x.1
  ok : EncOkT w h V es' true
  grow : (restartIf prevT es).mq.bp + 1 ≤ es'.mq.bp
  grow2 : styPterm style = false → typeOf i = 2 → (restartIf prevT es).mq.bp + 2 ≤ es'.mq.bp
  frozen : ∀ j, j ≤ (restartIf prevT es).mq.bp → Mqc.rd es'.mq.buf j = Mqc.rd es.mq.buf j
  dec : ∀ (bytesF PL : List Nat), Agree bytesF es'.mq → PL[i + n]? = some (es'.mq.bp - 1) →
    i + n < PL.length → ∀ (s : LDec), DecAt style es prevT i s →
    PInv tr w h V (fun _ _ => True) (planeOf mb i) (typeOf i) es s.st →
    ∃ s', DecAt style es' true (i + n + 1) s' ∧
      Post tr w h V (fun _ _ => True) (planeOf mb (i + n)) (typeOf (i + n)) es' s'.st ∧
      decLoopL w h orient style u (styReset style) (mb : Int) PL bytesF (f + (n + 1)) s (planeI mb i) i (typeOf i) =
        decLoopL w h orient style u (styReset style) (mb : Int) PL bytesF f s' (planeI mb (i + n + 1)) (i + n + 1)
          (typeOf (i + n + 1))

/-- What the two loops deliver from the codeword-segment start at pass `i` on: `cnt` pass records whose terminated rates
the decoder may take as segment ends, and, from any decoder state with `Pre`, the block. -/
def LoopsRun (orient style mb np : Nat) (u : Bool) (fuel : Nat) (es : EncSt) (prevT : Bool) (i cnt : Nat)
    (Pre : DecSt → Prop) : Prop :=
  ∃ esF recs, (∀ acc, encLoopL w h orient style V mb np fuel es (planeI mb i) i (typeOf i) prevT acc =
      some (esF, true, acc ++ recs)) ∧
    TermOk esF.mq ∧ recs.length = cnt ∧ (restartIf prevT es).mq.bp + 1 ≤ esF.mq.bp ∧
    (styPterm style = false → typeOf i = 2 → (restartIf prevT es).mq.bp + 2 ≤ esF.mq.bp) ∧
    RecsOk (restartIf prevT es).mq.bp recs ∧
    (∀ j, j ≤ (restartIf prevT es).mq.bp → Mqc.rd esF.mq.buf j = Mqc.rd es.mq.buf j) ∧
    (∀ r, (r, true) ∈ recs → r + 1 ≤ esF.mq.bp ∧ Mqc.rd esF.mq.buf r ≠ 0xFF) ∧
    ∀ (bytesF : List Nat), Agree bytesF esF.mq →
      ∀ (PL : List Nat), (∀ k r, recs[k]? = some (r, true) → PL[i + k]? = some r) → PL.length = i + recs.length →
        ∀ (s : LDec), DecAt style es prevT i s → Pre s.st →
        ∃ dsF, decLoopL w h orient style u (styReset style) (mb : Int) PL bytesF fuel s (planeI mb i) i (typeOf i) = .ok dsF ∧
          dsF.data.size = (w + 2) * (h + 2) ∧ ∀ j, InB w h j → gi dsF.data j = gi V j

variable {w h V}

theorem LoopsRun.done (orient style mb np : Nat) (u : Bool) (f : Nat) {es : EncSt} (i : Nat)
    (hok : EncOkT w h V es true) (hb : planeI mb i < 0) (hpt : typeOf i ≠ 2) :
    LoopsRun w h V orient style mb np u f es true i 0 (Out tr w h V 0 2) := by
  obtain ⟨hbpr, hbp1, _⟩ := restartT hok
  refine ⟨es, [], fun acc => by rw [encLoopL_exit _ _ _ _ _ _ _ _ _ _ _ _ _ _ (Or.inl hb), List.append_nil], hok.term, rfl,
    by omega, fun _ h2 => absurd h2 hpt, True.intro, fun _ _ => rfl, fun r hr => absurd hr (by simp),
    fun bytesF _ PL _ _ s _ hP => ?_⟩
  obtain ⟨lev, hsz, hdata⟩ := hP
  exact ⟨s.st, decLoopL_exit _ _ _ _ _ _ _ _ _ _ _ _ _ _ hb, hsz,
    fun j hj => by rw [(hdata j hj).1, (hdata j hj).2.2 rfl, tr_plane0]⟩

theorem LoopsRun.cons {orient style mb np : Nat} {u : Bool} {f : Nat} {es : EncSt} {prevT : Bool} {i n : Nat}
    {pre : List PassRec} {es' : EncSt} {cnt cnt' : Nat} {Pre : DecSt → Prop}
    (hseg : SegLock w h V orient style mb np u f es prevT i n pre es')
    (hnext : ∀ ds, Post tr w h V (fun _ _ => True) (planeOf mb (i + n)) (typeOf (i + n)) es' ds → Pre ds)
    (hrest : LoopsRun w h V orient style mb np u f es' true (i + n + 1) cnt Pre)
    (hcnt : cnt' = n + 1 + cnt) :
    LoopsRun w h V orient style mb np u (f + (n + 1)) es prevT i cnt'
      (PInv tr w h V (fun _ _ => True) (planeOf mb i) (typeOf i) es) := by
  obtain rfl := hseg.len
  obtain ⟨esF, recs', hencF, htermF, hlenF, hbpF, _, hrokF, hfrozF, hrtF, hdecF⟩ := hrest
  obtain ⟨hbpr, hbp1, _⟩ := restartT hseg.ok
  rw [hbpr] at hbpF hrokF hfrozF
  have hgrow := hseg.grow
  have hlast : (pre ++ (es'.mq.bp - 1, true) :: recs')[pre.length]? = some (es'.mq.bp - 1, true) := by
    rw [List.getElem?_append_right (Nat.le_refl _), Nat.sub_self]; rfl
  refine ⟨esF, pre ++ (es'.mq.bp - 1, true) :: recs', ?_, htermF, ?_, by omega,
    fun hp h2 => by have := hseg.grow2 hp h2; omega,
    recsOk_append _ pre _ hseg.unterm ⟨by omega, by simp only [if_true]; exact hrokF⟩,
    fun j hj => by rw [hfrozF j (by omega), hseg.frozen j hj], ?_, ?_⟩
  · intro acc
    rw [hseg.enc acc, hencF, List.append_assoc, List.append_assoc]; rfl
  · rw [List.length_append, List.length_cons, hlenF, hcnt]; omega
  · intro r hr
    rcases List.mem_append.mp hr with hr | hr
    · exact absurd (hseg.unterm _ hr).1 (by simp)
    · rcases List.mem_cons.mp hr with hr | hr
      · obtain rfl : r = es'.mq.bp - 1 := by injection hr
        exact ⟨by omega, by rw [hfrozF _ (Nat.le_refl _)]; exact hseg.ok.term.last⟩
      · exact hrtF r hr
  · intro bytesF hagF PL hPL hPLl s hs hP
    -- the bytes of this segment are final once it is terminated
    have hag' : Agree bytesF es'.mq :=
      ⟨fun k hk => by rw [hagF.1 k (by omega), hfrozF (k + 1) (by omega)], by have := hagF.2; omega⟩
    rw [List.length_append, List.length_cons] at hPLl
    obtain ⟨s', hs', hPost, hstep⟩ := hseg.dec bytesF PL hag' (hPL _ _ hlast) (by omega) s hs hP
    obtain ⟨dsF, hdF, hszF, hdataF⟩ := hdecF bytesF hagF PL
      (fun k r hk => by
        have := hPL (pre.length + 1 + k) r (by
          rw [List.getElem?_append_right (by omega), show pre.length + 1 + k - pre.length = k + 1 by omega,
            List.getElem?_cons_succ]
          exact hk)
        rw [show i + pre.length + 1 + k = i + (pre.length + 1 + k) by omega]; exact this)
      (by omega) s' hs' (hnext _ hPost)
    exact ⟨dsF, by rw [hstep]; exact hdF, hszF, hdataF⟩
end Seg

end T1
