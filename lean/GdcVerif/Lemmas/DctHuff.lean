import GdcVerif.Model.Dct
import GdcVerif.Lemmas.Basics
/-! Category coding round trip. -/
namespace Dct

theorem catLoop_spec (a : Nat) : ∀ fuel cat, 2 ^ (cat - 1) ≤ a → a < 2 ^ (cat + fuel) →
    2 ^ (catLoop a fuel cat - 1) ≤ a ∧ a < 2 ^ (catLoop a fuel cat) ∧ cat ≤ catLoop a fuel cat
  | 0, cat, h1, h2 => by simpa [catLoop] using ⟨h1, h2⟩
  | fuel + 1, cat, h1, h2 => by
    by_cases h : 2 ^ cat ≤ a
    · have := catLoop_spec a fuel (cat + 1) (by simpa using h) (by
        have : cat + 1 + fuel = cat + (fuel + 1) := by omega
        rw [this]; exact h2)
      simp only [catLoop, h, if_true]
      omega
    · simp only [catLoop, h, if_false]
      exact ⟨h1, by omega, by omega⟩

theorem category_spec (a n : Nat) (ha : 1 ≤ a) (hn : n ≤ 64) (hb : a < 2 ^ n) :
    let c := catLoop a 64 1
    1 ≤ c ∧ c ≤ n ∧ 2 ^ (c - 1) ≤ a ∧ a < 2 ^ c := by
  intro c
  have h := catLoop_spec a 64 1 (by simpa using ha)
    (Nat.lt_of_lt_of_le hb (Nat.pow_le_pow_right (by decide) (by omega)))
  refine ⟨h.2.2, ?_, h.1, h.2.1⟩
  have : 2 ^ (c - 1) < 2 ^ n := Nat.lt_of_le_of_lt h.1 hb
  have := (Nat.pow_lt_pow_iff_right (by decide : 1 < 2)).1 this
  omega

theorem category_roundtrip (v : Int) (hv : v ≠ 0) (hb : v.natAbs < 2 ^ 62) :
    let cb := encodeCategory v
    1 ≤ cb.1 ∧ 0 ≤ cb.2 ∧ cb.2 < (2 : Int) ^ cb.1 ∧ extend cb.1 cb.2 = v := by
  intro cb
  have ha : 1 ≤ v.natAbs := by omega
  obtain ⟨c1, c2, lo, hi⟩ := category_spec v.natAbs 62 ha (by decide) hb
  generalize hc : catLoop v.natAbs 64 1 = c at *
  have hcb : cb = (c, if v > 0 then v else (2 : Int) ^ c + v - 1) := by
    simp only [cb, encodeCategory, hv, if_false, hc]
  have e2 : (2 : Int) ^ c = 2 * 2 ^ (c - 1) := Int.two_pow_pred (by omega)
  have lo' : (2 : Int) ^ (c - 1) ≤ (v.natAbs : Int) := by exact_mod_cast lo
  have hi' : (v.natAbs : Int) < (2 : Int) ^ c := by exact_mod_cast hi
  have hc0 : ¬ c = 0 := by omega
  rw [hcb]
  by_cases hp : v > 0
  · have : (v.natAbs : Int) = v := by omega
    simp only [hp, if_true, extend, hc0, if_false]
    refine ⟨c1, by omega, by omega, ?_⟩
    rw [if_neg (by omega)]
  · have : (v.natAbs : Int) = -v := by omega
    simp only [hp, if_false, extend, hc0]
    refine ⟨c1, by omega, by omega, ?_⟩
    rw [if_pos (by omega)]; omega

end Dct
