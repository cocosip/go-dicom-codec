import GdcVerif.Lemmas.T1BlockLock
import GdcVerif.Lemmas.T1ZeroBlock
/-!
  The block encoder `Encode` never index-panics, for any style (TERMALL and PTERM in any combination) and any
  coefficients.  The model `T1.encodeBlock` is the Go encoder for the styles without LAZY only (it has no raw passes): that
  is why the statements in Props carry "without LAZY", not because a proof here uses it.  One iteration of its loop
  keeps `EncOkT` (terminated, or inside a codeword segment), whatever the pass codes; the loop is the fold of its iteration (`encLoop_run`).
-/
namespace T1
open Gen
open Mqc

section NP
variable (w h : Nat) (V : Array Int)

theorem encStep_ok (orient style mb : Nat) (i : Nat) (hi : i < 3 * mb + 1)
    (s : EncSt × Bool) (hs : EncOkT w h V s.1 s.2) :
    ∃ s', encStep w h orient style V mb i s = some s' ∧ EncOkT w h V s'.1 s'.2 := by
  have hpt : typeOf i ≤ 2 := (idx_next mb i hi).2.1
  obtain ⟨st, prevT⟩ := s
  have hok := (restartIf_ok w h V st prevT hs).1
  obtain ⟨p0, b0, hseg, hnf⟩ := restartIf_inSeg w h V st prevT hs
  have hCf := coder_inSeg p0 b0
  have hXf := coderCtx_inSeg p0 b0
  unfold encStep
  show ∃ s', (passE w h orient V (planeOf mb i) (typeOf i) (restartIf prevT (cvE i (typeOf i) st))).bind _ = some s' ∧ _
  rw [cv_restart]
  obtain ⟨st2, e2, hs2, hfw2⟩ := passE_ok hCf w h orient V (planeOf mb i) i (typeOf i) hpt _ hok
  obtain ⟨st3, e3, hs3, hfw3, _⟩ := segE_lock hCf (val := tr) style (planeOf mb i) (typeOf i) (typeOf i) st2 hs2
  have hseg3 : InSeg p0 b0 st3.mq := of_back hfw3 (of_back hfw2 hseg)
  rw [e2, Option.bind_some, e3, Option.bind_some]
  unfold termE
  cases termAt style mb i with
  | false =>
    obtain ⟨st4, e4, hs4, hfw4⟩ := resetE_ok hXf style st3 hs3
    simp only [Bool.false_eq_true, if_false, Option.bind_some, e4]
    exact ⟨_, rfl, .ofRun hs4 (of_back hfw4 hseg3) hnf⟩
  | true =>
    obtain ⟨ef, _, _, hef, hctx, hterm, _⟩ := term_facts style st3.mq hs3.reg hs3.norm p0 b0 hseg3 hnf
    obtain ⟨C, e4, hsz4, hterm4, _, _⟩ := reset_term style st3.flags ef (by rw [hctx]; exact hs3.nctx) hterm
    unfold termMq at hef
    simp only [if_true, hef, Option.map_some, Option.bind_some, e4]
    exact ⟨_, rfl, .ofTerm hs3.fsz hs3.dsz hsz4 hterm4⟩

theorem encLoop_ok_seg (orient style mb np : Nat) (st : EncSt)
    (hs : EncOkT w h V st false) :
    ∃ r, encLoop w h orient style V mb np (np + 1) st (mb : Int) 0 2 false = some r ∧ EncOkT w h V r.1 r.2 := by
  have hrun := encLoop_run w h orient style V mb np (min np (3 * mb + 1)) (np + 1 - min np (3 * mb + 1)) (st, false) 0
    (by omega) (by omega)
  rw [show planeI mb 0 = (mb : Int) by unfold planeI; omega, show np + 1 - min np (3 * mb + 1) + min np (3 * mb + 1) = np + 1 by omega]
    at hrun
  obtain ⟨s', hf, hs'⟩ := Loop.foldlM_inv_mem (fun s i => encStep w h orient style V mb i s) (fun s => EncOkT w h V s.1 s.2)
    (List.range' 0 (min np (3 * mb + 1)))
    (fun i s hi hs => encStep_ok w h V orient style mb i (by have := (List.mem_range'_1.mp hi).2; omega) s hs) (st, false) hs
  have hf' : (List.range' 0 (min np (3 * mb + 1))).foldlM (fun s i => encStep w h orient style V mb i s) (st, false) = some s' := hf
  refine ⟨s', ?_, hs'⟩
  rw [show (2 : Nat) = typeOf 0 from rfl, hrun, hf', Option.bind_some]
  exact encLoop_exit _ _ _ _ _ _ _ _ _ _ _ _ _ (by unfold planeI; omega)

end NP

/-- every access to the padded flag and coefficient arrays, to the three context tables, and to the 19 MQ
contexts is in range, and the MQ coder's own buffer accesses are in range (`Mqc.encode_spec`, `Mqc.flush_spec`,
`term_facts`) -/
theorem encodeBlock_no_panic_mq (w h orient style : Nat) (coeffs : List Int) (np : Nat) (hlen : coeffs.length = w * h) :
    ∃ bytes, encodeBlock w h orient style coeffs np = .ok bytes := by
  cases hmb : findMaxBitplane (padBlock w h coeffs) with
  | none => exact ⟨_, (encode_zero_bytes 0 w h orient style coeffs np hlen hmb).2⟩
  | some mb =>
    obtain ⟨r, er, hr2⟩ := encLoop_ok_seg w h (padBlock w h coeffs) orient style mb np (es0 w h)
      (es0_okT w h _ (padBlock_spec w h coeffs).1)
    rw [encodeBlock_eq w h orient style mb np coeffs hlen hmb, er]
    obtain ⟨st, t⟩ := r
    cases t with
    | true => exact ⟨_, rfl⟩
    | false =>
      obtain ⟨e', bytes, hf, _⟩ := Mqc.flush_spec _ hr2.run.1 hr2.run.2.1
      simp only [Bool.false_eq_true, if_false, hf]
      exact ⟨_, rfl⟩

theorem encodeBlock_no_panic (w h orient style : Nat) (coeffs : List Int) (np : Nat) (hlen : coeffs.length = w * h)
    (hT : Go.and (style : Int) J2kT1.CblkStyleTermAll = 0) (hL : Go.and (style : Int) J2kT1.CblkStyleLazy = 0) :
    ∃ bytes, encodeBlock w h orient style coeffs np = .ok bytes :=
  encodeBlock_no_panic_mq w h orient style coeffs np hlen


end T1
