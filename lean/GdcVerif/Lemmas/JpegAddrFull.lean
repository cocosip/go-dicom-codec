import GdcVerif.Model.JpegAddr
import GdcVerif.Lemmas.JpegAddr
/-!
  The list-level step of C15: every pixel shows the designated data unit, for a decode order given as a
  list of blocks that some ordinal function maps onto `0, 1, 2, …` (`shownOn_eq`).  Such orders are the
  interleaved MCU walk (`walk_map_ord`) and the non-interleaved scan walk of baseline.Decode
  (`walkNI_map_ord`, since fix be7825e); the grid of the latter lies inside that
  of the former (`niCols_le`, `niRows_le`).
-/
namespace JpegAddr
open List

/-- ordinal of a block in the interleaved decode order -/
def ord (C H V : Nat) (b : Nat × Nat) : Nat :=
  ((b.2 / V) * C + b.1 / H) * (H * V) + (b.2 % V) * H + b.1 % H

theorem ord_blk (C H V my mx v h : Nat) (hh : h < H) (hv : v < V) :
    ord C H V (mx * H + h, my * V + v) = ((my * C + mx) * V + v) * H + h := by
  simp only [ord, Radix.div_mod mx hh, Radix.div_mod my hv]
  rw [Nat.add_mul ((my * C + mx) * V) v H, Nat.mul_assoc (my * C + mx) V H, Nat.mul_comm V H]

theorem walk_map_ord (f : Frame) (c : Comp) :
    (walk f c).map (ord (mcuCols f) c.H c.V) = range (mcuRows f * (mcuCols f * (c.V * c.H))) := by
  unfold walk
  rw [List.map_flatMap]
  -- a block's ordinal is its place in the four nested loops …
  calc _ = (range (mcuRows f)).flatMap fun my => (range (mcuCols f)).flatMap fun mx =>
            (range c.V).flatMap fun v => (range c.H).map fun h => ((my * mcuCols f + mx) * c.V + v) * c.H + h := by
        refine List.flatMap_congr_left fun my _ => ?_
        rw [List.map_flatMap]; refine List.flatMap_congr_left fun mx _ => ?_
        rw [List.map_flatMap]; refine List.flatMap_congr_left fun v hv => ?_
        rw [List.map_map]
        exact List.map_congr_left fun h hh => ord_blk _ _ _ _ _ _ _ (mem_range.1 hh) (mem_range.1 hv)
    -- … and nested ranges flatten to one, a level at a time
    _ = _ := by
        rw [Radix.range_flatMap_mul (mcuCols f) fun k => (range c.V).flatMap fun v => (range c.H).map fun h => (k * c.V + v) * c.H + h,
          Radix.range_flatMap_mul c.V fun j => (range c.H).map fun h => j * c.H + h, Radix.range_flat,
          Nat.mul_assoc, Nat.mul_assoc]

theorem foldl_max_ge (l : List Comp) (g : Comp → Nat) (init : Nat) :
    init ≤ l.foldl (fun m c => if g c > m then g c else m) init := by
  induction l generalizing init with
  | nil => simp
  | cons a t ih =>
    simp only [List.foldl_cons]
    split
    · exact Nat.le_trans (by omega) (ih _)
    · exact ih _

theorem maxH_pos (f : Frame) : 0 < maxH f := by
  have := foldl_max_ge f.comps (·.H) 1; simp only [maxH]; omega
theorem maxV_pos (f : Frame) : 0 < maxV f := by
  have := foldl_max_ge f.comps (·.V) 1; simp only [maxV]; omega

/-- The write side: the 64 samples of a block of `wk` are written when that block is decoded and by no other. -/
theorem lastWriterOn_eq (wk : List (Nat × Nat)) (g : Nat × Nat → Nat) {n : Nat} (cw ch : Nat)
    (hg : wk.map g = range n) (hbd : ∀ b ∈ wk, b.1 < cw ∧ b.2 < ch)
    (bx by' : Nat) (hmem : (bx, by') ∈ wk) (r : Nat) (hr : r < 64) :
    lastWriterOn wk cw (cw * ch * 64) (blockOffset cw bx by' + r) = some (g (bx, by')) := by
  have hord := (List.getElem_of_map_eq_range hg).2
  have hz : wk.zipIdx = wk.map fun b => (b, g b) := List.ext_getElem (by simp) fun i h1 h2 => by
    simp [hord i (by simpa using h1)]
  have hw : ∀ b ∈ wk, writeOffset cw (cw * ch * 64) b = some (blockOffset cw b.1 b.2) := fun b hb =>
    writeOffset_some _ _ b (inblock_lt cw ch b.1 b.2 (hbd b hb).1 (hbd b hb).2 63 (by omega))
  have hcov : ∀ b ∈ wk, blockOffset cw b.1 b.2 ≤ blockOffset cw bx by' + r ∧
      blockOffset cw bx by' + r < blockOffset cw b.1 b.2 + 64 → b = (bx, by') := fun b hb h => by
    have := offset_inj cw b.1 b.2 bx by' (hbd b hb).1 (hbd _ hmem).1 (by simp only [blockOffset] at h ⊢; omega)
    exact Prod.ext this.1 this.2
  -- the last block that covers it is the first such from the end
  unfold lastWriterOn
  rw [hz, List.filter_map, List.getLast?_map, List.getLast?_filter]
  cases hf : wk.reverse.find? _ with
  | none =>
    have := List.find?_eq_none.1 hf _ (List.mem_reverse.2 hmem)
    simp only [Function.comp, hw _ hmem] at this
    simp at this
    omega
  | some b =>
    have hb := List.mem_reverse.1 (List.mem_of_find?_eq_some hf)
    have := List.find?_some hf
    simp only [Function.comp, hw b hb, decide_eq_true_eq] at this
    rw [hcov b hb this]
    rfl

/-- The read side: every pixel whose data unit is in `wk` reads one of that unit's 64 samples. -/
theorem shownOn_eq (f : Frame) (c : Comp) (wk : List (Nat × Nat)) (g : Nat × Nat → Nat) {n : Nat}
    (hg : wk.map g = range n) (hbd : ∀ b ∈ wk, b.1 < mcuCols f * c.H ∧ b.2 < mcuRows f * c.V)
    (x y : Nat) (hmem : (x * c.H / maxH f / 8, y * c.V / maxV f / 8) ∈ wk) :
    (match readAddrWith (maxH f) (maxV f) (mcuCols f * c.H) (mcuRows f * c.V) c x y with
      | none => (-1 : Int)
      | some a =>
        match lastWriterOn wk (mcuCols f * c.H) (mcuCols f * c.H * (mcuRows f * c.V) * 64) a with
        | none => -1
        | some k => (k : Int)) = (g (x * c.H / maxH f / 8, y * c.V / maxV f / 8) : Int) := by
  have hr : (y * c.V / maxV f % 8) * 8 + x * c.H / maxH f % 8 < 64 := by
    have := Nat.mod_lt (y * c.V / maxV f) (by decide : 0 < 8)
    have := Nat.mod_lt (x * c.H / maxH f) (by decide : 0 < 8)
    omega
  simp only [readAddrWith]
  rw [if_pos (hbd _ hmem), Nat.add_assoc]
  simp only []
  rw [lastWriterOn_eq wk g _ _ hg hbd _ _ hmem _ hr]

theorem niCols_le (f : Frame) (c : Comp) : niCols f c ≤ mcuCols f * c.H := ni_le _ _ _ (maxH_pos f)
theorem niRows_le (f : Frame) (c : Comp) : niRows f c ≤ mcuRows f * c.V := ni_le _ _ _ (maxV_pos f)

theorem mem_walkNI (f : Frame) (c : Comp) (b : Nat × Nat) :
    b ∈ walkNI f c ↔ b.1 < niCols f c ∧ b.2 < niRows f c := by
  simp only [walkNI, List.mem_flatMap, List.mem_map, List.mem_range]
  constructor
  · rintro ⟨my, hmy, mx, hmx, rfl⟩; exact ⟨hmx, hmy⟩
  · rintro ⟨h1, h2⟩; exact ⟨b.2, h2, b.1, h1, rfl⟩

theorem walkNI_map_ord (f : Frame) (c : Comp) :
    (walkNI f c).map (fun b => b.2 * niCols f c + b.1) = range (niRows f c * niCols f c) := by
  unfold walkNI
  rw [List.map_flatMap, ← Radix.range_flat (niRows f c) (niCols f c)]
  congr 1; funext my
  rw [List.map_map]
  rfl

end JpegAddr
