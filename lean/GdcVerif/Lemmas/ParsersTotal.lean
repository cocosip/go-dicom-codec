import GdcVerif.Model.JpegMarkers
import GdcVerif.Model.JlsHeader
import GdcVerif.Lemmas.Loops
import GdcVerif.Lemmas.Basics
/-!
  C08 for the JPEG-family header walks (lossless14sv1, jpeg/lossless, baseline, JPEG-LS lossless and
  near-lossless).  Per decoder: what its segment parsers keep and that they do not panic; then ONE theorem
  about a turn of the marker loop, `(step st bs).Post Inv NoPanic`, proved along the definition of `step`
  (`markerTurn_post`, `Step.Post.ite` per marker, `segTurn_post` per segment); `soi_run_post` lifts it to the decoder.
  The statements about the frame-header parsers (`sv1SOF3_spec`, `blSOF_spec`) and the `*_some`
  inversions also say what is allocated and which fields stay: JpegAlloc.lean (C09) reads its bounds off them.
-/
namespace JM
open PC

/-- every decoder is this `match` by definition (`hx` is `rfl`): an SOI marker, then the marker loop -/
theorem soi_run_post {σ : Type} {step : σ → Bytes → Step σ}
    {hlt : ∀ {st bs st' r}, step st bs = .more st' r → r.length < bs.length} {Inv : σ → Bytes → Prop}
    {P : σ × Res → Prop} {init : σ} {bs : Bytes} {x : σ × Res}
    (hx : x = match readMarker bs with
      | none => (init, .err)
      | some (m, rest) => if m ≠ 0xFFD8 then (init, .err) else run step hlt init rest)
    (herr : P (init, .err)) (hstep : ∀ st bs, Inv st bs → (step st bs).Post Inv fun st' o => P (st', o))
    (hinit : ∀ rest, readMarker bs = some (0xFFD8, rest) → Inv init rest) : P x := by
  subst hx
  split
  · exact herr
  · split
    · exact herr
    · rename_i m rest hm h
      have : m = 0xFFD8 := Decidable.of_not_not h
      exact run_post step hlt Inv P hstep init rest (hinit rest (this ▸ hm))

theorem soi_eval {σ : Type} {init : σ} {bs rest : Bytes} {step : σ → Bytes → Step σ}
    {hlt : ∀ {st bs st' r}, step st bs = .more st' r → r.length < bs.length} {x : σ × Res} (n : Nat)
    (h1 : readMarker bs = some (0xFFD8, rest)) (h2 : runN step n init rest = some x) :
    (match readMarker bs with
     | none => (init, .err)
     | some (m, rest) => if m ≠ 0xFFD8 then (init, .err) else run step hlt init rest) = x := by
  rw [h1]
  exact run_eq_of_runN _ _ n _ _ _ h2

theorem buildCodes_total (nv l n p : Nat) : NoPanicE (buildCodes nv l n p) := by
  fun_induction buildCodes nv l n p with
  | case1 => trivial
  | case2 => exact NoPanic.err
  -- the two index sites are behind the guard of 1cb8f42
  | case3 | case4 => omega
  | case5 => assumption

theorem buildLens_total (nv : Nat) (bits : List Nat) (l p : Nat) : NoPanicE (buildLens nv bits l p) := by
  fun_induction buildLens nv bits l p with
  | case1 | case2 => trivial
  | case3 => assumption
  | case4 => exact (buildCodes_total _ _ _ _).of_error ‹_›

theorem dhtTable_total (maxTh : Nat) (data : Bytes) : NoPanicE (dhtTable maxTh data) := by
  unfold dhtTable
  split
  · exact NoPanic.err
  · simp only
    refine ite_ind (fun _ => NoPanic.err) fun _ => ite_ind (fun _ => NoPanic.err) fun _ =>
      ite_ind (fun _ => NoPanic.err) fun _ => ?_
    split
    · trivial
    · exact (buildLens_total _ _ 0 0).of_error ‹_›

theorem parseDHT_total (maxTh : Nat) (data : Bytes) (dc ac : List Bool) : NoPanicE (parseDHT maxTh data dc ac) := by
  fun_induction parseDHT maxTh data dc ac with
  | case1 => trivial
  | case2 | case3 => assumption
  | case4 => exact (dhtTable_total _ _).of_error ‹_›

/-- the first Huffman table lookup of a scan: `tables[sel]`, a 4-entry array -/
theorem tableSel_total {sel : Nat} (h : sel < 4) (s : Site) (t : List Bool) :
    NoPanic (if sel ≥ 4 then .panic s else if t.getD sel false then .beyond else .err) :=
  ite_ind (fun h4 => absurd h4 (Nat.not_le_of_lt h)) fun _ => ite_ind (fun _ => .beyond) fun _ => .err

section lossless14sv1

def Sel4 (cs : List (Nat × Nat)) : Prop := ∀ c ∈ cs, c.2 < 4

theorem Sel4.nil : Sel4 [] := fun _ h => nomatch h

theorem sv1Comps_spec {w h n : Nat} {data : Bytes} {acc : List (Nat × Nat)} {al : List Nat}
    {r : Option (List (Nat × Nat)) × List Nat} (hr : sv1Comps w h n data acc al = r)
    (hal : ∀ a ∈ al, a ≤ 24 ∨ a ≤ 8 * (w * h)) :
    (∀ a ∈ r.2, a ≤ 24 ∨ a ≤ 8 * (w * h)) ∧
    (∀ cs, r.1 = some cs → cs.length = acc.length + n ∧ (Sel4 acc → Sel4 cs)) := by
  subst hr
  fun_induction sv1Comps w h n data acc al with
  | case1 => exact ⟨hal, fun cs h => Option.some.inj h ▸ ⟨rfl, id⟩⟩
  -- the plane is allocated before the sampling factors are checked
  | case2 => exact ⟨List.forall_mem_snoc hal (.inr (Nat.le_refl _)), nofun⟩
  | case3 =>
    rename_i ih
    obtain ⟨h1, h2⟩ := ih (List.forall_mem_snoc hal (.inr (Nat.le_refl _)))
    refine ⟨h1, fun cs h => ?_⟩
    obtain ⟨hl, hs⟩ := h2 cs h
    exact ⟨by simp at hl; omega, fun ha => hs (List.forall_mem_snoc ha (Nat.zero_lt_succ 3))⟩
  | case4 => exact ⟨hal, nofun⟩

/-- what parseSOF3 does to the decoder state and what it allocates: nothing at all for a payload under 6 bytes or
    after an accepted header; otherwise the component table (8·Nf ≤ 24 bytes) and planes of 8·w·h bytes, also when
    it rejects the header half-way;
    an accepted header has one to three components, precision at most 16, and every table selector below 4 -/
def Sv1SOFSpec (st : Sv1) (r : (Bool × Sv1) × List Nat) : Prop :=
  r = ((false, st), []) ∨
  (st.comps.length = 0 ∧
    (∀ a ∈ r.2, a ≤ 24 ∨ a ≤ 8 * (r.1.2.width * r.1.2.height)) ∧
    (r.1.1 = true → 1 ≤ r.1.2.comps.length ∧ r.1.2.comps.length ≤ 3 ∧ r.1.2.precision ≤ 16 ∧ Sel4 r.1.2.comps))

theorem Sv1SOFSpec.rej {st st1 : Sv1} (hc : st.comps.length = 0) : Sv1SOFSpec st ((false, st1), []) :=
  .inr ⟨hc, nofun, nofun⟩

theorem sv1SOF3_spec (st : Sv1) (data : Bytes) : Sv1SOFSpec st (sv1SOF3 st data) := by
  unfold sv1SOF3
  refine ite_ind (fun _ => .inl rfl) fun _ => ite_ind (fun _ => .inl rfl) fun h2 => ?_
  have hc : st.comps.length = 0 := by omega
  refine ite_ind (fun _ => .rej hc) fun h3 => ite_ind (fun _ => .rej hc) fun h4 =>
    ite_ind (fun _ => .rej hc) fun h5 => ite_ind (fun _ => .rej hc) fun h6 => ?_
  have hnc {B : Nat} : ∀ a ∈ [8 * data.getD 5 0], a ≤ 24 ∨ a ≤ B := fun a ha =>
    .inl (by have := List.mem_singleton.mp ha; omega)
  split
  · exact .inr ⟨hc, (sv1Comps_spec ‹_› hnc).1, nofun⟩
  · rename_i cs al hr
    obtain ⟨hal, hcs⟩ := sv1Comps_spec hr hnc
    obtain ⟨hl, hsel⟩ := hcs cs rfl
    simp only [List.length_nil, Nat.zero_add] at hl
    refine .inr ⟨hc, hal, fun _ => ?_⟩
    show 1 ≤ cs.length ∧ cs.length ≤ 3 ∧ data.getD 0 0 ≤ 16 ∧ Sel4 cs
    exact ⟨by omega, by omega, by omega, hsel fun _ hc => nomatch hc⟩

theorem sv1Selectors_spec (n : Nat) (data : Bytes) (comps cs : List (Nat × Nat))
    (h : sv1Selectors n data comps = some cs) : cs.length = comps.length ∧ (Sel4 comps → Sel4 cs) := by
  fun_induction sv1Selectors n data comps with
  | case1 =>
    cases h
    exact ⟨rfl, id⟩
  | case2 | case3 | case5 => cases h
  | case4 =>
    rename_i ih
    obtain ⟨hl, hs⟩ := ih h
    exact ⟨by simpa using hl, fun ha => hs (List.forall_mem_set ha (by omega))⟩

theorem sv1SOS_some {st st' : Sv1} {data : Bytes} (h : sv1SOS st data = some st') :
    ∃ cs, st' = { st with comps := cs } ∧ cs.length = st.comps.length ∧ (Sel4 st.comps → Sel4 cs) := by
  unfold sv1SOS at h
  split at h
  · cases h
  · split at h
    · cases h
    · split at h
      · cases h
      · rename_i cs hs
        split at h
        · cases h
        · cases h
          exact ⟨cs, rfl, sv1Selectors_spec _ _ _ _ hs⟩

theorem sv1ScanStart_total (st : Sv1) (h : Sel4 st.comps) : NoPanic (sv1ScanStart st) := by
  unfold sv1ScanStart
  refine ite_ind (fun _ => .ok) fun _ => ?_
  split
  · exact .ok
  · rename_i id sel rest hc
    exact tableSel_total (h (id, sel) (by rw [hc]; simp)) _ _

theorem sv1Step_total {st : Sv1} {bs : Bytes} (hi : Sel4 st.comps) :
    (sv1Step st bs).Post (fun st' _ => Sel4 st'.comps) fun _ o => NoPanic o := by
  unfold sv1Step
  refine markerTurn_post NoPanic.err fun m rest _ => ?_
  refine .ite (fun _ => ?_) fun _ => .ite (fun _ => ?_) fun _ => .ite (fun _ => ?_) fun _ =>
    .ite (fun _ => NoPanic.ok) fun _ => .ite (fun _ => ?_) fun _ => hi
  · refine segTurn_post NoPanic.err fun pl _ _ => ?_
    split
    · exact NoPanic.err
    · rename_i st2 al hs
      rcases hs ▸ sv1SOF3_spec st pl with h | ⟨_, _, h⟩
      · cases h
      · exact (h rfl).2.2.2
  · refine segTurn_post NoPanic.err fun pl _ _ => ?_
    split
    · exact hi
    · exact (parseDHT_total _ _ _ _).of_error ‹_›
  · refine segTurn_post NoPanic.err fun pl _ _ => ?_
    split
    · exact NoPanic.err
    · rename_i st2 hs
      obtain ⟨cs, rfl, _, hsel⟩ := sv1SOS_some hs
      have hsc := sv1ScanStart_total { st with comps := cs } (hsel hi)
      split
      · exact NoPanic.ok
      · exact hsc
  · exact segTurn_post NoPanic.err fun pl _ _ => hi

theorem sv1Decode_eval {bs rest : Bytes} {x : Sv1 × Res} (n : Nat) (h1 : readMarker bs = some (0xFFD8, rest))
    (h2 : runN sv1Step n {} rest = some x) : sv1Decode bs = x :=
  soi_eval n h1 h2

end lossless14sv1

section lossless

def JllInv (st : Jll) : Prop := st.comps ≤ 3 ∧ ∀ x ∈ st.sels, x < 4

theorem JllInv.init : JllInv {} := ⟨by decide, by decide⟩

theorem jllSOF3_some {st st' : Jll} {data : Bytes} (h : jllSOF3 st data = some st') :
    st'.comps ≤ 3 ∧ st'.precision ≤ 16 ∧ st'.sels = st.sels := by
  unfold jllSOF3 at h
  obtain ⟨_, h⟩ := of_ite_none h
  obtain ⟨_, h⟩ := of_ite_none h
  obtain ⟨hp, h⟩ := of_ite_none h
  obtain ⟨_, h⟩ := of_ite_none h
  obtain ⟨hc, h⟩ := of_ite_none h
  cases h
  exact ⟨by show data.getD 5 0 ≤ 3; omega, by show data.getD 0 0 ≤ 16; omega, rfl⟩

theorem jllSOF3_inv {st st' : Jll} {data : Bytes} (hi : JllInv st) (h : jllSOF3 st data = some st') : JllInv st' :=
  have hs := jllSOF3_some h
  ⟨hs.1, hs.2.2 ▸ hi.2⟩

theorem jllSelectors_spec (data : Bytes) (ncomp : Nat) (hn : ncomp ≤ 3) (hl : 1 + ncomp * 2 + 3 ≤ data.length)
    (k : Nat) (sels : List Nat) (h4 : ∀ x ∈ sels, x < 4) :
    OkPost (fun r => ∀ x ∈ r, x < 4) (jllSelectors data ncomp k sels) := by
  fun_induction jllSelectors data ncomp k sels with
  | case1 => exact h4
  -- both index sites are in range: the payload holds all `ncomp` selector pairs and `ncomp ≤ 3`
  | case2 | case4 => omega
  | case3 => exact NoPanic.err
  | case5 =>
    rename_i ih
    exact ih (List.forall_mem_set h4 (by omega))

theorem jllSOS_spec {st : Jll} {data : Bytes} (hi : JllInv st) :
    OkPost (fun st' => ∃ s, st' = { st with sels := s } ∧ ∀ x ∈ s, x < 4) (jllSOS st data) := by
  unfold jllSOS
  refine ite_ind (fun _ => NoPanic.err) fun h1 => ite_ind (fun _ => NoPanic.err) fun _ => ?_
  simp only
  refine ite_ind (fun _ => NoPanic.err) fun _ => ?_
  have hs := jllSelectors_spec data st.comps hi.1 (by omega) st.comps st.sels hi.2
  split
  · exact ⟨_, rfl, hs.of_ok ‹_›⟩
  · exact hs.of_error ‹_›

theorem jllScanStart_total (st : Jll) (hi : JllInv st) : NoPanic (jllScanStart st) := by
  unfold jllScanStart
  refine ite_ind (fun _ => .ok) fun _ => ?_
  simp only
  exact tableSel_total (List.getD_of_forall_mem (P := (· < 4)) hi.2 (by decide) 0) _ _

theorem jllStep_total {st : Jll} {bs : Bytes} (hi : JllInv st) :
    (jllStep st bs).Post (fun st' _ => JllInv st') fun _ o => NoPanic o := by
  unfold jllStep
  refine markerTurn_post NoPanic.err fun m rest _ => ?_
  refine .ite (fun _ => ?_) fun _ => .ite (fun _ => ?_) fun _ => .ite (fun _ => ?_) fun _ =>
    .ite (fun _ => NoPanic.err) fun _ => .ite (fun _ => ?_) fun _ => hi
  · refine segTurn_post NoPanic.err fun pl _ _ => ?_
    split
    · exact NoPanic.err
    · rename_i st2 hs
      exact (jllSOF3_inv hi hs : JllInv st2)
  · refine segTurn_post NoPanic.err fun pl _ _ => ?_
    split
    · exact hi
    · exact (parseDHT_total _ _ _ _).of_error ‹_›
  · refine segTurn_post NoPanic.err fun pl _ _ => ?_
    have hsp := @jllSOS_spec st pl hi
    split
    · exact hsp.of_error ‹_›
    · rename_i st2 hs
      obtain ⟨s, rfl, h4⟩ := hsp.of_ok hs
      have hsc := jllScanStart_total { st with sels := s } ⟨hi.1, h4⟩
      split
      · exact NoPanic.ok
      · exact hsc
  · exact segTurn_post NoPanic.err fun pl _ _ => hi

theorem jllDecode_eval {bs rest : Bytes} {x : Jll × Res} (n : Nat) (h1 : readMarker bs = some (0xFFD8, rest))
    (h2 : runN jllStep n {} rest = some x) : jllDecode bs = x :=
  soi_eval n h1 h2

end lossless

section baseline

def BlInv (st : Bl) : Prop := ∀ c ∈ st.comps, c.td < 4

theorem BlInv.init : BlInv {} := fun _ h => nomatch h

theorem maxOf_spec (f : BlComp → Nat) (cs : List BlComp) : 1 ≤ maxOf f cs ∧ ∀ c ∈ cs, f c ≤ maxOf f cs :=
  Loop.le_foldl_max f cs 1

theorem divCeil_some (a b : Nat) (hb : b ≠ 0) : divCeil a b = some ((a + b - 1) / b) := by
  unfold divCeil
  rw [if_neg hb]

theorem blComps_spec (n : Nat) (data : Bytes) (acc cs : List BlComp) (h : blComps n data acc = some cs) :
    cs.length = acc.length + n ∧ ((∀ c ∈ acc, c.td < 4) → ∀ c ∈ cs, c.td < 4) := by
  fun_induction blComps n data acc with
  | case1 =>
    cases h
    exact ⟨rfl, id⟩
  | case2 | case4 => cases h
  | case3 =>
    rename_i ih
    obtain ⟨hl, ht⟩ := ih h
    exact ⟨by simp at hl; omega, fun ha => ht (List.forall_mem_snoc ha (Nat.zero_lt_succ 3))⟩

theorem divCeil_le (w H M : Nat) (hH : H ≤ M) (hM : 1 ≤ M) : (w * H + M * 8 - 1) / (M * 8) ≤ w := by
  have h2 : w * H ≤ w * M := Nat.mul_le_mul_left _ hH
  have h3 : (w + 1) * (M * 8) = w * M * 8 + M * 8 := by rw [Nat.add_mul, Nat.one_mul, Nat.mul_assoc]
  exact Nat.lt_succ_iff.mp ((Nat.div_lt_iff_lt_mul (by omega)).mpr (by rw [h3]; omega))

/-- no DivCeil divisor is 0 (they are 8·maxH, 8·maxV ≥ 8), and a component plane of whole 8×8 blocks of
    the MCU grid is at most 64·w·h bytes -/
theorem blCompAllocs_spec (w h maxH maxV : Nat) (hH : 1 ≤ maxH) (hV : 1 ≤ maxV) (cs : List BlComp)
    (hcs : ∀ c ∈ cs, c.h ≤ maxH ∧ c.v ≤ maxV) :
    OkPost (fun al => ∀ a ∈ al, a ≤ 64 * (w * h)) (blCompAllocs w h maxH maxV cs) := by
  induction cs with
  | nil => exact fun _ h' => nomatch h'
  | cons c cs ih =>
    have ih := ih fun c' hc' => hcs c' (List.mem_cons_of_mem _ hc')
    have hc := hcs c (List.mem_cons_self ..)
    unfold blCompAllocs
    rw [divCeil_some _ _ (by omega), divCeil_some _ _ (by omega)]
    simp only
    split
    · have := Nat.mul_le_mul (divCeil_le w c.h maxH hc.1 hH) (divCeil_le h c.v maxV hc.2 hV)
      exact List.forall_mem_cons.mpr ⟨by omega, ih.of_ok ‹_›⟩
    · exact ih.of_error ‹_›

theorem blSOF_spec (st : Bl) (data : Bytes) :
    OkPost (fun p => st.comps.length = 0 ∧ p.1.comps.length ≠ 0 ∧ BlInv p.1 ∧
      ∀ a ∈ p.2, a ≤ 24 ∨ a ≤ 64 * (p.1.width * p.1.height)) (blSOF st data) := by
  unfold blSOF
  refine ite_ind (fun _ => NoPanic.err) fun h1 => ite_ind (fun _ => NoPanic.err) fun h2 =>
    ite_ind (fun _ => NoPanic.err) fun h3 => ?_
  simp only
  refine ite_ind (fun _ => NoPanic.err) fun h4 => ite_ind (fun _ => NoPanic.err) fun h5 =>
    ite_ind (fun _ => NoPanic.err) fun h6 => ?_
  split
  · exact NoPanic.err
  · rename_i cs hcs
    obtain ⟨hH, hcH⟩ := maxOf_spec (·.h) cs
    obtain ⟨hV, hcV⟩ := maxOf_spec (·.v) cs
    have hal := fun w h => blCompAllocs_spec w h _ _ hH hV cs fun c hc => ⟨hcH c hc, hcV c hc⟩
    rw [divCeil_some _ _ (by omega), divCeil_some _ _ (by omega)]
    simp only
    split
    · rename_i al he
      obtain ⟨hlen, htd⟩ := blComps_spec _ _ _ _ hcs
      simp only [List.length_nil, Nat.zero_add] at hlen
      exact ⟨by omega, by show cs.length ≠ 0; omega, htd (fun _ hc => nomatch hc),
        List.forall_mem_cons.mpr ⟨.inl (by omega), fun a h' => .inr ((hal _ _).of_ok he a h')⟩⟩
    · exact (hal _ _).of_error ‹_›

theorem blDQT_total (data : Bytes) : NoPanic (blDQT data) := by
  fun_induction blDQT data with
  | case1 => exact .ok
  | case2 | case4 => exact .err
  -- the index site `tq ≥ 4` is behind the guard `tq > 3`
  | case3 => omega
  | case5 => assumption

theorem blSelectors_spec (n : Nat) (data : Bytes) (comps cs : List BlComp) (h : blSelectors n data comps = some cs)
    (ha : ∀ c ∈ comps, c.td < 4) : ∀ c ∈ cs, c.td < 4 := by
  fun_induction blSelectors n data comps with
  | case1 =>
    cases h
    exact ha
  | case2 | case4 | case5 => cases h
  | case3 n c tdta =>
    rename_i ih
    exact ih h (List.forall_mem_set ha (by show tdta / 16 < 4; omega))

theorem blSOS_some {st st' : Bl} {data : Bytes} (h : blSOS st data = some st') :
    ∃ cs, st' = { st with comps := cs } ∧ (BlInv st → ∀ c ∈ cs, c.td < 4) := by
  unfold blSOS at h
  split at h
  · cases h
  · split at h
    · cases h
    · split at h
      · cases h
      · rename_i cs hs
        cases h
        exact ⟨cs, rfl, blSelectors_spec _ _ _ _ hs⟩

theorem blScanStart_total (st : Bl) (hi : BlInv st) : NoPanic (blScanStart st) := by
  unfold blScanStart
  refine ite_ind (fun _ => .err) fun hm => ?_
  rw [divCeil_some _ _ (by omega), divCeil_some _ _ (by omega)]
  simp only
  refine ite_ind (fun _ => .beyond) fun _ => ?_
  split
  · exact .beyond
  · rename_i c rest hc
    exact tableSel_total (hi c (by rw [hc]; simp)) _ _

theorem blStep_total {st : Bl} {bs : Bytes} (hi : BlInv st) :
    (blStep st bs).Post (fun st' _ => BlInv st') fun _ o => NoPanic o := by
  unfold blStep
  refine markerTurn_post NoPanic.err fun m rest _ => ?_
  refine .ite (fun _ => ?_) fun _ => .ite (fun _ => ?_) fun _ => .ite (fun _ => ?_) fun _ =>
    .ite (fun _ => ?_) fun _ => .ite (fun _ => ?_) fun _ => .ite (fun _ => NoPanic.beyond) fun _ =>
    .ite (fun _ => ?_) fun _ => hi
  · refine segTurn_post NoPanic.err fun pl _ _ => ?_
    split
    · obtain ⟨_, _, hinv, _⟩ := (blSOF_spec st pl).of_ok ‹_›
      exact hinv
    · exact (blSOF_spec st pl).of_error ‹_›
  · refine segTurn_post NoPanic.err fun pl _ _ => ?_
    split
    · exact hi
    · exact blDQT_total pl
  · refine segTurn_post NoPanic.err fun pl _ _ => ?_
    split
    · exact hi
    · exact (parseDHT_total _ _ _ _).of_error ‹_›
  · refine segTurn_post NoPanic.err fun pl _ _ => ?_
    split
    · exact NoPanic.err
    · exact hi
  · refine segTurn_post NoPanic.err fun pl _ _ => ?_
    split
    · exact NoPanic.err
    · obtain ⟨cs, rfl, hinv⟩ := blSOS_some ‹_›
      exact blScanStart_total { st with comps := cs } (hinv hi)
  · exact segTurn_post NoPanic.err fun pl _ _ => hi

theorem blDecode_eval {bs rest : Bytes} {x : Bl × Res} (n : Nat) (h1 : readMarker bs = some (0xFFD8, rest))
    (h2 : runN blStep n {} rest = some x) : blDecode bs = x :=
  soi_eval n h1 h2

end baseline

end JM
namespace JlsH
open PC JM

theorem wrap64_id (x : Int) (h1 : -2 ^ 63 ≤ x) (h2 : x < 2 ^ 63) : wrap64 x = x := by
  unfold wrap64
  omega

theorem thresholdsDivOk_of_nonneg (mv : Int) (h : 0 ≤ mv) : thresholdsDivOk mv = true := by
  unfold thresholdsDivOk
  by_cases h128 : mv ≥ 128
  · rw [if_pos h128]
  · rw [if_neg h128, wrap64_id (mv + 1) (by omega) (by omega), if_neg (by omega : ¬ mv + 1 = 0)]
    -- the factor 256/(mv+1) is at least 1, since mv + 1 ≤ 256
    have h1 : 1 ≤ (256 : Int) / (mv + 1) := Int.le_ediv_of_mul_le (by omega) (by omega)
    rw [Int.tdiv_eq_ediv_of_nonneg (by omega), if_neg (by omega)]

/-- 2·near+1 is odd, so it is not 0 modulo 2^64: the range division of ComputeCodingParameters is safe -/
theorem codingParamsPanic_none (mv near : Int) (h : 0 ≤ mv) : codingParamsPanic mv near = none := by
  unfold codingParamsPanic
  have h1 : ¬ (near > 0 ∧ wrap64 (2 * near + 1) = 0) := by
    intro ⟨_, hw⟩
    unfold wrap64 at hw
    omega
  rw [if_neg h1, thresholdsDivOk_of_nonneg mv h]
  rfl

theorem maxValOf_nonneg (p : Nat) (h16 : p ≤ 16) : 0 ≤ maxValOf p := by
  unfold maxValOf
  rw [if_neg (by omega)]
  have h1 : (1 : Int) ≤ 2 ^ p := by exact_mod_cast Nat.one_le_two_pow
  have h3 : (2 : Int) ^ p ≤ 2 ^ 16 := Int.two_pow_mono h16
  rw [wrap64_id (2 ^ p) (by omega) (by omega), wrap64_id _ (by omega) (by omega)]
  omega

theorem sofFields_p {data : Bytes} {p h w nc : Nat} (hs : sofFields data = some (p, h, w, nc)) : p ≤ 16 := by
  unfold sofFields at hs
  obtain ⟨_, hs⟩ := of_ite_none hs
  obtain ⟨hp, hs⟩ := of_ite_none hs
  obtain ⟨_, hs⟩ := of_ite_none hs
  obtain ⟨_, hs⟩ := of_ite_none hs
  cases hs
  omega

def Inv (st : St) : Prop := 0 ≤ st.maxVal

theorem Inv.init : Inv {} := by unfold Inv; decide

section jpegls_lossless

theorem sof55Core_spec (st : St) (data : Bytes) : (sof55Core st data).Post Inv fun _ o => NoPanic o := by
  unfold sof55Core
  cases hs : sofFields data with
  | none => exact NoPanic.err
  | some q =>
    obtain ⟨p, h, w, nc⟩ := q
    have hn := maxValOf_nonneg p (sofFields_p hs)
    simp only
    rw [codingParamsPanic_none _ _ hn]
    exact hn

theorem sof55_spec (st : St) (data : Bytes) : (sof55 st data).Post Inv fun _ o => NoPanic o := by
  unfold sof55
  split
  · exact NoPanic.err
  · exact sof55Core_spec st data

theorem lse_mv_nonneg (st : St) (hi : Inv st) (x : Int) : 0 ≤ (if x ≤ 0 then st.maxVal else x) := by
  split
  · exact hi
  · omega

theorem lse_spec (st : St) (data : Bytes) (hi : Inv st) : (lse st data).Post Inv fun _ o => NoPanic o := by
  unfold lse
  split
  · exact NoPanic.err
  · split
    · exact hi
    · split
      · exact NoPanic.err
      · simp only
        rw [codingParamsPanic_none _ _ (lse_mv_nonneg st hi _)]
        exact lse_mv_nonneg st hi _

theorem step_total {st : St} {bs : Bytes} (hi : Inv st) :
    (step st bs).Post (fun st' _ => Inv st') fun _ o => NoPanic o := by
  unfold step
  refine markerTurn_post NoPanic.err fun m rest _ => ?_
  refine .ite (fun _ => ?_) fun _ => .ite (fun _ => ?_) fun _ => .ite (fun _ => ?_) fun _ =>
    .ite (fun _ => NoPanic.err) fun _ => .ite (fun _ => ?_) fun _ => hi
  · exact segTurn_post NoPanic.err fun pl _ _ => sof55_spec _ pl
  · exact segTurn_post NoPanic.err fun pl _ _ => lse_spec _ pl hi
  · refine segTurn_post NoPanic.err fun pl _ _ => ?_
    split
    · exact NoPanic.beyond
    · exact NoPanic.err
  · exact segTurn_post NoPanic.err fun pl _ _ => hi

theorem header_eval {bs rest : Bytes} {x : St × Res} (n : Nat) (h1 : readMarker bs = some (0xFFD8, rest))
    (h2 : runN step n {} rest = some x) : header bs = x :=
  soi_eval n h1 h2

end jpegls_lossless

section jpegls_nearlossless

theorem nsof55_spec (st : St) (data : Bytes) : (nsof55 st data).Post Inv fun _ o => NoPanic o := by
  unfold nsof55
  split
  · exact NoPanic.err
  · unfold nsof55Core
    cases hs : sofFields data with
    | none => exact NoPanic.err
    | some q =>
      obtain ⟨p, h, w, nc⟩ := q
      exact maxValOf_nonneg p (sofFields_p hs)

theorem nlse_spec (st : St) (data : Bytes) (hi : Inv st) : (nlse st data).Post Inv fun _ o => NoPanic o := by
  unfold nlse
  split
  · exact NoPanic.err
  · split
    · simp only [H.Post, Inv]
      split
      · omega
      · exact hi
    · exact hi

theorem nsos_spec (st : St) (data : Bytes) (u : Nat) (hi : Inv st) {C : St → Prop} :
    (nsos st data u).Post C fun _ o => NoPanic o := by
  unfold nsos
  split
  · simp only
    rw [codingParamsPanic_none st.maxVal _ hi]
    exact NoPanic.beyond
  · exact NoPanic.err

theorem nstep_total {st : St} {bs : Bytes} (hi : Inv st) :
    (nstep st bs).Post (fun st' _ => Inv st') fun _ o => NoPanic o := by
  unfold nstep
  refine markerTurn_post NoPanic.err fun m rest _ => ?_
  refine .ite (fun _ => ?_) fun _ => .ite (fun _ => ?_) fun _ => .ite (fun _ => ?_) fun _ =>
    .ite (fun _ => NoPanic.err) fun _ => .ite (fun _ => ?_) fun _ => hi
  · exact segTurn_post NoPanic.err fun pl _ _ => nsof55_spec _ pl
  · exact segTurn_post NoPanic.err fun pl _ _ => nlse_spec _ pl hi
  · exact segTurn_post NoPanic.err fun pl _ _ => nsos_spec { st with allocs := st.allocs ++ [pl.length] } pl _ hi
  · exact segTurn_post NoPanic.err fun pl _ _ => hi

theorem nheader_eval {bs rest : Bytes} {x : St × Res} (n : Nat) (h1 : readMarker bs = some (0xFFD8, rest))
    (h2 : runN nstep n {} rest = some x) : nheader bs = x :=
  soi_eval n h1 h2

end jpegls_nearlossless

end JlsH
