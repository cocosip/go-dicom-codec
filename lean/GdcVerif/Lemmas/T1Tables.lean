import GdcVerif.Gen.J2kT1
/-!
  EBCOT T1, what can be said without the model of the passes: the ranges of the regenerated context tables, the
  regenerated pass predicates `isLazyRawPass` / `isTerminatingPass` of `t1/encoder.go` (read once as propositions,
  `isLazyRawPass_iff`, `isTerminatingPass_iff`), and the order of the passes of a block (`next`, `schedule`); without
  TERMALL and LAZY only the last cleanup pass terminates (`nontermS`).
-/
namespace T1
open Gen.J2kT1


set_option maxRecDepth 100000 in
theorem zc_all : lutCtxnoZc.size = 2048 ∧ lutCtxnoZc.toList.all (fun x => decide (0 ≤ x ∧ x ≤ 8)) = true := by decide
set_option maxRecDepth 100000 in
theorem sc_all : lutCtxnoSc.size = 256 ∧ lutCtxnoSc.toList.all (fun x => decide (9 ≤ x ∧ x ≤ 13)) = true := by decide
set_option maxRecDepth 100000 in
theorem spb_all : lutSpb.size = 256 ∧ lutSpb.toList.all (fun x => decide (0 ≤ x ∧ x ≤ 1)) = true := by decide

theorem all_get (t : Array Int) (p : Int → Bool) (h : t.toList.all p = true) (i : Nat) (hi : i < t.size) :
    p t[i] = true := by
  rw [List.all_eq_true] at h
  exact h t[i] (by simp [Array.mem_toList_iff])

theorem zc_range (i : Nat) (hi : i < lutCtxnoZc.size) : CTXZCSTART ≤ lutCtxnoZc[i] ∧ lutCtxnoZc[i] ≤ CTXZCEND := by
  have := all_get _ _ zc_all.2 i hi
  simpa [CTXZCSTART, CTXZCEND] using this

theorem sc_range (i : Nat) (hi : i < lutCtxnoSc.size) : CTXSCSTART ≤ lutCtxnoSc[i] ∧ lutCtxnoSc[i] ≤ CTXSCEND := by
  have := all_get _ _ sc_all.2 i hi
  simpa [CTXSCSTART, CTXSCEND] using this

theorem spb_range (i : Nat) (hi : i < lutSpb.size) : 0 ≤ lutSpb[i] ∧ lutSpb[i] ≤ 1 := by
  have := all_get _ _ spb_all.2 i hi
  simpa using this

theorem mr_range (flags : Int) :
    CTXMRSTART ≤ getMagRefinementContext flags ∧ getMagRefinementContext flags ≤ CTXMREND := by
  unfold getMagRefinementContext
  have h14 : Go.uwrap8 14 = 14 := by decide
  simp only [CTXMRSTART, CTXMREND, h14]
  split
  · omega
  · split <;> omega

theorem context_ids_lt :
    CTXZCEND < NUMCONTEXTS ∧ CTXSCEND < NUMCONTEXTS ∧ CTXMREND < NUMCONTEXTS ∧ CTXRL < NUMCONTEXTS ∧
    CTXUNI < NUMCONTEXTS := by decide


/-- the pass after `(bitplane, passType)`: SPP(0) → MRP(1) → CUP(2) → next lower bit-plane -/
def next (bp pt : Int) : Int × Int := if pt = 2 then (bp - 1, 0) else (bp, pt + 1)

/-- the passes of a block: cleanup of the top plane, then three passes per plane -/
def schedule : Nat → List (Int × Int)
  | 0 => []
  | 1 => [(0, 2)]
  | n + 2 => (((n : Int) + 1, 2)) :: ((n : Int), 0) :: ((n : Int), 1) :: schedule' n
where
  schedule' : Nat → List (Int × Int)
  | 0 => [(0, 2)]
  | n + 1 => ((n : Int) + 1, 2) :: ((n : Int), 0) :: ((n : Int), 1) :: schedule' n

theorem isLazyRawPass_iff (bp mb pt style : Int) :
    isLazyRawPass bp mb pt style = true ↔ Go.and style CblkStyleLazy ≠ 0 ∧ pt < 2 ∧ bp < mb - 3 := by
  unfold isLazyRawPass; simp

theorem isTerminatingPass_iff (bp mb pt style : Int) :
    isTerminatingPass bp mb pt style = true ↔ (pt = 2 ∧ bp = 0) ∨ Go.and style CblkStyleTermAll ≠ 0 ∨
      (Go.and style CblkStyleLazy ≠ 0 ∧ ((bp = mb - 3 ∧ pt = 2) ∨ (bp < mb - 3 ∧ 0 < pt))) := by
  unfold isTerminatingPass; simp

theorem raw_pass (bp mb pt style : Int) (h : isLazyRawPass bp mb pt style = true) :
    Go.and style CblkStyleLazy ≠ 0 ∧ pt < 2 ∧ bp < mb - 3 :=
  (isLazyRawPass_iff bp mb pt style).mp h

theorem terminating_termall (bp mb pt style : Int) (h : Go.and style CblkStyleTermAll ≠ 0) :
    isTerminatingPass bp mb pt style = true :=
  (isTerminatingPass_iff bp mb pt style).mpr (Or.inr (Or.inl h))

theorem terminating_last (mb style : Int) : isTerminatingPass 0 mb 2 style = true :=
  (isTerminatingPass_iff 0 mb 2 style).mpr (Or.inl ⟨rfl, rfl⟩)

/-- a decoder that starts a new MQ/raw decoder exactly at
codeword-segment starts (the repair of `DecodeLayeredWithMode`, /repo 9151147) never has to switch coders inside a segment -/
theorem coder_switch_terminated (bp mb pt style : Int)
    (h : isLazyRawPass (next bp pt).1 mb (next bp pt).2 style ≠ isLazyRawPass bp mb pt style) :
    isTerminatingPass bp mb pt style = true := by
  rw [ne_eq, Bool.eq_iff_iff, isLazyRawPass_iff, isLazyRawPass_iff] at h
  -- both sides of `h` ask for the LAZY bit, so it is set; the rest is about which of the two passes lies below `mb - 3`
  have hlz : Go.and style CblkStyleLazy ≠ 0 := fun h0 => h ⟨fun h1 => absurd h0 h1.1, fun h1 => absurd h0 h1.1⟩
  refine (isTerminatingPass_iff bp mb pt style).mpr (Or.inr (Or.inr ⟨hlz, ?_⟩))
  generalize Go.and style CblkStyleLazy = lz at h hlz
  unfold next at h
  split at h <;> simp only [] at h <;> omega

theorem nontermS (bp mb pt style : Int) (hT : Go.and style CblkStyleTermAll = 0)
    (hL : Go.and style CblkStyleLazy = 0) (h : ¬(pt = 2 ∧ bp = 0)) :
    isTerminatingPass bp mb pt style = false := by
  rw [Bool.eq_false_iff, ne_eq, isTerminatingPass_iff, hT, hL]
  omega

end T1
