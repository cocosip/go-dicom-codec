import GdcVerif.Model.JpegLosslessStream
import GdcVerif.Lemmas.JpegFrames
import GdcVerif.Lemmas.JllScan
/-!
  Decoder side of the JPEG Lossless / SV1 end-to-end theorem: the model decoder
  `JLL.Stream.decode` run on the bytes the header writers (`JpegC.losslessHeader`,
  `JpegC.sv1Header`) produce, followed by ANY stuffed entropy-coded segment and EOI, is the scan
  decoder `decodeScan` with the frame's parameters and the table the DHT segment carries
  (`decode_header`).  That is an instance of `loop_frame`: the marker loop over any frame whose
  segments before SOF3 and between SOF3 and SOS only install tables (`TablesOnly`), with any
  component ids and table destinations; `T81HEncDec` instantiates it with the specification encoder's header.
-/
namespace JLL.Stream
open JLL JpegC

theorem collect_stuffOk (sv1 : Bool) (tail : List Nat) : ∀ scan : List Nat, StuffOk scan = true →
    collect sv1 (scan ++ [0xFF, 0xD9] ++ tail) = scan := by
  intro scan
  induction scan using StuffOk.induct with
  | case1 => intro _; simp [collect]
  | case2 => intro h; simp [StuffOk] at h
  | case3 b2 rest2 ih =>
    intro h
    simp only [StuffOk, if_true, Bool.and_eq_true, decide_eq_true_eq] at h
    obtain ⟨h1, h2⟩ := h
    subst h1
    have := ih h2
    simp only [List.append_assoc, List.cons_append, List.nil_append] at this ⊢
    simp [collect, this]
  | case4 b rest hb ih =>
    intro h
    rw [StuffOk.eq_def] at h
    simp only [hb, if_false, Bool.and_eq_true, decide_eq_true_eq] at h
    have := ih h.2
    cases rest with
    | nil => simp [collect, hb]
    | cons b2 r2 =>
      simp only [List.append_assoc, List.cons_append, List.nil_append] at this ⊢
      rw [collect]
      simp [hb, this]

theorem decodeScanSel_tables (sv1 : Bool) (P pred w h nc : Nat) (tbl : Nat → Outcome Table) (T : Nat → Table)
    (data : List Nat) (ht : ∀ c, c < nc → tbl c = .ok (T c)) :
    decodeScanSel sv1 P pred w h nc tbl data = decScan sv1 P pred w h nc T data := by
  unfold decodeScanSel decScan
  simp only []
  congr 1
  apply Loop.foldlM_congr
  rintro ⟨row, col, c⟩ hp ⟨d, s⟩
  have hc : c < nc := (mem_scanOrder.1 hp).2.2
  simp only [ht c hc, Outcome.ok_bind]
  rfl

theorem readMarker_marker (m : Nat) (rest : List Nat) (h0 : m ≠ 0) (hff : m ≠ 0xFF) :
    JM.readMarker ([0xFF, m] ++ rest) = some (0xFF00 + m, rest) := by
  simp [JM.readMarker, JM.skipFill, h0, hff]

theorem readSegment_be16 (pl rest : List Nat) (hl : pl.length + 2 < 65536) :
    JM.readSegment (be16 (pl.length + 2) ++ pl ++ rest) = some (pl, rest) := by
  have e : (pl.length + 2) / 256 % 256 * 256 + (pl.length + 2) % 256 - 2 = pl.length := by omega
  simp only [be16, List.cons_append, List.nil_append, JM.readSegment, e]
  simp
  omega

theorem encSeg_eq (m : Nat) (pl rest : List Nat) (hl : pl.length + 2 < 65536) :
    encSeg m pl ++ rest = [0xFF, m] ++ (be16 (pl.length + 2) ++ pl ++ rest) := by
  have : (pl.length + 2) / 256 % 256 = (pl.length + 2) / 256 := by omega
  simp [encSeg, be16, this]

theorem writeSegment_eq (marker : Int) (lo : Nat) (hm : writeMarker marker = [0xFF, lo]) (pl rest : List Nat)
    (hl : pl.length + 2 < 65536) :
    writeSegment marker pl ++ rest = [0xFF, lo] ++ (be16 (pl.length + 2) ++ pl ++ rest) := by
  rw [writeSegment_encSeg marker lo hm pl hl, encSeg_eq lo pl rest hl]

/-- one iteration of the marker loop over a segment, as a function of the marker's low byte -/
def segStep (sv1 : Bool) (fuel : Nat) (d : Dec) (lo : Nat) (pl rest : List Nat) : Outcome Result :=
  if lo = 0xC3 then
    match (if sv1 then sv1SOF3 d pl else jllSOF3 d pl) with
    | none => .err
    | some d' => loop sv1 fuel d' rest
  else if lo = 0xC4 then
    match parseDHT (pl.length + 1) pl d.tables with
    | none => .err
    | some t => loop sv1 fuel { d with tables := t } rest
  else if lo = 0xDA then
    match (if sv1 then sv1SOS d pl else jllSOS d pl) with
    | none => .err
    | some d' => finish sv1 d' rest
  else loop sv1 fuel d rest

/-- low bytes of the markers that carry a length: no fill byte or stuffing, not SOI, EOI or RSTm -/
def plainSeg (lo : Nat) : Prop :=
  lo ≠ 0 ∧ lo < 0xFF ∧ lo ≠ 0xD8 ∧ lo ≠ 0xD9 ∧ ¬ (0xD0 ≤ lo ∧ lo ≤ 0xD7)

theorem loop_encSeg (sv1 : Bool) (fuel : Nat) (d : Dec) (lo : Nat) (pl rest : List Nat)
    (hlo : plainSeg lo) (hl : pl.length + 2 < 65536) :
    loop sv1 (fuel + 1) d (encSeg lo pl ++ rest) = segStep sv1 fuel d lo pl rest := by
  obtain ⟨h0, hff, h8, h9, hr⟩ := hlo
  rw [encSeg_eq lo pl rest hl, loop, readMarker_marker lo _ h0 (by omega)]
  simp only [readSegment_be16 pl rest hl, segStep]
  have e3 : (0xFF00 + lo = 0xFFC3) = (lo = 0xC3) := by apply propext; omega
  have e4 : (0xFF00 + lo = 0xFFC4) = (lo = 0xC4) := by apply propext; omega
  have ea : (0xFF00 + lo = 0xFFDA) = (lo = 0xDA) := by apply propext; omega
  have e9 : ¬ (0xFF00 + lo = 0xFFD9) := by omega
  have hL : JM.hasLength (0xFF00 + lo) = true := by
    simp [JM.hasLength]; omega
  simp only [e3, e4, ea, if_neg e9, hL, if_true]
  rfl

theorem loop_writeSegment (sv1 : Bool) (fuel : Nat) (d : Dec) (marker : Int) (lo : Nat)
    (hm : writeMarker marker = [0xFF, lo]) (pl rest : List Nat)
    (hlo : plainSeg lo) (hl : pl.length + 2 < 65536) :
    loop sv1 (fuel + 1) d (writeSegment marker pl ++ rest) = segStep sv1 fuel d lo pl rest := by
  rw [writeSegment_encSeg marker lo hm pl hl, loop_encSeg sv1 fuel d lo pl rest hlo hl]

theorem loop_skip (sv1 : Bool) (fuel : Nat) (d : Dec) (lo : Nat) (pl rest : List Nat)
    (hlo : plainSeg lo) (h3 : lo ≠ 0xC3) (h4 : lo ≠ 0xC4) (ha : lo ≠ 0xDA) (hl : pl.length + 2 < 65536) :
    loop sv1 (fuel + 1) d (encSeg lo pl ++ rest) = loop sv1 fuel d rest := by
  rw [loop_encSeg sv1 fuel d lo pl rest hlo hl, segStep, if_neg h3, if_neg h4, if_neg ha]

theorem loop_dht (sv1 : Bool) (fuel : Nat) (d : Dec) (tabs : List (Option Table)) (pl rest : List Nat)
    (hl : pl.length + 2 < 65536) (h : parseDHT (pl.length + 1) pl d.tables = some tabs) :
    loop sv1 (fuel + 1) d (encSeg 0xC4 pl ++ rest) = loop sv1 fuel { d with tables := tabs } rest := by
  rw [loop_encSeg sv1 fuel d 0xC4 pl rest (by unfold plainSeg; omega) hl, segStep, if_neg (by omega), if_pos rfl, h]

theorem loop_sof3 (sv1 : Bool) (fuel : Nat) (d d' : Dec) (pl rest : List Nat) (hl : pl.length + 2 < 65536)
    (h : (if sv1 then sv1SOF3 else jllSOF3) d pl = some d') :
    loop sv1 (fuel + 1) d (encSeg 0xC3 pl ++ rest) = loop sv1 fuel d' rest := by
  have h' : (if sv1 then sv1SOF3 d pl else jllSOF3 d pl) = some d' := by cases sv1 <;> exact h
  rw [loop_encSeg sv1 fuel d 0xC3 pl rest (by unfold plainSeg; omega) hl, segStep, if_pos rfl, h']

theorem loop_sos (sv1 : Bool) (fuel : Nat) (d d' : Dec) (pl rest : List Nat) (hl : pl.length + 2 < 65536)
    (h : (if sv1 then sv1SOS else jllSOS) d pl = some d') :
    loop sv1 (fuel + 1) d (encSeg 0xDA pl ++ rest) = finish sv1 d' rest := by
  have h' : (if sv1 then sv1SOS d pl else jllSOS d pl) = some d' := by cases sv1 <;> exact h
  rw [loop_encSeg sv1 fuel d 0xDA pl rest (by unfold plainSeg; omega) hl, segStep, if_neg (by omega),
    if_neg (by omega), if_pos rfl, h']

theorem decode_soi (sv1 : Bool) (rest : List Nat) :
    decode sv1 ([0xFF, 0xD8] ++ rest) =
      loop sv1 (rest.length + 3) (if sv1 then { sels := [] } else {}) rest := by
  rw [decode, readMarker_marker 0xD8 rest (by omega) (by omega)]
  simp

theorem sv1Comps_ids : ∀ ids : List Nat,
    sv1Comps ids.length (ids.flatMap fun id => [id, 0x11, 0]) = some ids := by
  intro ids
  induction ids with
  | nil => rfl
  | cons a l ih =>
    simp only [List.length_cons, List.flatMap_cons, List.cons_append, List.nil_append, sv1Comps]
    rw [if_neg (by decide), ih]
    rfl

/-- the frame header of either package for the components `ids` (1x1 sampling) -/
theorem sof3_ok (sv1 : Bool) (d : Dec) (P H W : Nat) (ids : List Nat) (hP : 2 ≤ P ∧ P ≤ 16) (hW : 1 ≤ W) (hH : 1 ≤ H)
    (hn : ids.length = 1 ∨ ids.length = 3) (hfirst : d.ncomp = 0) :
    (if sv1 then sv1SOF3 else jllSOF3) d
        ([P, H / 256, H % 256, W / 256, W % 256, ids.length] ++ ids.flatMap fun id => [id, 0x11, 0]) =
      some { d with precision := P, height := H, width := W, ncomp := ids.length,
                    ids := if sv1 then ids else d.ids, sels := if sv1 then ids.map fun _ => 0 else d.sels } := by
  have hl : ids.length * 3 ≤ (ids.flatMap fun id => [id, 0x11, 0]).length := by
    simp [List.length_flatMap, List.map_const']
  cases sv1 <;>
    simp only [↓reduceIte, Bool.false_eq_true, List.cons_append, List.nil_append, jllSOF3, sv1SOF3, Nat.div_add_mod']
  · rw [if_neg (by omega), if_neg (by omega), if_neg (by omega), if_neg (by omega)]
  · rw [if_neg (by omega), if_neg (by omega), if_neg (by omega), if_neg (by omega), if_neg (by omega), sv1Comps_ids]

theorem foldl_add_eq_sum (l : List Nat) : l.foldl (· + ·) 0 = l.sum := List.sum_eq_foldl.symm

theorem parseDHT_one (th : Nat) (hth : th ≤ 3) (bits vals : List Nat) (t : Table) (tables : List (Option Table))
    (hlen : bits.length = 16) (hs : bits.sum = vals.length) (hb : Table.build bits vals.toArray = .ok t) :
    parseDHT ((th :: (bits ++ vals)).length + 1) (th :: (bits ++ vals)) tables = some (tables.set th (some t)) := by
  have t16 : (bits ++ vals).take 16 = bits := List.take_left' hlen
  have d16 : (bits ++ vals).drop 16 = vals := List.drop_left' hlen
  have hf : bits.foldl (· + ·) 0 = vals.length := by rw [foldl_add_eq_sum, hs]
  have hd : dhtOne (th :: (bits ++ vals)) = some (0, th, t, []) := by
    -- `th >>> 4` and `th &&& 0x0F` evaluate for a numeral, not for a variable
    have : th = 0 ∨ th = 1 ∨ th = 2 ∨ th = 3 := by omega
    rcases this with rfl | rfl | rfl | rfl <;> simp [dhtOne, t16, d16, hf, hb, hlen]
  have hl : (th :: (bits ++ vals)).length = (bits ++ vals).length + 1 := rfl
  rw [parseDHT, hd, hl]
  simp [parseDHT]

/-- both packages read the destination the same way (`jllSelector`, `sv1Selector`: the same text twice) -/
theorem selectors_ok (t : Nat) (ht : t ≤ 3) : jllSelector (t * 16) = .ok t ∧ sv1Selector (t * 16) = .ok t := by
  have : t = 0 ∨ t = 1 ∨ t = 2 ∨ t = 3 := by omega
  rcases this with rfl | rfl | rfl | rfl <;> exact ⟨rfl, rfl⟩

theorem len3 {α : Type} (l : List α) (h : l.length = 3) : ∃ a b c, l = [a, b, c] := by
  match l, h with
  | [a, b, c], _ => exact ⟨a, b, c, rfl⟩

/-- the scan header of either package after the frame header for the components `ids`: it puts the destinations
    `td` in the selector slots of the components, in order.  `jllSOF3`/`sv1SOF3` admit one or three components
    only, so the two selector loops are run out. -/
theorem sos_ok (sv1 : Bool) (d : Dec) (S : Nat) (ids td : List Nat)
    (hn : ids.length = 1 ∨ ids.length = 3) (htd : td.length = ids.length) (htdle : ∀ t ∈ td, t ≤ 3)
    (hS : 1 ≤ S ∧ S ≤ 7) (hsv : sv1 = true → S = 1 ∧ ids.Nodup)
    (hnc : d.ncomp = ids.length) (hids : sv1 = true → d.ids = ids)
    (hsels : d.sels = if sv1 then ids.map fun _ => 0 else [0, 0, 0]) :
    (if sv1 then sv1SOS else jllSOS) d
        ([ids.length] ++ ((ids.zip td).flatMap fun (id, t) => [id, t * 16]) ++ [S, 0, 0]) =
      some { d with predictor := S, sels := td ++ d.sels.drop td.length } := by
  have hsel : ∀ t ∈ td, jllSelector (t * 16) = .ok t ∧ sv1Selector (t * 16) = .ok t :=
    fun t ht => selectors_ok t (htdle t ht)
  rcases hn with hn | hn
  · obtain ⟨i0, rfl⟩ := List.length_eq_one_iff.mp hn
    obtain ⟨t0, rfl⟩ := List.length_eq_one_iff.mp htd
    have e0 := hsel t0 (by simp)
    cases sv1
    · simp [jllSOS, hnc, hsels, jllSelLoop, e0.1]
      omega
    · obtain ⟨rfl, _⟩ := hsv rfl
      simp [sv1SOS, hids, hsels, sv1SelLoop, e0.2, List.findIdx?_cons]
  · obtain ⟨i0, i1, i2, rfl⟩ := len3 ids hn
    obtain ⟨t0, t1, t2, rfl⟩ := len3 td htd
    have e0 := hsel t0 (by simp)
    have e1 := hsel t1 (by simp)
    have e2 := hsel t2 (by simp)
    cases sv1
    · simp [jllSOS, hnc, hsels, jllSelLoop, e0.1, e1.1, e2.1]
      omega
    · obtain ⟨rfl, hnd⟩ := hsv rfl
      simp only [List.nodup_cons, List.mem_cons, List.not_mem_nil, or_false, not_or] at hnd
      simp [sv1SOS, hids, hsels, sv1SelLoop, e0.2, e1.2, e2.2, List.findIdx?_cons, hnd.1.1, hnd.1.2, hnd.2.1]

/-- a byte string the marker loop consumes in `n` rounds, changing nothing but the installed
    tables (an APPn segment; DHT segments) -/
def TablesOnly (sv1 : Bool) (bs : List Nat) (n : Nat) (F : List (Option Table) → List (Option Table)) : Prop :=
  ∀ (fuel : Nat) (d : Dec) (rest : List Nat),
    loop sv1 (fuel + n) d (bs ++ rest) = loop sv1 fuel { d with tables := F d.tables } rest

/-- the marker loop over a frame: `A`, SOF3 for components `ids` (1x1 sampling), `B`, SOS with the
    table destinations `td` and selection value `S` -/
theorem loop_frame (sv1 : Bool) (P H W S : Nat) (ids td : List Nat) (A B rest : List Nat) (n m fuel : Nat)
    (F G : List (Option Table) → List (Option Table))
    (hA : TablesOnly sv1 A n F) (hB : TablesOnly sv1 B m G)
    (hn : ids.length = 1 ∨ ids.length = 3) (htd : td.length = ids.length) (htdle : ∀ t ∈ td, t ≤ 3)
    (hP : 2 ≤ P ∧ P ≤ 16) (hW : 1 ≤ W) (hH : 1 ≤ H) (hS : 1 ≤ S ∧ S ≤ 7)
    (hsv : sv1 = true → S = 1 ∧ ids.Nodup) (hf : n + m + 2 ≤ fuel) :
    ∃ dF : Dec,
      loop sv1 fuel (if sv1 then { sels := [] } else {})
        (A ++ (encSeg 0xC3 ([P, H / 256, H % 256, W / 256, W % 256, ids.length] ++
              ids.flatMap fun id => [id, 0x11, 0]) ++
          (B ++ (encSeg 0xDA ([ids.length] ++ ((ids.zip td).flatMap fun (id, t) => [id, t * 16]) ++ [S, 0, 0]) ++
            rest)))) = finish sv1 dF rest ∧
      dF.width = W ∧ dF.height = H ∧ dF.precision = P ∧ dF.predictor = S ∧ dF.ncomp = ids.length ∧
      dF.sels.take ids.length = td ∧ dF.tables = G (F [none, none, none, none]) := by
  obtain ⟨f, rfl⟩ : ∃ f, fuel = f + 1 + m + 1 + n := ⟨fuel - (n + m + 2), by omega⟩
  have hl3 : (ids.flatMap fun id => [id, 0x11, 0]).length = ids.length * 3 := by
    simp [List.length_flatMap, List.map_const']
  have hl2 : ((ids.zip td).flatMap fun (id, t) => [id, t * 16]).length = ids.length * 2 := by
    simp [List.length_flatMap, List.map_const', htd]
  rw [hA, loop_sof3 _ _ _ _ _ _ (by simp [hl3]; omega)
      (sof3_ok sv1 _ P H W ids hP hW hH hn (by cases sv1 <;> rfl)), hB,
    loop_sos _ _ _ _ _ _ (by simp [hl2]; omega)
      (sos_ok sv1 _ S ids td hn htd htdle hS hsv rfl (fun h => by simp [h]) (by cases sv1 <;> rfl))]
  exact ⟨_, rfl, rfl, rfl, rfl, rfl, rfl, by simp [← htd], by cases sv1 <;> rfl⟩

theorem losslessHeader_of_sv1 {sv1 : Bool} {w h nc P pred : Nat} {tb : HuffTable} {hdr : List Nat}
    (hsv : sv1 = true → pred = 1)
    (hhdr : (if sv1 then sv1Header w h nc P tb else losslessHeader w h nc P pred tb) = .ok hdr) :
    losslessHeader (w : Int) (h : Int) nc (P : Int) (pred : Int) tb = .ok hdr := by
  cases sv1
  · simpa using hhdr
  · obtain rfl := hsv rfl
    simpa [sv1Header] using hhdr

theorem decode_header (sv1 : Bool) (w h nc P pred : Nat) (tb : HuffTable) (t : Table) (hdr scan : List Nat)
    (hw : 1 ≤ w ∧ w ≤ 65535) (hh : 1 ≤ h ∧ h ≤ 65535) (hc : nc = 1 ∨ nc = 3) (hP : 2 ≤ P ∧ P ≤ 16)
    (hpred : 1 ≤ pred ∧ pred ≤ 7) (hsv : sv1 = true → pred = 1) (htb : TableOk tb)
    (hb : Table.build (tb.bits.map Int.toNat) tb.values.toArray = .ok t)
    (hhdr : (if sv1 then JpegC.sv1Header w h nc P tb else JpegC.losslessHeader w h nc P pred tb) = .ok hdr)
    (hst : StuffOk scan = true) :
    decode sv1 (hdr ++ scan ++ [0xFF, 0xD9]) =
      (do let s ← decodeScan sv1 P pred w h nc t scan
          let pix ← samplesToPixels P w h nc s
          pure (pix, w, h, nc, P)) := by
  have hh' := losslessHeader_of_sv1 hsv hhdr
  obtain ⟨pre, hl, hpre⟩ := losslessHeader_layout (w := w) (h := h) (p := P) (pred := pred) tb (by omega) (by omega) hc
    (by omega) (by omega) htb
  simp only [Int.toNat_natCast] at hl hpre
  rw [hl, hpre.bytes_eq, writeSegment_encSeg _ _ mSOS _
    (by simp only [List.length_append, List.length_cons, List.length_nil, scanSels_length]; omega)] at hh'
  injection hh' with hh'
  subst hh'
  rw [← htb.bits_byteOf] at hb
  have hdl : (0 :: (tb.bits.map byteOf ++ tb.values)).length + 2 < 65536 := dht_len tb htb 0
  have hA : TablesOnly sv1 (encSeg 0xE0 jfifData) 1 id := fun fuel d rest =>
    loop_skip sv1 fuel d 0xE0 _ rest (by unfold plainSeg; omega) (by omega) (by omega) (by omega) (by decide)
  have hB : TablesOnly sv1 (encSeg 0xC4 (0 :: (tb.bits.map byteOf ++ tb.values))) 1 (fun T => T.set 0 (some t)) :=
    fun fuel d rest => loop_dht sv1 fuel d _ _ rest hdl
      (parseDHT_one 0 (by omega) _ _ t d.tables (by simp [htb.len]) htb.total hb)
  -- the writers' component ids 1..nc, every component on destination 0
  obtain ⟨ids, hids, hnd, hcs, hss⟩ : ∃ ids : List Nat, ids.length = nc ∧ ids.Nodup ∧
      compSpecs nc = ids.flatMap (fun id => [id, 0x11, 0]) ∧
      scanSels nc = (ids.zip (List.replicate nc 0)).flatMap fun (id, t) => [id, t * 16] := by
    rcases hc with rfl | rfl
    · exact ⟨[1], by decide⟩
    · exact ⟨[1, 2, 3], by decide⟩
  simp only [encSegs, List.map_cons, List.map_nil, List.flatten_cons, List.flatten_nil, List.append_nil,
    List.append_assoc]
  rw [decode_soi]
  generalize hF : List.length _ + 3 = fuel
  have hf : 1 + 1 + 2 ≤ fuel := by rw [← hF]; simp [encSeg]
  obtain ⟨dF, hl, e1, e2, e3, e4, e5, hsel, htab⟩ :=
    loop_frame sv1 P h w pred ids (List.replicate nc 0) _ _ (scan ++ [0xFF, 0xD9]) 1 1 fuel id _ hA hB
      (by omega) (by simp [hids]) (by simp) hP hw.1 hh.1 hpred (fun h => ⟨hsv h, hnd⟩) hf
  rw [hids, ← hcs, List.append_assoc, ← hss, List.singleton_append] at hl
  have hcol := collect_stuffOk sv1 [] scan hst
  rw [List.append_nil] at hcol
  have htbl : ∀ c, c < nc → tableOf dF c = .ok t := by
    intro c hc
    have : dF.sels[c]? = some 0 := by
      rw [← List.getElem?_take_of_lt (show c < ids.length by omega), hsel, List.getElem?_replicate, if_pos hc]
    simp only [tableOf, this, htab]
    rfl
  rw [hl, finish, hcol, e1, e2, e3, e4, e5, hids, decodeScanSel_tables sv1 _ _ _ _ _ _ (fun _ => t) scan htbl]
  rfl

/-- so `hhdr` above is never vacuous -/
theorem header_ok (sv1 : Bool) (w h nc P pred : Nat) (tb : HuffTable)
    (hw : 1 ≤ w ∧ w ≤ 65535) (hh : 1 ≤ h ∧ h ≤ 65535) (hc : nc = 1 ∨ nc = 3) (hP : 2 ≤ P ∧ P ≤ 16)
    (hpred : pred ≤ 7) (htb : TableOk tb) :
    ∃ hdr, (if sv1 then JpegC.sv1Header w h nc P tb else JpegC.losslessHeader w h nc P pred tb) = .ok hdr := by
  -- `sv1Header` is `losslessHeader` with selection value 1
  obtain ⟨pre, hl, _⟩ := losslessHeader_layout (w := w) (h := h) (p := P) (pred := ((if sv1 then 1 else pred : Nat) : Int)) tb
    (by omega) (by omega) hc (by omega) (by split <;> omega) htb
  cases sv1 <;> exact ⟨_, by simpa [sv1Header] using hl⟩

/-- `decode_header` in the shape `JLL.Stream.encode` produces its bytes (`JpegC.withScan`) -/
theorem decode_withScan (sv1 : Bool) (w h nc P pred : Nat) (tb : HuffTable) (t : Table) (scan bytes : List Nat)
    (hw : 1 ≤ w ∧ w ≤ 65535) (hh : 1 ≤ h ∧ h ≤ 65535) (hc : nc = 1 ∨ nc = 3) (hP : 2 ≤ P ∧ P ≤ 16)
    (hpred : 1 ≤ pred ∧ pred ≤ 7) (hsv : sv1 = true → pred = 1) (htb : TableOk tb)
    (hb : Table.build (tb.bits.map Int.toNat) tb.values.toArray = .ok t)
    (hst : StuffOk scan = true)
    (hbytes : ofC (JpegC.withScan
      (if sv1 then JpegC.sv1Header w h nc P tb else JpegC.losslessHeader w h nc P pred tb) scan) = .ok bytes) :
    decode sv1 bytes =
      (do let s ← decodeScan sv1 P pred w h nc t scan
          let pix ← samplesToPixels P w h nc s
          pure (pix, w, h, nc, P)) := by
  obtain ⟨hdr, hhdr⟩ := header_ok sv1 w h nc P pred tb hw hh hc hP hpred.2 htb
  rw [hhdr] at hbytes
  simp only [withScan, JpegC.Outcome.map, ofC, mEOI] at hbytes
  injection hbytes with hbytes
  subst hbytes
  exact decode_header sv1 w h nc P pred tb t hdr scan hw hh hc hP hpred hsv htb hb hhdr hst

end JLL.Stream
