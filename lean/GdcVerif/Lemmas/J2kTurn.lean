import GdcVerif.Model.J2kHeader
import GdcVerif.Lemmas.Basics
/-!
  What one turn of the JPEG 2000 header walk (`J2kH.step`) does, as one relation `Turn`: termination
  (`Turn.shrinks`), the no-panic theorem (C08, `Turn.noPanic`) and the allocation-sum bound (C09, `Turn.good`)
  are read off it; the loop itself and the loop-level theorems are in Model/J2kParse.lean.  First the segment
  parsers, one statement each: none has a panic outcome, and every successful one allocates at
  most twice the bytes it consumes; a failing one — the only kind that may allocate more than it
  consumes — ends the parse.
-/
namespace J2kH
open PC

def IsBytes (bs : Bytes) : Prop := ∀ b ∈ bs, b < 256

theorem isBytes_drop {bs : Bytes} (h : IsBytes bs) (k : Nat) : IsBytes (bs.drop k) :=
  fun b hb => h b (List.mem_of_mem_drop hb)

theorem isBytes_getD {bs : Bytes} (h : IsBytes bs) (i : Nat) : bs.getD i 0 < 256 :=
  List.getD_of_forall_mem (P := (· < 256)) h (by decide) i

theorem rdN_len {bs : Bytes} {i n : Nat} {v : Bytes} (h : rdN bs i n = some v) : i + n ≤ bs.length ∧ v.length = n := by
  unfold rdN at h
  split at h
  · injection h with h; subst h
    refine ⟨by assumption, ?_⟩
    simp [List.length_take, List.length_drop]
    omega
  · cases h

theorem u8_len {bs : Bytes} {i v : Nat} (h : u8 bs i = some v) : i + 1 ≤ bs.length := by
  unfold u8 at h
  split at h
  · assumption
  · cases h

theorem u16_len {bs : Bytes} {i v : Nat} (h : u16 bs i = some v) : i + 2 ≤ bs.length := by
  unfold u16 at h
  split at h
  · assumption
  · cases h

theorem u8_le {bs : Bytes} (h : IsBytes bs) {i v : Nat} (hu : u8 bs i = some v) : v ≤ 255 := by
  unfold u8 at hu
  split at hu
  · injection hu with hu; subst hu; have := isBytes_getD h i; omega
  · cases hu

theorem u16_le {bs : Bytes} (h : IsBytes bs) {i v : Nat} (hu : u16 bs i = some v) : v ≤ 65535 := by
  unfold u16 at hu
  split at hu
  · injection hu with hu; subst hu
    have := isBytes_getD h i
    have := isBytes_getD h (i + 1)
    omega
  · cases hu

/-- what a segment parser may return: no panic among its errors; and for input that is bytes, on success an
    allocation of at most twice the bytes that are really consumed (min of the declared consumption and what is
    there), on failure a bounded one-off (196605 = 3·65535: the component table of `parseSIZ`, 3 bytes for each of
    Csiz ≤ 65535 components, allocated before the component bytes are read).  No-panic has to hold for every list of
    numbers, the bounds only for bytes: hence `IsBytes` inside. -/
def Seg {α : Type} (body : Bytes) (cons : α → Nat) : Except Res α × Nat → Prop
  | (.ok v, a) => IsBytes body → a ≤ 2 * min (cons v) body.length
  | (.error e, a) => NoPanic e ∧ (IsBytes body → a ≤ 196605)

theorem Seg.err0 {α : Type} {body : Bytes} {cons : α → Nat} : Seg body cons ((.error .err, 0) : Except Res α × Nat) :=
  ⟨.err, fun _ => Nat.zero_le _⟩

/-- the last step of most segment parsers: the `n` bytes allocated are then read, so they are there; they are part
    of the `length` bytes (the segment's length field, hence at most 65535) that the segment consumes -/
theorem seg_rdN {α : Type} {bs : Bytes} {length i n : Nat} {cons : α → Nat} {f : Bytes → α} (hl : u16 bs 0 = some length)
    (hn : n ≤ length) (hc : ∀ sp, cons (f sp) = length) :
    Seg bs cons (match rdN bs i n with
      | some sp => (.ok (f sp), n)
      | none => (.error .err, n)) := by
  split
  · rename_i sp h
    have := rdN_len h
    intro _
    rw [hc]
    omega
  · exact ⟨.err, fun hb => by have := u16_le hb hl; omega⟩

theorem parseSIZ_seg (bs : Bytes) : Seg bs (·.2) (parseSIZ bs) := by
  unfold parseSIZ
  split
  · rename_i length _ _ _ _ _ _ _ _ _ csiz _ _ _ _ _ _ _ _ _ _ hc
    have he : IsBytes bs → 3 * csiz ≤ 196605 := fun hb => by have := u16_le hb hc; omega
    split
    · exact ⟨.err, he⟩
    · rename_i comps hr
      have hl := rdN_len hr
      refine ite_ind (fun _ => ⟨.err, he⟩) fun _ => ite_ind (fun _ => ⟨.err, he⟩) fun _ =>
        ite_ind (fun _ => ⟨.err, he⟩) fun _ _ => ?_
      show 3 * csiz ≤ 2 * min (38 + 3 * csiz) bs.length
      omega
  · exact .err0

/- The `make` of a payload buffer is the only panic site: its size `length − c` is negative only for a
   `length` that the check in front of it has rejected. -/

theorem parseQCD_seg (bs : Bytes) : Seg bs (·.2) (parseQCD bs) := by
  unfold parseQCD
  split
  · rename_i length sqcd hl hs
    refine ite_ind (fun _ => .err0) fun _ => ite_ind (fun h2 => absurd h2 (by omega)) fun _ => ?_
    exact seg_rdN hl (Nat.sub_le _ _) fun _ => rfl
  · exact .err0

theorem parseCOM_seg (bs : Bytes) : Seg bs id (parseCOM bs) := by
  unfold parseCOM
  split
  · rename_i length _ hl _
    refine ite_ind (fun _ => .err0) fun _ => ite_ind (fun h2 => absurd h2 (by omega)) fun _ => ?_
    exact seg_rdN hl (Nat.sub_le _ _) fun _ => rfl
  · exact .err0

theorem cidx_le (csiz : Nat) : 1 ≤ cidx csiz ∧ cidx csiz ≤ 2 := by unfold cidx; split <;> omega

theorem parseQCC_seg (csiz : Nat) (bs : Bytes) : Seg bs (·.2.2) (parseQCC csiz bs) := by
  unfold parseQCC
  split
  · rename_i length comp sqcc hl _ _
    refine ite_ind (fun _ => .err0) fun _ => ite_ind (fun h2 => absurd h2 (by omega)) fun _ => ?_
    exact seg_rdN hl (by omega) fun _ => rfl
  · exact .err0

theorem parseRGN_seg (csiz : Nat) (bs : Bytes) : Seg bs (·.2) (parseRGN csiz bs) := by
  unfold parseRGN
  split
  · exact .err0
  · rename_i length hl
    refine ite_ind (fun _ => .err0) fun _ => ?_
    split
    · exact ite_ind (fun _ => seg_rdN hl (Nat.sub_le _ _) fun _ => rfl) fun _ _ => Nat.zero_le _
    · exact .err0

/-- a difference on the right, so that `n = 0`, which reads nothing (and `i` may lie beyond the input), is no
    special case -/
theorem pocEntries_len (csiz : Nat) (bs : Bytes) (n i : Nat) (es : List (List Nat))
    (h : pocEntries csiz bs n i = some es) : (5 + 2 * cidx csiz) * n ≤ bs.length - i := by
  induction n generalizing i es with
  | zero => exact Nat.zero_le _
  | succ n ih =>
    unfold pocEntries at h
    simp only at h
    split at h
    · have hl := u8_len ‹u8 bs (i + 4 + 2 * cidx csiz) = some _›
      split at h
      · have := ih _ _ ‹_›
        rw [Nat.mul_succ]
        omega
      · cases h
    · cases h

/-- 12 bytes are allocated per entry (Go's size of a `POCEntry`: three uint8 and three uint16, padded), and an entry
    is 5 + 2·`cidx` ≥ 7 bytes of the segment: 12·n ≤ 2·(7·n) is within twice what is consumed -/
theorem parsePOC_seg (csiz : Nat) (bs : Bytes) : Seg bs (·.2) (parsePOC csiz bs) := by
  unfold parsePOC
  have hc := cidx_le csiz
  split
  · exact .err0
  · rename_i length hl
    simp only
    refine ite_ind (fun _ => .err0) fun _ => ?_
    have hd := Nat.mul_div_le (length - 2) (5 + 2 * cidx csiz)
    generalize (length - 2) / (5 + 2 * cidx csiz) = n at hd
    have h7 : 7 * n ≤ (5 + 2 * cidx csiz) * n := Nat.mul_le_mul_right _ (by omega)
    split
    · have := pocEntries_len csiz bs n 2 _ ‹_›
      intro _
      show 12 * n ≤ 2 * min length bs.length
      omega
    · exact ⟨.err, fun hb => by have := u16_le hb hl; omega⟩

theorem parseMCT_seg (bs : Bytes) : Seg bs id (parseMCT bs) := by
  unfold parseMCT
  split
  · exact .err0
  · rename_i length hl
    refine ite_ind (fun _ => .err0) fun _ => ?_
    split
    · exact ite_ind (fun _ => .err0) fun _ => ite_ind (fun _ => .err0) fun _ =>
        ite_ind (fun h2 => absurd h2 (by omega)) fun _ => seg_rdN hl (Nat.sub_le _ _) fun _ => rfl
    · exact ite_ind (fun _ => .err0) fun _ => .err0
    · exact .err0

/-- the allocation bounds of `Seg` for the `Option`-valued parsers (parseMCC, parseMCO), which have no panic site -/
def CheapO (body : Bytes) (x : Option Nat × Nat) : Prop :=
  match x with
  | (some k, a) => a ≤ 2 * min k body.length
  | (none, a) => a ≤ 196605

theorem mccList_len {bs : Bytes} {i word l : Nat} (h : mccList bs i word = some l) :
    word % 32768 ≤ l ∧ l ≤ 2 * (word % 32768) ∧ i + l ≤ bs.length := by
  unfold mccList at h
  simp only at h
  generalize hcb : (if word / 32768 % 2 = 1 then 2 else 1) = cb at h
  have hcb' : cb = 1 ∨ cb = 2 := by subst hcb; split <;> omega
  by_cases hc : i + cb * (word % 32768) ≤ bs.length
  · rw [if_pos hc] at h
    injection h with h; subst h
    rcases hcb' with h1 | h1 <;> subst h1 <;> omega
  · rw [if_neg hc] at h
    cases h

theorem parseMCC_cheap (bs : Bytes) (hb : IsBytes bs) : CheapO bs (parseMCC bs) := by
  unfold parseMCC
  split
  · rename_i length zmcc _ ymcc qmcc _ nmcci hl _ _ _ _ _ hn
    have hlen := u16_le hb hl
    have hnm := u16_le hb hn
    split
    · simp [CheapO]
    · simp only
      split
      · simp only [CheapO]
        omega
      · rename_i l1 h1
        have hl1 := mccList_len h1
        split
        · simp only [CheapO]
          omega
        · rename_i mmcci hm
          have hmm := u16_le hb hm
          split
          · simp only [CheapO]
            omega
          · rename_i l2 h2
            have hl2 := mccList_len h2
            split
            · simp only [CheapO]
              omega
            · have h3 := rdN_len ‹rdN bs (14 + l1 + l2) 3 = some _›
              split
              · split
                · have h4 := rdN_len ‹rdN bs (17 + l1 + l2) _ = some _›
                  simp only [CheapO]
                  omega
                · simp only [CheapO]
                  omega
              · simp only [CheapO]
                omega
  · simp [CheapO]

theorem parseMCO_cheap (bs : Bytes) (hb : IsBytes bs) : CheapO bs (parseMCO bs) := by
  unfold parseMCO
  split
  · rename_i length sc hl hs
    have hlen := u16_le hb hl
    have hsc := u8_le hb hs
    split
    · simp [CheapO]
    · split
      · simp only [CheapO]
        omega
      · have h3 := rdN_len ‹rdN bs 3 sc = some _›
        split
        · split
          · have h4 := rdN_len ‹rdN bs (3 + sc) _ = some _›
            simp only [CheapO]
            omega
          · simp only [CheapO]
            omega
        · simp only [CheapO]
          omega
  · simp [CheapO]

theorem codingParams_some {bs : Bytes} {i scod : Nat} {ps : List Nat} {k : Nat}
    (h : codingParams bs i scod = some (ps, k)) :
    ps.length = k ∧ i + k ≤ bs.length ∧ ∃ lv rest, ps = lv :: rest ∧ lv ≤ 32 := by
  unfold codingParams at h
  split at h
  · rename_i levels cbw cbh style transform h1 h2 h3 h4 h5
    have hl := u8_len h5
    obtain ⟨_, h⟩ := of_ite_none h
    obtain ⟨hlv, h⟩ := of_ite_none h
    split at h
    · split at h
      · rename_i pr hr
        have := rdN_len hr
        cases h
        exact ⟨by simp; omega, by omega, levels, _, rfl, by omega⟩
      · cases h
    · cases h
      exact ⟨rfl, by omega, levels, _, rfl, by omega⟩
  · cases h

theorem parseCOD_some {bs : Bytes} {c : List Nat} {k : Nat} (h : parseCOD bs = some (c, k)) :
    ∃ scod prog layers mct ps kk, codingParams bs 7 scod = some (ps, kk) ∧
      c = [scod, prog, layers, mct] ++ ps ∧ 5 + kk + 2 ≤ k := by
  unfold parseCOD at h
  split at h
  · split at h
    · cases h
    · rename_i ps kk hp
      obtain ⟨hk, h⟩ := of_ite_none h
      cases h
      exact ⟨_, _, _, _, ps, kk, hp, rfl, by omega⟩
  · cases h

theorem parseCOD_cheap {bs : Bytes} {c : List Nat} {k : Nat} (h : parseCOD bs = some (c, k)) :
    2 * c.length ≤ 2 * min k bs.length := by
  obtain ⟨_, _, _, _, ps, kk, hp, rfl, hk⟩ := parseCOD_some h
  obtain ⟨hpl, hpk, _⟩ := codingParams_some hp
  simp
  omega

theorem parseCOC_some {csiz : Nat} {bs : Bytes} {comp : Nat} {c : List Nat} {k : Nat}
    (h : parseCOC csiz bs = some (comp, c, k)) :
    ∃ scoc ps kk, codingParams bs (3 + cidx csiz) scoc = some (ps, kk) ∧ c = scoc :: ps ∧
      cidx csiz + 1 + kk + 2 ≤ k := by
  unfold parseCOC at h
  split at h
  · split at h
    · cases h
    · rename_i ps kk hp
      obtain ⟨hk, h⟩ := of_ite_none h
      cases h
      exact ⟨_, ps, kk, hp, rfl, by omega⟩
  · cases h

theorem parseCOC_cheap {csiz : Nat} {bs : Bytes} {comp : Nat} {c : List Nat} {k : Nat}
    (h : parseCOC csiz bs = some (comp, c, k)) : 2 * c.length ≤ 2 * min k bs.length := by
  have hc := cidx_le csiz
  obtain ⟨_, ps, kk, hp, rfl, hk⟩ := parseCOC_some h
  obtain ⟨hpl, hpk, _⟩ := codingParams_some hp
  simp
  omega

theorem al_sum (st : St) (a : Nat) : (st.al a).allocs.sum = st.allocs.sum + a := by
  simp [St.al, List.sum_append]

def Good (N : Nat) (st : St) (bs : Bytes) : Prop := IsBytes bs ∧ st.allocs.sum + 2 * bs.length ≤ 2 * N

theorem Good.init {bs : Bytes} (hb : IsBytes bs) : Good bs.length {} (bs.drop 2) :=
  ⟨isBytes_drop hb 2, by simp only [List.length_drop]; show 0 + _ ≤ _; omega⟩

/-- what a turn at a marker position does: it ends without a panic, having allocated a bounded amount; or it
    goes on behind `k` bytes (a segment, or tile data: what `readTileDataWithLength` leaves unread is a suffix too),
    having allocated at most twice what it consumed of them.  The bounds suppose the input to be bytes. -/
inductive Turn (st : St) (bs : Bytes) : Step St → Prop
  | stop (st1 : St) (a : Nat) (o : Res) (hs : st1.allocs.sum = st.allocs.sum + a) (ho : NoPanic o)
      (ha : IsBytes bs → a ≤ 196605 ∨ a ≤ 2 * (bs.drop 2).length) : Turn st bs (.done st1 o)
  | next (st1 : St) (k a : Nat) (h2 : 2 ≤ bs.length) (hs : st1.allocs.sum = st.allocs.sum + a)
      (ha : IsBytes bs → a ≤ 2 * min k (bs.drop 2).length) : Turn st bs (J2kH.next st1 bs k)

namespace Turn
variable {st st1 : St} {bs : Bytes} {k a : Nat}

theorem done {o : Res} (ho : NoPanic o) : Turn st bs (.done st o) :=
  .stop st 0 o rfl ho fun _ => Or.inl (Nat.zero_le _)

theorem err : Turn st bs (.done st .err) := done .err

theorem skip (h2 : 2 ≤ bs.length) (hs : st1.allocs = st.allocs) : Turn st bs (J2kH.next st1 bs k) :=
  .next st1 k 0 h2 (by rw [hs]; rfl) fun _ => Nat.zero_le _

theorem ofOk {α : Type} {cons : α → Nat} {x : Except Res α × Nat} {v : α}
    (hc : Seg (bs.drop 2) cons x) (he : x = (.ok v, a)) (hk : cons v = k) (h2 : 2 ≤ bs.length)
    (hs : st1.allocs.sum = st.allocs.sum + a) : Turn st bs (J2kH.next st1 bs k) :=
  .next st1 k a h2 hs fun hb => by
    rw [he] at hc
    exact hk ▸ hc (isBytes_drop hb 2)

theorem ofError {α : Type} {cons : α → Nat} {x : Except Res α × Nat} {e : Res}
    (hc : Seg (bs.drop 2) cons x) (he : x = (.error e, a)) : Turn st bs (.done (st.al a) e) := by
  rw [he] at hc
  exact .stop _ a e (al_sum _ _) hc.1 fun hb => Or.inl (hc.2 (isBytes_drop hb 2))

/-- a segment that parsed but is then rejected (`putEq`): its buffer is within what it consumed -/
theorem ofOkErr {α : Type} {cons : α → Nat} {x : Except Res α × Nat} {v : α}
    (hc : Seg (bs.drop 2) cons x) (he : x = (.ok v, a)) : Turn st bs (.done (st.al a) .err) := by
  rw [he] at hc
  exact .stop _ a .err (al_sum _ _) .err fun hb =>
    Or.inr (Nat.le_trans (hc (isBytes_drop hb 2)) (Nat.mul_le_mul_left 2 (Nat.min_le_right _ _)))

theorem ofSome {x : Option Nat × Nat} (hc : IsBytes (bs.drop 2) → CheapO (bs.drop 2) x) (he : x = (some k, a))
    (h2 : 2 ≤ bs.length) (hs : st1.allocs.sum = st.allocs.sum + a) : Turn st bs (J2kH.next st1 bs k) :=
  .next st1 k a h2 hs fun hb => by
    have := hc (isBytes_drop hb 2)
    rw [he] at this
    exact this

theorem ofNone {x : Option Nat × Nat} (hc : IsBytes (bs.drop 2) → CheapO (bs.drop 2) x) (he : x = (none, a)) :
    Turn st bs (.done (st.al a) .err) :=
  .stop _ a .err (al_sum _ _) .err fun hb => by
    have := hc (isBytes_drop hb 2)
    rw [he] at this
    exact Or.inl this

theorem shrinks {x : Step St} (h : Turn st bs x) : Shrinks bs x := by
  cases h with
  | stop => trivial
  | next st1 k a h2 =>
    simp only [J2kH.next, Step.Post, List.length_drop]
    omega

theorem of_allocs_eq {st0 : St} {x : Step St} (h : Turn st0 bs x) (he : st0.allocs = st.allocs) : Turn st bs x := by
  cases h with
  | stop st1 a o hs ho ha => exact .stop st1 a o (he ▸ hs) ho ha
  | next st1 k a h2 hs ha => exact .next st1 k a h2 (he ▸ hs) ha

theorem noPanic {st : St} {bs : Bytes} {x : Step St} (h : Turn st bs x) :
    x.Post (fun _ _ => True) fun _ o => NoPanic o := by
  cases h with
  | stop _ _ _ _ ho _ => exact ho
  | next => trivial

theorem good {N : Nat} {st : St} {bs : Bytes} {x : Step St} (h : Turn st bs x) (hg : Good N st bs) :
    x.Post (Good N) fun st' _ => st'.allocs.sum ≤ 2 * N + 196605 := by
  obtain ⟨hb, hs⟩ := hg
  cases h with
  | stop st1 a o e _ ha =>
    have := ha hb
    simp only [Step.Post, List.length_drop] at this ⊢
    omega
  | next st1 k a h2 e ha =>
    have := ha hb
    refine ⟨isBytes_drop (isBytes_drop hb 2) k, ?_⟩
    simp only [List.length_drop] at this ⊢
    omega

end Turn

def DoneOk (x : Step St) : Prop := ∀ st' o, x = .done st' o → ∀ s, o ≠ .panic s

theorem doneOk_done_beyond (st : St) : DoneOk (.done st .beyond) := by
  intro st' o h s; injection h with _ h2; subst h2; simp

theorem skipSegment_le {bs : Bytes} {k : Nat} (h : skipSegment bs = some k) : k ≤ bs.length := by
  unfold skipSegment at h
  split at h
  · cases h
  · split at h
    · cases h
    · injection h with h; subst h; omega

theorem tilesTurn_turn {st : St} {bs : Bytes} : Turn st bs (tilesTurn st bs) := by
  unfold tilesTurn
  split
  · exact .done .ok
  · refine ite_ind (fun _ => .done .ok) fun _ => ite_ind (fun _ => ?_) fun _ => .err
    split
    · exact .err
    · exact .skip (u16_len ‹_›) rfl

theorem mEnd_turn {st : St} {bs : Bytes} : Turn st bs (mEnd st bs) := by
  unfold mEnd
  split
  · exact .err
  · exact (tilesTurn_turn (st := { st with phase := .tiles })).of_allocs_eq rfl

section handlers
variable {st : St} {bs : Bytes} (h2 : 2 ≤ bs.length)
include h2

theorem tMCT_turn : Turn st bs (tMCT st bs) := by
  unfold tMCT
  split
  · exact .ofOk (parseMCT_seg _) ‹_› rfl h2 (al_sum _ _)
  · exact .ofError (parseMCT_seg _) ‹_›

theorem tMCC_turn : Turn st bs (tMCC st bs) := by
  unfold tMCC
  split
  · exact .ofSome (parseMCC_cheap _) ‹_› h2 (al_sum _ _)
  · exact .ofNone (parseMCC_cheap _) ‹_›

theorem tMCO_turn : Turn st bs (tMCO st bs) := by
  unfold tMCO
  split
  · exact .ofSome (parseMCO_cheap _) ‹_› h2 (al_sum _ _)
  · exact .ofNone (parseMCO_cheap _) ‹_›

theorem tSkip_turn : Turn st bs (tSkip st bs) := by
  unfold tSkip
  split
  · exact .skip h2 rfl
  · exact .err

theorem mSIZ_turn : Turn st bs (mSIZ st bs) := by
  unfold mSIZ
  split
  · exact .err
  · split
    · exact .ofOk (parseSIZ_seg _) ‹_› rfl h2 (al_sum _ _)
    · exact .ofError (parseSIZ_seg _) ‹_›

theorem mCOD_turn : Turn st bs (mCOD st bs) := by
  unfold mCOD
  split
  · exact .err
  · split
    · exact .next _ _ _ h2 (al_sum _ _) fun _ => parseCOD_cheap ‹_›
    · exact .err

theorem mCOC_turn : Turn st bs (mCOC st bs) := by
  unfold mCOC
  split
  · exact .err
  · split
    · split
      · exact .next _ _ _ h2 (al_sum _ _) fun _ => parseCOC_cheap ‹_›
      · exact .err
    · exact .err

theorem mQCD_turn : Turn st bs (mQCD st bs) := by
  unfold mQCD
  split
  · exact .err
  · split
    · exact .ofOk (parseQCD_seg _) ‹_› rfl h2 (al_sum _ _)
    · exact .ofError (parseQCD_seg _) ‹_›

theorem mQCC_turn : Turn st bs (mQCC st bs) := by
  unfold mQCC
  split
  · exact .err
  · split
    · split
      · exact .ofOk (parseQCC_seg _ _) ‹_› rfl h2 (al_sum _ _)
      · exact .ofOkErr (parseQCC_seg _ _) ‹_›
    · exact .ofError (parseQCC_seg _ _) ‹_›

theorem mPOC_turn : Turn st bs (mPOC st bs) := by
  unfold mPOC
  split
  · exact .err
  · split
    · exact .ofOk (parsePOC_seg _ _) ‹_› rfl h2 (al_sum _ _)
    · exact .ofError (parsePOC_seg _ _) ‹_›

theorem mRGN_turn : Turn st bs (mRGN st bs) := by
  unfold mRGN
  split
  · exact .err
  · split
    · exact .ofOk (parseRGN_seg _ _) ‹_› rfl h2 (al_sum _ _)
    · exact .ofError (parseRGN_seg _ _) ‹_›

theorem mCOM_turn : Turn st bs (mCOM st bs) := by
  unfold mCOM
  split
  · exact .err
  · split
    · exact .ofOk (parseCOM_seg _) ‹_› rfl h2 (al_sum _ _)
    · exact .ofError (parseCOM_seg _) ‹_›

theorem mMCT_turn : Turn st bs (mMCT st bs) :=
  ite_ind (fun _ => .err) fun _ => tMCT_turn h2

theorem mMCC_turn : Turn st bs (mMCC st bs) :=
  ite_ind (fun _ => .err) fun _ => tMCC_turn h2

theorem mMCO_turn : Turn st bs (mMCO st bs) :=
  ite_ind (fun _ => .err) fun _ => tMCO_turn h2

theorem mSkip_turn : Turn st bs (mSkip st bs) :=
  ite_ind (fun _ => .err) fun _ => tSkip_turn h2

theorem mainTurn_turn (m : Nat) : Turn st bs (mainTurn st bs m) :=
  ite_ind (fun _ => mEnd_turn) fun _ => ite_ind (fun _ => mSIZ_turn h2) fun _ =>
  ite_ind (fun _ => mCOD_turn h2) fun _ => ite_ind (fun _ => mCOC_turn h2) fun _ =>
  ite_ind (fun _ => mQCD_turn h2) fun _ => ite_ind (fun _ => mQCC_turn h2) fun _ =>
  ite_ind (fun _ => mPOC_turn h2) fun _ => ite_ind (fun _ => mRGN_turn h2) fun _ =>
  ite_ind (fun _ => mCOM_turn h2) fun _ => ite_ind (fun _ => mMCT_turn h2) fun _ =>
  ite_ind (fun _ => mMCC_turn h2) fun _ => ite_ind (fun _ => mMCO_turn h2) fun _ => mSkip_turn h2

variable {p : Part}

theorem sodTurn_turn : Turn st bs (sodTurn st p bs) := by
  unfold sodTurn
  obtain ⟨k, hk⟩ := readTileDataWithLength_drop (bs.drop 2) (p.startUnread - (bs.drop 2).length) p.psot
  rw [hk]
  split
  · exact .skip h2 rfl
  · exact .err

theorem tCOD_turn : Turn st bs (tCOD st p bs) := by
  unfold tCOD
  split
  · exact .next _ _ _ h2 (al_sum _ _) fun _ => parseCOD_cheap ‹_›
  · exact .err

theorem tCOC_turn : Turn st bs (tCOC st p bs) := by
  unfold tCOC
  split
  · split
    · exact .next _ _ _ h2 (al_sum _ _) fun _ => parseCOC_cheap ‹_›
    · exact .err
  · exact .err

theorem tQCD_turn : Turn st bs (tQCD st p bs) := by
  unfold tQCD
  split
  · exact .ofOk (parseQCD_seg _) ‹_› rfl h2 (al_sum _ _)
  · exact .ofError (parseQCD_seg _) ‹_›

theorem tQCC_turn : Turn st bs (tQCC st p bs) := by
  unfold tQCC
  split
  · split
    · exact .ofOk (parseQCC_seg _ _) ‹_› rfl h2 (al_sum _ _)
    · exact .ofOkErr (parseQCC_seg _ _) ‹_›
  · exact .ofError (parseQCC_seg _ _) ‹_›

theorem tPOC_turn : Turn st bs (tPOC st p bs) := by
  unfold tPOC
  split
  · exact .ofOk (parsePOC_seg _ _) ‹_› rfl h2 (al_sum _ _)
  · exact .ofError (parsePOC_seg _ _) ‹_›

theorem tRGN_turn : Turn st bs (tRGN st p bs) := by
  unfold tRGN
  split
  · exact .ofOk (parseRGN_seg _ _) ‹_› rfl h2 (al_sum _ _)
  · exact .ofError (parseRGN_seg _ _) ‹_›

theorem thdrTurn_turn (m : Nat) : Turn st bs (thdrTurn st p bs m) :=
  ite_ind (fun _ => sodTurn_turn h2) fun _ => ite_ind (fun _ => tCOD_turn h2) fun _ =>
  ite_ind (fun _ => tCOC_turn h2) fun _ => ite_ind (fun _ => tQCD_turn h2) fun _ =>
  ite_ind (fun _ => tQCC_turn h2) fun _ => ite_ind (fun _ => tPOC_turn h2) fun _ =>
  ite_ind (fun _ => tRGN_turn h2) fun _ => ite_ind (fun _ => tMCT_turn h2) fun _ =>
  ite_ind (fun _ => tMCC_turn h2) fun _ => ite_ind (fun _ => tMCO_turn h2) fun _ => tSkip_turn h2

end handlers

theorem step_turn (st : St) (bs : Bytes) : Turn st bs (step st bs) := by
  unfold step
  split
  · exact tilesTurn_turn
  · split
    · exact .err
    · exact mainTurn_turn (u16_len ‹_›) _
  · split
    · exact thdrTurn_turn (u16_len ‹_›) _
    · exact .err

end J2kH
