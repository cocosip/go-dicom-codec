import GdcVerif.Lemmas.RleEnc
import GdcVerif.Spec.PackBits
import GdcVerif.Lemmas.Loops
import GdcVerif.Lemmas.Basics
/-! Layout of the encoded frame.  `encodeFrame` writes `mkStream cs` for the list `cs` of even-padded
  segments: a 64-byte header (count, then the offsets `64 + pre cs k`) followed by `cs.flatten`; both
  header readers (`parseHeader`, `AnnexG.headerOk`) and both slicers get the chunks back from it, given
  what the encoder guarantees of `cs` (`Chunks`). -/
namespace Rle

theorem le32_length (v : Nat) : (le32 v).length = 4 := rfl

theorem flatMap_le32_length (L : List Nat) : (L.flatMap le32).length = 4 * L.length :=
  List.flatMap_length_const le32 4 le32_length L

theorem rd32_append (A l : List Byte) (k : Nat) : rd32 (A ++ l) (A.length + k) = rd32 l k := by
  simp only [rd32, Nat.add_assoc, List.getD_append_add]

theorem rd32_le32 (v : Nat) (hv : v < 4294967296) (R : List Byte) : rd32 (le32 v ++ R) 0 = v := by
  simp [rd32, le32]
  omega

theorem rd32_flatMap (Z : List Byte) : ∀ (L : List Nat) (k : Nat), k < L.length → L.getD k 0 < 4294967296 →
    rd32 (L.flatMap le32 ++ Z) (4 * k) = L.getD k 0
  | v :: L, 0, _, hv => by
    rw [List.flatMap_cons, List.append_assoc]
    exact rd32_le32 v hv _
  | v :: L, k + 1, hk, hv => by
    rw [List.flatMap_cons, List.append_assoc, Nat.mul_succ, Nat.add_comm]
    exact (rd32_append (le32 v) _ (4 * k)).trans (rd32_flatMap Z L k (Nat.lt_of_succ_lt_succ hk) hv)

theorem u32_eq_rd32 (d : List Nat) (o : Nat) : AnnexG.u32 d o = rd32 d o := by
  simp only [AnnexG.u32, rd32]; omega

/-- the pad byte `NextSegment` puts behind an odd segment -/
def padOf (x : List Byte) : List Byte := if x.length % 2 = 1 then [0] else []

/-- the body as `NextSegment` (and the end of `encodeFrame`) leaves it: padded to an even stream length -/
def padE (b : List Byte) : List Byte := if (64 + b.length) % 2 = 1 then b ++ [0] else b

def pre (cs : List (List Byte)) (k : Nat) : Nat := (cs.take k).flatten.length

def offsOf (base : Nat) (cs : List (List Byte)) : List Nat :=
  (List.range cs.length).map fun k => base + pre cs k

def chunkOf (plane : List Byte) : List Byte :=
  (encodeSegment plane).1 ++ padOf (encodeSegment plane).1

def hdr (cs : List (List Byte)) : List Byte :=
  (cs.length :: (offsOf 64 cs ++ List.replicate (15 - cs.length) 0)).flatMap le32

def mkStream (cs : List (List Byte)) : List Byte := hdr cs ++ cs.flatten

theorem padOf_length_le (x : List Byte) : (padOf x).length ≤ 1 := by
  unfold padOf; split <;> simp

theorem padE_length_even (b : List Byte) : (64 + (padE b).length) % 2 = 0 := by
  unfold padE; split
  · simp; omega
  · omega

theorem padE_append (b x : List Byte) (hb : (64 + b.length) % 2 = 0) :
    padE (b ++ x) = b ++ (x ++ padOf x) := by
  unfold padE padOf
  have : (64 + (b ++ x).length) % 2 = x.length % 2 := by simp; omega
  rw [this]
  split <;> simp

theorem padE_nil : padE [] = [] := by simp [padE]

theorem padE_chunk (body plane : List Byte) :
    padE (padE body ++ (encodeSegment plane).1) = padE body ++ chunkOf plane :=
  padE_append _ _ (padE_length_even body)

/-- the size guard may as well be taken after the pad byte: the padded stream and `maxEncodedFrameLength`
    are both even -/
theorem padE_fits (b : List Byte) :
    64 + (padE b).length > maxEncodedFrameLength ↔ 64 + b.length > maxEncodedFrameLength := by
  unfold padE maxEncodedFrameLength
  split
  · simp; omega
  · rfl

theorem chunk_even (x : List Byte) : (x ++ padOf x).length % 2 = 0 := by
  unfold padOf; split
  · simp; omega
  · simp; omega

theorem flatten_length_even (L : List (List Byte)) (hL : ∀ c, c ∈ L → c.length % 2 = 0) :
    L.flatten.length % 2 = 0 := by
  induction L with
  | nil => rfl
  | cons c L ih =>
    have h1 := hL c (by simp)
    have h2 := ih (fun c hc => hL c (by simp [hc]))
    simp only [List.flatten_cons, List.length_append]
    omega

theorem pre_even (cs : List (List Byte)) (hev : ∀ c, c ∈ cs → c.length % 2 = 0) (k : Nat) : pre cs k % 2 = 0 :=
  flatten_length_even _ fun c hc => hev c (List.mem_of_mem_take hc)

theorem pre_succ (cs : List (List Byte)) (k : Nat) (hk : k < cs.length) :
    pre cs (k + 1) = pre cs k + cs[k].length := by
  unfold pre
  rw [List.take_succ_eq_append_getElem hk]
  simp only [List.flatten_append, List.length_append, List.flatten_cons, List.flatten_nil,
    List.append_nil]

theorem pre_all (cs : List (List Byte)) : pre cs cs.length = cs.flatten.length := by
  simp [pre]

theorem pre_le (cs : List (List Byte)) (k : Nat) : pre cs k ≤ cs.flatten.length := by
  have h := List.take_append_drop k cs
  have : cs.flatten = (cs.take k).flatten ++ (cs.drop k).flatten := by
    rw [← List.flatten_append, h]
  rw [this]; simp [pre]

theorem offsOf_length (cs : List (List Byte)) (base : Nat) : (offsOf base cs).length = cs.length := by
  simp [offsOf]

theorem offsOf_cons (base : Nat) (c : List Byte) (cs : List (List Byte)) :
    offsOf base (c :: cs) = base :: offsOf (base + c.length) cs := by
  simp only [offsOf, List.length_cons, List.range_succ_eq_map, List.map_cons, List.map_map]
  congr 1
  apply List.map_congr_left
  intro k _
  simp [pre, Nat.add_assoc]

theorem offsOf_getD (cs : List (List Byte)) (base k : Nat) (hk : k < cs.length) :
    (offsOf base cs).getD k 0 = base + pre cs k :=
  List.getD_map_range _ 0 hk

theorem slice_chunk (H : List Byte) (cs : List (List Byte)) (k : Nat) (hk : k < cs.length) :
    ((H ++ cs.flatten).take (H.length + pre cs (k + 1))).drop (H.length + pre cs k) = cs[k] := by
  have h2 : cs.flatten = (cs.take k).flatten ++ (cs[k] ++ (cs.drop (k + 1)).flatten) := by
    have h1 : cs = cs.take k ++ (cs[k] :: cs.drop (k + 1)) := by
      rw [← List.drop_eq_getElem_cons hk, List.take_append_drop]
    have h3 := congrArg List.flatten h1
    rw [List.flatten_append, List.flatten_cons] at h3
    exact h3
  rw [pre_succ cs k hk]
  rw [h2]
  have e1 : H.length + (pre cs k + cs[k].length) = (H ++ (cs.take k).flatten ++ cs[k]).length := by
    simp [pre]
  have e2 : H.length + pre cs k = (H ++ (cs.take k).flatten).length := by simp [pre]
  rw [show H ++ ((cs.take k).flatten ++ (cs[k] ++ (cs.drop (k + 1)).flatten)) =
    (H ++ (cs.take k).flatten ++ cs[k]) ++ (cs.drop (k + 1)).flatten by simp [List.append_assoc]]
  rw [e1, List.take_left' rfl, e2, List.drop_left' rfl]

theorem hdr_length (cs : List (List Byte)) (h : cs.length ≤ 15) : (hdr cs).length = 64 := by
  simp only [hdr, flatMap_le32_length, List.length_cons, List.length_append, offsOf_length,
    List.length_replicate]
  omega

theorem mkStream_length (cs : List (List Byte)) (h : cs.length ≤ 15) :
    (mkStream cs).length = 64 + cs.flatten.length := by
  simp only [mkStream, List.length_append, hdr_length cs h]

theorem chunkOf_shape (plane : List Byte) (h : 1 ≤ plane.length) :
    (chunkOf plane).length % 2 = 0 ∧ 2 ≤ (chunkOf plane).length := by
  refine ⟨chunk_even _, ?_⟩
  have := (encodeSegment_spec plane).1.two_le h
  simp only [chunkOf, List.length_append]; omega

/-- PackBits at most doubles a plane; one pad byte -/
theorem chunkOf_length_le (plane : List Byte) : (chunkOf plane).length ≤ 2 * plane.length + 1 := by
  have h1 := (encodeSegment_spec plane).1.length_le
  have h2 := padOf_length_le (encodeSegment plane).1
  simp only [chunkOf, List.length_append]; omega

theorem rd32_stream_count (cs : List (List Byte)) (h : cs.length ≤ 15) :
    rd32 (mkStream cs) 0 = cs.length := by
  rw [mkStream, hdr]
  exact rd32_flatMap _ _ 0 (Nat.succ_pos _) (show cs.length < 4294967296 by omega)

theorem rd32_stream_off (cs : List (List Byte)) (h : cs.length ≤ 15)
    (hb : 64 + cs.flatten.length < 4294967296) (k : Nat) (hk : k < 15) :
    rd32 (mkStream cs) (4 + 4 * k) = if k < cs.length then 64 + pre cs k else 0 := by
  have hL : (offsOf 64 cs ++ List.replicate (15 - cs.length) 0).getD k 0 =
      if k < cs.length then 64 + pre cs k else 0 := by
    split
    · next h1 =>
      rw [← offsOf_getD cs 64 k h1]
      simp [List.getD_eq_getElem?_getD, List.getElem?_append_left, offsOf_length, h1]
    · next h1 =>
      simp [List.getD_eq_getElem?_getD, List.getElem?_append_right, offsOf_length, Nat.le_of_not_lt h1,
        List.getElem?_replicate]
      split <;> rfl
  rw [mkStream, hdr, ← hL, show 4 + 4 * k = 4 * (k + 1) by omega]
  refine rd32_flatMap _ _ (k + 1) (by simp [offsOf_length]; omega) ?_
  rw [List.getD_cons_succ, hL]
  split
  · have := pre_le cs k; omega
  · omega

/-- the slice as both readers take it: from a chunk's offset `64 + pre cs k` to the next offset `e`, or to the
    end of the stream behind the last chunk -/
theorem slice_stream (cs : List (List Byte)) (h : cs.length ≤ 15) (k : Nat) (hk : k < cs.length) (e : Nat)
    (he : k + 1 < cs.length → e = 64 + pre cs (k + 1)) :
    ((mkStream cs).take (if k + 1 < cs.length then e else (mkStream cs).length)).drop (64 + pre cs k) =
      cs[k] := by
  have := slice_chunk (hdr cs) cs k hk
  rw [hdr_length cs h] at this
  rw [← this]
  congr 2
  split
  · next h1 => exact he h1
  · next h1 => rw [show k + 1 = cs.length by omega, pre_all, mkStream_length cs h]

/-- the guard taken on the padded chunk (`padE_fits`) -/
theorem encodeSegments_succ (i : Info) (src : Array Byte) (n s : Nat) (body : List Byte) (offs : List Nat)
    (oob : Bool) (plane : List Byte)
    (hr : readPlane src (i.segStart s) i.segStride i.pixelCount = some plane) :
    encodeSegments i src (n + 1) s body offs oob =
      if 64 + (padE body ++ chunkOf plane).length > maxEncodedFrameLength then .error .tooBig
      else encodeSegments i src n (s + 1) (padE body ++ (encodeSegment plane).1)
        (offs ++ [64 + (padE body).length]) oob := by
  rw [encodeSegments, ← padE_chunk]
  simp only [hr, (encodeSegment_spec plane).2, Bool.or_false, padE_fits]
  rfl

theorem encodeSegments_spec (i : Info) (src : Array Byte) (P : Nat → List Byte) :
    ∀ (n s : Nat) (body : List Byte) (offs : List Nat) (oob : Bool),
    (∀ t, s ≤ t → t < s + n →
      readPlane src (i.segStart t) i.segStride i.pixelCount = some (P t)) →
    64 + (padE body).length ≤ maxEncodedFrameLength →
    (64 + (padE body).length + ((List.range' s n).map fun t => chunkOf (P t)).flatten.length
        ≤ maxEncodedFrameLength →
      ∃ B, encodeSegments i src n s body offs oob =
          .ok (B, offs ++ offsOf (64 + (padE body).length)
            ((List.range' s n).map fun t => chunkOf (P t)), oob) ∧
        padE B = padE body ++ ((List.range' s n).map fun t => chunkOf (P t)).flatten) ∧
    (maxEncodedFrameLength <
        64 + (padE body).length + ((List.range' s n).map fun t => chunkOf (P t)).flatten.length →
      encodeSegments i src n s body offs oob = .error .tooBig) := by
  intro n
  induction n with
  | zero =>
    intro s body offs oob _ h0
    refine ⟨fun _ => ⟨body, by simp [encodeSegments, offsOf], by simp⟩, fun h => ?_⟩
    simp at h
    omega
  | succ n ih =>
    intro s body offs oob hP h0
    rw [List.range'_succ, List.map_cons, List.flatten_cons, List.length_append,
      encodeSegments_succ i src n s body offs oob (P s) (hP s (Nat.le_refl _) (by omega))]
    by_cases hguard : 64 + (padE body ++ chunkOf (P s)).length > maxEncodedFrameLength
    · rw [if_pos hguard]
      rw [List.length_append] at hguard
      exact ⟨fun h => by omega, fun _ => rfl⟩
    · rw [if_neg hguard]
      rw [List.length_append] at hguard
      obtain ⟨ih1, ih2⟩ := ih (s + 1) (padE body ++ (encodeSegment (P s)).1)
        (offs ++ [64 + (padE body).length]) oob (fun t h1 h2 => hP t (by omega) (by omega))
        (by rw [padE_chunk, List.length_append]; omega)
      rw [padE_chunk, List.length_append] at ih1 ih2
      refine ⟨fun h => ?_, fun h => ih2 (by omega)⟩
      obtain ⟨B, hB, hpad⟩ := ih1 (by omega)
      refine ⟨B, ?_, ?_⟩
      · rw [hB]
        simp [offsOf_cons, Nat.add_assoc]
      · rw [hpad]
        simp

theorem encodeFrame_of_segments (i : Info) (src : Array Byte) (B : List Byte) (O : List Nat)
    (h0 : src.size ≠ 0)
    (hn' : ¬ (i.numberOfSegments < 1 ∨ i.numberOfSegments > 15 ∨ i.pixelCount < 1))
    (hB : encodeSegments i src i.numberOfSegments 0 [] [] false = .ok (B, O, false)) :
    encodeFrame i src =
      .ok (le32 O.length ++ (O ++ List.replicate (15 - O.length) 0).flatMap le32 ++ padE B) := by
  rw [encodeFrame, if_neg h0, if_neg hn', hB]
  rfl

theorem encodeFrame_eq (i : Info) (src : Array Byte) (P : Nat → List Byte)
    (h0 : src.size ≠ 0) (hn : i.numberOfSegments ≤ 15) (hn1 : 1 ≤ i.numberOfSegments)
    (hpc : 1 ≤ i.pixelCount)
    (hP : ∀ t, t < i.numberOfSegments →
      readPlane src (i.segStart t) i.segStride i.pixelCount = some (P t)) :
    encodeFrame i src =
      if 64 + ((List.range' 0 i.numberOfSegments).map fun t => chunkOf (P t)).flatten.length
          ≤ maxEncodedFrameLength then
        .ok (mkStream ((List.range' 0 i.numberOfSegments).map fun t => chunkOf (P t)))
      else .err := by
  have hn' : ¬ (i.numberOfSegments < 1 ∨ i.numberOfSegments > 15 ∨ i.pixelCount < 1) := by omega
  obtain ⟨hok, hbig⟩ := encodeSegments_spec i src P i.numberOfSegments 0 [] [] false
    (fun t _ h => hP t (by omega)) (by rw [padE_nil]; decide)
  rw [padE_nil, List.length_nil, Nat.add_zero, List.nil_append] at hok
  rw [padE_nil, List.length_nil, Nat.add_zero] at hbig
  split
  · next hfit =>
    obtain ⟨B, hB, hpad⟩ := hok hfit
    rw [List.nil_append] at hpad
    rw [encodeFrame_of_segments i src B _ h0 hn' hB, hpad]
    simp [mkStream, hdr, offsOf_length]
  · next hfit =>
    rw [encodeFrame, if_neg h0, if_neg hn', hbig (by omega)]

/-- what `encodeFrame` guarantees of the chunk list it writes (`chunksOf_ok`), and what the readers of `mkStream cs` rely on:
    1..15 chunks, a stream whose every offset fits its 32-bit field, every chunk even and not empty -/
structure Chunks (cs : List (List Byte)) : Prop where
  count_pos : 1 ≤ cs.length
  count_le : cs.length ≤ 15
  fits : 64 + cs.flatten.length ≤ maxEncodedFrameLength
  shape : ∀ c, c ∈ cs → c.length % 2 = 0 ∧ 2 ≤ c.length

theorem Chunks.lt32 {cs : List (List Byte)} (w : Chunks cs) : 64 + cs.flatten.length < 4294967296 :=
  Nat.lt_of_le_of_lt w.fits (by decide)

theorem Chunks.length_ok {cs : List (List Byte)} (w : Chunks cs) :
    (mkStream cs).length ≤ maxEncodedFrameLength ∧ (mkStream cs).length % 2 = 0 := by
  rw [mkStream_length cs w.count_le]
  have := flatten_length_even cs fun c hc => (w.shape c hc).1
  exact ⟨w.fits, by omega⟩

theorem parseHeader_stream {cs : List (List Byte)} (w : Chunks cs) :
    ∃ offs, parseHeader (mkStream cs) = some (cs.length, offs) ∧
      ∀ k (hk : k < cs.length), segmentSlice (mkStream cs) cs.length offs k = cs[k] := by
  have h := w.count_le
  have hget : ∀ k, k < cs.length →
      ((List.range 15).map fun k => rd32 (mkStream cs) (4 + 4 * k)).getD k 0 = 64 + pre cs k := fun k hk =>
    (List.getD_map_range _ 0 (by omega)).trans ((rd32_stream_off cs h w.lt32 k (by omega)).trans (if_pos hk))
  refine ⟨(List.range 15).map fun k => rd32 (mkStream cs) (4 + 4 * k), ?_, fun k hk => ?_⟩
  · unfold parseHeader
    have hl : ¬ ((mkStream cs).length < 64) := by rw [mkStream_length cs h]; omega
    have hc : ¬ (cs.length < 1 ∨ cs.length > 15) := by have := w.count_pos; omega
    simp only [hl, ↓reduceIte, rd32_stream_count cs h, hc]
    rw [if_pos]
    simp only [List.all_eq_true, List.mem_range, decide_eq_true_eq]
    intro k hk
    rw [hget k hk, mkStream_length cs h]
    have := pre_le cs k
    omega
  · unfold segmentSlice
    simp only [hget k hk]
    exact slice_stream cs h k hk _ (hget _)

theorem headerOk_stream {cs : List (List Byte)} (w : Chunks cs) :
    AnnexG.headerOk (mkStream cs) cs.length = true := by
  have h := w.count_le
  have hb := w.lt32
  have hev := fun c hc => (w.shape c hc).1
  simp only [AnnexG.headerOk, Bool.and_eq_true, decide_eq_true_eq, List.all_eq_true,
    List.mem_range, u32_eq_rd32]
  refine ⟨⟨⟨⟨w.length_ok.2, ?_⟩, ?_⟩, h⟩, ?_⟩
  · rw [mkStream_length cs h]; omega
  · exact rd32_stream_count cs h
  · intro k hk
    rw [rd32_stream_off cs h hb k hk]
    split
    · next hkn =>
      have hs := pre_succ cs k hkn
      have hle := pre_le cs (k + 1)
      have h2 := (w.shape cs[k] (List.getElem_mem hkn)).2
      have he := pre_even cs hev k
      simp only [Bool.and_eq_true, decide_eq_true_eq]
      refine ⟨⟨by omega, by rw [mkStream_length cs h]; omega⟩, ?_⟩
      split
      · next hk0 => subst hk0; simp [pre]
      · next hk0 =>
        obtain ⟨j, rfl⟩ : ∃ j, k = j + 1 := ⟨k - 1, by omega⟩
        rw [show 4 * (j + 1) = 4 + 4 * j by omega, rd32_stream_off cs h hb j (by omega)]
        have hjn : j < cs.length := by omega
        have := pre_succ cs j hjn
        have := (w.shape cs[j] (List.getElem_mem hjn)).2
        simp only [hjn, ↓reduceIte, decide_eq_true_eq]
        omega
    · simp

theorem readPlanes_stream {cs : List (List Byte)} (w : Chunks cs) (pixels : Nat) (g : Nat → List Nat)
    (hg : ∀ k (hk : k < cs.length), AnnexG.unpack cs[k] pixels = some (g k)) :
    AnnexG.readPlanes (mkStream cs) cs.length pixels = some ((List.range cs.length).map g) := by
  have h := w.count_le
  have hb := w.lt32
  unfold AnnexG.readPlanes
  rw [if_pos (headerOk_stream w)]
  refine Loop.mapM_pure _ g _ fun k hk => ?_
  show _ = some (g k)
  rw [List.mem_range] at hk
  simp only [u32_eq_rd32]
  rw [rd32_stream_off cs h hb k (by omega), if_pos hk, ← hg k hk,
    slice_stream cs h k hk _ fun h1 => by rw [rd32_stream_off cs h hb (k + 1) (by omega), if_pos h1]]

end Rle
