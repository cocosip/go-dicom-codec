import GdcVerif.Lemmas.JpegLossless
import GdcVerif.Lemmas.JllBits
import GdcVerif.Lemmas.JllCanon
import GdcVerif.Lemmas.Loops
/-!
  The entropy layer between the canonical codes (`JllCanon`) and the scan (`JllScan`): a symbol is a
  (category, amplitude) pair (`SymOk`); `symWrite` lists its `WriteBits` calls, `readSym` is the decoder's
  `Decode` + `ReadBits`.  A reader that `Reads` the bits of a symbol returns it, hence a whole symbol
  sequence is read back from the writer's bytes (`entropy_roundtrip`).
-/
namespace JLL

theorem Reads.decodeLoop_listBit (values : Array Nat) :
    ∀ (codes : List (Int × Int × Int)) (code : Nat) {d : HuffDec} {bs : List Bool} (sym : Nat) (rest : List Bool),
      Reads d bs → decodeLoop values listBit codes code bs = .ok (sym, rest) →
      ∃ d', decodeLoop values HuffDec.readBit codes code d = .ok (sym, d') ∧ Reads d' rest := by
  intro codes
  induction codes with
  | nil => intro code d bs sym rest _ h; simp [decodeLoop] at h
  | cons e codes ih =>
    intro code d bs sym rest hd h
    obtain ⟨minC, maxC, vp⟩ := e
    cases bs with
    | nil => simp [decodeLoop, listBit] at h
    | cons b r =>
      obtain ⟨d1, hr, h1⟩ := hd.readBit
      rw [decodeLoop_cons] at h ⊢
      simp only [listBit] at h
      simp only [hr]
      by_cases c1 : Go.wrap32 ↑(stepCode code b) ≤ maxC ∧ maxC ≥ 0
      · simp only [c1, and_self, if_true] at h ⊢
        by_cases c2 : Go.wrap32 (vp + Go.wrap32 ↑(stepCode code b) - minC) ≥ 0 ∧
            (Go.wrap32 (vp + Go.wrap32 ↑(stepCode code b) - minC)).toNat < values.size
        · simp only [c2, and_self, dite_true] at h ⊢
          injection h with h
          injection h with e1 e2
          exact ⟨d1, by rw [e1], e2 ▸ h1⟩
        · simp only [c2, dite_false] at h ⊢
          exact ih _ sym rest h1 h
      · simp only [c1, if_false] at h ⊢
        exact ih _ sym rest h1 h

theorem Reads.decode {bits : List Nat} {values : Array Nat} {t : Table}
    (hv : ValidTable bits values = true) (ht : Table.build bits values = .ok t)
    {sym : Nat} (hsym : sym ∈ values.toList) {c len : Nat}
    (hc : (buildHuffmanCodes bits values)[sym]? = some (c, len))
    {d : HuffDec} {rest : List Bool} (h : Reads d (bitsOf c len ++ rest)) :
    ∃ d', d.decode t = .ok (sym, d') ∧ Reads d' rest := by
  obtain ⟨t', ht', hv', hc'⟩ := build_ok bits values hv
  rw [ht] at ht'
  injection ht' with ht'
  subst ht'
  rw [decode_fast_path_dead d t h.room, hv', hc']
  exact Reads.decodeLoop_listBit values _ 0 sym rest h (canonical_decode_encode bits values hv sym hsym c len hc rest)

/-- a (category, amplitude) pair as `encodeLosslessDifference` produces it (`symOfDiff_ok`):
    amplitude 0 for the two categories that carry no amplitude bits (0 and 16) -/
def SymOk (x : Nat × Nat) : Prop :=
  x.1 ≤ 16 ∧ x.2 < 2 ^ x.1 ∧ ((x.1 = 0 ∨ x.1 = 16) → x.2 = 0)

/-- the `WriteBits` calls of one symbol: its Huffman code, then the amplitude bits unless the
    category is 0 or 16 (encodeScan: `cat > 0 && cat != 16`) -/
def symWrite (codes : Array (Nat × Nat)) (x : Nat × Nat) : List (Nat × Nat) :=
  (codes[x.1]?.getD (0, 0)) :: (if 0 < x.1 ∧ x.1 ≠ 16 then [(x.2, x.1)] else [])

def symWrites (codes : Array (Nat × Nat)) (syms : List (Nat × Nat)) : List (Nat × Nat) :=
  syms.flatMap (symWrite codes)

/-- one symbol read, as in `decodeScan`: `Decode`, then `ReadBits(category)` unless 0 / 16 -/
def readSym (t : Table) (d : HuffDec) : Outcome ((Nat × Nat) × HuffDec) :=
  match d.decode t with
  | .err => .err
  | .panic => .panic
  | .ok (category, d1) =>
    if category = 0 ∨ category = 16 then .ok ((category, 0), d1)
    else match d1.readBits category with
      | none => .err
      | some (v, d2) => .ok ((category, v), d2)

def readSyms (t : Table) : Nat → HuffDec → Outcome (List (Nat × Nat) × HuffDec)
  | 0, d => .ok ([], d)
  | n + 1, d =>
    match readSym t d with
    | .err => .err
    | .panic => .panic
    | .ok (x, d1) =>
      match readSyms t n d1 with
      | .err => .err
      | .panic => .panic
      | .ok (xs, d2) => .ok (x :: xs, d2)

theorem symWrite_bits {codes : Array (Nat × Nat)} {x : Nat × Nat} {c len : Nat} (hc : codes[x.1]? = some (c, len)) :
    (symWrite codes x).flatMap (fun w => bitsOf w.1 w.2) =
      bitsOf c len ++ if 0 < x.1 ∧ x.1 ≠ 16 then bitsOf x.2 x.1 else [] := by
  simp only [symWrite, hc, Option.getD_some, List.flatMap_cons]
  split <;> simp

theorem symWrites_bits {α : Type} (codes : Array (Nat × Nat)) (f : α → Nat × Nat) (l : List α) :
    (symWrites codes (l.map f)).flatMap (fun w => bitsOf w.1 w.2) =
      l.flatMap fun a => (symWrite codes (f a)).flatMap fun w => bitsOf w.1 w.2 := by
  rw [symWrites, List.flatMap_map, List.flatMap_assoc]

theorem symWrites_width (bits : List Nat) (values : Array Nat) (hv : ValidTable bits values = true)
    (syms : List (Nat × Nat)) (hok : ∀ x ∈ syms, SymOk x ∧ x.1 ∈ values.toList) :
    ∀ w ∈ symWrites (buildHuffmanCodes bits values) syms, w.2 ≤ 16 := by
  intro w hw
  simp only [symWrites, List.mem_flatMap] at hw
  obtain ⟨x, hx, hw⟩ := hw
  obtain ⟨c, len, hc, _, hl, _⟩ := codes_wf bits values hv x.1 (hok x hx).2
  simp only [symWrite, hc, Option.getD_some, List.mem_cons] at hw
  rcases hw with hw | hw
  · rw [hw]; exact hl
  · split at hw
    · simp only [List.mem_singleton] at hw
      rw [hw]; exact (hok x hx).1.1
    · simp at hw

theorem symWrites_packs (bits : List Nat) (values : Array Nat) (hv : ValidTable bits values = true)
    (syms : List (Nat × Nat)) (hok : ∀ x ∈ syms, SymOk x ∧ x.1 ∈ values.toList) :
    Packs (writeAll {} (symWrites (buildHuffmanCodes bits values) syms))
      ((symWrites (buildHuffmanCodes bits values) syms).flatMap fun w => bitsOf w.1 w.2) :=
  writeAll_packs _ (symWrites_width bits values hv syms hok)

theorem Reads.sym {bits : List Nat} {values : Array Nat} {t : Table}
    (hv : ValidTable bits values = true) (ht : Table.build bits values = .ok t)
    {x : Nat × Nat} (hx : SymOk x) (hm : x.1 ∈ values.toList) {d : HuffDec} {rest : List Bool}
    (h : Reads d ((symWrite (buildHuffmanCodes bits values) x).flatMap (fun w => bitsOf w.1 w.2) ++ rest)) :
    ∃ d1 d2, d.decode t = .ok (x.1, d1) ∧
      ((0 < x.1 ∧ x.1 ≠ 16) → d1.readBits x.1 = some (x.2, d2)) ∧
      (¬ (0 < x.1 ∧ x.1 ≠ 16) → d2 = d1) ∧ Reads d2 rest := by
  obtain ⟨c, len, hc, -⟩ := codes_wf bits values hv x.1 hm
  rw [symWrite_bits hc, List.append_assoc] at h
  obtain ⟨d1, hd1, h1⟩ := h.decode hv ht hm hc
  by_cases hcat : 0 < x.1 ∧ x.1 ≠ 16
  · rw [if_pos hcat] at h1
    obtain ⟨d2, hd2, h2⟩ := h1.readBits (by rw [bitsOf_length]; exact hx.1)
    rw [ofBits_bitsOf, Nat.mod_eq_of_lt hx.2.1, bitsOf_length] at hd2
    exact ⟨d1, d2, hd1, fun _ => hd2, fun h => absurd hcat h, h2⟩
  · rw [if_neg hcat, List.nil_append] at h1
    exact ⟨d1, d1, hd1, fun h => absurd h hcat, fun _ => rfl, h1⟩

theorem readSym_spec {bits : List Nat} {values : Array Nat} {t : Table}
    (hv : ValidTable bits values = true) (ht : Table.build bits values = .ok t)
    {x : Nat × Nat} (hx : SymOk x) (hm : x.1 ∈ values.toList) {d : HuffDec} {rest : List Bool}
    (h : Reads d ((symWrite (buildHuffmanCodes bits values) x).flatMap (fun w => bitsOf w.1 w.2) ++ rest)) :
    ∃ d', readSym t d = .ok (x, d') ∧ Reads d' rest := by
  obtain ⟨d1, d2, hd1, hrb, hnrb, h2⟩ := h.sym hv ht hx hm
  refine ⟨d2, ?_, h2⟩
  obtain ⟨cat, amp⟩ := x
  by_cases hcat : 0 < cat ∧ cat ≠ 16
  · have hne : ¬ (cat = 0 ∨ cat = 16) := by omega
    simp only [readSym, hd1, hne, if_false, hrb hcat]
  · have he : cat = 0 ∨ cat = 16 := by omega
    obtain rfl : amp = 0 := hx.2.2 he
    simp only [readSym, hd1, he, if_true, hnrb hcat]

theorem readSyms_spec {bits : List Nat} {values : Array Nat} {t : Table}
    (hv : ValidTable bits values = true) (ht : Table.build bits values = .ok t) :
    ∀ (syms : List (Nat × Nat)), (∀ x ∈ syms, SymOk x ∧ x.1 ∈ values.toList) →
    ∀ {d : HuffDec} {rest : List Bool},
    Reads d ((symWrites (buildHuffmanCodes bits values) syms).flatMap (fun w => bitsOf w.1 w.2) ++ rest) →
    ∃ d', readSyms t syms.length d = .ok (syms, d') ∧ Reads d' rest := by
  intro syms
  induction syms with
  | nil =>
    intro _ d rest h
    exact ⟨d, rfl, by simpa [symWrites] using h⟩
  | cons x syms ih =>
    intro hok d rest h
    rw [symWrites, List.flatMap_cons, List.flatMap_append, List.append_assoc] at h
    obtain ⟨d1, hd1, h1⟩ := readSym_spec hv ht (hok x (by simp)).1 (hok x (by simp)).2 h
    obtain ⟨d2, hd2, h2⟩ := ih (fun y hy => hok y (by simp [hy])) h1
    refine ⟨d2, ?_, h2⟩
    simp only [List.length_cons, readSyms, hd1, hd2]

theorem entropy_roundtrip (bits : List Nat) (values : Array Nat) (t : Table)
    (hv : ValidTable bits values = true) (ht : Table.build bits values = .ok t)
    (syms : List (Nat × Nat)) (hok : ∀ x ∈ syms, SymOk x ∧ x.1 ∈ values.toList) :
    (∃ d', readSyms t syms.length
        { data := writeAll {} (symWrites (buildHuffmanCodes bits values) syms) } = .ok (syms, d')) ∧
    StuffOk (writeAll {} (symWrites (buildHuffmanCodes bits values) syms)) = true := by
  have hpk := symWrites_packs bits values hv syms hok
  obtain ⟨pad, _, _, hrd⟩ := hpk.reads
  obtain ⟨d', hd', _⟩ := readSyms_spec hv ht syms hok hrd
  exact ⟨⟨d', hd'⟩, hpk.stuffOk⟩

/-- every Huffman code has at least one bit -/
theorem writeAll_symWrites_ne_nil (bits : List Nat) (values : Array Nat) (hv : ValidTable bits values = true)
    (syms : List (Nat × Nat)) (hok : ∀ x ∈ syms, SymOk x ∧ x.1 ∈ values.toList) (hne : syms ≠ []) :
    writeAll {} (symWrites (buildHuffmanCodes bits values) syms) ≠ [] := by
  refine (symWrites_packs bits values hv syms hok).ne_nil ?_
  match syms, hne, hok with
  | x :: xs, _, hok =>
    obtain ⟨c, len, hc, hl, _, _⟩ := codes_wf bits values hv x.1 (hok x (by simp)).2
    obtain ⟨m, rfl⟩ : ∃ m, len = m + 1 := ⟨len - 1, by omega⟩
    simp [symWrites, symWrite, hc, bitsOf]

def symOfDiff (d : Int) : Nat × Nat :=
  ((encodeLosslessDifference d).1.toNat, (encodeLosslessDifference d).2.toNat)

theorem symOfDiff_ok (d : Int) (hlo : -32768 ≤ d) (hhi : d ≤ 32767) : SymOk (symOfDiff d) := by
  obtain ⟨_, h0, h16, hb0, hb, h16'⟩ := category_roundtrip' d hlo hhi
  have hc : ((2 ^ (encodeLosslessDifference d).1.toNat : Nat) : Int)
      = (2 : Int) ^ (encodeLosslessDifference d).1.toNat := by simp
  refine ⟨?_, ?_, ?_⟩
  · simp only [symOfDiff]; omega
  · simp only [symOfDiff]; omega
  · simp only [symOfDiff]
    rintro (hz | hs)
    · rw [hz] at hb; simp at hb; omega
    · have : (encodeLosslessDifference d).1 = 16 := by omega
      have hd := h16'.1 this
      subst hd
      decide

theorem encDiff_symOk (x p : Int) : SymOk (symOfDiff (encDiff x p)) :=
  symOfDiff_ok _ (encDiff_range' x p).1 (encDiff_range' x p).2

/-- `receiveLosslessDifference` ignores the amplitude for the categories 0 and 16, for which the decoder reads none -/
theorem receive_branches (cat amp : Nat) :
    (if cat = 0 then (0 : Int)
     else if cat = 16 then receiveLosslessDifference 16 0
     else receiveLosslessDifference (cat : Int) (amp : Int)) = receiveLosslessDifference (cat : Int) (amp : Int) := by
  split
  · subst cat; simp [receiveLosslessDifference, extend]
  · split
    · subst cat; simp [receiveLosslessDifference]
    · rfl

theorem symDiff_eq (d : Int) (hlo : -32768 ≤ d) (hhi : d ≤ 32767) (cat amp : Nat)
    (hx : symOfDiff d = (cat, amp)) :
    (if cat = 0 then (0 : Int)
     else if cat = 16 then receiveLosslessDifference 16 0
     else receiveLosslessDifference (cat : Int) (amp : Int)) = d := by
  obtain ⟨hr, h0, _, hb0, _, _⟩ := category_roundtrip' d hlo hhi
  obtain ⟨rfl, rfl⟩ := Prod.mk.inj hx
  rw [receive_branches, Int.toNat_of_nonneg h0, Int.toNat_of_nonneg hb0]
  exact hr

/-- the decoder's read of one difference: on the bits of `symOfDiff δ` the three-way branch of `decodeScan`,
    followed by the rest `k` of the loop body (`do` copies it into the branches), is `k` at `δ` -/
theorem Reads.diff {bits : List Nat} {values : Array Nat} {t : Table}
    (hv : ValidTable bits values = true) (ht : Table.build bits values = .ok t)
    {δ : Int} (hδ : -32768 ≤ δ ∧ δ ≤ 32767) (hm : (symOfDiff δ).1 ∈ values.toList)
    {d : HuffDec} {rest : List Bool}
    (hd : Reads d ((symWrite (buildHuffmanCodes bits values) (symOfDiff δ)).flatMap (fun w => bitsOf w.1 w.2) ++ rest)) :
    ∃ cat d1 d2, d.decode t = .ok (cat, d1) ∧ Reads d2 rest ∧
      ∀ {β : Type} (k : Int × HuffDec → Outcome β),
        (if cat = 0 then pure ((0 : Int), d1) >>= k
         else if cat = 16 then pure (receiveLosslessDifference 16 0, d1) >>= k
         else match d1.readBits cat with
           | none => Outcome.err >>= k
           | some (v, d2) => pure (if cat ≥ 64 then (v : Int) else receiveLosslessDifference cat v, d2) >>= k)
        = k (δ, d2) := by
  have hx := symOfDiff_ok δ hδ.1 hδ.2
  obtain ⟨d1, d2, hdec, hrb, hnrb, h2⟩ := hd.sym hv ht hx hm
  have hdiff := symDiff_eq δ hδ.1 hδ.2 (symOfDiff δ).1 (symOfDiff δ).2 rfl
  have h16 := hx.1
  generalize symOfDiff δ = x at hdec hrb hnrb hdiff h16
  obtain ⟨cat, amp⟩ := x
  refine ⟨cat, d1, d2, hdec, h2, fun k => ?_⟩
  simp only at hrb hnrb hdiff h16
  rw [← hdiff]
  by_cases hz : cat = 0
  · rw [if_pos hz, if_pos hz, hnrb (by omega)]
    rfl
  · by_cases hs : cat = 16
    · rw [if_neg hz, if_pos hs, if_neg hz, if_pos hs, hnrb (by omega)]
      rfl
    · rw [if_neg hz, if_neg hs, if_neg hz, if_neg hs, hrb (by omega)]
      simp only [if_neg (show ¬ cat ≥ 64 by omega)]
      rfl

end JLL
