import GdcVerif.Model.Rle
import GdcVerif.Lemmas.Radix
import GdcVerif.Lemmas.Basics
/-! Where byte `q` of segment `s` lives in the native frame, and what the plane reads and the strided
  writes at those addresses do to a buffer (`Upd`). -/
namespace Rle

/-! Segment `s = c·ba + r` (component `c`, byte `r` counted from the most significant one) and pixel `q`
address byte `D·ba + (ba-1-r)` of the frame, where `D` is the sample index: `q·spp + c` when the
components are interleaved, `c·pc + q` when they are planar.  Either way the address is a
mixed-radix numeral in `(q, c, ba-1-r)`; bounds and coverage are those of such numerals. -/

def gStart (ba pc planar s : Nat) : Nat :=
  (if planar = 0 then s / ba * ba else s / ba * ba * pc) + (ba - s % ba - 1)
def gStride (ba spp planar : Nat) : Nat := if planar = 0 then ba * spp else ba

theorem geo_plane (ba spp planar pc s q : Nat) :
    (if planar = 0 then q * spp + s / ba else s / ba * pc + q) * ba + (ba - 1 - s % ba) =
      gStart ba pc planar s + q * gStride ba spp planar := by
  unfold gStart gStride
  split
  · rw [Nat.add_mul, Nat.mul_comm ba spp, ← Nat.mul_assoc]; omega
  · rw [Nat.add_mul, Nat.mul_right_comm]; omega

theorem geo_inb (ba spp planar pc s q : Nat) (hba : 0 < ba) (hs : s < ba * spp) (hq : q < pc) :
    gStart ba pc planar s + q * gStride ba spp planar < ba * spp * pc := by
  have hc : s / ba < spp := Nat.div_lt_of_lt_mul hs
  have hD : (if planar = 0 then q * spp + s / ba else s / ba * pc + q) < spp * pc := by
    split
    · rw [Nat.mul_comm spp pc]; exact Radix.lt hq hc
    · exact Radix.lt hc hq
  rw [← geo_plane, Nat.mul_assoc, Nat.mul_comm ba]
  exact Radix.lt hD (by omega)

theorem geo_cover (ba spp planar pc j : Nat) (hj : j < ba * spp * pc) :
    ∃ s q, s < ba * spp ∧ q < pc ∧ gStart ba pc planar s + q * gStride ba spp planar = j := by
  rw [Nat.mul_assoc, Nat.mul_comm ba] at hj
  obtain ⟨ht, hr, hj'⟩ := Radix.digits hj
  obtain ⟨c, q, hc, hq, hD⟩ : ∃ c q, c < spp ∧ q < pc ∧
      (if planar = 0 then q * spp + c else c * pc + q) = j / ba := by
    by_cases hp : planar = 0
    · rw [Nat.mul_comm] at ht
      obtain ⟨h1, h2, h3⟩ := Radix.digits ht
      exact ⟨_, _, h2, h1, by rw [if_pos hp]; exact h3⟩
    · obtain ⟨h1, h2, h3⟩ := Radix.digits ht
      exact ⟨_, _, h1, h2, by rw [if_neg hp]; exact h3⟩
  have hb : ba - 1 - j % ba < ba := by omega
  obtain ⟨e1, e2⟩ := Radix.div_mod c hb
  refine ⟨c * ba + (ba - 1 - j % ba), q, ?_, hq, ?_⟩
  · rw [Nat.mul_comm ba]; exact Radix.lt hc hb
  · rw [← geo_plane, e1, e2, hD]; omega

/-- what `Info.Accepted` gives, in the vocabulary of this file -/
structure Info.Geo (i : Info) : Prop where
  hba : i.bytesAllocated = 1 ∨ i.bytesAllocated = 2 ∨ i.bytesAllocated = 4
  hspp : i.spp = 1 ∨ i.spp = 3
  hpl : i.planar = 0 ∨ i.planar = 1
  hpc : 1 ≤ i.pixelCount
  hnat : i.nativeLen = i.bytesAllocated * i.spp * i.pixelCount

theorem segStart_eq (i : Info) (s : Nat) :
    i.segStart s = gStart i.bytesAllocated i.pixelCount i.planar s := rfl
theorem segStride_eq (i : Info) :
    i.segStride = gStride i.bytesAllocated i.spp i.planar := rfl

theorem Info.nativeLen_eq (i : Info) : i.nativeLen = i.bytesAllocated * i.spp * i.pixelCount := by
  simp only [Info.nativeLen, Info.pixelCount, Nat.mul_assoc]

/-- for every description (`bytesAllocated` is positive as it is computed) -/
theorem Info.inb (i : Info) {t q : Nat} (ht : t < i.numberOfSegments)
    (hq : q < i.pixelCount) : i.segStart t + q * i.segStride < i.nativeLen := by
  rw [i.nativeLen_eq, segStart_eq, segStride_eq]
  exact geo_inb _ _ _ _ _ _ (by unfold Info.bytesAllocated; omega) ht hq

theorem Info.cover (i : Info) {j : Nat} (hj : j < i.nativeLen) :
    ∃ s q, s < i.numberOfSegments ∧ q < i.pixelCount ∧ i.segStart s + q * i.segStride = j := by
  rw [i.nativeLen_eq] at hj
  exact geo_cover _ _ _ _ _ hj

/-- the descriptions `encodeFrame` does not refuse: 1..15 byte planes, at least one pixel -/
structure Info.Encodable (i : Info) : Prop where
  nseg_pos : 1 ≤ i.numberOfSegments
  nseg_le : i.numberOfSegments ≤ 15
  hpc : 1 ≤ i.pixelCount

theorem Info.Geo.encodable {i : Info} (g : i.Geo) : i.Encodable := by
  have hb : 1 ≤ i.bytesAllocated ∧ i.bytesAllocated ≤ 4 := by have := g.hba; omega
  have hs : 1 ≤ i.spp ∧ i.spp ≤ 3 := by have := g.hspp; omega
  exact ⟨Nat.mul_pos hb.1 hs.1, Nat.le_trans (Nat.mul_le_mul hb.2 hs.2) (by decide), g.hpc⟩

/-- `BitsAllocated = 0` wraps to 8192 bytes per sample in uint16 arithmetic: more than 15 planes, or none -/
theorem Info.Encodable.bits_ne {i : Info} (g : i.Encodable) : i.bitsAllocated ≠ 0 := by
  intro h0
  have h1 := g.nseg_pos
  have h2 := g.nseg_le
  unfold Info.numberOfSegments Info.bytesAllocated at h1 h2
  rw [h0, show ((0 + 65535) % 65536 / 8 + 1) % 65536 = 8192 from rfl] at h1 h2
  omega

def cell (a : Array Byte) (j : Nat) : Byte := a[j]?.getD 0

theorem readPlane_eq (src : Array Byte) (stride : Nat) : ∀ (n pos : Nat),
    (∀ k, k < n → pos + k * stride < src.size) →
    readPlane src pos stride n = some ((List.range n).map fun k => cell src (pos + k * stride)) := by
  intro n
  induction n with
  | zero => intro pos _; rfl
  | succ n ih =>
    intro pos h
    have h0 : pos < src.size := by simpa using h 0 (by omega)
    have h' : ∀ k, k < n → pos + stride + k * stride < src.size := by
      intro k hk
      have := h (k + 1) (by omega)
      rw [Nat.add_mul, Nat.one_mul] at this
      omega
    rw [readPlane, dif_pos h0, ih _ h']
    simp only [List.range_succ_eq_map, List.map_cons, List.map_map]
    congr 2
    · simp [cell, h0]
    · apply List.map_congr_left
      intro k _
      simp only [Function.comp, Nat.succ_mul]
      congr 1; omega

/-- `b'` is `b` with some cells overwritten by values of `v`, those at the addresses `A` among them -/
def Upd (v : Nat → Byte) (A : Nat → Prop) (b b' : Array Byte) : Prop :=
  b'.size = b.size ∧ ∀ j, (cell b' j = cell b j ∧ ¬ A j) ∨ cell b' j = v j

theorem Upd.refl (v : Nat → Byte) {A : Nat → Prop} (b : Array Byte) (hA : ∀ j, ¬ A j) : Upd v A b b :=
  ⟨rfl, fun j => .inl ⟨rfl, hA j⟩⟩

theorem Upd.trans {v : Nat → Byte} {A B C : Nat → Prop} {a b c : Array Byte} (h1 : Upd v A a b)
    (h2 : Upd v B b c) (hC : ∀ j, C j → A j ∨ B j) : Upd v C a c := by
  refine ⟨h2.1.trans h1.1, fun j => ?_⟩
  rcases h2.2 j with ⟨e2, n2⟩ | e2
  · rcases h1.2 j with ⟨e1, n1⟩ | e1
    · exact .inl ⟨e2.trans e1, fun hc => (hC j hc).elim n1 n2⟩
    · exact .inr (e2.trans e1)
  · exact .inr e2

theorem writeStrided_upd (v : Nat → Byte) (stride : Nat) (l : List Byte) :
    ∀ (buf : Array Byte) (pos : Nat),
    (∀ k (hk : k < l.length), l[k] = v (pos + k * stride) ∧ pos + k * stride < buf.size) →
    Upd v (fun j => ∃ k, k < l.length ∧ j = pos + k * stride) buf (writeStrided buf pos stride l) := by
  induction l with
  | nil => intro buf pos _; exact Upd.refl v buf fun j ⟨k, hk, _⟩ => by simp at hk
  | cons b bs ih =>
    intro buf pos h
    have h0 := h 0 (by simp)
    simp only [List.getElem_cons_zero, Nat.zero_mul, Nat.add_zero] at h0
    obtain ⟨hb, hp⟩ := h0
    have hstep : Upd v (· = pos) buf (buf.setIfInBounds pos b) := by
      refine ⟨by simp, fun j => ?_⟩
      unfold cell
      rw [Array.getD_setIfInBounds_eq _ _ _ _ _ hp]
      by_cases hj : j = pos
      · subst hj; simp [hb]
      · simp [hj]
    have h' : ∀ k (hk : k < bs.length), bs[k] = v (pos + stride + k * stride) ∧
        pos + stride + k * stride < (buf.setIfInBounds pos b).size := by
      intro k hk
      have := h (k + 1) (by simpa using hk)
      simp only [List.getElem_cons_succ, Nat.add_mul, Nat.one_mul] at this
      rw [show pos + stride + k * stride = pos + (k * stride + stride) by omega]
      simpa using this
    refine hstep.trans (ih _ (pos + stride) h') ?_
    rintro j ⟨k, hk, rfl⟩
    cases k with
    | zero => left; simp
    | succ k => exact .inr ⟨k, by simpa using hk, by rw [Nat.succ_mul]; omega⟩

theorem decodeSegments_upd (i : Info) (v : Nat → Byte) (data : List Byte) (n : Nat)
    (offs : List Nat) (P : Nat → List Byte) :
    ∀ (k s : Nat) (buf : Array Byte),
    (∀ t, s ≤ t → t < s + k → ∀ b : Array Byte,
      (∀ q, q < (P t).length → i.segStart t + q * i.segStride < b.size) →
      decodeLoop i.segStride b (i.segStart t) (segmentSlice data n offs t) =
        .ok (writeStrided b (i.segStart t) i.segStride (P t))) →
    (∀ t, s ≤ t → t < s + k → ∀ q (hq : q < (P t).length),
      (P t)[q] = v (i.segStart t + q * i.segStride) ∧ i.segStart t + q * i.segStride < buf.size) →
    ∃ F, decodeSegments i data n offs k s buf = .ok F ∧
      Upd v (fun j => ∃ t q, s ≤ t ∧ t < s + k ∧ q < (P t).length ∧
        j = i.segStart t + q * i.segStride) buf F := by
  intro k
  induction k with
  | zero =>
    intro s buf _ _
    exact ⟨buf, rfl, Upd.refl v buf fun j ⟨t, q, h1, h2, _⟩ => by omega⟩
  | succ k ih =>
    intro s buf hdec hP
    have hu1 := writeStrided_upd v i.segStride (P s) buf (i.segStart s) (hP s (Nat.le_refl _) (by omega))
    obtain ⟨F, hF, huF⟩ := ih (s + 1) (writeStrided buf (i.segStart s) i.segStride (P s))
      (fun t h1 h2 => hdec t (by omega) (by omega))
      (fun t h1 h2 q hq => by rw [hu1.1]; exact hP t (by omega) (by omega) q hq)
    refine ⟨F, ?_, hu1.trans huF ?_⟩
    · rw [decodeSegments, hdec s (Nat.le_refl _) (by omega) buf fun q hq => (hP s (Nat.le_refl _) (by omega) q hq).2]
      exact hF
    · rintro j ⟨t, q, h1, h2, hq, rfl⟩
      by_cases hts : t = s
      · subst hts
        exact .inl ⟨q, hq, rfl⟩
      · exact .inr ⟨t, q, by omega, by omega, hq, rfl⟩

end Rle
