import GdcVerif.Model.J2kGlueImage
import GdcVerif.Lemmas.J2kContainer
import GdcVerif.Lemmas.J2kHeaderFields
/-! the parser's walk over the encoder's single-tile-part codestream returns exactly the tile-part body -/
namespace J2kGlue
open JpegC

theorem versionCom_len : "Created by OpenJPEG version 2.5.4".toUTF8.toList.length = 33 := by
  rw [ByteArray.length_toList]
  simp [String.toUTF8]
  decide

theorem seekMarker_skip (stop : Nat) (m : Int) (lo : Nat) (data rest : List Nat) (f : Nat)
    (hm : be16 m.toNat = [0xFF, lo]) (hlo : lo ≠ stop) (hlen : data.length + 2 < 65536) :
    seekMarker stop (f + 1) (j2kSegment m data ++ rest) = seekMarker stop f rest := by
  unfold j2kSegment
  rw [hm]
  have hu' : u16Of (↑data.length + 2) = data.length + 2 := by
    unfold u16Of; omega
  rw [hu']
  unfold be16
  simp only [List.cons_append, List.nil_append]
  have hd : (data.length + 2) / 256 % 256 * 256 + (data.length + 2) % 256 = data.length + 2 := be16_decode _ hlen
  have hdrop : ((data.length + 2) / 256 % 256 :: (data.length + 2) % 256 :: (data ++ rest)).drop (data.length + 2) = rest := by
    simp
  have hc : ¬ (True ∧ lo = stop) := fun h => hlo h.2
  simp only [seekMarker, hc, if_false, hd, hdrop]

theorem seekMarker_hit (stop : Nat) (rest : List Nat) (f : Nat) :
    seekMarker stop (f + 1) (0xFF :: stop :: rest) = some (0xFF :: stop :: rest) := by
  unfold seekMarker; simp

/-- configuration whose header fields fit their length words -/
structure FrameOk (c : ICfg) (body : List Nat) : Prop where
  comps : c.C ≤ 16384
  levels : c.L ≤ 32
  psot : body.length + 14 < 4294967296

theorem mainHeader_walk (c : ICfg) (hC : c.C ≤ 16384) (hL : c.L ≤ 32) (tp : List Nat) (f : Nat) :
    seekMarker 0x90 (f + 5) ((j2kMainHeader c.params (losslessQcdInfo c.params)).drop 2 ++ (0xFF :: 0x90 :: tp)) =
      some (0xFF :: 0x90 :: tp) := by
  unfold j2kMainHeader
  rw [mSOC]
  simp only [List.cons_append, List.nil_append, List.drop_succ_cons, List.drop_zero, List.append_assoc]
  have hcap : writeCAP c.params = [] := by simp [writeCAP, ICfg.params]
  rw [hcap, List.nil_append]
  unfold writeSIZ
  rw [seekMarker_skip 0x90 _ 0x51 _ _ _ (by decide) (by decide) (by
    simp [be16, be32, ICfg.params]; omega)]
  unfold writeCOD
  rw [seekMarker_skip 0x90 _ 0x52 _ _ _ (by decide) (by decide) (by
    simp [be16, ICfg.params])]
  unfold writeQCD
  have hl : c.params.lossless = true := rfl
  simp only [hl, if_true]
  have hq := losslessQcdInfo_len c.params c.L (by simp [ICfg.params])
  rw [seekMarker_skip 0x90 _ 0x5C _ _ _ (by decide) (by decide) (by
    simp only [List.length_cons, List.length_map, hq]; omega)]
  unfold writeVersionCOM
  rw [seekMarker_skip 0x90 _ 0x64 _ _ _ (by decide) (by decide) (by
    simp only [be16, ICfg.params, Bool.false_eq_true, if_false, List.length_append, List.length_cons, List.length_nil,
      List.length_map]
    have := versionCom_len
    omega)]
  exact seekMarker_hit 0x90 tp f

theorem frame_eq (c : ICfg) (body : List Nat) :
    frame c body = some (j2kMainHeader c.params (losslessQcdInfo c.params) ++
      (writeTilePart (classicTilePart 0 [] body) ++ [0xFF, 0xD9])) := by
  unfold frame
  simp [j2kStream, j2kTail, writeTLM, ICfg.params, Outcome.map, writeTileParts, mEOC]

theorem mainHeader_soc (c : ICfg) :
    j2kMainHeader c.params (losslessQcdInfo c.params) =
      0xFF :: 0x4F :: (j2kMainHeader c.params (losslessQcdInfo c.params)).drop 2 := by
  unfold j2kMainHeader
  rw [mSOC]; rfl

theorem unframe_tilePart (hdr body eoc : List Nat) (a b c d : Nat)
    (hwalk : ∀ tp f, seekMarker 0x90 (f + 5) (hdr ++ (0xFF :: 0x90 :: tp)) = some (0xFF :: 0x90 :: tp))
    (hps : ((a * 256 + b) * 256 + c) * 256 + d = body.length + 14) :
    unframe (0xFF :: 0x4F :: (hdr ++ (0xFF :: 0x90 :: 0 :: 10 :: 0 :: 0 :: a :: b :: c :: d :: 0 :: 1 :: 0xFF :: 0x93 ::
      (body ++ eoc)))) = some body := by
  have hlen : (hdr ++ (0xFF :: 0x90 :: 0 :: 10 :: 0 :: 0 :: a :: b :: c :: d :: 0 :: 1 :: 0xFF :: 0x93 :: (body ++ eoc))).length =
      (hdr.length + body.length + eoc.length + 9) + 5 := by
    simp only [List.length_append, List.length_cons]; omega
  unfold unframe
  simp only [hlen, hwalk]
  simp [rd32, hps, seekMarker]
  rw [if_pos (by omega), show ∀ n : Nat, body.length + 14 - (n + 14 - n) = body.length from fun n => by omega,
    List.take_left]

/-- the one tile-part of the codestream: SOT (Lsot = 10, Isot = 0, Psot, TPsot = 0, TNsot = 1), SOD, body -/
theorem tilePart_eq (body : List Nat) :
    writeTilePart (classicTilePart 0 [] body) =
      0xFF :: 0x90 :: 0 :: 10 :: 0 :: 0 :: (be32 (u32Of ((body.length + 14 : Nat) : Int)) ++ (0 :: 1 :: 0xFF :: 0x93 :: body)) := by
  simp [writeTilePart, classicTilePart, TilePart.psot, be16, u16Of, byteOf]
  decide  -- the marker constants SOT and SOD as byte pairs

theorem unframe_frame (c : ICfg) (body : List Nat) (hok : FrameOk c body) :
    ∃ stream, frame c body = some stream ∧ unframe stream = some body := by
  refine ⟨_, frame_eq c body, ?_⟩
  rw [mainHeader_soc c, tilePart_eq, u32Of_small _ hok.psot]
  simp only [be32, List.cons_append, List.nil_append]
  exact unframe_tilePart _ body [0xFF, 0xD9] _ _ _ _ (mainHeader_walk c hok.comps hok.levels) (be32_decode _ hok.psot)

end J2kGlue
