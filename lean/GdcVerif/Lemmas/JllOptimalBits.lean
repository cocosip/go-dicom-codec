import GdcVerif.Model.OptimalHuffman
import GdcVerif.Lemmas.JpegLossless
/-!
  L6, the 257-entry work array `bits` of `BuildOptimalHuffmanTable`: `countSizes`, the length-limiting
  loop of Figure K.3, `removePseudo`, the cut to `Bits[0..15]`.  Every stage changes the array by `bump`s
  (`a[i] += d`): `Shape.bump` says what one does to the entries, `bsum_bump` what it does to a weighted sum.
  `bsum kw b` is the Kraft sum at budget 256, `bsum (fun _ => 1) b` the number of code words; a round of
  the limiting loop is two `move`s (a pair of words of length `size` joined into one of `size - 1`, one of
  length `p` split into a pair of `p + 1`), each of which leaves the Kraft sum alone.  The invariant `BInv`
  (a `Shape` with these two sums fixed) gives the parity of the longest class and the existence of the
  prefix, hence termination.
-/
namespace JLL.Opt

/-- `Σ_j l[j] * w (s + j)` -/
def wsum (w : Nat → Int) : List Int → Nat → Int
  | [], _ => 0
  | x :: xs, s => x * w s + wsum w xs (s + 1)

theorem wsum_set (w : Nat → Int) : ∀ (l : List Int) (s i : Nat) (v : Int), i < l.length →
    wsum w (l.set i v) s = wsum w l s + (v - l[i]?.getD 0) * w (s + i)
  | [], _, _, _, h => by simp at h
  | x :: xs, s, 0, v, _ => by
    simp only [List.set_cons_zero, wsum, List.getElem?_cons_zero, Option.getD_some, Nat.add_zero]
    rw [Int.sub_mul]
    omega
  | x :: xs, s, i + 1, v, h => by
    simp only [List.set_cons_succ, wsum, List.getElem?_cons_succ]
    rw [wsum_set w xs (s + 1) i v (by simpa using h), show s + 1 + i = s + (i + 1) by omega]
    omega

theorem wsum_append (w : Nat → Int) : ∀ (l1 l2 : List Int) (s : Nat),
    wsum w (l1 ++ l2) s = wsum w l1 s + wsum w l2 (s + l1.length)
  | [], l2, s => by simp [wsum]
  | x :: l1, l2, s => by
    simp only [List.cons_append, wsum, List.length_cons]
    rw [wsum_append w l1 l2 (s + 1), show s + 1 + l1.length = s + (l1.length + 1) by omega]
    omega

theorem wsum_zero (w : Nat → Int) : ∀ (l : List Int) (s : Nat), (∀ x ∈ l, x = 0) → wsum w l s = 0
  | [], _, _ => rfl
  | x :: l, s, h => by
    simp [wsum, h x (by simp), wsum_zero w l (s + 1) (fun y hy => h y (by simp [hy]))]

theorem wsum_scale (c : Int) (w w' : Nat → Int) : ∀ (l : List Int) (s s' : Nat),
    (∀ j, j < l.length → w (s + j) = c * w' (s' + j)) → wsum w l s = c * wsum w' l s'
  | [], _, _, _ => by simp [wsum]
  | x :: l, s, s', h => by
    simp only [wsum]
    rw [wsum_scale c w w' l (s + 1) (s' + 1) (fun j hj => by
      have := h (j + 1) (by simpa using hj)
      rwa [show s + 1 + j = s + (j + 1) by omega, show s' + 1 + j = s' + (j + 1) by omega]),
      show w s = c * w' s' from h 0 (by simp), Int.mul_add, Int.mul_left_comm]

theorem wsum_le (w : Nat → Int) (W : Int) : ∀ (l : List Int) (s : Nat),
    (∀ j : Nat, 0 ≤ l[j]?.getD 0) → (∀ j : Nat, l[j]?.getD 0 ≠ 0 → w (s + j) ≤ W) →
    wsum w l s ≤ W * wsum (fun _ => 1) l s
  | [], _, _, _ => by simp [wsum]
  | x :: xs, s, h1, h2 => by
    have ih := wsum_le w W xs (s + 1) (fun j => by simpa using h1 (j + 1)) (fun j hj => by
      rw [show s + 1 + j = s + (j + 1) by omega]
      exact h2 (j + 1) (by simpa using hj))
    have hx : 0 ≤ x := by simpa using h1 0
    have : x * w s ≤ W * x := by
      by_cases hx0 : x = 0
      · simp [hx0]
      · rw [Int.mul_comm W x]
        exact Int.mul_le_mul_of_nonneg_left (by simpa using h2 0 (by simpa using hx0)) hx
    simp only [wsum]
    rw [Int.mul_add, Int.mul_one]
    omega

theorem wsum_dvd (w : Nat → Int) (D : Int) : ∀ (l : List Int) (s : Nat),
    (∀ j : Nat, l[j]?.getD 0 ≠ 0 → D ∣ w (s + j)) → D ∣ wsum w l s
  | [], _, _ => by simp [wsum]
  | x :: xs, s, h => by
    have ih := wsum_dvd w D xs (s + 1) (fun j hj => by
      rw [show s + 1 + j = s + (j + 1) by omega]
      exact h (j + 1) (by simpa using hj))
    refine Int.dvd_add ?_ ih
    by_cases hx0 : x = 0
    · simp [hx0]
    · exact Int.dvd_trans (by simpa using h 0 (by simpa using hx0)) (Int.dvd_mul_left x (w s))

theorem wsum_entry_le : ∀ (l : List Int) (s : Nat), (∀ j : Nat, 0 ≤ l[j]?.getD 0) →
    ∀ i : Nat, l[i]?.getD 0 ≤ wsum (fun _ => 1) l s
  | [], _, _, i => by simp [wsum]
  | x :: xs, s, h, i => by
    have hx : 0 ≤ x := by simpa using h 0
    have h' : ∀ j : Nat, 0 ≤ xs[j]?.getD 0 := fun j => by simpa using h (j + 1)
    simp only [wsum]
    cases i with
    | zero =>
      have := wsum_entry_le xs (s + 1) h' 0
      have := h' 0
      simp; omega
    | succ i =>
      have := wsum_entry_le xs (s + 1) h' i
      simp; omega

theorem wsum_toNat : ∀ (l : List Int) (s : Nat), (∀ x ∈ l, 0 ≤ x) →
    (((l.map Int.toNat).sum : Nat) : Int) = wsum (fun _ => 1) l s
  | [], _, _ => rfl
  | x :: l, s, h => by
    have := wsum_toNat l (s + 1) (fun y hy => h y (by simp [hy]))
    have := h x (by simp)
    simp only [List.map_cons, List.sum_cons, wsum]
    omega

/-- Kraft weight of a code of length `l` (budget 256 = `maxLen`: `kw l = 2^(256 - l)`) -/
def kw (l : Nat) : Int := ((2 ^ (256 - l) : Nat) : Int)

theorem kw_pred {l : Nat} (h1 : 1 ≤ l) (h : l ≤ 256) : kw (l - 1) = 2 * kw l := by
  unfold kw
  rw [show 256 - (l - 1) = (256 - l) + 1 by omega, Nat.pow_succ]
  omega

theorem kw_pos (l : Nat) : 0 < kw l :=
  Int.natCast_pos.2 (Nat.pow_pos (by omega))

theorem kw_dvd {i j : Nat} (h : i ≤ j) : kw j ∣ kw i :=
  Int.natCast_dvd_natCast.2 (Nat.pow_dvd_pow 2 (by omega))

theorem kw_le {i j : Nat} (h : i ≤ j) : kw j ≤ kw i :=
  Int.ofNat_le.2 (Nat.pow_le_pow_right (by omega) (by omega))

theorem kw_0_16 : kw 0 = 65536 * kw 16 := by
  unfold kw
  rw [show (2 : Nat) ^ (256 - 0) = 65536 * 2 ^ (256 - 16) by decide, Int.natCast_mul]
  rfl

def bsum (w : Nat → Int) (b : Array Int) : Int := wsum w b.toList 0

theorem bsum_replicate_zero (w : Nat → Int) (n : Nat) : bsum w (Array.replicate n 0) = 0 :=
  wsum_zero w _ 0 fun x hx => by
    rw [Array.toList_replicate] at hx
    exact List.eq_of_mem_replicate hx

/-- `a[i] += d` -/
def bump (a : Array Int) (i : Nat) (d : Int) : Array Int := a.setIfInBounds i (a[i]?.getD 0 + d)

theorem bump_size (a : Array Int) (i : Nat) (d : Int) : (bump a i d).size = a.size := by simp [bump]

theorem bump_get (a : Array Int) (i : Nat) (d : Int) (hi : i < a.size) (j : Nat) :
    (bump a i d)[j]?.getD 0 = a[j]?.getD 0 + (if i = j then d else 0) := by
  unfold bump
  rw [Array.getElem?_setIfInBounds]
  by_cases h : i = j
  · subst h
    simp [hi]
  · simp [h]

/-- the model's reads in the invariants' terms; after it the model's `a[i] += d` is `bump a i d` by `rfl` -/
theorem get_some {a : Array Int} {i : Nat} (hi : i < a.size) : a[i]? = some (a[i]?.getD 0) := by
  rw [Array.getElem?_eq_getElem hi]
  rfl

theorem setIfInBounds_add {a : Array Int} {i : Nat} (hi : i < a.size) (d : Int) :
    a.setIfInBounds i (a[i] + d) = bump a i d := by
  simp [bump, hi]

theorem bsum_bump (w : Nat → Int) (a : Array Int) (i : Nat) (d : Int) (hi : i < a.size) :
    bsum w (bump a i d) = bsum w a + d * w i := by
  unfold bump bsum
  rw [Array.toList_setIfInBounds, wsum_set w a.toList 0 i _ (by simpa using hi), Array.getElem?_toList,
    Nat.zero_add, show a[i]?.getD 0 + d - a[i]?.getD 0 = d by omega]

/-- what every stage keeps of the work array pointwise; `b[l]` counts the words of length `l` -/
structure Shape (b : Array Int) (s : Nat) : Prop where
  bd : s ≤ 256
  sz : b.size = 257
  nn : ∀ j : Nat, 0 ≤ b[j]?.getD 0
  hi : ∀ j : Nat, s < j → b[j]?.getD 0 = 0
  z0 : b[0]?.getD 0 = 0

theorem shape_zero : Shape (Array.replicate 257 0) 256 := by
  have : ∀ j : Nat, (Array.replicate 257 (0 : Int))[j]?.getD 0 = 0 := fun j => by
    rw [Array.getElem?_replicate]
    split <;> rfl
  exact ⟨Nat.le_refl _, Array.size_replicate, fun j => Int.le_of_eq (this j).symm, fun j _ => this j, this 0⟩

theorem Shape.bump {b : Array Int} {s i : Nat} (h : Shape b s) (d : Int) (h1 : 1 ≤ i) (his : i ≤ s)
    (hd : 0 ≤ b[i]?.getD 0 + d) : Shape (bump b i d) s := by
  have hget := bump_get b i d (by have := h.bd; rw [h.sz]; omega)
  refine ⟨h.bd, by rw [bump_size, h.sz], fun j => ?_, fun j hj => ?_, ?_⟩
  · rw [hget j]
    split
    · next e => exact e ▸ hd
    · rw [Int.add_zero]
      exact h.nn j
  · rw [hget j, h.hi j hj, if_neg (by omega)]
    rfl
  · rw [hget 0, h.z0, if_neg (by omega)]
    rfl

theorem countSizes_ok : ∀ (l : List Nat) (bits : Array Int), Shape bits 256 → (∀ x ∈ l, x ≤ 256) →
    ∃ bits', countSizes l bits = .ok bits' ∧ Shape bits' 256 ∧
      ∀ w : Nat → Int, bsum w bits' = bsum w bits + (l.map (fun x => if x > 0 then w x else 0)).sum
  | [], bits, hs, _ => ⟨bits, rfl, hs, by simp⟩
  | x :: l, bits, hs, hl => by
    have hx : x < bits.size := by
      have := hl x (by simp)
      rw [hs.sz]
      omega
    have hl' : ∀ y ∈ l, y ≤ 256 := fun y hy => hl y (by simp [hy])
    by_cases hx0 : x > 0
    · obtain ⟨bits', e1, e2, e3⟩ := countSizes_ok l (bump bits x 1)
        (hs.bump 1 hx0 (hl x (by simp)) (by have := hs.nn x; omega)) hl'
      refine ⟨bits', ?_, e2, fun w => ?_⟩
      · rw [countSizes, if_pos hx0, get_some hx]
        exact e1
      · rw [e3 w, bsum_bump w bits x 1 hx]
        simp only [List.map_cons, List.sum_cons, if_pos hx0]
        omega
    · obtain ⟨bits', e1, e2, e3⟩ := countSizes_ok l bits hs hl'
      refine ⟨bits', ?_, e2, fun w => ?_⟩
      · rw [countSizes, if_neg hx0]
        exact e1
      · simp [e3 w, hx0]

theorem countSizes_zero : ∀ (l : List Nat) (bits : Array Int), (∀ x ∈ l, x = 0) → countSizes l bits = .ok bits
  | [], _, _ => rfl
  | x :: l, bits, h => by
    rw [countSizes, if_neg (by have := h x (by simp); omega)]
    exact countSizes_zero l bits (fun y hy => h y (by simp [hy]))

/-- invariant of the limiting loop: `bits` describes a complete prefix code (Kraft equality with
    budget 256) of `n` words, at most 257, none longer than `s` -/
structure BInv (n : Nat) (b : Array Int) (s : Nat) : Prop extends Shape b s where
  kr : bsum kw b = kw 0
  ct : bsum (fun _ => 1) b = n
  le : n ≤ 257

theorem BInv.mono {n : Nat} {b : Array Int} {s s' : Nat} (h : BInv n b s) (hs : s ≤ s') (hs' : s' ≤ 256) :
    BInv n b s' :=
  ⟨⟨hs', h.sz, h.nn, fun j hj => h.hi j (by omega), h.z0⟩, h.kr, h.ct, h.le⟩

/-- the words of the greatest length come in pairs: everything else weighs a multiple of
    `kw (s - 1) = 2 · kw s`, and so does the total `kw 0` -/
theorem BInv.even {n : Nat} {b : Array Int} {s : Nat} (h : BInv n b s) (h1 : 1 ≤ s) : (2 : Int) ∣ b[s]?.getD 0 := by
  have h256 := h.bd
  have hs : s < b.size := by rw [h.sz]; omega
  have e := bsum_bump kw b s (-(b[s]?.getD 0)) hs
  have hd : kw (s - 1) ∣ bsum kw (bump b s (-(b[s]?.getD 0))) := by
    refine wsum_dvd _ _ _ _ fun j hj => ?_
    rw [Array.getElem?_toList, bump_get b s _ hs] at hj
    rw [Nat.zero_add]
    refine kw_dvd (Classical.byContradiction fun hn => hj ?_)
    by_cases hjs : s = j
    · rw [if_pos hjs, ← hjs]
      omega
    · rw [if_neg hjs, h.hi j (by omega)]; rfl
  rw [e, h.kr, Int.neg_mul, ← Int.sub_eq_add_neg] at hd
  have : kw (s - 1) ∣ b[s]?.getD 0 * kw s := by
    have := Int.dvd_sub (kw_dvd (Nat.zero_le (s - 1))) hd
    rwa [Int.sub_sub_self] at this
  rw [kw_pred h1 h256] at this
  exact (Int.mul_dvd_mul_iff_right (Int.ne_of_gt (kw_pos s))).1 this

/-- some word is at least two bits shorter than the longest (`s ≥ 17`): otherwise at most 257 words of
    at least 16 bits would weigh `2^256`, but `257 · 2^240 < 2^16 · 2^240` -/
theorem BInv.prefix_exists {n : Nat} {b : Array Int} {s : Nat} (h : BInv n b s) (h17 : 17 ≤ s) :
    ∃ p0, p0 ≤ s - 2 ∧ b[p0]?.getD 0 ≠ 0 := by
  apply Classical.byContradiction
  intro hn
  have h16 := kw_pos 16
  have hle := wsum_le kw (kw 16) b.toList 0 (fun j => by simpa using h.nn j)
    (fun j hj => by
      rw [Nat.zero_add]
      refine kw_le (Classical.byContradiction fun hlt => hn ⟨j, by omega, ?_⟩)
      simpa using hj)
  have : kw 16 * bsum (fun _ => 1) b ≤ kw 16 * 257 :=
    Int.mul_le_mul_of_nonneg_left (h.ct ▸ Int.ofNat_le.2 h.le) (Int.le_of_lt h16)
  have hkr := h.kr
  have e0 := kw_0_16
  unfold bsum at hkr this
  omega

theorem findPrefix_ok (b : Array Int) : ∀ (f p : Nat), p < f → (∃ p0, p0 ≤ p ∧ b[p0]?.getD 0 ≠ 0) →
    p < b.size → ∃ q, limitAt.findPrefix b f p = .ok q ∧ q ≤ p ∧ b[q]?.getD 0 ≠ 0
  | 0, _, h, _, _ => by omega
  | f + 1, p, hf, ⟨p0, hp0, hb0⟩, hp => by
    rw [limitAt.findPrefix, get_some hp]
    by_cases hv : b[p]?.getD 0 = 0
    · have hpp : p0 ≠ p := fun e => hb0 (e ▸ hv)
      obtain ⟨q, e1, e2, e3⟩ := findPrefix_ok b f (p - 1) (by omega) ⟨p0, by omega, hb0⟩ (by omega)
      refine ⟨q, ?_, by omega, e3⟩
      simp only [hv, if_true, if_neg (show p ≠ 0 by omega)]
      exact e1
    · exact ⟨p, by simp only [hv, if_false], Nat.le_refl _, hv⟩

/-- `b[i] += 2d; b[i-1] -= d`: `d` words of length `i - 1` become `2d` of length `i` (`d < 0`: back) -/
def move (b : Array Int) (i : Nat) (d : Int) : Array Int := bump (bump b i (2 * d)) (i - 1) (-d)

theorem move_get {b : Array Int} {i : Nat} (d : Int) (hi : i < b.size) (j : Nat) :
    (move b i d)[j]?.getD 0 = b[j]?.getD 0 + (if i = j then 2 * d else 0) + (if i - 1 = j then -d else 0) := by
  unfold move
  rw [bump_get _ _ _ (by rw [bump_size]; omega), bump_get _ _ _ hi]

theorem bsum_move (w : Nat → Int) {b : Array Int} {i : Nat} (d : Int) (hi : i < b.size) :
    bsum w (move b i d) = bsum w b + d * (2 * w i - w (i - 1)) := by
  unfold move
  rw [bsum_bump _ _ _ _ (by rw [bump_size]; omega), bsum_bump _ _ _ _ hi, Int.mul_sub, ← Int.mul_assoc d 2,
    Int.mul_comm d 2, Int.neg_mul]
  omega

theorem Shape.move {b : Array Int} {s i : Nat} (h : Shape b s) (d : Int) (h2 : 2 ≤ i) (his : i ≤ s)
    (hd : 0 ≤ b[i]?.getD 0 + 2 * d) (hd' : 0 ≤ b[i - 1]?.getD 0 - d) : Shape (move b i d) s := by
  have hi : i < b.size := by have := h.bd; rw [h.sz]; omega
  refine (h.bump (2 * d) (by omega) his hd).bump (-d) (by omega) (by omega) ?_
  rw [bump_get _ _ _ hi, if_neg (by omega)]
  omega

/-- one round of Figure K.3: `bits[size] -= 2; bits[size-1]++; bits[prefixSize+1] += 2; bits[prefixSize]--` -/
def round (b : Array Int) (size p : Nat) : Array Int := move (move b size (-1)) (p + 1) 1

theorem limitAt_round {size fuel p : Nat} {b : Array Int} (hs : size < b.size) (hpos : b[size]?.getD 0 > 0)
    (hf : limitAt.findPrefix b (size + 1) (size - 2) = .ok p) (hp : p + 1 < b.size) :
    limitAt size (fuel + 1) b = limitAt size fuel (round b size p) := by
  have s1 : size - 1 < (bump b size (-2)).size := by rw [bump_size]; omega
  have s2 : p + 1 < (bump (bump b size (-2)) (size - 1) 1).size := by simp only [bump_size]; omega
  have s3 : p < (bump (bump (bump b size (-2)) (size - 1) 1) (p + 1) 2).size := by simp only [bump_size]; omega
  -- `simp` cannot take `get_some` (its right side holds its left)
  simp only [Array.getElem?_eq_getElem hs, Option.getD_some] at hpos
  rw [limitAt, Array.getElem?_eq_getElem hs]
  simp only [hpos, if_true, hf, Outcome.ok_bind, Array.getElem?_eq_getElem hs, setIfInBounds_add hs,
    Array.getElem?_eq_getElem s1, setIfInBounds_add s1, Array.getElem?_eq_getElem s2, setIfInBounds_add s2,
    Array.getElem?_eq_getElem s3, setIfInBounds_add s3]
  rfl

theorem BInv.round {n : Nat} {b : Array Int} {size p : Nat} (h : BInv n b size)
    (hpos : 0 < b[size]?.getD 0) (hp : p + 2 ≤ size) (hbp : b[p]?.getD 0 ≠ 0) :
    BInv n (round b size p) size ∧ (round b size p)[size]?.getD 0 = b[size]?.getD 0 - 2 := by
  have h256 := h.bd
  have hs : size < b.size := by rw [h.sz]; omega
  have h2 : 2 ≤ b[size]?.getD 0 := by have := h.even (by omega); omega
  have hp0 : p ≠ 0 := fun e => hbp (e ▸ h.z0)
  -- `p` holds at least 1 and is below what the first move touches
  have s1 := h.toShape.move (-1) (by omega) (Nat.le_refl size) (by omega) (by have := h.nn (size - 1); omega)
  have hp' : p + 1 < (move b size (-1)).size := by rw [s1.sz]; omega
  have s2 := s1.move (i := p + 1) 1 (by omega) (by omega) (by have := s1.nn (p + 1); omega) (by
    have := h.nn p
    rw [Nat.add_sub_cancel, move_get _ hs, if_neg (by omega), if_neg (by omega)]
    omega)
  unfold Opt.round
  refine ⟨⟨s2, ?_, ?_, h.le⟩, ?_⟩
  · rw [bsum_move kw _ hp', bsum_move kw _ hs, kw_pred (by omega) h256, kw_pred (Nat.le_add_left 1 p) (by omega)]
    have := h.kr
    omega
  · have := h.ct
    rw [bsum_move _ _ hp', bsum_move _ _ hs]
    omega
  · rw [move_get _ hp', move_get _ hs, if_pos rfl, if_neg (by omega), if_neg (by omega), if_neg (by omega)]
    omega

theorem limitAt_ok {n : Nat} (size : Nat) (h17 : 17 ≤ size) : ∀ (fuel : Nat) (b : Array Int),
    BInv n b size → b[size]?.getD 0 < 2 * (fuel : Int) →
    ∃ b', limitAt size fuel b = .ok b' ∧ BInv n b' (size - 1)
  | 0, b, h, hf => by
    have := h.nn size
    omega
  | fuel + 1, b, h, hf => by
    have h256 := h.bd
    have hs : size < b.size := by rw [h.sz]; omega
    by_cases hp : b[size]?.getD 0 > 0
    · obtain ⟨p, f1, f2, f3⟩ := findPrefix_ok b (size + 1) (size - 2) (by omega) (h.prefix_exists h17) (by omega)
      obtain ⟨r1, r2⟩ := h.round hp (by omega) f3
      obtain ⟨b', e1, e2⟩ := limitAt_ok size h17 fuel _ r1 (by omega)
      exact ⟨b', by rw [limitAt_round hs hp f1 (by rw [h.sz]; omega), e1], e2⟩
    · refine ⟨b, by rw [limitAt, get_some hs]; simp only [hp, if_false],
        ⟨⟨by omega, h.sz, h.nn, fun j hj => ?_, h.z0⟩, h.kr, h.ct, h.le⟩⟩
      by_cases hjs : j = size
      · have := h.nn size
        rw [hjs]
        omega
      · exact h.hi j (by omega)

theorem limitLoop_ok {n : Nat} : ∀ (m s : Nat) (b : Array Int), 16 ≤ s → BInv n b (s + m) →
    ∃ b', limitLoop ((List.range' (s + 1) m).reverse) b = .ok b' ∧ BInv n b' s
  | 0, s, b, _, h => ⟨b, rfl, h⟩
  | m + 1, s, b, h16, h => by
    -- an entry is at most the number of words, and each round removes two
    have hlt : b[s + (m + 1)]?.getD 0 < 2 * ((300 : Nat) : Int) := by
      have := wsum_entry_le b.toList 0 (fun j => by simpa using h.nn j) (s + (m + 1))
      have := h.ct
      have := h.le
      rw [Array.getElem?_toList] at *
      unfold bsum at *
      omega
    obtain ⟨b1, e1, e2⟩ := limitAt_ok (s + (m + 1)) (by omega) 300 b h hlt
    obtain ⟨b2, r1, r2⟩ := limitLoop_ok m s b1 h16 e2
    refine ⟨b2, ?_, r2⟩
    rw [List.range'_concat, List.reverse_append, Nat.one_mul, show s + 1 + m = s + (m + 1) by omega]
    simp only [List.reverse_cons, List.reverse_nil, List.nil_append, List.cons_append, limitLoop, e1, Outcome.ok_bind]
    exact r1

theorem limitLoop_zero : ∀ (l : List Nat), (∀ x ∈ l, x < 257) →
    limitLoop l (Array.replicate 257 (0 : Int)) = .ok (Array.replicate 257 0)
  | [], _ => rfl
  | x :: l, h => by
    have : limitAt x 300 (Array.replicate 257 (0 : Int)) = .ok (Array.replicate 257 0) := by
      rw [limitAt]
      simp [h x (by simp)]
    simp only [limitLoop, this, Outcome.ok_bind]
    exact limitLoop_zero l (fun y hy => h y (by simp [hy]))

theorem removePseudo_spec : ∀ (l : List Nat) (b : Array Int), (∀ s ∈ l, s < b.size) →
    (removePseudo l b = b ∧ ∀ s ∈ l, b[s]?.getD 0 ≤ 0) ∨
    (∃ s ∈ l, 0 < b[s]?.getD 0 ∧ removePseudo l b = bump b s (-1))
  | [], b, _ => Or.inl ⟨rfl, by simp⟩
  | x :: l, b, h => by
    have hx : x < b.size := h x (by simp)
    rw [removePseudo, get_some hx]
    by_cases hp : b[x]?.getD 0 > 0
    · exact Or.inr ⟨x, by simp, hp, by simp only [hp, if_true]; rfl⟩
    · simp only [hp, if_false, List.mem_cons, forall_eq_or_imp, exists_eq_or_imp]
      rcases removePseudo_spec l b (fun s hs => h s (by simp [hs])) with ⟨e1, e2⟩ | h2
      · exact Or.inl ⟨e1, Int.not_lt.1 hp, e2⟩
      · exact Or.inr (Or.inr h2)

/-- the 16 table entries `Bits[0..15]` cut out of the 257-entry work array -/
def cut (b : Array Int) : List Int := (b.toList.drop 1).take 16

theorem cut_length (b : Array Int) (hsz : b.size = 257) : (cut b).length = 16 := by
  simp [cut, hsz]

theorem cut_mem (b : Array Int) (x : Int) (hx : x ∈ cut b) : ∃ j : Nat, b[j]?.getD 0 = x := by
  obtain ⟨j, hj, rfl⟩ := List.getElem_of_mem (List.mem_of_mem_drop (List.mem_of_mem_take hx))
  exact ⟨j, by simp [Array.getElem?_eq_getElem (show j < b.size by simpa using hj)]⟩

theorem wsum_cut (w : Nat → Int) {b : Array Int} (h : Shape b 16) : bsum w b = wsum w (cut b) 1 := by
  have e1 : b.toList = b.toList.take 1 ++ (cut b ++ (b.toList.drop 1).drop 16) := by
    rw [cut, List.take_append_drop, List.take_append_drop]
  have z1 : ∀ x ∈ b.toList.take 1, x = 0 := by
    intro x hx
    obtain ⟨j, hj, rfl⟩ := List.getElem_of_mem hx
    have : j = 0 := by simp at hj; omega
    subst this
    simpa [h.sz] using h.z0
  have z2 : ∀ x ∈ (b.toList.drop 1).drop 16, x = 0 := by
    intro x hx
    obtain ⟨j, hj, rfl⟩ := List.getElem_of_mem hx
    have hj' : 17 + j < b.size := by simp at hj; omega
    simpa [hj'] using h.hi (17 + j) (by omega)
  unfold bsum
  rw [e1, wsum_append, wsum_append, wsum_zero w _ 0 z1, wsum_zero w _ _ z2]
  simp [h.sz]

theorem table_zero :
    cut (removePseudo ((List.range' 1 256).reverse) (Array.replicate 257 0)) = List.replicate 16 0 := by
  have : removePseudo ((List.range' 1 256).reverse) (Array.replicate 257 (0 : Int)) = Array.replicate 257 0 := by
    rcases removePseudo_spec ((List.range' 1 256).reverse) (Array.replicate 257 (0 : Int))
      (by simp) with ⟨e, _⟩ | ⟨s, hs, h1, _⟩
    · exact e
    · rw [Array.getElem?_replicate] at h1
      split at h1 <;> simp at h1
  rw [this, cut, Array.toList_replicate, List.drop_replicate, List.take_replicate]
  rfl

/-- Kraft sum of the 16-entry `Bits` list in units of 2^-16: `Σ_l bits[l] · 2^(15-l)` -/
def kraft16 (bits : List Int) : Int := wsum (fun l => ((2 ^ (15 - l) : Nat) : Int)) bits 0

theorem bsum_kw_cut {b : Array Int} (h : Shape b 16) : bsum kw b = kw 16 * kraft16 (cut b) := by
  rw [wsum_cut kw h]
  refine wsum_scale _ _ _ _ _ _ fun j hj => ?_
  rw [cut_length b h.sz] at hj
  unfold kw
  rw [show 256 - (1 + j) = (256 - 16) + (15 - (0 + j)) by omega, Nat.pow_add, Int.natCast_mul]

theorem BInv.table {n : Nat} {b : Array Int} (h : BInv n b 16) :
    ∃ bits, cut (removePseudo ((List.range' 1 256).reverse) b) = bits ∧
      bits.length = 16 ∧ (∀ x ∈ bits, 0 ≤ x) ∧ (bits.map Int.toNat).sum + 1 = n ∧ kraft16 bits < 65536 := by
  have hmemL : ∀ s, s ∈ (List.range' 1 256).reverse ↔ 1 ≤ s ∧ s < 257 := by
    intro s
    simp only [List.mem_reverse, List.mem_range'_1]
  rcases removePseudo_spec ((List.range' 1 256).reverse) b (fun s hs => by rw [h.sz]; exact ((hmemL s).1 hs).2)
    with ⟨_, e2⟩ | ⟨s, hs, h1, e2⟩
  · -- impossible: a complete code has a word (of fewer than 16 bits, even)
    exfalso
    obtain ⟨p0, hp, hb⟩ := (h.mono (by decide : 16 ≤ 17) (by decide)).prefix_exists (Nat.le_refl _)
    have hp0 : p0 ≠ 0 := fun e => hb (e ▸ h.z0)
    have := h.nn p0
    have := e2 p0 ((hmemL p0).2 ⟨by omega, by omega⟩)
    omega
  · have hs16 : s ≤ 16 := Classical.byContradiction fun hn => by
      have := h.hi s (by omega)
      omega
    have hsb : s < b.size := by rw [h.sz]; omega
    have sh := h.toShape.bump (-1) ((hmemL s).1 hs).1 hs16 (by omega)
    have hnnc : ∀ x ∈ cut (bump b s (-1)), 0 ≤ x := by
      intro x hx
      obtain ⟨j, rfl⟩ := cut_mem _ x hx
      exact sh.nn j
    refine ⟨_, by rw [e2], cut_length _ sh.sz, hnnc, Int.ofNat_inj.1 ?_, ?_⟩
    · rw [Int.natCast_add, wsum_toNat _ 1 hnnc, ← wsum_cut _ sh, bsum_bump _ _ _ _ hsb, h.ct]
      omega
    · -- `kw 16 · kraft16 = kw 0 - kw s < 2^16 · kw 16`
      have t1 := bsum_kw_cut sh
      rw [bsum_bump _ _ _ _ hsb, h.kr, kw_0_16] at t1
      have hs0 := kw_pos s
      have h16 := kw_pos 16
      exact Int.lt_of_mul_lt_mul_left (a := kw 16) (by omega) (Int.le_of_lt h16)

end JLL.Opt
