import GdcVerif.Lemmas.JpegContainer
/-!
  C16, JPEG family: the table and frame segments of the header models through the strict reader, the
  header prefix extended segment by segment, and the frame theorem `frame_roundtrip`: header, ANY marker-free
  entropy-coded segment and EOI are accepted and the reader recovers exactly the arguments.  Its instance for
  `losslessHeader` is `lossless_frame`; those for the other header models are `jpegls_`, `baseline_` and
  `ext12_header_fields_roundtrip` of Props/C16.
-/
namespace JpegC
open StrictJpeg Gen.C16Jpeg

/-- a Huffman table specification that a DHT segment can carry (T.81 B.2.4.2, Annex C): sixteen counts
    that fit a byte, as many values as the counts announce, at most 256, a prefix code with the
    all-ones word free, no value twice.  (That `BuildOptimalHuffmanTable` produces such tables is
    C02's subject; the property search checks it on every real stream.) -/
structure TableOk (t : HuffTable) : Prop where
  len : t.bits.length = 16
  range : ∀ b ∈ t.bits, 0 ≤ b ∧ b ≤ 255
  total : (t.bits.map byteOf).sum = t.values.length
  le256 : t.values.length ≤ 256
  kraft : StrictJpeg.kraft (t.bits.map byteOf) < 65536
  nodup : t.values.Nodup

/-- a quantisation table a baseline DQT segment can carry: 64 entries in 1..255 (B.2.4.1, Pq = 0) -/
def QOk (q : List Int) : Prop := q.length = 64 ∧ ∀ x ∈ q, 1 ≤ x ∧ x ≤ 255

/-- the tables `baselineHeader` writes for `c` components: the chrominance set only for c = 3 -/
structure BaseOk (c : Nat) (t : BaseTables) : Prop where
  q0 : QOk t.q0
  dc0 : TableOk t.dc0
  ac0 : TableOk t.ac0
  q1 : c = 3 → QOk t.q1
  dc1 : c = 3 → TableOk t.dc1
  ac1 : c = 3 → TableOk t.ac1

theorem TableOk.bits_byteOf {t : HuffTable} (ht : TableOk t) : t.bits.map byteOf = t.bits.map Int.toNat := by
  apply List.map_congr_left
  intro b hb
  have := ht.range b hb
  unfold byteOf
  omega

theorem sum_bits (bits : List Int) (h : ∀ b ∈ bits, 0 ≤ b ∧ b ≤ 255) : bits.sum = ((bits.map byteOf).sum : Nat) := by
  induction bits with
  | nil => simp
  | cons b r ih =>
    have hb := h b (by simp)
    have := ih (fun x hx => h x (by simp [hx]))
    simp only [List.sum_cons, List.map_cons, this, Int.natCast_add]
    unfold byteOf; omega

theorem dhtPayload_ok (cls id : Nat) (t : HuffTable) (ht : TableOk t) :
    dhtPayload cls id t = .ok ((((cls <<< 4) % 256) ||| id) :: (t.bits.map byteOf ++ t.values)) := by
  unfold dhtPayload
  have hs := sum_bits t.bits ht.range
  simp only [hs, ht.total]
  have : ¬ ((t.values.length : Int) < 0) := by omega
  simp [this, copyInto]

theorem dht_len (t : HuffTable) (ht : TableOk t) (b : Nat) : (b :: (t.bits.map byteOf ++ t.values)).length + 2 < 65536 := by
  have := ht.le256; have := ht.len
  simp; omega

/-- the 64 bytes `writeDQT` emits after `Pq|Tq` -/
def zq (q : List Int) : List Nat := (List.range 64).map fun j => byteOf (q.getD (ZigZag.getD j 0).toNat 0)

theorem zigzag_lt : ∀ j < 64, (ZigZag.getD j 0).toNat < 64 := by decide +kernel

theorem zq_ok (q : List Int) (hq : QOk q) : (zq q).length = 64 ∧ ∀ x ∈ zq q, x ≠ 0 := by
  refine ⟨by simp [zq], ?_⟩
  intro x hx
  simp only [zq, List.mem_map, List.mem_range] at hx
  obtain ⟨j, hj, rfl⟩ := hx
  have hk := zigzag_lt j hj
  have hmem : q.getD (ZigZag.getD j 0).toNat 0 ∈ q := by
    have hk' : (ZigZag.getD j 0).toNat < q.length := by rw [hq.1]; exact hk
    rw [List.getD_eq_getElem?_getD, List.getElem?_eq_getElem hk', Option.getD_some]
    exact List.getElem_mem hk'
  have := hq.2 _ hmem
  unfold byteOf; omega

theorem dqtPayload_eq (i : Nat) (q : List Int) : dqtPayload i q = byteOf i :: zq q := rfl

def dhtOf (tc th : Nat) (t : HuffTable) : Dht := { tc := tc, th := th, bits := t.bits.map byteOf, vals := t.values }

theorem byteOf_1 : byteOf 1 = 1 := by decide
theorem byteOf_2 : byteOf 2 = 2 := by decide
theorem byteOf_3 : byteOf 3 = 3 := by decide
theorem byteOf_8 : byteOf 8 = 8 := by decide
theorem mSOI : writeMarker MarkerSOI = [0xFF, 0xD8] := by decide
theorem mEOI : writeMarker MarkerEOI = [0xFF, 0xD9] := by decide
theorem mAPP0 : writeMarker MarkerAPP0 = [0xFF, 0xE0] := by decide
theorem mSOF0 : writeMarker MarkerSOF0 = [0xFF, 0xC0] := by decide
theorem mSOF1 : writeMarker MarkerSOF1 = [0xFF, 0xC1] := by decide
theorem mSOF3 : writeMarker MarkerSOF3 = [0xFF, 0xC3] := by decide
theorem mDHT : writeMarker MarkerDHT = [0xFF, 0xC4] := by decide
theorem mDQT : writeMarker MarkerDQT = [0xFF, 0xDB] := by decide
theorem mSOS : writeMarker MarkerSOS = [0xFF, 0xDA] := by decide
theorem mSOF55 : writeMarker 0xFFF7 = [0xFF, 0xF7] := by decide

def jfifData : List Nat := [0x4A, 0x46, 0x49, 0x46, 0x00, 0x01, 0x01, 0x00, 0x00, 0x01, 0x00, 0x01, 0x00, 0x00]

theorem Prefix.soi : Prefix (writeMarker MarkerSOI) [] {} := ⟨mSOI, fun _ h => absurd h List.not_mem_nil, rfl⟩

theorem Prefix.app0 {bytes : List Nat} {segs : List (Nat × List Nat)} {st : St} (h : Prefix bytes segs st) :
    Prefix (bytes ++ jfifApp0) (segs ++ [(0xE0, jfifData)]) st :=
  h.snoc MarkerAPP0 0xE0 jfifData mAPP0 (by decide) rfl

theorem Prefix.dqt {bytes : List Nat} {segs : List (Nat × List Nat)} {st : St} (h : Prefix bytes segs st) (i tq : Nat)
    (q : List Int) (hq : QOk q) (hb1 : byteOf i / 16 = 0 := by decide) (hb2 : byteOf i % 16 = tq := by decide)
    (htq : tq ≤ 3 := by decide) :
    Prefix (bytes ++ writeSegment MarkerDQT (dqtPayload i q)) (segs ++ [(0xDB, byteOf i :: zq q)])
      { st with dqt := st.dqt ++ [{ pq := 0, tq := tq, q := zq q }] } := by
  have hz := zq_ok q hq
  have hl : (byteOf i :: zq q).length = 64 + 1 := by simp [hz.1]
  refine h.snoc MarkerDQT 0xDB (byteOf i :: zq q) mDQT ⟨by simp [standalone], by simp, by simp [hz.1]⟩ ?_
  simp only [step, hl]
  rw [parseDqt_single _ _ tq _ hb1 hb2 htq hz.1 hz.2]
  simp

theorem dhtSegment_ok (cls id : Nat) (t : HuffTable) (ht : TableOk t) :
    dhtSegment cls id t = .ok (writeSegment MarkerDHT ((((cls <<< 4) % 256) ||| id) :: (t.bits.map byteOf ++ t.values))) := by
  simp only [dhtSegment, dhtPayload_ok cls id t ht, Outcome.map]

theorem Prefix.dht {bytes : List Nat} {segs : List (Nat × List Nat)} {st : St} (h : Prefix bytes segs st) (cls id : Nat)
    (t : HuffTable) (ht : TableOk t) (hcls : cls < 2 := by decide) (hid : id < 4 := by decide) :
    Prefix (bytes ++ writeSegment MarkerDHT ((((cls <<< 4) % 256) ||| id) :: (t.bits.map byteOf ++ t.values)))
      (segs ++ [(0xC4, (((cls <<< 4) % 256) ||| id) :: (t.bits.map byteOf ++ t.values))])
      { st with dht := st.dht ++ [dhtOf cls id t] } := by
  obtain ⟨hb1, hb2⟩ := (by decide : ∀ cls < 2, ∀ id < 4,
      ((cls <<< 4) % 256 ||| id) / 16 = cls ∧ ((cls <<< 4) % 256 ||| id) % 16 = id) cls hcls id hid
  generalize ((cls <<< 4) % 256) ||| id = b at hb1 hb2 ⊢
  have hl : (b :: (t.bits.map byteOf ++ t.values)).length = (t.bits.length + t.values.length) + 1 := by simp
  refine h.snoc MarkerDHT 0xC4 (b :: (t.bits.map byteOf ++ t.values)) mDHT
    ⟨(by decide : standalone 0xC4 = false), (by decide : (0xC4 : Nat) ≠ 0xDA), dht_len t ht _⟩ ?_
  simp only [step, hl]
  rw [parseDht_single _ b cls id _ _ hb1 hb2 (by omega) (by omega) (by simp [ht.len])
    ht.total ht.le256 ht.kraft ht.nodup]
  simp [dhtOf]

theorem sofFixed_toNat {p h w : Int} {c : Nat} (hp : 0 ≤ p ∧ p < 256) (hh : 0 < h ∧ h ≤ 65535) (hw : 0 < w ∧ w ≤ 65535)
    (hc : c < 256) : sofFixed p h w c = [p.toNat, h.toNat / 256, h.toNat % 256, w.toNat / 256, w.toNat % 256, c] := by
  obtain ⟨P, rfl⟩ := Int.eq_ofNat_of_zero_le hp.1
  obtain ⟨H, rfl⟩ := Int.eq_ofNat_of_zero_le (Int.le_of_lt hh.1)
  obtain ⟨W, rfl⟩ := Int.eq_ofNat_of_zero_le (Int.le_of_lt hw.1)
  simp only [sofFixed, Go.shr_eight_natCast, byteOf_natCast, Int.toNat_natCast]
  rw [Nat.mod_eq_of_lt (show P < 256 by omega), Nat.mod_eq_of_lt hc, Nat.mod_eq_of_lt (show H / 256 < 256 by omega),
    Nat.mod_eq_of_lt (show W / 256 < 256 by omega)]

theorem sofFixedLS_eq {h w : Int} (p : Int) (c : Nat) (hh : 0 ≤ h) (hw : 0 ≤ w) : sofFixedLS p h w c = sofFixed p h w c := by
  obtain ⟨H, rfl⟩ := Int.eq_ofNat_of_zero_le hh
  obtain ⟨W, rfl⟩ := Int.eq_ofNat_of_zero_le hw
  simp only [sofFixedLS, sofFixed, byteOf_and255, byteOf_natCast]

/-- the frame header a model writes from its `int` arguments (`sofFixed`, then the component bytes `cb`) is read back
    as those arguments: the one place where the header fields pass from `Int` to the reader's `Nat` -/
theorem Prefix.sof {bytes : List Nat} {segs : List (Nat × List Nat)} {st : St} (h : Prefix bytes segs st) (marker : Int)
    (m : Nat) (hmk : writeMarker marker = [0xFF, m]) (p y x : Int) (c : Nat) (comps : List Comp) (cb : List Nat)
    (hy : 0 < y ∧ y ≤ 65535) (hx : 0 < x ∧ x ≤ 65535)
    (hcb : parseComps c cb = some comps) (hco : compsOk m comps = true) (hP : precisionOk m p.toNat = true)
    (hp : 0 ≤ p ∧ p < 256 := by decide) (hc : 1 ≤ c ∧ c < 256 := by decide)
    (hst : st.frame = none := by rfl) (hm : isSOF m = true := by decide) :
    Prefix (bytes ++ writeSegment marker (sofFixed p y x c ++ cb))
      (segs ++ [(m, [p.toNat, y.toNat / 256, y.toNat % 256, x.toNat / 256, x.toNat % 256, c] ++ cb)])
      { st with frame := some { sof := m, p := p.toNat, y := y.toNat, x := x.toNat, comps := comps } } := by
  have hps := parseSof_ok m p.toNat y.toNat x.toNat c comps cb hc.1 hcb hco hP (by omega) (by omega)
  have hl : ([p.toNat, y.toNat / 256, y.toNat % 256, x.toNat / 256, x.toNat % 256, c] ++ cb).length + 2 < 65536 := by
    simp only [List.length_append, List.length_cons, List.length_nil, (parseComps_length hcb).2]
    omega
  rw [sofFixed_toNat hp hy hx hc.2]
  -- where `step` does not send a start-of-frame marker
  obtain ⟨h0, h1, h2, h3, h4, h5, h6⟩ : ¬ ((0xE0 ≤ m ∧ m ≤ 0xEF) ∨ m = 0xFE) ∧ m ≠ 0xDB ∧ m ≠ 0xC4 ∧ m ≠ 0xDD ∧ m ≠ 0xF8 ∧
      m ≠ 0xDA ∧ standalone m = false := by
    simp only [isSOF, Bool.or_eq_true, Bool.and_eq_true, decide_eq_true_eq] at hm
    simp only [standalone, Bool.or_eq_false_iff, Bool.and_eq_false_iff, decide_eq_false_iff_not]
    omega
  refine h.snoc marker m _ hmk ⟨h6, h5, hl⟩ ?_
  simp only [step, if_neg h0, if_neg h1, if_neg h2, if_neg h3, if_neg h4, hm, if_true, hst, Option.map, hps]

def comps111 (c : Nat) : List Comp := (List.range c).map fun i => { id := i + 1, h := 1, v := 1, tq := 0 }

theorem comps111_ok (c : Nat) (hc : c = 1 ∨ c = 3) (sof : Nat) (hsof : sof = 0xC3 ∨ sof = 0xF7) :
    parseComps c (compSpecs c) = some (comps111 c) ∧ compsOk sof (comps111 c) = true := by
  rcases hc with rfl | rfl <;> rcases hsof with rfl | rfl <;> decide

theorem parseSos_sels111 (st : St) (f : Frame) (c x y : Nat) (hc : c = 1 ∨ c = 3) (hf : st.frame = some f)
    (hcomps : f.comps = comps111 c)
    (hok : scanOk st f { sels := (List.range c).map (fun i => ⟨i + 1, 0, 0⟩), ss := x, se := y, ah := 0, al := 0 } = true) :
    parseSos st (c :: (scanSels c ++ [x, y, 0])) =
      some { sels := (List.range c).map (fun i => ⟨i + 1, 0, 0⟩), ss := x, se := y, ah := 0, al := 0 } := by
  have hsel : parseSels c (scanSels c ++ [x, y, 0]) = some ((List.range c).map (fun i => ⟨i + 1, 0, 0⟩), [x, y, 0]) := by
    rcases hc with rfl | rfl <;> rfl
  have hids : ((List.range c).map (fun i => (⟨i + 1, 0, 0⟩ : Sel))).map (·.cs) = (comps111 c).map (·.id) := by
    rcases hc with rfl | rfl <;> rfl
  have hns : ¬ (c < 1 ∨ c > 4 ∨ ((List.range c).map (fun i => (⟨i + 1, 0, 0⟩ : Sel))).map (·.cs) ≠ f.comps.map (·.id)) := by
    rw [hcomps, hids]
    rintro (h | h | h)
    · omega
    · omega
    · exact h rfl
  simp only [parseSos, hf, hsel]
  rw [if_neg hns, if_pos hok]

theorem compSpecs_length (c : Nat) : (compSpecs c).length = 3 * c := by
  rw [compSpecs, List.flatMap_length_const _ 3 (fun _ => rfl), List.length_range]

theorem scanSels_length (c : Nat) : (scanSels c).length = 2 * c := by
  rw [scanSels, List.flatMap_length_const _ 2 (fun _ => rfl), List.length_range]

theorem frame_roundtrip (hdr : Outcome (List Nat)) (pre : List Nat) (segs : List (Nat × List Nat)) (sos scan : List Nat)
    (st : St) (sh : ScanHdr) (f : Frame)
    (hhdr : hdr = .ok (pre ++ writeSegment MarkerSOS sos)) (hpre : Prefix pre segs st)
    (hsosl : sos.length + 2 < 65536) (hsos : parseSos st sos = some sh)
    (hf : st.frame = some f) (hscan : ScanOk f.sof scan) (hne : scan ≠ []) :
    ∃ bytes r, withScan hdr scan = .ok bytes ∧ StrictJpeg.parse bytes = some r ∧
      r.frame = f ∧ r.scan = sh ∧ r.dqt = st.dqt ∧ r.dht = st.dht ∧
      r.scanEnd + 2 = bytes.length ∧ r.hdrEnd + scan.length = r.scanEnd ∧
      bytes.drop r.scanEnd = [0xFF, 0xD9] := by
  have hp := parse_stream segs sos scan st sh f hpre.ok hpre.fold hsosl hsos hf hscan hne
  have hL : ([0xFF, 0xD8] ++ encSegs segs ++ encSeg 0xDA sos ++ scan).length
      = 2 + segsLen segs + 4 + sos.length + scan.length := by
    simp [encSegs_length, encSeg]; omega
  rw [hpre.bytes_eq, writeSegment_encSeg _ _ mSOS _ hsosl] at hhdr
  refine ⟨_, _, by rw [hhdr]; simp only [withScan, Outcome.map, mEOI], hp, rfl, rfl, rfl, rfl, ?_, rfl,
    List.drop_left' hL⟩
  rw [List.length_append, hL]
  rfl

theorem withScan_ok {hdrO : Outcome (List Nat)} {hdr scan bytes : List Nat} (hok : hdrO = .ok hdr)
    (h : withScan hdrO scan = .ok bytes) : bytes = hdr ++ scan ++ [0xFF, 0xD9] := by
  rw [hok] at h
  simp only [withScan, Outcome.map, mEOI] at h
  exact (Outcome.ok.inj h).symm

theorem withScan_ends {hdrO : Outcome (List Nat)} {hdr scan bytes : List Nat} {hdrEnd scanEnd : Nat}
    (hok : hdrO = .ok hdr) (h : withScan hdrO scan = .ok bytes) (h1 : scanEnd + 2 = bytes.length)
    (h2 : hdrEnd + scan.length = scanEnd) :
    bytes = hdr ++ scan ++ [0xFF, 0xD9] ∧ hdrEnd = hdr.length ∧ scanEnd = hdr.length + scan.length := by
  have hb := withScan_ok hok h
  subst hb
  simp only [List.length_append, List.length_cons, List.length_nil] at h1
  exact ⟨rfl, by omega, by omega⟩

theorem losslessHeader_layout {w h p pred : Int} {c : Nat} (t : HuffTable) (hw : 0 < w ∧ w ≤ 65535) (hh : 0 < h ∧ h ≤ 65535)
    (hc : c = 1 ∨ c = 3) (hp : 2 ≤ p ∧ p ≤ 16) (hS : 0 ≤ pred ∧ pred ≤ 7) (ht : TableOk t) :
    ∃ pre, losslessHeader w h c p pred t = .ok (pre ++ writeSegment MarkerSOS (c :: (scanSels c ++ [pred.toNat, 0, 0]))) ∧
      Prefix pre
        [(0xE0, jfifData), (0xC3, [p.toNat, h.toNat / 256, h.toNat % 256, w.toNat / 256, w.toNat % 256, c] ++ compSpecs c),
          (0xC4, 0 :: (t.bits.map byteOf ++ t.values))]
        { frame := some { sof := 0xC3, p := p.toNat, y := h.toNat, x := w.toNat, comps := comps111 c },
          dht := [dhtOf 0 0 t] } := by
  have g1 : ¬ (w ≤ 0 ∨ h ≤ 0 ∨ w > 65535 ∨ h > 65535) := by omega
  have g2 : ¬ (c ≠ 1 ∧ c ≠ 3) := fun g => hc.elim g.1 g.2
  have g3 : ¬ (p < 2 ∨ p > 16) := by omega
  have g4 : ¬ (pred < 0 ∨ pred > 7) := by omega
  obtain ⟨hcb, hco⟩ := comps111_ok c hc 0xC3 (Or.inl rfl)
  have hsof : sof3Payload p h w c = sofFixed p h w c ++ compSpecs c := by
    rcases hc with rfl | rfl <;> rfl
  have hsos : sosLosslessPayload c pred = c :: (scanSels c ++ [pred.toNat, 0, 0]) := by
    rw [sosLosslessPayload, byteOf_toNat hS.1 (by omega), byteOf_natCast, Nat.mod_eq_of_lt (by omega)]
    rcases hc with rfl | rfl <;> rfl
  refine ⟨_, ?_, (Prefix.soi.app0.sof MarkerSOF3 0xC3 mSOF3 p h w c _ _ hh hw hcb hco (by simp [precisionOk]; omega)
      ⟨by omega, by omega⟩ (by omega)).dht 0 0 t ht⟩
  simp only [losslessHeader, if_neg g1, if_neg g2, if_neg g3, if_neg g4, dhtSegment_ok 0 0 t ht, Outcome.map, hsof, hsos]

theorem lossless_frame (w h p pred : Int) (c : Nat) (t : HuffTable) (scan : List Nat)
    (hw : 0 < w ∧ w ≤ 65535) (hh : 0 < h ∧ h ≤ 65535) (hc : c = 1 ∨ c = 3) (hp : 2 ≤ p ∧ p ≤ 16)
    (hpred : 1 ≤ pred ∧ pred ≤ 7) (ht : TableOk t) (hs : NoMarker scan = true) (hne : scan ≠ []) :
    ∃ bytes r, withScan (losslessHeader w h c p pred t) scan = .ok bytes ∧ StrictJpeg.parse bytes = some r ∧
      r.frame = { sof := 0xC3, p := p.toNat, y := h.toNat, x := w.toNat, comps := comps111 c } ∧
      r.scan = { sels := (List.range c).map (fun i => ⟨i + 1, 0, 0⟩), ss := pred.toNat, se := 0, ah := 0, al := 0 } ∧
      r.dqt = [] ∧ r.dht = [{ tc := 0, th := 0, bits := t.bits.map byteOf, vals := t.values }] ∧
      r.scanEnd + 2 = bytes.length ∧ r.hdrEnd + scan.length = r.scanEnd ∧ bytes.drop r.scanEnd = [0xFF, 0xD9] := by
  obtain ⟨pre, hhdr, hpre⟩ := losslessHeader_layout t hw hh hc hp ⟨by omega, hpred.2⟩ ht
  refine frame_roundtrip _ pre _ _ scan _ _ _ hhdr hpre
    (by simp only [List.length_append, List.length_cons, List.length_nil, scanSels_length]; omega) ?_ rfl
    (by simp [ScanOk, hs]) hne
  refine parseSos_sels111 _ _ c pred.toNat 0 hc rfl rfl ?_
  rcases hc with rfl | rfl <;> simp [scanOk, hasDht, dhtOf] <;> omega

end JpegC
