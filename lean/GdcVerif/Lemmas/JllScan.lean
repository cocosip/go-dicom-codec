import GdcVerif.Model.JpegLosslessScan
import GdcVerif.Lemmas.JpegLossless
import GdcVerif.Lemmas.JllSymbols
import GdcVerif.Lemmas.Lockstep
import GdcVerif.Lemmas.Radix
/-!
  Layer L7 of C02: the whole-scan round trip of the JPEG Lossless model
  (`Model/JpegLossless.lean` + `Model/JpegLosslessScan.lean`).

  A scan is a walk over loop indices (`posOf`, `scanOrder_eq`); its one description is the bit string
  `scanBits`.  The encoder's bytes pack it (`encodeScan_packs`); the decoder, started on any input that
  `Reads` it, returns the source planes (`decScan_reads`): its planes agree with the source below the
  current index (`AgreeTo`), which is where the neighbours of the next sample lie.  The round trip
  `scan_roundtrip` is the composition, with `Packs.reads` in the middle.
-/
namespace JLL
open Gen.JpegLossless

abbrev Planes := Array (Array Int)
abbrev Pos := Nat × Nat × Nat

def cell (s : Planes) (c i : Nat) : Int := (s[c]?.getD #[])[i]?.getD 0

def Sized (w h nc : Nat) (s : Planes) : Prop :=
  s.size = nc ∧ ∀ c, c < nc → (s[c]?.getD #[]).size = w * h

def InRange (P : Nat) (s : Planes) : Prop :=
  ∀ c i, 0 ≤ cell s c i ∧ cell s c i < Go.shl 1 (P : Int)

theorem idx_lt {w h row col : Nat} (hr : row < h) (hc : col < w) : row * w + col < w * h :=
  Nat.mul_comm h w ▸ Radix.lt hr hc

theorem Sized.plane {w h nc : Nat} {s : Planes} (hs : Sized w h nc s) {c : Nat} (hc : c < nc) :
    ∃ h1 : c < s.size, s[c]? = some s[c] ∧ s[c].size = w * h := by
  have h1 : c < s.size := by rw [hs.1]; exact hc
  have h2 := hs.2 c hc
  have h3 : s[c]? = some s[c] := Array.getElem?_eq_getElem h1
  rw [h3, Option.getD_some] at h2
  exact ⟨h1, h3, h2⟩

/-- `r`, `k`: the index reaches `readS` as an `Int` expression (`↑row - 1` for the row above), not as the cast of a `Nat` -/
theorem readS_at {w h nc : Nat} {s : Planes} (hs : Sized w h nc s) {c row col : Nat} (hc : c < nc)
    (hr : row < h) (hcl : col < w) {r k : Int} (er : r = row) (ek : k = col) :
    readS s c (r * w + k) = .ok (cell s c (row * w + col)) := by
  obtain ⟨h1, h3, h2⟩ := hs.plane hc
  have h4 : row * w + col < s[c].size := h2 ▸ idx_lt hr hcl
  subst er ek
  rw [← Int.natCast_mul, ← Int.natCast_add]
  simp only [readS, Int.natCast_nonneg, Int.not_lt.2, if_false, h3, Int.toNat_natCast, Array.getElem?_eq_getElem h4,
    cell, Option.getD_some]

/-- what `readNb` returns at (row, col): 0 where the scan does not read -/
def nbOf (s : Planes) (c w row col : Nat) : Nb :=
  ⟨if col > 0 then cell s c (row * w + (col - 1)) else 0,
   if row > 0 then cell s c ((row - 1) * w + col) else 0,
   if row > 0 ∧ col > 0 then cell s c ((row - 1) * w + (col - 1)) else 0⟩

theorem readNb_ok {w h nc : Nat} {s : Planes} (hs : Sized w h nc s) {row col c : Nat}
    (hr : row < h) (hcl : col < w) (hc : c < nc) :
    readNb s c (w : Int) (row : Int) (col : Int) = .ok (nbOf s c w row col) := by
  unfold readNb
  simp only [gt_iff_lt, Int.natCast_pos]
  rw [Loop.guard_bind fun h0 => readS_at hs hc hr (col := col - 1) (by omega) rfl (by omega),
    Loop.guard_bind fun h0 => readS_at hs hc (row := row - 1) (by omega) hcl (by omega) rfl,
    Loop.guard_bind fun h0 => readS_at hs hc (row := row - 1) (col := col - 1) (by omega) (by omega) (by omega) (by omega)]
  rfl

theorem srcReads {w h nc : Nat} {s : Planes} (hs : Sized w h nc s) {row col c : Nat}
    (hr : row < h) (hcl : col < w) (hc : c < nc) :
    readS s c ((row : Int) * (w : Int) + (col : Int)) = .ok (cell s c (row * w + col)) ∧
      readNb s c (w : Int) (row : Int) (col : Int) = .ok (nbOf s c w row col) :=
  ⟨readS_at hs hc hr hcl rfl rfl, readNb_ok hs hr hcl hc⟩

theorem cell_eq_getElem (s : Planes) (c i : Nat) (hc : c < s.size) (hi : i < s[c].size) :
    cell s c i = s[c][i] := by
  simp [cell, hc, hi]

def setCell (pl : Planes) (c i : Nat) (v : Int) : Planes :=
  pl.setIfInBounds c ((pl[c]?.getD #[]).setIfInBounds i v)

theorem cell_setCell (pl : Planes) (c i : Nat) (v : Int) (c' i' : Nat) :
    cell (setCell pl c i v) c' i' =
      if c' = c ∧ i' = i ∧ i < (pl[c]?.getD #[]).size then v else cell pl c' i' := by
  simp only [cell, setCell]
  rw [Array.getElem?_setIfInBounds]
  by_cases hcc : c = c'
  · subst hcc
    by_cases hc : c < pl.size
    · simp only [if_true, hc, Option.getD_some, true_and]
      rw [Array.getElem?_setIfInBounds]
      by_cases hii : i = i'
      · subst hii
        by_cases hi : i < (pl[c]?.getD #[]).size
        · simp [hi]
        · simp [hi]
      · simp [hii, Ne.symm hii]
    · simp [hc]
  · simp [hcc, Ne.symm hcc]

theorem writeS_ok {w h nc : Nat} {s : Planes} (hs : Sized w h nc s) {c i : Nat} (hc : c < nc)
    (hi : i < w * h) (v : Int) :
    ∃ s', writeS s c i v = .ok s' ∧ Sized w h nc s' ∧
      ∀ c' i', cell s' c' i' = if c' = c ∧ i' = i then v else cell s c' i' := by
  obtain ⟨h1, h3, h2⟩ := hs.plane hc
  have h4 : i < s[c].size := by rw [h2]; exact hi
  refine ⟨setCell s c i v, ?_, ⟨?_, ?_⟩, fun c' i' => ?_⟩
  · simp only [writeS, setCell, h3, h4, if_true, Option.getD_some]
  · rw [setCell, Array.size_setIfInBounds]; exact hs.1
  · intro c' hc'
    rw [setCell, Array.getElem?_setIfInBounds]
    by_cases hcc : c = c'
    · subst hcc
      simp only [if_true, h1, h3, Option.getD_some, Array.size_setIfInBounds, h2]
    · simp only [hcc, if_false]
      exact hs.2 c' hc'
  · simp only [cell_setCell, h3, Option.getD_some, h4, and_true]

theorem mem_scanOrder {w h nc : Nat} {p : Pos} :
    p ∈ scanOrder w h nc ↔ p.1 < h ∧ p.2.1 < w ∧ p.2.2 < nc := by
  obtain ⟨row, col, c⟩ := p
  simp only [scanOrder, List.mem_flatMap, List.mem_map, List.mem_range, Prod.mk.injEq]
  constructor
  · rintro ⟨r, hr, cl, hcl, c', hc', e1, e2, e3⟩
    subst e1 e2 e3
    exact ⟨hr, hcl, hc'⟩
  · rintro ⟨h1, h2, h3⟩
    exact ⟨row, h1, col, h2, c, h3, rfl, rfl, rfl⟩

def posOf (w nc k : Nat) : Pos := (k / nc / w, k / nc % w, k % nc)

theorem scanOrder_eq (w h nc : Nat) :
    scanOrder w h nc = (List.range' 0 (w * h * nc)).map (posOf w nc) := by
  unfold scanOrder
  have inner : ∀ row : Nat, ((List.range w).flatMap fun col => (List.range nc).map fun c => (row, col, c))
      = (List.range (w * nc)).map (fun k => (row, k / nc, k % nc)) := fun row =>
    Radix.grid_eq nc (fun col c => (row, col, c)) w
  simp only [inner]
  rw [Radix.grid_eq (w * nc) (fun row k => (row, k / nc, k % nc)) h, ← List.range_eq_range',
    show h * (w * nc) = w * h * nc by rw [← Nat.mul_assoc, Nat.mul_comm h w]]
  apply List.map_congr_left
  intro K _
  simp only [posOf]
  rw [Nat.mod_mul_left_div_self, Nat.mod_mul_left_mod, Nat.div_div_eq_div_mul, Nat.mul_comm nc w]

theorem posOf_mem {w h nc k : Nat} (hk : k < w * h * nc) : posOf w nc k ∈ scanOrder w h nc := by
  rw [scanOrder_eq]
  exact List.mem_map_of_mem (by simpa using hk)

theorem posOf_idx (w nc k : Nat) :
    ((posOf w nc k).1 * w + (posOf w nc k).2.1) * nc + (posOf w nc k).2.2 = k := by
  simp only [posOf]
  rw [Nat.div_add_mod', Nat.div_add_mod']

def predOf (sv1 : Bool) (P predictor w : Nat) (s : Planes) (p : Pos) : Int :=
  if sv1 then sv1Predicted (P : Int) (p.1 : Int) (p.2.1 : Int) (nbOf s p.2.2 w p.1 p.2.1)
  else encPredicted (P : Int) (predictor : Int) (p.1 : Int) (p.2.1 : Int) (nbOf s p.2.2 w p.1 p.2.1)

def diffOf (sv1 : Bool) (P predictor w : Nat) (s : Planes) (p : Pos) : Int :=
  encDiff (cell s p.2.2 (p.1 * w + p.2.1)) (predOf sv1 P predictor w s p)

def symOf (sv1 : Bool) (P predictor w : Nat) (s : Planes) (p : Pos) : Nat × Nat :=
  symOfDiff (diffOf sv1 P predictor w s p)

def scanSyms (sv1 : Bool) (P predictor w h nc : Nat) (s : Planes) : List (Nat × Nat) :=
  (scanOrder w h nc).map (symOf sv1 P predictor w s)

def emittedCats (sv1 : Bool) (P predictor w h nc : Nat) (s : Planes) : List Nat :=
  (scanSyms sv1 P predictor w h nc s).map (·.1)

theorem scanSyms_ok {sv1 : Bool} {P predictor w h nc : Nat} {s : Planes} {vals : List Nat}
    (hcat : ∀ k ∈ emittedCats sv1 P predictor w h nc s, k ∈ vals) :
    ∀ x ∈ scanSyms sv1 P predictor w h nc s, SymOk x ∧ x.1 ∈ vals := by
  intro x hx
  refine ⟨?_, hcat _ (List.mem_map.2 ⟨x, hx, rfl⟩)⟩
  obtain ⟨p, _, rfl⟩ := List.mem_map.1 hx
  exact encDiff_symOk _ _

theorem scanSyms_ne_nil (sv1 : Bool) (P predictor : Nat) {w h nc : Nat} (s : Planes) (hw : 0 < w) (hh : 0 < h)
    (hnc : 0 < nc) : scanSyms sv1 P predictor w h nc s ≠ [] :=
  List.ne_nil_of_mem (List.mem_map_of_mem (mem_scanOrder.2 ⟨hh, hw, hnc⟩ : (0, 0, 0) ∈ scanOrder w h nc))

theorem scan_ne_nil {sv1 : Bool} {P predictor w h nc : Nat} {bits : List Nat} {values : Array Nat} {s : Planes}
    (hv : ValidTable bits values = true) (hcat : ∀ k ∈ emittedCats sv1 P predictor w h nc s, k ∈ values.toList)
    (hw : 0 < w) (hh : 0 < h) (hnc : 0 < nc) :
    writeAll {} (symWrites (buildHuffmanCodes bits values) (scanSyms sv1 P predictor w h nc s)) ≠ [] :=
  writeAll_symWrites_ne_nil bits values hv _ (scanSyms_ok hcat) (scanSyms_ne_nil sv1 P predictor s hw hh hnc)

theorem nbOf_in (P : Nat) (hP : 2 ≤ P ∧ P ≤ 16) (s : Planes) (hrng : InRange P s) (c w row col : Nat) :
    NbIn (P : Int) (nbOf s c w row col) := by
  have hpos : (0 : Int) < Go.shl 1 (P : Int) := by
    have hf := pow_facts (P : Int) (by omega) (by omega)
    omega
  have key : ∀ (b : Prop) [Decidable b] (i : Nat),
      0 ≤ (if b then cell s c i else 0) ∧ (if b then cell s c i else 0) < Go.shl 1 (P : Int) := by
    intro b _ i
    split
    · exact hrng c i
    · exact ⟨Int.le_refl 0, hpos⟩
  exact ⟨(key _ _).1, (key _ _).2, (key _ _).1, (key _ _).2, (key _ _).1, (key _ _).2⟩

theorem sample_roundtrip_gen (sv1 : Bool) (P predictor w : Nat) (hP : 2 ≤ P ∧ P ≤ 16)
    (s : Planes) (hrng : InRange P s) (p : Pos) (x : Int) (hx : 0 ≤ x ∧ x < Go.shl 1 (P : Int)) :
    (if sv1 then sv1DecSample (P : Int) (predOf sv1 P predictor w s p)
        (encDiff x (predOf sv1 P predictor w s p))
     else decSample (P : Int) (predOf sv1 P predictor w s p)
        (encDiff x (predOf sv1 P predictor w s p))) = x := by
  have hP' : (2 : Int) ≤ (P : Int) ∧ (P : Int) ≤ 16 := by omega
  cases sv1 with
  | false =>
    simp only [Bool.false_eq_true, if_false]
    exact diff_wrap_inverse' (P : Int) _ _ hP' hx
  | true =>
    simp only [if_true, predOf]
    exact sv1DecSample_encDiff (P : Int) x _ hP' hx
      (sv1Predicted_range (P : Int) _ _ _ hP' (nbOf_in P hP s hrng _ _ _ _))

theorem sample_roundtrip (sv1 : Bool) (P predictor w : Nat) (hP : 2 ≤ P ∧ P ≤ 16)
    (s : Planes) (hrng : InRange P s) (p : Pos) :
    (if sv1 then sv1DecSample (P : Int) (predOf sv1 P predictor w s p) (diffOf sv1 P predictor w s p)
     else decSample (P : Int) (predOf sv1 P predictor w s p) (diffOf sv1 P predictor w s p))
      = cell s p.2.2 (p.1 * w + p.2.1) :=
  sample_roundtrip_gen sv1 P predictor w hP s hrng p _ (hrng _ _)

/-! The sample layer as a lock-step pair (`Lockstep.lockstep_exact`):
  encoder and decoder both carry the planes reconstructed so far; the generic lock-step
  induction then gives exact reconstruction of any sequence of (position, sample) pairs, in any
  visiting order.  (The model's loops are not this pair: there the encoder reads the *source* planes and
  the decoder's planes agree with them on a prefix only, `decScan_reads` below.) -/

theorem inRange_setCell (P : Nat) (pl : Planes) (h : InRange P pl) (c i : Nat) (v : Int)
    (hv : 0 ≤ v ∧ v < Go.shl 1 (P : Int)) : InRange P (setCell pl c i v) := by
  intro c' i'
  rw [cell_setCell]
  split
  · exact hv
  · exact h c' i'

def lsEnc (sv1 : Bool) (P predictor w : Nat) : Planes → Pos × Int → Planes × (Pos × Int) :=
  fun pl x => (setCell pl x.1.2.2 (x.1.1 * w + x.1.2.1) x.2,
    (x.1, encDiff x.2 (predOf sv1 P predictor w pl x.1)))

def lsDec (sv1 : Bool) (P predictor w : Nat) : Planes → Pos × Int → Planes × (Pos × Int) :=
  fun pl e =>
    let v := if sv1 then sv1DecSample (P : Int) (predOf sv1 P predictor w pl e.1) e.2
             else decSample (P : Int) (predOf sv1 P predictor w pl e.1) e.2
    (setCell pl e.1.2.2 (e.1.1 * w + e.1.2.1) v, (e.1, v))

theorem sample_lockstep (sv1 : Bool) (P predictor w : Nat) (hP : 2 ≤ P ∧ P ≤ 16)
    (pl0 : Planes) (h0 : InRange P pl0) (xs : List (Pos × Int))
    (hx : ∀ x ∈ xs, 0 ≤ x.2 ∧ x.2 < Go.shl 1 (P : Int)) :
    (Lockstep.decAll (lsDec sv1 P predictor w) pl0
      (Lockstep.encAll (lsEnc sv1 P predictor w) pl0 xs).2).2 = xs := by
  apply Lockstep.lockstep_exact (lsEnc sv1 P predictor w) (lsDec sv1 P predictor w)
    (InRange P) (fun x => 0 ≤ x.2 ∧ x.2 < Go.shl 1 (P : Int)) _ pl0 xs h0 hx
  intro pl x hpl hxr
  have hs := sample_roundtrip_gen sv1 P predictor w hP pl hpl x.1 x.2 hxr
  simp only [lsEnc, lsDec]
  rw [hs]
  exact ⟨rfl, rfl, inRange_setCell P pl hpl _ _ _ hxr⟩

/-- the body of `encodeScan`'s loop (verbatim) -/
def encStepFn (sv1 : Bool) (P predictor w : Nat) (codes : Array (Nat × Nat)) (s : Planes) :
    HuffEnc × List (List Nat) → Pos → Outcome (HuffEnc × List (List Nat)) :=
  fun (e, out) (row, col, c) => do
    let sample ← readS s c ((row : Int) * w + col)
    let nb ← readNb s c w row col
    let predicted := if sv1 then sv1Predicted P row col nb else encPredicted P predictor row col nb
    let diff := encDiff sample predicted
    let (cat, bits) := encodeLosslessDifference diff
    match codes[cat.toNat]? with
    | none => Outcome.panic
    | some (code, len) =>
      let r1 := e.writeBits code len
      let r2 := if cat > 0 ∧ cat ≠ 16 then r1.1.writeBits bits.toNat cat.toNat else (r1.1, [])
      pure (r2.1, r2.2 :: r1.2 :: out)

theorem encodeScan_eq (sv1 : Bool) (P predictor w h nc : Nat) (codes : Array (Nat × Nat)) (s : Planes) :
    encodeScan sv1 P predictor w h nc codes s =
      ((scanOrder w h nc).foldlM (encStepFn sv1 P predictor w codes s) (({} : HuffEnc), ([] : List (List Nat)))
        >>= fun r => pure ((r.1.flush.2 :: r.2).reverse.flatten)) := rfl

theorem encStep_ok (sv1 : Bool) (P predictor w h nc : Nat) (codes : Array (Nat × Nat)) (s : Planes)
    (hs : Sized w h nc s) (p : Pos) (hp : p ∈ scanOrder w h nc)
    (code len : Nat) (hcode : codes[(symOf sv1 P predictor w s p).1]? = some (code, len))
    (e : HuffEnc) (out : List (List Nat)) :
    ∃ e' out', encStepFn sv1 P predictor w codes s (e, out) p = .ok (e', out') ∧
      ∀ ws, out.reverse.flatten ++ writeAll e (symWrite codes (symOf sv1 P predictor w s p) ++ ws)
        = out'.reverse.flatten ++ writeAll e' ws := by
  obtain ⟨row, col, c⟩ := p
  obtain ⟨hr, hcl, hc⟩ := mem_scanOrder.1 hp
  obtain ⟨hrd, hnb⟩ := srcReads hs hr hcl hc
  simp only [symOf, symOfDiff, diffOf, predOf] at hcode ⊢
  simp only [encStepFn, hrd, hnb, Outcome.ok_bind]
  generalize encodeLosslessDifference _ = r at hcode
  obtain ⟨cat, bits⟩ := r
  simp only at hcode ⊢
  simp only [hcode, symWrite, Option.getD_some, Outcome.pure_eq]
  refine ⟨_, _, rfl, fun ws => ?_⟩
  -- the model tests the category as an `Int`, `symWrite` as a `Nat`
  have hcat : (0 < cat.toNat ∧ cat.toNat ≠ 16) ↔ (cat > 0 ∧ cat ≠ 16) := by omega
  simp only [hcat]
  split <;> simp [writeAll]

theorem encodeScan_ok (sv1 : Bool) (P predictor w h nc : Nat) (codes : Array (Nat × Nat)) (s : Planes)
    (hs : Sized w h nc s)
    (hcodes : ∀ p ∈ scanOrder w h nc, ∃ code len,
      codes[(symOf sv1 P predictor w s p).1]? = some (code, len)) :
    encodeScan sv1 P predictor w h nc codes s
      = .ok (writeAll {} (symWrites codes (scanSyms sv1 P predictor w h nc s))) := by
  -- after the positions `pre`: what has been emitted, then what the writer still holds, is the image of their symbols
  obtain ⟨r, h1, h2⟩ := Loop.foldlM_inv (encStepFn sv1 P predictor w codes s)
    (fun pre r => ∀ ws, writeAll {} (symWrites codes (pre.map (symOf sv1 P predictor w s)) ++ ws)
      = r.2.reverse.flatten ++ writeAll r.1 ws)
    (scanOrder w h nc) (by
      intro pre p post r hl hI
      have hp : p ∈ scanOrder w h nc := by rw [hl]; simp
      obtain ⟨code, len, hcode⟩ := hcodes p hp
      obtain ⟨e1, out1, h1, hw1⟩ := encStep_ok sv1 P predictor w h nc codes s hs p hp code len hcode r.1 r.2
      refine ⟨(e1, out1), h1, fun ws => ?_⟩
      rw [← hw1 ws, ← hI]
      simp [symWrites, List.append_assoc]) ({}, []) (fun ws => by simp [symWrites])
  rw [encodeScan_eq, h1]
  have := h2 []
  simp only [List.append_nil] at this
  simp only [Outcome.ok_bind, Outcome.pure_eq, scanSyms, this, writeAll, List.reverse_cons,
    List.flatten_append, List.flatten_cons, List.flatten_nil, List.append_nil]

/-- the body of `decodeScan`'s loop (verbatim) -/
def decStepFn (sv1 : Bool) (P predictor w : Nat) (t : Table) :
    HuffDec × Planes → Pos → Outcome (HuffDec × Planes) :=
  fun (d, s) (row, col, c) => do
    let (category, d1) ← d.decode t
    let (diff, d2) ←
      if category = 0 then pure ((0 : Int), d1)
      else if category = 16 then pure (receiveLosslessDifference 16 0, d1)
      else match d1.readBits category with
        | none => Outcome.err
        | some (v, d2) => pure (if category ≥ 64 then (v : Int) else receiveLosslessDifference category v, d2)
    let nb ← readNb s c w row col
    let predicted := if sv1 then sv1Predicted P row col nb else decPredicted P predictor row col nb
    let sample := if sv1 then sv1DecSample P predicted diff else decSample P predicted diff
    let s' ← writeS s c (row * w + col) sample
    pure (d2, s')

/-- the model decoder: the sample loop over `data` from empty planes, with the table `T c` for component `c`
    (`decodeScan` has one table, `Stream.decodeScanSel` looks `T` up in the decoder state) -/
def decScan (sv1 : Bool) (P predictor w h nc : Nat) (T : Nat → Table) (data : List Nat) : Outcome Planes :=
  (scanOrder w h nc).foldlM (fun x p => decStepFn sv1 P predictor w (T p.2.2) x p)
      (({ data := data } : HuffDec), Array.replicate nc (Array.replicate (w * h) 0))
    >>= fun r => pure r.2

theorem decodeScan_eq (sv1 : Bool) (P predictor w h nc : Nat) (t : Table) (data : List Nat) :
    decodeScan sv1 P predictor w h nc t data = decScan sv1 P predictor w h nc (fun _ => t) data := rfl

/-- `pl` holds the source samples at every loop index (`i * nc + c`) below `k` -/
def AgreeTo (nc : Nat) (s pl : Planes) (k : Nat) : Prop :=
  ∀ c i, c < nc → i * nc + c < k → cell pl c i = cell s c i

/-- the neighbours read at pixel `row·w + col` are earlier pixels of the same component -/
theorem nbOf_agreeTo {nc w : Nat} {s pl : Planes} {row col c : Nat} (hc : c < nc) (hcl : col < w)
    (hag : AgreeTo nc s pl ((row * w + col) * nc + c)) : nbOf pl c w row col = nbOf s c w row col := by
  have key : ∀ {b : Prop} [Decidable b] {i : Nat}, (b → i < row * w + col) →
      (if b then cell pl c i else 0) = if b then cell s c i else 0 := fun {b} _ {i} h => by
    split
    · exact hag c i hc (Radix.lex_lt (h ‹b›) hc)
    · rfl
  simp only [nbOf, Nb.mk.injEq]
  exact ⟨key fun _ => by omega, key fun _ => Radix.lex_lt (by omega) hcl, key fun _ => Radix.lex_lt (by omega) (by omega)⟩

theorem AgreeTo.snoc {nc : Nat} {s pl pl' : Planes} {c i : Nat} (hc : c < nc) (hag : AgreeTo nc s pl (i * nc + c))
    (hcell : ∀ c' i', cell pl' c' i' = if c' = c ∧ i' = i then cell s c i else cell pl c' i') :
    AgreeTo nc s pl' (i * nc + c + 1) := by
  intro c' i' hc' hlt
  rw [hcell]
  split
  · next e => rw [e.1, e.2]
  · next hne =>
    refine hag c' i' hc' (Nat.lt_of_le_of_ne (Nat.lt_succ_iff.1 hlt) fun e => hne ?_)
    exact (Radix.inj hc' hc e).symm

theorem decStep_ok (sv1 : Bool) (P predictor w h nc : Nat) (bits : List Nat) (values : Array Nat)
    (t : Table) (hv : ValidTable bits values = true) (ht : Table.build bits values = .ok t)
    (s : Planes) (hrng : InRange P s) (hP : 2 ≤ P ∧ P ≤ 16)
    (row col c : Nat) (hr : row < h) (hcl : col < w) (hc : c < nc) {k : Nat} (hk : (row * w + col) * nc + c = k)
    (hm : (symOf sv1 P predictor w s (row, col, c)).1 ∈ values.toList)
    {d : HuffDec} {rest : List Bool}
    (hd : Reads d ((symWrite (buildHuffmanCodes bits values)
        (symOf sv1 P predictor w s (row, col, c))).flatMap (fun w => bitsOf w.1 w.2) ++ rest))
    (pl : Planes) (hpl : Sized w h nc pl) (hag : AgreeTo nc s pl k) :
    ∃ d' pl', decStepFn sv1 P predictor w t (d, pl) (row, col, c) = .ok (d', pl') ∧ Reads d' rest ∧
      Sized w h nc pl' ∧ AgreeTo nc s pl' (k + 1) := by
  subst hk
  obtain ⟨cat, d1, d2, hdec, h2, hrd⟩ :=
    hd.diff (δ := diffOf sv1 P predictor w s (row, col, c)) hv ht (encDiff_range' _ _) hm
  have hnb : readNb pl c (w : Int) (row : Int) (col : Int) = .ok (nbOf s c w row col) := by
    rw [readNb_ok hpl hr hcl hc, nbOf_agreeTo hc hcl hag]
  have hsamp := sample_roundtrip sv1 P predictor w hP s hrng (row, col, c)
  obtain ⟨pl', hw, hpl', hcell⟩ := writeS_ok hpl hc (idx_lt hr hcl) (cell s c (row * w + col))
  simp only [predOf] at hsamp
  refine ⟨d2, pl', ?_, h2, hpl', hag.snoc hc hcell⟩
  simp only [decStepFn, hdec, Outcome.ok_bind]
  -- not `rw [hrd]`: the `match` in `Reads.diff` was compiled in another module than that of `decStepFn`
  refine (hrd _).trans ?_
  simp only [hnb, Outcome.ok_bind, decPredicted_eq_enc, hsamp, hw]
  rfl

/-- the bits the encoder writes at position `p` when component `c` is coded with (B c, V c) -/
def posBits (sv1 : Bool) (P predictor w : Nat) (B : Nat → List Nat) (V : Nat → Array Nat) (s : Planes)
    (p : Pos) : List Bool :=
  (symWrite (buildHuffmanCodes (B p.2.2) (V p.2.2)) (symOf sv1 P predictor w s p)).flatMap
    fun w => bitsOf w.1 w.2

def scanBits (sv1 : Bool) (P predictor w h nc : Nat) (B : Nat → List Nat) (V : Nat → Array Nat) (s : Planes) :
    List Bool :=
  ((List.range' 0 (w * h * nc)).map (posOf w nc)).flatMap (posBits sv1 P predictor w B V s)

/-- every category the scan emits has a code in the table of its component -/
def Coded (sv1 : Bool) (P predictor w h nc : Nat) (V : Nat → Array Nat) (s : Planes) : Prop :=
  ∀ k, k < w * h * nc → (symOf sv1 P predictor w s (posOf w nc k)).1 ∈ (V (k % nc)).toList

theorem coded_of_emitted {sv1 : Bool} {P predictor w h nc : Nat} {values : Array Nat} {s : Planes}
    (hcat : ∀ k ∈ emittedCats sv1 P predictor w h nc s, k ∈ values.toList) :
    Coded sv1 P predictor w h nc (fun _ => values) s := fun _ hk =>
  (scanSyms_ok hcat _ (List.mem_map_of_mem (posOf_mem hk))).2

theorem encodeScan_packs (sv1 : Bool) (P predictor w h nc : Nat) (bits : List Nat) (values : Array Nat) (s : Planes)
    (hv : ValidTable bits values = true) (hsz : Sized w h nc s)
    (hcat : ∀ k ∈ emittedCats sv1 P predictor w h nc s, k ∈ values.toList) :
    encodeScan sv1 P predictor w h nc (buildHuffmanCodes bits values) s
      = .ok (writeAll {} (symWrites (buildHuffmanCodes bits values) (scanSyms sv1 P predictor w h nc s))) ∧
    Packs (writeAll {} (symWrites (buildHuffmanCodes bits values) (scanSyms sv1 P predictor w h nc s)))
      (scanBits sv1 P predictor w h nc (fun _ => bits) (fun _ => values) s) ∧
    Coded sv1 P predictor w h nc (fun _ => values) s := by
  have hok := scanSyms_ok hcat
  refine ⟨encodeScan_ok sv1 P predictor w h nc _ s hsz fun p hp => ?_, ?_, coded_of_emitted hcat⟩
  · obtain ⟨c, len, hc, _⟩ := codes_wf bits values hv _ (hok _ (List.mem_map_of_mem hp)).2
    exact ⟨c, len, hc⟩
  · unfold scanBits posBits
    rw [← scanOrder_eq, ← symWrites_bits]
    exact symWrites_packs bits values hv _ hok

theorem planes_ext {w h nc : Nat} {s pl : Planes} (hs : Sized w h nc s) (hpl : Sized w h nc pl)
    (hag : AgreeTo nc s pl (w * h * nc)) : pl = s := by
  apply Array.ext
  · rw [hs.1, hpl.1]
  · intro c hc1 hc2
    have hc : c < nc := by rw [← hpl.1]; exact hc1
    obtain ⟨_, _, e1⟩ := hpl.plane hc
    obtain ⟨_, _, e2⟩ := hs.plane hc
    apply Array.ext
    · rw [e1, e2]
    · intro i hi1 hi2
      have := hag c i hc (Radix.lt (e1 ▸ hi1) hc)
      rwa [cell_eq_getElem pl c i hc1 hi1, cell_eq_getElem s c i hc2 hi2] at this

theorem decScan_reads (sv1 : Bool) (P predictor w h nc : Nat) (B : Nat → List Nat) (V : Nat → Array Nat)
    (T : Nat → Table)
    (hT : ∀ c, c < nc → ValidTable (B c) (V c) = true ∧ Table.build (B c) (V c) = .ok (T c))
    (s : Planes) (hsz : Sized w h nc s) (hrng : InRange P s) (hP : 2 ≤ P ∧ P ≤ 16)
    (hm : Coded sv1 P predictor w h nc V s) {data : List Nat} {pad : List Bool}
    (hd : Reads { data := data } (scanBits sv1 P predictor w h nc B V s ++ pad)) :
    decScan sv1 P predictor w h nc T data = .ok s := by
  have hinit : Sized w h nc (Array.replicate nc (Array.replicate (w * h) (0 : Int))) :=
    ⟨Array.size_replicate, fun c hc => by simp [hc]⟩
  -- before loop index `k`: the reader has the bits of the indices from `k` on before it,
  -- and the planes agree with `s` below `k`
  obtain ⟨⟨d', pl'⟩, hf, _, hpl', hag'⟩ := Loop.foldlM_range_inv
    (fun x k => decStepFn sv1 P predictor w (T (posOf w nc k).2.2) x (posOf w nc k))
    (fun k x => Reads x.1 (((List.range' k (w * h * nc - k)).map (posOf w nc)).flatMap
        (posBits sv1 P predictor w B V s) ++ pad) ∧ Sized w h nc x.2 ∧ AgreeTo nc s x.2 k)
    (w * h * nc) (by
      rintro k ⟨d, pl⟩ hk ⟨hd, hpl, hag⟩
      obtain ⟨hr, hcl, hc⟩ := mem_scanOrder.1 (posOf_mem hk)
      obtain ⟨hv, ht⟩ := hT _ hc
      rw [show w * h * nc - k = w * h * nc - (k + 1) + 1 by omega, List.range'_succ, List.map_cons,
        List.flatMap_cons, List.append_assoc] at hd
      obtain ⟨d1, pl1, h1, r⟩ :=
        decStep_ok sv1 P predictor w h nc _ _ _ hv ht s hrng hP _ _ _ hr hcl hc (posOf_idx w nc k) (hm k hk) hd
          pl hpl hag
      exact ⟨(d1, pl1), h1, r⟩)
    (({ data := data } : HuffDec), Array.replicate nc (Array.replicate (w * h) 0))
    ⟨hd, hinit, fun _ _ _ hlt => absurd hlt (Nat.not_lt_zero _)⟩
  unfold decScan
  rw [scanOrder_eq, ← List.range_eq_range', List.foldlM_map, hf, ← planes_ext hsz hpl' hag']
  rfl

theorem decScan_of_packs (sv1 : Bool) (P predictor w h nc : Nat) (B : Nat → List Nat) (V : Nat → Array Nat)
    (T : Nat → Table)
    (hT : ∀ c, c < nc → ValidTable (B c) (V c) = true ∧ Table.build (B c) (V c) = .ok (T c))
    (s : Planes) (hsz : Sized w h nc s) (hrng : InRange P s) (hP : 2 ≤ P ∧ P ≤ 16)
    (hm : Coded sv1 P predictor w h nc V s) {scan : List Nat}
    (hpk : Packs scan (scanBits sv1 P predictor w h nc B V s)) :
    decScan sv1 P predictor w h nc T scan = .ok s :=
  let ⟨_, _, _, hrd⟩ := hpk.reads
  decScan_reads sv1 P predictor w h nc B V T hT s hsz hrng hP hm hrd

theorem scan_roundtrip (sv1 : Bool) (P predictor w h nc : Nat) (bits : List Nat)
    (values : Array Nat) (t : Table) (s : Planes)
    (hP : 2 ≤ P ∧ P ≤ 16)
    (hv : ValidTable bits values = true) (ht : Table.build bits values = .ok t)
    (hcat : ∀ k ∈ emittedCats sv1 P predictor w h nc s, k ∈ values.toList)
    (hsz : Sized w h nc s) (hrng : InRange P s) :
    ∃ scan, encodeScan sv1 P predictor w h nc (buildHuffmanCodes bits values) s = .ok scan ∧
      Packs scan (scanBits sv1 P predictor w h nc (fun _ => bits) (fun _ => values) s) ∧
      decodeScan sv1 P predictor w h nc t scan = .ok s :=
  let ⟨henc, hpk, hm⟩ := encodeScan_packs sv1 P predictor w h nc bits values s hv hsz hcat
  ⟨_, henc, hpk, decScan_of_packs sv1 P predictor w h nc _ _ (fun _ => t) (fun _ _ => ⟨hv, ht⟩) s hsz hrng hP hm hpk⟩

theorem sized_of (w h nc : Nat) (s : Planes)
    (hsz : s.size = nc ∧ ∀ c (hc : c < s.size), s[c].size = w * h) : Sized w h nc s := by
  refine ⟨hsz.1, ?_⟩
  intro c hc
  have hc' : c < s.size := by rw [hsz.1]; exact hc
  rw [Array.getElem?_eq_getElem hc', Option.getD_some]
  exact hsz.2 c hc'

theorem inRange_of (P : Nat) (hP : 2 ≤ P ∧ P ≤ 16) (s : Planes)
    (hrng : ∀ c (hc : c < s.size) i (hi : i < s[c].size), 0 ≤ s[c][i] ∧ s[c][i] < Go.shl 1 P) :
    InRange P s := by
  have hf := pow_facts (P : Int) (by omega) (by omega)
  obtain ⟨hM, hH, _⟩ := hf
  intro c i
  by_cases hc : c < s.size
  · by_cases hi : i < s[c].size
    · rw [cell_eq_getElem s c i hc hi]; exact hrng c hc i hi
    · have : cell s c i = 0 := by simp [cell, hc, hi]
      rw [this]; omega
  · have : cell s c i = 0 := by simp [cell, hc]
    rw [this]; omega

theorem emittedCats_le (sv1 : Bool) (P predictor w h nc : Nat) (s : Planes) :
    ∀ k ∈ emittedCats sv1 P predictor w h nc s, k ≤ 16 := by
  intro k hk
  obtain ⟨x, hx, rfl⟩ := List.mem_map.1 hk
  exact (scanSyms_ok (fun _ hk => hk) x hx).1.1

/-- `_hp` is not needed: the `& (2^P-1)` reconstruction of jpeg/lossless inverts the int16 difference
    for any prediction, and SV1 ignores `predictor`. -/
theorem lossless_scan_roundtrip (sv1 : Bool) (P predictor w h nc : Nat) (bits : List Nat)
    (values : Array Nat) (t : Table) (s : Array (Array Int))
    (hP : 2 ≤ P ∧ P ≤ 16) (_hp : 1 ≤ predictor ∧ predictor ≤ 7)
    (hv : ValidTable bits values = true) (ht : Table.build bits values = .ok t)
    (hcat : ∀ k, k ≤ 16 → k ∈ values.toList)
    (hsz : s.size = nc ∧ ∀ c (hc : c < s.size), s[c].size = w * h)
    (hrng : ∀ c (hc : c < s.size) i (hi : i < s[c].size), 0 ≤ s[c][i] ∧ s[c][i] < Go.shl 1 P) :
    ∃ scan, encodeScan sv1 P predictor w h nc (buildHuffmanCodes bits values) s = .ok scan ∧
      StuffOk scan = true ∧ decodeScan sv1 P predictor w h nc t scan = .ok s :=
  let ⟨scan, h1, hpk, h3⟩ := scan_roundtrip sv1 P predictor w h nc bits values t s hP hv ht
    (fun k hk => hcat k (emittedCats_le sv1 P predictor w h nc s k hk)) (sized_of w h nc s hsz) (inRange_of P hP s hrng)
  ⟨scan, h1, hpk.stuffOk, h3⟩

end JLL
