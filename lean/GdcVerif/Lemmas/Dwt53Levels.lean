import GdcVerif.Lemmas.Dwt53
import GdcVerif.Lemmas.Radix
/-!
  5/3 DWT in 2D with stride and over the multilevel window sequence, for any arithmetic `wr` and any
  pointwise invariant the 1D pair carries along its lines (`LineOk`): the inverse passes undo the forward
  passes and the coefficients satisfy the invariant.  `True` gives the round trip over the integers here,
  a magnitude bound the int32 reading in `Dwt53Int32`.
-/
namespace Dwt53

/-! A pass visits `cnt` lines of `len` cells each, line `i` occupying the cells `cell i k`: the rows
(`cell y x = y·stride + x`) or the columns (`cell x y = y·stride + x`) of the window. -/

def lineFn {n : Nat} (data : Vector Int n) (len : Nat) (c : Nat → Nat) : Vector Int len :=
  Vector.ofFn fun k => toFn data (c k.val)

theorem toFn_lineFn {n : Nat} (data : Vector Int n) {len k : Nat} (c : Nat → Nat) (hk : k < len) :
    toFn (lineFn data len c) k = toFn data (c k) := by
  rw [← get_eq_toFn _ k hk]
  simp only [lineFn, Vector.getElem_ofFn]

theorem writeLine_spec {n len : Nat} (data : Vector Int n) (v : Vector Int len) (c : Nat → Nat)
    (hc : ∀ k, k < len → c k < n) (hinj : ∀ k k', k < k' → k' < len → c k ≠ c k') :
    Filled c (toFn v) data len (Go.forLoop 0 len (fun k _ hk d => d.set (c k) v[k] (hc k hk)) data) :=
  forLoop_fill c (toFn v) data data 0 len (fun k _ hk _ => v[k]) (fun k _ hk => hc k hk) hinj (Nat.zero_le _)
    ⟨fun _ h => by omega, fun _ _ => rfl⟩ (fun k _ hk _ _ => get_eq_toFn v k hk)

/-- `out` is `data` with each of the lines `cell i`, `i < cnt`, replaced by its image under `T` -/
structure Mapped {n : Nat} (cnt len : Nat) (cell : Nat → Nat → Nat) (T : Vector Int len → Vector Int len)
    (data out : Vector Int n) : Prop where
  cells : ∀ i, i < cnt → ∀ k, k < len → toFn out (cell i k) = toFn (T (lineFn data len (cell i))) k
  rest : ∀ p, (∀ i, i < cnt → ∀ k, k < len → cell i k ≠ p) → toFn out p = toFn data p

/-- over distinct cells, line `i` is still as in `data` when its turn comes -/
theorem forLoop_mapped {n cnt len : Nat} (cell : Nat → Nat → Nat) (T : Vector Int len → Vector Int len)
    (hc : ∀ i k, i < cnt → k < len → cell i k < n)
    (hinj : ∀ i i' k k', i < cnt → i' < cnt → k < len → k' < len → cell i k = cell i' k' → i = i' ∧ k = k')
    (data : Vector Int n) :
    Mapped cnt len cell T data (Go.forLoop 0 cnt (fun i _ hi d =>
      Go.forLoop 0 len (fun k _ hk e => e.set (cell i k) (T (lineFn d len (cell i)))[k] (hc i k hi hk)) d) data) := by
  refine Go.forLoop_inv (P := fun j d => Mapped j len cell T data d) 0 cnt _ data (Nat.zero_le _)
    ⟨fun _ h => by omega, fun _ _ => rfl⟩ fun j _ hj d h => ?_
  have hs := writeLine_spec d (T (lineFn d len (cell j))) (cell j) (fun k hk => hc j k hj hk)
    fun k k' hlt hk' heq => Nat.ne_of_lt hlt (hinj j j k k' hj hj (by omega) hk' heq).2
  have hline : lineFn d len (cell j) = lineFn data len (cell j) := ext_toFn _ _ fun k hk => by
    rw [toFn_lineFn _ _ hk, toFn_lineFn _ _ hk]
    exact h.rest _ fun i hi k' hk' heq => Nat.ne_of_lt hi (hinj i j k' k (by omega) hj hk' hk heq).1
  refine ⟨fun i hi k hk => ?_, fun p hp => ?_⟩
  · by_cases hij : i = j
    · subst hij
      rw [hs.cells k hk, hline]
    · rw [hs.rest _ fun k' hk' heq => hij (hinj j i k' k hj (by omega) hk' hk heq).1.symm]
      exact h.cells i (by omega) k hk
  · rw [hs.rest p fun k hk => hp j (by omega) k hk]
    exact h.rest p fun i hi => hp i (by omega)

section mapped
variable {n cnt len : Nat} {cell : Nat → Nat → Nat} {T T' : Vector Int len → Vector Int len}
  {data mid out : Vector Int n}

theorem cell_cases (cnt len : Nat) (cell : Nat → Nat → Nat) (p : Nat) :
    (∃ i, i < cnt ∧ ∃ k, k < len ∧ cell i k = p) ∨ ∀ i, i < cnt → ∀ k, k < len → cell i k ≠ p := by
  by_cases hex : ∃ i, i < cnt ∧ ∃ k, k < len ∧ cell i k = p
  · exact Or.inl hex
  · exact Or.inr fun i hi k hk heq => hex ⟨i, hi, k, hk, heq⟩

theorem Mapped.cancel (h1 : Mapped cnt len cell T data mid) (h2 : Mapped cnt len cell T' mid out)
    (hT : ∀ i, i < cnt → T' (T (lineFn data len (cell i))) = lineFn data len (cell i)) : out = data := by
  apply ext_toFn
  intro p _
  rcases cell_cases cnt len cell p with ⟨i, hi, k, hk, rfl⟩ | hne
  · have hl : lineFn mid len (cell i) = T (lineFn data len (cell i)) :=
      ext_toFn _ _ fun k hk => by rw [toFn_lineFn _ _ hk, h1.cells i hi k hk]
    rw [h2.cells i hi k hk, hl, hT i hi, toFn_lineFn _ _ hk]
  · rw [h2.rest p hne, h1.rest p hne]

end mapped

/-! A 2D level is two stages; a stage maps the lines of one direction, or is skipped when they have a
single cell. -/

structure Stage {n : Nat} (cnt len : Nat) (cell : Nat → Nat → Nat) (f : Xf) (even : Bool)
    (data out : Vector Int n) : Prop where
  mapped : ∀ h : 1 < len, Mapped cnt len cell (fun v => f v even (Or.inl (by omega))) data out
  skipped : ¬ 1 < len → out = data

/-- what a stage needs of a pair of 1D transforms on a buffer whose entries satisfy `J`: on lines, `g` undoes `f`,
whose coefficients satisfy `J'`; so do the entries the stage leaves alone -/
structure LineOk (f g : Xf) (J J' : Int → Prop) : Prop where
  keep : ∀ a, J a → J' a
  line : ∀ {len : Nat} (v : Vector Int len) (even : Bool) (h : len ≠ 0 ∨ even = true), (∀ k, k < len → J (toFn v k)) →
    g (f v even h) even h = v ∧ ∀ k, k < len → J' (toFn (f v even h) k)

theorem Stage.roundtrip {n cnt len : Nat} {cell : Nat → Nat → Nat} {f g : Xf} {even : Bool}
    {data mid : Vector Int n} {J J' : Int → Prop} (h1 : Stage cnt len cell f even data mid)
    (hd : ∀ p, J (toFn data p)) (hline : LineOk f g J J') :
    (∀ p, J' (toFn mid p)) ∧ ∀ out, Stage cnt len cell g even mid out → out = data := by
  by_cases hl : 1 < len
  · have hv : ∀ i k, k < len → J (toFn (lineFn data len (cell i)) k) := fun i k hk => by
      rw [toFn_lineFn _ _ hk]
      exact hd _
    refine ⟨fun p => ?_, fun out h2 => (h1.mapped hl).cancel (h2.mapped hl) fun i _ => (hline.line _ even _ (hv i)).1⟩
    rcases cell_cases cnt len cell p with ⟨i, hi, k, hk, rfl⟩ | hne
    · rw [(h1.mapped hl).cells i hi k hk]
      exact (hline.line _ even _ (hv i)).2 k hk
    · rw [(h1.mapped hl).rest p hne]
      exact hline.keep _ (hd p)
  · rw [h1.skipped hl]
    exact ⟨fun p => hline.keep _ (hd p), fun out h2 => h2.skipped hl⟩

theorem getRow_eq {n : Nat} (d : Vector Int n) (width stride y : Nat) (h : ∀ x, x < width → y * stride + x < n) :
    getRow d width stride y h = lineFn d width (fun x => y * stride + x) :=
  Vector.ext fun x hx => by simp only [getRow, lineFn, Vector.getElem_ofFn, get_eq_toFn]

theorem getCol_eq {n : Nat} (d : Vector Int n) (height stride x : Nat) (h : ∀ y, y < height → y * stride + x < n) :
    getCol d height stride x h = lineFn d height (fun y => y * stride + x) :=
  Vector.ext fun y hy => by simp only [getCol, lineFn, Vector.getElem_ofFn, get_eq_toFn]

theorem rowStage_of {n : Nat} (f : Xf) (data : Vector Int n) (width height stride : Nat) (even : Bool)
    (hf : fits n width height stride) (hws : width ≤ stride) :
    Stage height width (fun y x => y * stride + x) f even data
      (if hw : 1 < width then rowPass f data width height stride even (fun _ => by unfold fits at hf; omega) hw
        else data) := by
  refine ⟨fun hw => ?_, fun hw => dif_neg hw⟩
  rw [dif_pos hw]
  unfold rowPass onRow putRow
  simp only [getRow_eq]
  exact forLoop_mapped _ _ (fun y x hy hx => idx_lt (by unfold fits at hf; omega) hx hy)
    (fun y y' x x' _ _ _ _ heq => Radix.inj (by omega) (by omega) heq) data

theorem colStage_of {n : Nat} (f : Xf) (data : Vector Int n) (width height stride : Nat) (even : Bool)
    (hf : fits n width height stride) (hws : width ≤ stride) :
    Stage width height (fun x y => y * stride + x) f even data
      (if hh : 1 < height then colPass f data width height stride even (fun _ => by unfold fits at hf; omega) hh
        else data) := by
  refine ⟨fun hh => ?_, fun hh => dif_neg hh⟩
  rw [dif_pos hh]
  unfold colPass onCol putCol
  simp only [getCol_eq]
  exact forLoop_mapped _ _ (fun x y hx hy => idx_lt (by unfold fits at hf; omega) hx hy)
    (fun x x' y y' _ _ _ _ heq => (Radix.inj (by omega) (by omega) heq).symm) data

theorem level_roundtrip (wr : Int → Int) {J0 J1 J2 : Int → Prop}
    (hl1 : LineOk (forward53_1d' wr) (inverse53_1d' wr) J0 J1)
    (hl2 : LineOk (forward53_1d' wr) (inverse53_1d' wr) J1 J2) {n : Nat} (data : Vector Int n)
    (width height stride : Nat) (evenRow evenCol : Bool) (hws : width ≤ stride) (hd : ∀ p, J0 (toFn data p))
    (hok : (width ≤ 1 ∧ height ≤ 1) ∨ fits n width height stride) :
    ∃ d, forward53_2d wr data width height stride evenRow evenCol = some d ∧ (∀ p, J2 (toFn d p)) ∧
      inverse53_2d wr d width height stride evenRow evenCol = some data := by
  unfold forward53_2d inverse53_2d
  by_cases hsmall : width ≤ 1 ∧ height ≤ 1
  · rw [if_pos hsmall]
    exact ⟨data, rfl, fun p => hl2.keep _ (hl1.keep _ (hd p)), if_pos hsmall⟩
  · have hf := hok.resolve_left hsmall
    rw [if_neg hsmall, dif_pos hf]
    obtain ⟨b1, c1⟩ := (colStage_of (forward53_1d' wr) data width height stride evenCol hf hws).roundtrip hd hl1
    obtain ⟨b2, c2⟩ := (rowStage_of (forward53_1d' wr) _ width height stride evenRow hf hws).roundtrip b1 hl2
    refine ⟨_, rfl, b2, ?_⟩
    rw [if_neg hsmall, dif_pos hf]
    simp only [c2 _ (rowStage_of _ _ _ _ _ _ hf hws), c1 _ (colStage_of _ _ _ _ _ _ hf hws)]

theorem lineOk_id : LineOk (forward53_1d' id) (inverse53_1d' id) (fun _ => True) (fun _ => True) :=
  ⟨fun _ h => h, fun v even h _ => ⟨inverse53_forward53_1d' v even h, fun _ _ => trivial⟩⟩

/-- `Inverse53_2DWithParity ∘ Forward53_2DWithParity = id` on every window with `width ≤ stride`
(both panic when the window does not fit into `data`) -/
theorem inverse53_forward53_2d {n : Nat} (data : Vector Int n) (width height stride : Nat) (evenRow evenCol : Bool)
    (hws : width ≤ stride) :
    (forward53_2d id data width height stride evenRow evenCol).bind
        (fun d => inverse53_2d id d width height stride evenRow evenCol) =
      if (width ≤ 1 ∧ height ≤ 1) ∨ fits n width height stride then some data else none := by
  split
  · next hok =>
    obtain ⟨d, h1, -, h2⟩ := level_roundtrip id lineOk_id lineOk_id data width height
      stride evenRow evenCol hws (fun _ => trivial) hok
    rw [h1, Option.bind_some, h2]
  · next hok =>
    unfold forward53_2d
    rw [if_neg fun h => hok (Or.inl h), dif_neg fun h => hok (Or.inr h)]
    rfl

theorem splitLengths_bounds (n : Int) (e : Bool) (h : 0 ≤ n) :
    0 ≤ Gen.J2kWavelet.splitLengths n e ∧ Gen.J2kWavelet.splitLengths n e ≤ n := by
  unfold Gen.J2kWavelet.splitLengths
  split
  · rw [Int.tdiv_eq_ediv_of_nonneg (by omega)]
    omega
  · rw [Int.tdiv_eq_ediv_of_nonneg h]
    omega

theorem nextWindow_le {win : Window} (hw : 0 ≤ win.1) (hh : 0 ≤ win.2.1) :
    (0 ≤ (nextWindow win).1 ∧ (nextWindow win).1 ≤ win.1) ∧ 0 ≤ (nextWindow win).2.1 ∧ (nextWindow win).2.1 ≤ win.2.1 :=
  ⟨splitLengths_bounds win.1 _ hw, splitLengths_bounds win.2.1 _ hh⟩

/-- what the multilevel loops need of a window: non-negative, no wider than the stride, inside `data` -/
def WinOk (n stride : Nat) (win : Window) : Prop :=
  0 ≤ win.1 ∧ win.1.toNat ≤ stride ∧ 0 ≤ win.2.1 ∧ win.2.1.toNat * stride ≤ n

theorem winOk_image {n : Nat} (width height : Nat) (x0 y0 : Int) (hn : height * width ≤ n) :
    WinOk n width ((width : Int), (height : Int), x0, y0) :=
  ⟨by simp, by simp, by simp, by simpa using hn⟩

theorem winOk_next {n stride : Nat} {win : Window} (h : WinOk n stride win) : WinOk n stride (nextWindow win) := by
  obtain ⟨h1, h2, h3, h4⟩ := h
  obtain ⟨⟨a1, a2⟩, b1, b2⟩ := nextWindow_le h1 h3
  exact ⟨a1, by omega, b1, Nat.le_trans (Nat.mul_le_mul_right _ (by omega)) h4⟩

theorem winOk_fits {n stride : Nat} {win : Window} (h : WinOk n stride win) :
    fits n win.1.toNat win.2.1.toNat stride := by
  obtain ⟨_, h2, _, h4⟩ := h
  unfold fits
  cases hh : win.2.1.toNat with
  | zero => exact Or.inr (Or.inl rfl)
  | succ k =>
    rw [hh, Nat.succ_mul] at h4
    rw [Nat.add_sub_cancel]
    omega

/-- after the `break` at a window of one sample the inverse loop finds every further window as small, and skips it -/
theorem inverseLevels_small (wr : Int → Int) {n : Nat} (stride : Nat) (levels : Nat) :
    ∀ (win : Window) (data : Vector Int n), (0 ≤ win.1 ∧ win.1 ≤ 1) ∧ 0 ≤ win.2.1 ∧ win.2.1 ≤ 1 →
      inverseLevels wr stride (windows levels win) data = some data := by
  induction levels with
  | zero => intro win data _; rfl
  | succ L ih =>
    intro win data hs
    obtain ⟨⟨a1, a2⟩, b1, b2⟩ := nextWindow_le hs.1.1 hs.2.1
    rw [windows, inverseLevels, ih (nextWindow win) data ⟨⟨a1, by omega⟩, b1, by omega⟩]
    simp only [inverse53_2d]
    rw [if_pos (by omega)]

/-- the level loop: `I L d` is what `d` has to satisfy for `L` more levels to go through; a 2D level takes `I (L + 1)` to
`I L`.  `hI` serves the `break` at a window of one sample, which skips the remaining levels. -/
theorem levels_roundtrip (wr : Int → Int) {n : Nat} (stride : Nat) (I : Nat → Vector Int n → Prop)
    (hI : ∀ L d, I L d → I 0 d)
    (h2d : ∀ L (d : Vector Int n) width height eR eC, width ≤ stride → fits n width height stride → I (L + 1) d →
      ∃ d', forward53_2d wr d width height stride eR eC = some d' ∧ I L d' ∧
        inverse53_2d wr d' width height stride eR eC = some d) :
    ∀ (levels : Nat) (win : Window) (data : Vector Int n), WinOk n stride win → I levels data →
      ∃ dF, forwardLevels wr stride levels data win = some dF ∧ I 0 dF ∧
        inverseLevels wr stride (windows levels win) dF = some data := by
  intro levels
  induction levels with
  | zero => exact fun win data _ h => ⟨data, rfl, h, rfl⟩
  | succ L ih =>
    intro win data hok h
    obtain ⟨cw, ch, cx, cy⟩ := win
    rw [forwardLevels]
    by_cases hs : cw ≤ 1 ∧ ch ≤ 1
    · rw [if_pos hs]
      exact ⟨data, rfl, hI _ _ h, inverseLevels_small wr stride (L + 1) (cw, ch, cx, cy) data
        ⟨⟨hok.1, hs.1⟩, hok.2.2.1, hs.2⟩⟩
    · rw [if_neg hs]
      obtain ⟨d1, hF, h1, hG⟩ := h2d L data cw.toNat ch.toNat (Gen.J2kWavelet.isEven cx) (Gen.J2kWavelet.isEven cy)
        hok.2.1 (winOk_fits hok) h
      obtain ⟨dF, hF', hIF, hG'⟩ := ih (nextWindow (cw, ch, cx, cy)) d1 (winOk_next hok) h1
      refine ⟨dF, by rw [hF]; exact hF', hIF, ?_⟩
      rw [windows, inverseLevels, hG']
      exact hG

/-- `InverseMultilevelWithParity(ForwardMultilevelWithParity(data)) = data` for every width, height,
level count and origin, on any buffer holding the `height × width` samples -/
theorem inverse53_forward53_multilevel {n : Nat} (data : Vector Int n) (width height levels : Nat) (x0 y0 : Int)
    (hn : height * width ≤ n) :
    (forwardMultilevel id data width height levels x0 y0).bind
        (fun d => inverseMultilevel id d width height levels x0 y0) = some data := by
  obtain ⟨dF, h1, -, h2⟩ := levels_roundtrip id width (fun _ (_ : Vector Int n) => True) (fun _ _ h => h)
    (fun _ d w h eR eC hws hf _ => by
      obtain ⟨d', h1, -, h2⟩ := level_roundtrip id lineOk_id lineOk_id d w h width eR eC
        hws (fun _ => trivial) (Or.inr hf)
      exact ⟨d', h1, trivial, h2⟩)
    levels (width, height, x0, y0) data (winOk_image width height x0 y0 hn) trivial
  unfold forwardMultilevel inverseMultilevel
  rw [h1, Option.bind_some, h2]

end Dwt53
