import GdcVerif.Model.Golomb
import GdcVerif.Lemmas.GoBits
import GdcVerif.Lemmas.BitList
/-!
  Bit-level lemmas for the limited-length Golomb code model (`Model/Golomb.lean`):
  what `WriteBits(v, n)` appends is read back by `takeBits`, unary prefixes by `countZeros`,
  and the round trip `decodeValue ∘ encodeWrites` (incl. the >31-bit prefix split and the escape path).
-/
namespace Golomb

theorem bitsOf_eq : @bitsOf = @Bits.msb := by
  funext v n; induction n with
  | zero => rfl
  | succ n ih => rw [bitsOf, ih]; rfl

theorem natOfBits_eq : @natOfBits = @Bits.val := by
  funext l; simp only [natOfBits, Bits.ite_eq_toNat, Bits.foldl_val, Nat.zero_mul, Nat.zero_add]

theorem length_bitsOf (v : Nat) : ∀ n, (bitsOf v n).length = n := fun n => bitsOf_eq ▸ Bits.length_msb v n

theorem takeBits_bitsOf (v n : Nat) (rest : List Bool) :
    takeBits n (bitsOf v n ++ rest) = some (v % 2 ^ n, rest) := by
  unfold takeBits
  have hl := length_bitsOf v n
  have : ¬ (bitsOf v n ++ rest).length < n := by simp [hl]
  simp only [this, if_false]
  rw [List.take_left' hl, List.drop_left' hl, bitsOf_eq, natOfBits_eq, Bits.val_msb]

theorem field_lt (x : Int) (n : Nat) : (x % 2 ^ n).toNat % M32 < 2 ^ n :=
  Nat.lt_of_le_of_lt (Nat.mod_le _ _) (Int.toNat_emod_two_pow_lt x n)

theorem takeBits_field (x : Int) (n : Nat) (hn : n ≤ 32) (rest : List Bool) :
    takeBits n (bitsOf ((x % 2 ^ n).toNat % M32) n ++ rest) = some ((x % 2 ^ n).toNat, rest) := by
  have hlt := Int.toNat_emod_two_pow_lt x n
  have h32 : (2 : Nat) ^ n ≤ M32 := Nat.pow_le_pow_right (by decide) hn
  rw [Nat.mod_eq_of_lt (Nat.lt_of_lt_of_le hlt h32), takeBits_bitsOf, Nat.mod_eq_of_lt hlt]

theorem bitsOf_one : ∀ n, bitsOf 1 (n + 1) = List.replicate n false ++ [true] := by
  intro n; rw [bitsOf_eq]; exact Bits.msb_of_lt (v := 1) (n := 1) (by decide) n

theorem countZeros_replicate : ∀ (z a : Nat) (rest : List Bool), a + z ≤ 1000 →
    countZeros (List.replicate z false ++ true :: rest) a = some (a + z, rest)
  | 0, a, rest, _ => by simp [countZeros]
  | z + 1, a, rest, h => by
    simp only [List.replicate_succ, List.cons_append, countZeros]
    have : ¬ a + 1 > 1000 := by omega
    simp only [this, if_false]
    rw [countZeros_replicate z (a + 1) rest (by omega)]
    congr 2; omega

theorem writesBits_append (a b : List (Nat × Int)) : writesBits (a ++ b) = writesBits a ++ writesBits b := by
  simp [writesBits, List.flatMap_append]

theorem writesBits_single (v : Nat) (n : Int) : writesBits [(v, n)] = bitsOf v n.toNat := by
  simp [writesBits]

theorem writesBits_nil : writesBits [] = [] := rfl

theorem writesBits_cons (p : Nat × Int) (ws : List (Nat × Int)) :
    writesBits (p :: ws) = bitsOf p.1 p.2.toNat ++ writesBits ws := rfl

theorem writesBits_zeros : ∀ (f : Nat) (n : Int), n.toNat ≤ f →
    writesBits (zerosWrites f n) = List.replicate n.toNat false
  | 0, n, h => by
    have : n.toNat = 0 := by omega
    simp [zerosWrites, writesBits, this]
  | f + 1, n, h => by
    unfold zerosWrites
    by_cases hn : n > 0
    · simp only [hn, if_true]
      have hc : (0 : Int) < (if n > 31 then 31 else n) ∧ (if n > 31 then 31 else n) ≤ n := by
        split <;> omega
      generalize (if n > 31 then (31 : Int) else n) = chunk at *
      rw [writesBits_cons, show bitsOf 0 chunk.toNat = _ from bitsOf_eq ▸ Bits.msb_zero _, writesBits_zeros f (n - chunk) (by omega),
        List.replicate_append_replicate]
      congr 1; omega
    · simp only [hn, if_false]
      have : n.toNat = 0 := by omega
      simp [writesBits, this]

/-- a unary prefix, written in one call or behind the zeros `pre` of a `WriteZeros`: `a + b` zeros and a one -/
theorem unary_bits (pre : List (Nat × Int)) (a : Nat) (b : Int) (hb : 0 ≤ b) (hpre : writesBits pre = List.replicate a false) :
    writesBits (pre ++ [(1, b + 1)]) = List.replicate (a + b.toNat) false ++ [true] := by
  rw [writesBits_append, writesBits_single, hpre, show (b + 1).toNat = b.toNat + 1 by omega, bitsOf_one,
    ← List.append_assoc, List.replicate_append_replicate]

theorem code_roundtrip (k m limit qbpp : Int) (rest : List Bool)
    (hk : 0 ≤ k ∧ k ≤ 31) (hq : 1 ≤ qbpp ∧ qbpp ≤ 16) (hl : qbpp + 1 < limit ∧ limit ≤ 64)
    (hm : 0 ≤ m ∧ m - 1 < 2 ^ qbpp.toNat) :
    decodeValue k limit qbpp (writesBits (encodeWrites k m limit qbpp) ++ rest) = some (m, rest) := by
  have hshr := Go.shr_eq m k
  have hpk : (0 : Int) < 2 ^ k.toNat := Int.pow_pos (by decide)
  have hh0 : 0 ≤ m / 2 ^ k.toNat := Int.ediv_nonneg hm.1 (by omega)
  unfold encodeWrites
  simp only []
  rw [hshr]
  generalize hH : m / 2 ^ k.toNat = h at *
  by_cases hn : h < limit - (qbpp + 1)
  · simp only [hn, if_true]
    have hun : writesBits ((if h + 1 > 31 then zerosWrites (Int.tdiv h 2).toNat (Int.tdiv h 2) else []) ++
        [(1, (if h + 1 > 31 then h - Int.tdiv h 2 else h) + 1)]) = List.replicate h.toNat false ++ [true] := by
      have ht : Int.tdiv h 2 = h / 2 := Int.tdiv_eq_ediv_of_nonneg hh0
      by_cases hs : h + 1 > 31
      · simp only [hs, if_true]
        rw [unary_bits _ _ _ (by omega) (writesBits_zeros _ _ (Nat.le_refl _))]
        congr 2; omega
      · simp only [hs, if_false]
        rw [unary_bits [] 0 h hh0 rfl, Nat.zero_add]
    rw [writesBits_append, hun]
    unfold decodeValue
    rw [List.append_assoc, List.append_assoc, List.singleton_append,
      countZeros_replicate h.toNat 0 _ (by omega)]
    have hcast : ((0 + h.toNat : Nat) : Int) = h := by omega
    simp only [hcast]
    have : ¬ h ≥ limit - (qbpp + 1) := by omega
    simp only [this, if_false]
    by_cases hk0 : k = 0
    · subst hk0
      simp only [Int.lt_irrefl, if_false, writesBits_nil, List.nil_append, if_true]
      have : m = h := by rw [← hH]; simp
      rw [this]
    · have hkp : k > 0 := by omega
      simp only [hkp, if_true, hk0, if_false, writesBits_single]
      rw [takeBits_field m k.toNat (by omega)]
      simp only []
      rw [Int.toNat_of_nonneg (Int.emod_nonneg m (by omega)), ← hH]
      congr 2
      have := Int.mul_ediv_add_emod m (2 ^ k.toNat)
      rw [Int.mul_comm] at this
      exact this
  · simp only [hn, if_false]
    -- a mapped value of 0 has an empty unary part and is never escaped
    have hm1 : 1 ≤ m := by
      by_cases h1 : 1 ≤ m
      · exact h1
      · have h0 : m = 0 := by omega
        rw [h0, Int.zero_ediv] at hH
        omega
    rw [writesBits_append, writesBits_single]
    have hun : writesBits (if limit - qbpp > 31 then zerosWrites 31 31 ++ [(1, limit - qbpp - 31 - 1 + 1)]
        else [(1, limit - qbpp - 1 + 1)]) = List.replicate (limit - qbpp - 1).toNat false ++ [true] := by
      split
      · rw [unary_bits _ 31 _ (by omega) (writesBits_zeros 31 31 (by decide))]
        congr 2; omega
      · exact (unary_bits [] 0 _ (by omega) rfl).trans (by rw [Nat.zero_add])
    rw [hun]
    unfold decodeValue
    rw [List.append_assoc, List.append_assoc, List.singleton_append,
      countZeros_replicate (limit - qbpp - 1).toNat 0 _ (by omega)]
    have hcast : ((0 + (limit - qbpp - 1).toNat : Nat) : Int) = limit - qbpp - 1 := by omega
    simp only [hcast]
    have : limit - qbpp - 1 ≥ limit - (qbpp + 1) := by omega
    simp only [this, if_true]
    rw [takeBits_field (m - 1) qbpp.toNat (by omega), Int.emod_eq_of_lt (by omega) hm.2]
    simp only []
    congr 2
    omega

end Golomb
