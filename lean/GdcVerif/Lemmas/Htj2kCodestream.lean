import GdcVerif.Model.Htj2k
import GdcVerif.Lemmas.Basics
/-!
  Codestream-level pieces: Psot/TLM arithmetic of the tile-parts, the band bits of the HT packet header, and the
  MEL/VLC fusion byte with the Scup locator.
-/
namespace Htj2k

theorem psots_eq (parts : List (Nat × Nat)) (hfit : ∀ p ∈ parts, p.2 + p.1 + 14 < 2 ^ 32) :
    psots parts = parts.map (fun p => tilePartLen p.1 p.2) :=
  List.map_congr_left fun p hp => by
    simp only [psotOf, tilePartLen, Nat.mod_eq_of_lt (hfit p hp)]
    omega

theorem psots_sum (parts : List (Nat × Nat)) (hfit : ∀ p ∈ parts, p.2 + p.1 + 14 < 2 ^ 32) :
    (psots parts).sum = (parts.map (fun p => tilePartLen p.1 p.2)).sum := by
  rw [psots_eq parts hfit]

theorem tlmWalk_lens (ls : List Nat) (h14 : ∀ l ∈ ls, 14 ≤ l) : ∀ (off total : Nat), total = off + ls.sum →
    ∃ offs, tlmWalk total ls off = some offs ∧ offs.length = ls.length := by
  induction ls with
  | nil => intro off total h; exact ⟨[], by simp [tlmWalk, h], rfl⟩
  | cons l ls ih =>
    intro off total h
    have hl := h14 l List.mem_cons_self
    rw [List.sum_cons] at h
    obtain ⟨offs, h1, h2⟩ := ih (fun q hq => h14 q (List.mem_cons_of_mem _ hq)) (off + l) total (by omega)
    refine ⟨off :: offs, ?_, by simp [h2]⟩
    rw [tlmWalk, if_neg (by omega), h1]
    rfl

/-- the bits a band contributes after the packet bit -/
def HtBand.bits : HtBand → List Bool
  | .absent => []
  | .empty => [false]
  | .coded body => body

def HtBand.isCoded : HtBand → Bool
  | .coded _ => true
  | _ => false

def bandsBits (bands : List HtBand) : List Bool := (bands.map HtBand.bits).flatten

/-- a coded band's bits start with the root inclusion bit 1 (some block is included) and its remainder is
    self-delimiting for the band parser -/
def HtBand.WellFormed {α : Type} (parseTail : List Bool → Option (α × List Bool)) (info : List Bool → α) : HtBand → Prop
  | .coded body => ∃ tail, body = true :: tail ∧ ∀ rest, parseTail (tail ++ rest) = some (info tail, rest)
  | _ => True

/-- has the band code-blocks at all (the decoder is told so by the geometry) -/
def HtBand.present : HtBand → Bool
  | .absent => false
  | _ => true

/-- what `decodeHtBands` returns for the band: absent, nothing included, or the parsed remainder -/
def HtBand.result {α : Type} (info : List Bool → α) : HtBand → Option (Option α)
  | .absent => none
  | .empty => some none
  | .coded body => some (some (info body.tail))

theorem bandsBits_cons (b : HtBand) (bs : List HtBand) : bandsBits (b :: bs) = b.bits ++ bandsBits bs := rfl

/-- the header writer's fold from any state: after a coded band every band adds its bits; the first coded band also
    writes the packet bit and a 0 for each empty band skipped before it -/
theorem HtHdrSt.foldl_band (bands : List HtBand) : ∀ st : HtHdrSt,
    (bands.foldl HtHdrSt.band st).coded = (st.coded || bands.any HtBand.isCoded) ∧
    (bands.foldl HtHdrSt.band st).out = st.out ++
      if st.coded then bandsBits bands
      else if bands.any HtBand.isCoded then true :: (List.replicate st.skippedBands false ++ bandsBits bands) else [] := by
  induction bands with
  | nil => intro ⟨out, c, sk⟩; cases c <;> simp [bandsBits]
  | cons b bs ih =>
    intro st
    rw [List.foldl_cons, (ih _).1, (ih _).2, bandsBits_cons, List.any_cons]
    obtain ⟨out, c, sk⟩ := st
    cases b <;> cases c <;> simp [HtHdrSt.band, HtBand.bits, HtBand.isCoded, List.replicate_succ']

theorem decodeHtBandsAux_bands {α : Type} (parseTail : List Bool → Option (α × List Bool)) (info : List Bool → α)
    (bands : List HtBand) (hwf : ∀ b ∈ bands, b.WellFormed parseTail info) (rest : List Bool) :
    decodeHtBandsAux parseTail (bands.map HtBand.present) (bandsBits bands ++ rest) =
      some (bands.map (HtBand.result info), rest) := by
  induction bands with
  | nil => simp [decodeHtBandsAux, bandsBits]
  | cons b bs ih =>
    have ih' := ih (fun x hx => hwf x (List.mem_cons_of_mem _ hx))
    rw [bandsBits_cons, List.append_assoc, List.map_cons, List.map_cons]
    cases b with
    | absent => simp only [HtBand.present, HtBand.bits, HtBand.result, List.nil_append, decodeHtBandsAux, ih', Option.map_some]
    | empty =>
      simp only [HtBand.present, HtBand.bits, HtBand.result, List.cons_append, List.nil_append, decodeHtBandsAux, ih',
        Option.map_some]
    | coded body =>
      obtain ⟨tail, hb, hp⟩ := hwf (HtBand.coded body) (List.mem_cons_self)
      simp only [HtBand.present, HtBand.bits, HtBand.result, hb, List.cons_append, decodeHtBandsAux, hp, ih', Option.map_some,
        List.tail_cons]

theorem scup_at_least_two (pk : MelPacker) (vlcBuf : List Nat) (vlcTmp vlcUsed : Nat)
    (hbuf : 1 ≤ vlcBuf.length) (hinv : vlcUsed = 0 → 2 ≤ vlcBuf.length) :
    2 ≤ scupOf (terminateMelVlc pk vlcBuf vlcTmp vlcUsed) := by
  unfold terminateMelVlc scupOf
  by_cases hz : vlcUsed = 0
  · have := hinv hz
    simp only [hz, Nat.lt_irrefl, if_false]
    split
    · simp; omega
    · split <;> simp <;> omega
  · have hpos : vlcUsed > 0 := by omega
    have hm : (0xFF / 2 ^ (8 - vlcUsed)) ≠ 0 := by
      have : 2 ^ (8 - vlcUsed) ≤ 2 ^ 7 := Nat.pow_le_pow_right (by omega) (by omega)
      exact Nat.pos_iff_ne_zero.mp (Nat.div_pos (by omega) (Nat.two_pow_pos _))
    simp only [hpos, if_true]
    have hne : ¬ (0xFF * 2 ^ pk.remainingBits % 256 ||| 0xFF / 2 ^ (8 - vlcUsed) = 0) := by
      intro h; exact hm (Nat.or_eq_zero_iff.mp h).2
    simp only [hne, if_false]
    split <;> simp <;> omega

end Htj2k
