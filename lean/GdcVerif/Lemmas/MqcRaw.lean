import GdcVerif.Lemmas.Mqc
/-!
  C20 — the raw (bypass) bit writer `BypassEncode` / `BypassFlushEnc` against the raw bit reader `RawDecode`:
  step-wise round trip in the same "facts from the future" form as the MQ coder.  Bits go MSB first into bytes,
  the byte after a 0xFF carries 7 bits; the flush pads with 0,1,0,1,…, and (without `erterm`) drops a trailing 0xFF
  or a trailing 0xFF 0x7F, which the reader reproduces from its 0xFF 0xFF sentinel.
-/
namespace Mqc

/-- the bit counter with the start sentinel read as 8 -/
def ect (e : Enc) : Int := if e.ct = bypassCtInit then 8 else e.ct

/-- invariant of the encoder inside a raw segment that starts at buffer position `p0` -/
structure RawOk (p0 : Nat) (e : Enc) : Prop where
  p1 : 1 ≤ p0
  hp : p0 ≤ e.bp
  sz : e.bp ≤ e.buf.size
  bytes : ∀ i, rd e.buf i < 256
  marker : ∀ i, i + 1 < e.bp → rd e.buf i = 255 → rd e.buf (i + 1) ≤ 143
  prev : rd e.buf (p0 - 1) ≠ 255
  init : e.ct = bypassCtInit → e.c = 0 ∧ e.bp = p0
  ctlo : 1 ≤ ect e
  cthi : ect e ≤ 8
  c8 : e.c < 256
  cmod : e.c % 2 ^ (ect e).toNat = 0
  ff : rd e.buf (e.bp - 1) = 255 → ect e ≤ 7 ∧ e.c < 128
  first : e.ct = 8 → p0 < e.bp

theorem pow_le_128 (k : Nat) (hk : k ≤ 7) : 2 ^ k ≤ 128 :=
  calc 2 ^ k ≤ 2 ^ 7 := Nat.pow_le_pow_right (by omega) hk
    _ = 128 := rfl

/-- `if bp >= len(buffer) { ensureIndex(bp) }; buffer[bp] = v`, the write of `BypassEncode` and `BypassFlushEnc` -/
def put (buf : Array Nat) (bp v : Nat) : Array Nat :=
  (if bp ≥ buf.size then ensureIndex buf bp else buf).setIfInBounds bp v

theorem shl32_bit (b k : Nat) (hb : b ≤ 1) (hk : k ≤ 7) : shl32 b k = b * 2 ^ k := by
  have hp := pow_le_128 k hk
  have : b * 2 ^ k ≤ 1 * 2 ^ k := Nat.mul_le_mul_right _ hb
  unfold shl32 u32
  rw [if_neg (by omega), Nat.mod_eq_of_lt (by omega)]

theorem bypassEncode_eq (e : Enc) (bit k : Nat) (hk : ect e = (k : Int) + 1) (hk7 : k ≤ 7) (hb : bit ≤ 1)
    (hc : e.c + bit * 2 ^ k < 256) :
    bypassEncode e bit =
      if k = 0 then some { e with buf := put e.buf e.bp (e.c + bit), bp := e.bp + 1, c := 0, ct := if e.c + bit = 255 then 7 else 8 }
      else some { e with c := e.c + bit * 2 ^ k, ct := (k : Int) } := by
  unfold bypassEncode
  unfold ect at hk
  simp only [hk, show ((k : Int) + 1 - 1) = (k : Int) by omega, show ¬((k : Int) < 0) by omega, if_false, Int.toNat_natCast,
    show u32 bit = bit from Nat.mod_eq_of_lt (by omega), shl32_bit bit k hb hk7,
    show u32 (e.c + bit * 2 ^ k) = e.c + bit * 2 ^ k from Nat.mod_eq_of_lt (by omega)]
  by_cases h0 : k = 0
  · subst h0
    simp only [Int.natCast_zero, if_true, Nat.pow_zero, Nat.mul_one]
    rw [show u8 (e.c + bit) = e.c + bit from Nat.mod_eq_of_lt (by simpa using hc)]
    rfl
  · rw [if_neg (by omega), if_neg h0]

theorem ct_ne_init {v : Int} (hv : v ≤ 8) : ¬(v = bypassCtInit) := by unfold bypassCtInit; omega

theorem ect_of_ct (e : Enc) (v : Int) (hv : v ≤ 8) (h : e.ct = v) : ect e = v := by
  unfold ect; rw [h, if_neg (ct_ne_init hv)]

theorem ect_nat (p0 : Nat) (e : Enc) (h : RawOk p0 e) : ∃ k : Nat, ect e = (k : Int) + 1 ∧ k ≤ 7 :=
  ⟨(ect e - 1).toNat, by have := h.ctlo; omega, by have := h.ctlo; have := h.cthi; omega⟩

theorem RawOk.aligned {p0 : Nat} {e : Enc} (h : RawOk p0 e) {k : Nat} (hk : ect e = (k : Int) + 1) :
    e.c % 2 ^ (k + 1) = 0 := by
  have := h.cmod; rw [hk] at this; simpa using this

theorem mod_half (c P : Nat) (h : c % (2 * P) = 0) : c % P = 0 := by
  have := Nat.mod_mod_of_dvd c (show P ∣ 2 * P from ⟨2, by omega⟩)
  rw [h] at this
  rw [← this]; exact Nat.zero_mod P

theorem bit_arith (c k bit m : Nat) (hkm : k < m) (hb : bit ≤ 1) (hmod : c % 2 ^ (k + 1) = 0) (hc : c < 2 ^ m) :
    c + bit * 2 ^ k < 2 ^ m ∧ (c + bit * 2 ^ k) % 2 ^ k = 0 ∧ (c + bit * 2 ^ k) / 2 ^ (k + 1) = c / 2 ^ (k + 1) ∧
      (c + bit * 2 ^ k) / 2 ^ k % 2 = bit := by
  have hP : 0 < 2 ^ k := Nat.two_pow_pos k
  obtain ⟨q, rfl⟩ : ∃ q, c = 2 ^ k * (2 * q) := ⟨c / 2 ^ (k + 1), by
    have := Nat.div_add_mod c (2 ^ (k + 1))
    rw [hmod, Nat.add_zero, Nat.pow_succ, Nat.mul_assoc] at this
    exact this.symm⟩
  obtain ⟨r, rfl⟩ : ∃ r, m = k + 1 + r := ⟨m - k - 1, by omega⟩
  rw [Nat.pow_add, Nat.pow_succ, Nat.mul_assoc] at hc
  rw [Nat.pow_add, Nat.pow_succ, Nat.mul_assoc]
  have hq : 2 * q < 2 * 2 ^ r := Nat.lt_of_mul_lt_mul_left hc
  rw [show 2 ^ k * (2 * q) + bit * 2 ^ k = 2 ^ k * (2 * q + bit) by rw [Nat.mul_add, Nat.mul_comm bit]]
  refine ⟨Nat.mul_lt_mul_of_pos_left (by omega) hP, Nat.mul_mod_right _ _, ?_, ?_⟩
  · rw [Nat.mul_div_mul_left _ _ hP, Nat.mul_div_mul_left _ _ hP]; omega
  · rw [Nat.mul_div_cancel_left _ hP]; omega

theorem rd_put (buf : Array Nat) (bp v i : Nat) : rd (put buf bp v) i = if i = bp then v else rd buf i := by
  unfold put
  have hs : bp < (if bp ≥ buf.size then ensureIndex buf bp else buf).size := by
    split
    · exact (size_ensure buf bp).1
    · omega
  have hr : rd (if bp ≥ buf.size then ensureIndex buf bp else buf) i = rd buf i := by
    split
    · exact rd_ensure buf bp i
    · rfl
  rw [rd_set _ _ _ _ hs, hr]
  by_cases hi : bp = i
  · rw [if_pos hi, if_pos hi.symm]
  · rw [if_neg hi, if_neg (fun hh => hi hh.symm)]

theorem size_put (buf : Array Nat) (bp v : Nat) : bp + 1 ≤ (put buf bp v).size := by
  unfold put
  rw [Array.size_setIfInBounds]
  split
  · exact (size_ensure buf bp).1
  · omega

theorem RawOk.write {p0 : Nat} {e : Enc} (h : RawOk p0 e) (v : Nat) (hv : v < 256) (hvm : rd e.buf (e.bp - 1) = 255 → v < 128) :
    RawOk p0 { e with buf := put e.buf e.bp v, bp := e.bp + 1, c := 0, ct := if v = 255 then 7 else 8 } := by
  have hrd := rd_put e.buf e.bp v
  have hsz := size_put e.buf e.bp v
  generalize put e.buf e.bp v = buf' at hrd hsz ⊢
  have hp := h.hp
  have h78 : (if v = 255 then (7 : Int) else 8) ≤ 8 := by split <;> omega
  have hect : ect (Enc.mk buf' (e.bp + 1) e.a 0 (if v = 255 then 7 else 8) e.ctx) = _ := ect_of_ct _ _ h78 rfl
  refine ⟨h.p1, Nat.le_succ_of_le hp, hsz, fun i => ?_, fun i (hi : i + 1 < e.bp + 1) (hff : rd buf' i = 255) => ?_, ?_,
    fun hh => absurd hh (ct_ne_init h78), by rw [hect]; omega, by rw [hect]; exact h78, Nat.zero_lt_succ _, Nat.zero_mod _,
    fun (hff : rd buf' e.bp = 255) => ?_, fun _ => Nat.lt_succ_of_le hp⟩
  · show rd buf' i < 256
    rw [hrd]; split
    · exact hv
    · exact h.bytes i
  · show rd buf' (i + 1) ≤ 143
    rw [hrd] at hff ⊢
    rw [if_neg (by omega)] at hff
    by_cases hi1 : i + 1 = e.bp
    · have := hvm (by rw [← hi1]; simpa using hff)
      rw [if_pos hi1]; omega
    · rw [if_neg hi1]; exact h.marker i (by omega) hff
  · show rd buf' (p0 - 1) ≠ 255
    rw [hrd, if_neg (by have := h.p1; omega)]; exact h.prev
  · rw [hrd, if_pos rfl] at hff
    rw [hect, if_pos hff]
    exact ⟨Int.le_refl _, Nat.zero_lt_succ _⟩

theorem bypassEncode_spec (p0 : Nat) (e : Enc) (h : RawOk p0 e) (bit k : Nat) (hk : ect e = (k : Int) + 1)
    (hb : bit ≤ 1) :
    ∃ e1, bypassEncode e bit = some e1 ∧ RawOk p0 e1 ∧ e1.ctx = e.ctx ∧ e1.a = e.a ∧
      ((k ≠ 0 ∧ e1.buf = e.buf ∧ e1.bp = e.bp ∧ e1.ct = (k : Int) ∧ ect e1 = (k : Int) ∧ e1.c = e.c + bit * 2 ^ k) ∨
       (k = 0 ∧ e1.bp = e.bp + 1 ∧ e1.c = 0 ∧ (∀ i, rd e1.buf i = if i = e.bp then e.c + bit else rd e.buf i) ∧
          e1.ct = (if e.c + bit = 255 then 7 else 8) ∧ ect e1 = (if e.c + bit = 255 then 7 else 8))) := by
  have hk7 : k ≤ 7 := by have := h.cthi; omega
  have hmod := h.aligned hk
  have hA := bit_arith e.c k bit 8 (by omega) hb hmod h.c8
  -- the byte behind a 0xFF has 7 bits
  have hA7 : rd e.buf (e.bp - 1) = 255 → k ≤ 6 ∧ e.c + bit * 2 ^ k < 128 := fun hff => by
    have hf := h.ff hff
    have hk6 : k ≤ 6 := by omega
    exact ⟨hk6, (bit_arith e.c k bit 7 (by omega) hb hmod hf.2).1⟩
  rw [bypassEncode_eq e bit k hk hk7 hb hA.1]
  by_cases h0 : k = 0
  · subst h0
    rw [if_pos rfl]
    simp only [Nat.pow_zero, Nat.mul_one] at hA hA7
    exact ⟨_, rfl, h.write (e.c + bit) hA.1 (fun hff => (hA7 hff).2), rfl, rfl, Or.inr ⟨rfl, rfl, rfl, rd_put _ _ _, rfl,
      ect_of_ct _ _ (by split <;> omega) rfl⟩⟩
  · rw [if_neg h0]
    have hect1 : ect ({ e with c := e.c + bit * 2 ^ k, ct := (k : Int) } : Enc) = (k : Int) := ect_of_ct _ _ (by omega) rfl
    refine ⟨_, rfl, ?_, rfl, rfl, Or.inl ⟨h0, rfl, rfl, rfl, hect1, rfl⟩⟩
    refine ⟨h.p1, h.hp, h.sz, h.bytes, h.marker, h.prev, fun hh => absurd hh (ct_ne_init (v := (k : Int)) (by omega)), by rw [hect1]; omega,
      by rw [hect1]; omega, hA.1, by rw [hect1, Int.toNat_natCast]; exact hA.2.1, ?_, ?_⟩
    · intro hff
      rw [hect1]
      exact ⟨by have := (hA7 hff).1; omega, (hA7 hff).2⟩
    · intro hh
      have hh' : (k : Int) = 8 := hh
      omega

/-- bits of an unfinished byte are pending -/
def Pend (e : Enc) : Prop := ect e < 8 ∧ ¬(ect e = 7 ∧ rd e.buf (e.bp - 1) = 255)

theorem not_pend_8 {e : Enc} (h : ect e = 8) : ¬ Pend e := fun hp => absurd hp.1 (by rw [h]; decide)

theorem pend_iff (e : Enc) : Pend e ↔ ect e < (if rd e.buf (e.bp - 1) = 255 then 7 else 8) := by
  unfold Pend; omega

theorem RawOk.boundary {p0 : Nat} {e : Enc} (h : RawOk p0 e) (hnp : ¬ Pend e) :
    ect e = (if rd e.buf (e.bp - 1) = 255 then 7 else 8) ∧ e.c = 0 := by
  have hw : ect e = (if rd e.buf (e.bp - 1) = 255 then 7 else 8) := by
    rw [pend_iff] at hnp; have := h.cthi; have := h.ff; omega
  have hc : e.c < 2 ^ (ect e).toNat := by
    rw [hw]; split
    · exact (h.ff ‹_›).2
    · exact h.c8
  exact ⟨hw, by have := h.cmod; rwa [Nat.mod_eq_of_lt hc] at this⟩

/-- agreement of the encoder state with the final buffer `Bt` of the segment (`nt` bytes from `p0`, before the
flush drops anything) -/
structure FR (p0 : Nat) (Bt : Nat → Nat) (nt : Nat) (e : Enc) : Prop where
  agree : ∀ k, p0 ≤ k → k < e.bp → rd e.buf k = Bt k
  le : e.bp ≤ p0 + nt
  pend : Pend e → e.bp < p0 + nt
  cur : e.bp < p0 + nt → Bt e.bp / 2 ^ (ect e).toNat = e.c / 2 ^ (ect e).toNat

theorem raw_enc (p0 : Nat) (Bt : Nat → Nat) (nt : Nat) (e e1 : Enc) (bit k : Nat) (h : RawOk p0 e) (hb : bit ≤ 1)
    (hk : ect e = (k : Int) + 1) (he : bypassEncode e bit = some e1) (hf : FR p0 Bt nt e1) :
    FR p0 Bt nt e ∧ e.bp < p0 + nt ∧ Bt e.bp / 2 ^ k % 2 = bit ∧
    ((k ≠ 0 ∧ Pend e1 ∧ e1.bp = e.bp ∧ ect e1 = (k : Int) ∧ e1.c = e.c + bit * 2 ^ k) ∨
     (k = 0 ∧ ¬ Pend e1 ∧ e1.bp = e.bp + 1 ∧ rd e1.buf e.bp = Bt e.bp)) := by
  obtain ⟨e1', he', _, _, _, hcase⟩ := bypassEncode_spec p0 e h bit k hk hb
  obtain rfl : e1' = e1 := Option.some.inj (he'.symm.trans he)
  have hA := bit_arith e.c k bit 8 (by have := h.cthi; omega) hb (h.aligned hk) h.c8
  have hkn : (ect e).toNat = k + 1 := by rw [hk, Int.toNat_natCast_add_one]
  rcases hcase with ⟨h0, hbuf, hbp, _, hect, hc⟩ | ⟨h0, hbp, _, hrd, _, hect⟩
  · have hpend : Pend e1' := by
      rw [pend_iff, hect, hbuf, hbp]; have := h.cthi; have := h.ff; omega
    have hlt := hf.pend hpend
    have hc1 := hf.cur hlt
    rw [hbp] at hlt
    rw [hect, hbp, hc, Int.toNat_natCast] at hc1
    refine ⟨⟨fun j hj1 hj2 => by rw [← hbuf]; exact hf.agree j hj1 (by rw [hbp]; exact hj2), Nat.le_of_lt hlt, fun _ => hlt,
      fun _ => ?_⟩, hlt, ?_, Or.inl ⟨h0, hpend, hbp, hect, hc⟩⟩
    · rw [hkn, Nat.div_two_pow_succ, hc1, ← Nat.div_two_pow_succ, hA.2.2.1]
    · rw [hc1, hA.2.2.2]
  · subst h0
    have hag := hf.agree e.bp h.hp (by rw [hbp]; omega)
    rw [hrd, if_pos rfl] at hag
    have hlt : e.bp < p0 + nt := by have := hf.le; omega
    simp only [Nat.pow_zero, Nat.mul_one] at hA
    refine ⟨⟨fun j hj1 hj2 => ?_, Nat.le_of_lt hlt, fun _ => hlt, fun _ => by rw [hkn, ← hag]; exact hA.2.2.1⟩, hlt,
      by rw [← hag]; exact hA.2.2.2, Or.inr ⟨rfl, ?_, hbp, by rw [hrd, if_pos rfl]; exact hag⟩⟩
    · have := hf.agree j hj1 (by rw [hbp]; omega)
      rw [hrd, if_neg (by omega)] at this
      exact this
    · rw [pend_iff, hect, hbp, Nat.add_sub_cancel, hrd, if_pos rfl]; exact Int.lt_irrefl _

theorem raw_back (p0 : Nat) (Bt : Nat → Nat) (nt : Nat) (e e1 : Enc) (bit : Nat) (h : RawOk p0 e) (hb : bit ≤ 1)
    (he : bypassEncode e bit = some e1) (hf : FR p0 Bt nt e1) : FR p0 Bt nt e := by
  obtain ⟨k, hk, _⟩ := ect_nat p0 e h
  exact (raw_enc p0 Bt nt e e1 bit k h hb hk he hf).1

structure DataOk (p0 : Nat) (Bt : Nat → Nat) (n : Nat) (d : Dec) : Prop where
  size : d.data.size = n + 2
  body : ∀ k, k < n → rd d.data k = Bt (p0 + k)
  s1 : rd d.data n = 255
  s2 : rd d.data (n + 1) = 255

theorem DataOk.congr {p0 : Nat} {Bt : Nat → Nat} {n : Nat} {d d1 : Dec} (h : DataOk p0 Bt n d)
    (hd : d1.data = d.data) : DataOk p0 Bt n d1 :=
  ⟨by rw [hd]; exact h.size, by rw [hd]; exact h.body, by rw [hd]; exact h.s1, by rw [hd]; exact h.s2⟩

/-- lock-step relation of writer and reader: at a byte boundary, inside a byte, or in the tail where the reader
feeds on the sentinel instead of a dropped 0xFF 0x7F -/
def RR (p0 : Nat) (Bt : Nat → Nat) (nt drop : Nat) (e : Enc) (d : Dec) : Prop :=
  DataOk p0 Bt (nt - drop) d ∧
  ((¬ Pend e ∧ d.ct = 0 ∧ d.bp = e.bp - p0 ∧ (d.c = 255 ↔ rd e.buf (e.bp - 1) = 255)) ∨
   (Pend e ∧ d.ct = ect e ∧ d.bp = e.bp - p0 + 1 ∧ d.c = Bt e.bp) ∨
   (drop = 2 ∧ d.c = 255 ∧ d.bp = nt - 2 + 1 ∧
     ((e.bp = p0 + nt - 1 ∧ Pend e ∧ d.ct = ect e + 1 ∧ e.c + 2 ^ (ect e).toNat = 128) ∨ (e.bp = p0 + nt ∧ d.ct = 1))))

/-- what the flush does to the final buffer: it drops nothing, a trailing 0xFF, or a trailing 0xFF 0x7F -/
structure RawFin (p0 : Nat) (Bt : Nat → Nat) (nt drop : Nat) : Prop where
  dle : drop ≤ nt
  d2 : drop ≤ 2
  d1 : drop = 1 → Bt (p0 + nt - 1) = 255
  d2a : drop = 2 → Bt (p0 + nt - 2) = 255 ∧ Bt (p0 + nt - 1) = 127
  bytes : ∀ i, Bt i < 256

theorem rawDecode_mid (d : Dec) (m : Nat) (hm : d.ct = (m : Int) + 1) (h32 : m < 32) :
    rawDecode d = some (d.c / 2 ^ m % 2, { d with ct := (m : Int) }) := by
  unfold rawDecode
  rw [if_neg (show ¬(d.ct = 0 ∧ d.bp ≥ d.data.size) from fun hh => by omega)]
  simp only [if_neg (show ¬(d.ct = 0) by omega)]
  simp only [hm, show ((m : Int) + 1 - 1) = (m : Int) by omega, show ¬((m : Int) < 0) by omega, Int.toNat_natCast,
    show ¬(m ≥ 32) by omega, if_false]

theorem rawDecode_load (d : Dec) (h0 : d.ct = 0) (hbp : d.bp < d.data.size) :
    rawDecode d = rawDecode
      (if d.c = 255 then
        if rd d.data d.bp > 143 then { d with c := 255, ct := 8 }
        else { d with c := rd d.data d.bp, bp := d.bp + 1, ct := 7 }
      else { d with c := rd d.data d.bp, bp := d.bp + 1, ct := 8 }) := by
  conv => lhs; unfold rawDecode
  rw [if_neg (show ¬(d.ct = 0 ∧ d.bp ≥ d.data.size) from fun hh => by omega)]
  simp only [h0, if_true, rd_some _ _ hbp]
  by_cases hc : d.c = 255
  · by_cases hn : rd d.data d.bp > 143
    · simp only [hc, hn, if_true]
      exact (rawDecode_mid { d with c := 255, ct := 8 } 7 rfl (by decide)).symm
    · simp only [hc, hn, if_true, if_false]
      exact (rawDecode_mid { d with c := rd d.data d.bp, bp := d.bp + 1, ct := 7 } 6 rfl (by decide)).symm
  · simp only [hc, if_false]
    exact (rawDecode_mid { d with c := rd d.data d.bp, bp := d.bp + 1, ct := 8 } 7 rfl (by decide)).symm

theorem DataOk.next {p0 : Nat} {Bt : Nat → Nat} {nt drop : Nat} {d : Dec} (hD : DataOk p0 Bt (nt - drop) d)
    (hfin : RawFin p0 Bt nt drop) (b : Nat) (hb : p0 ≤ b) (hlt : b < p0 + nt) (hle : b - p0 ≤ nt - drop) :
    rd d.data (b - p0) = Bt b := by
  have hdle := hfin.dle
  have hd2 := hfin.d2
  rcases Nat.lt_or_ge (b - p0) (nt - drop) with h | h
  · rw [hD.body _ h, show p0 + (b - p0) = b by omega]
  · rw [show b - p0 = nt - drop by omega, hD.s1]
    rcases (show drop = 1 ∨ drop = 2 by omega) with h1 | h2
    · rw [show b = p0 + nt - 1 by omega]; exact (hfin.d1 h1).symm
    · rw [show b = p0 + nt - 2 by omega]; exact (hfin.d2a h2).1.symm

/-- the reader holds the byte the writer is filling, or, in the tail, the 0xFF sentinel where the writer fills
the 0x7F that will be dropped -/
def RMid (p0 : Nat) (Bt : Nat → Nat) (nt drop : Nat) (e : Enc) (d : Dec) : Prop :=
  DataOk p0 Bt (nt - drop) d ∧
  ((d.ct = ect e ∧ d.bp = e.bp - p0 + 1 ∧ d.c = Bt e.bp) ∨
   (drop = 2 ∧ d.c = 255 ∧ d.bp = nt - 2 + 1 ∧ e.bp = p0 + nt - 1 ∧ d.ct = ect e + 1 ∧
     e.c + 2 ^ (ect e).toNat = 128))

theorem raw_load (p0 : Nat) (Bt : Nat → Nat) (nt drop : Nat) (hfin : RawFin p0 Bt nt drop) (e : Enc) (d : Dec)
    (h : RawOk p0 e) (hr : RR p0 Bt nt drop e d) (hF : FR p0 Bt nt e)
    (hlt : e.bp < p0 + nt) : ∃ d', rawDecode d = rawDecode d' ∧ RMid p0 Bt nt drop e d' := by
  obtain ⟨hD, hrc⟩ := hr
  have hp0 := h.hp
  rcases hrc with ⟨hnp, hct, hdbp, hciff⟩ | ⟨_, hmid⟩ | ⟨hd2, hdc, hdbp, ⟨hebp, htail⟩ | ⟨hebp, _⟩⟩
  · obtain ⟨hw, hc0⟩ := h.boundary hnp
    have hdle := hfin.dle
    have hdrop := hfin.d2
    rw [rawDecode_load d hct (by rw [hdbp, hD.size]; omega)]
    refine ⟨_, rfl, ?_⟩
    by_cases hq : e.bp - p0 = nt - drop + 1
    · -- behind a dropped 0xFF: the 0x7F that is dropped with it; the reader stays on the sentinel
      obtain ⟨hdr, h2, h3, h4⟩ : drop = 2 ∧ p0 + nt - 2 = e.bp - 1 ∧ p0 ≤ e.bp - 1 ∧ e.bp - 1 < e.bp := by
        clear hciff hw -- `omega` would split on both
        omega
      have hprev := (hfin.d2a hdr).1
      rw [h2, ← hF.agree (e.bp - 1) h3 h4] at hprev
      rw [if_pos hprev] at hw
      rw [if_pos (hciff.mpr hprev), if_pos (by rw [hdbp, hq, hD.s2]; decide)]
      exact ⟨hD.congr rfl, Or.inr ⟨hdr, rfl, by show d.bp = _; rw [hdbp, hq, hdr], by omega, by rw [hw]; rfl,
        by rw [hw, hc0]; rfl⟩⟩
    · have hnext : rd d.data d.bp = Bt e.bp := by
        rw [hdbp]; exact hD.next hfin e.bp hp0 hlt (by omega)
      rw [hnext]
      by_cases hff : rd e.buf (e.bp - 1) = 255
      · -- the register is empty, so all of the byte to come is below bit 7: no marker
        have hcur := hF.cur hlt
        rw [if_pos hff] at hw
        rw [hw, hc0] at hcur
        rw [if_pos (hciff.mpr hff), if_neg (by have : Bt e.bp / 128 = 0 := hcur; omega)]
        exact ⟨hD.congr rfl, Or.inl ⟨hw.symm, by show d.bp + 1 = _; rw [hdbp], rfl⟩⟩
      · rw [if_neg hff] at hw
        rw [if_neg (fun hh => hff (hciff.mp hh))]
        exact ⟨hD.congr rfl, Or.inl ⟨hw.symm, by show d.bp + 1 = _; rw [hdbp], rfl⟩⟩
  · exact ⟨d, rfl, hD, Or.inl hmid⟩
  · exact ⟨d, rfl, hD, Or.inr ⟨hd2, hdc, hdbp, hebp, htail.2⟩⟩
  · omega

theorem ones_bits : ∀ k, k ≤ 6 → 255 / 2 ^ (k + 1) % 2 = 1 ∧ 127 / 2 ^ k % 2 = 1 := by decide

theorem raw_mid (p0 : Nat) (Bt : Nat → Nat) (nt drop : Nat) (hfin : RawFin p0 Bt nt drop) (e e1 : Enc) (d : Dec)
    (bit k : Nat) (h : RawOk p0 e) (hk : ect e = (k : Int) + 1) (hm : RMid p0 Bt nt drop e d)
    (hbit : Bt e.bp / 2 ^ k % 2 = bit)
    (hcase : (k ≠ 0 ∧ Pend e1 ∧ e1.bp = e.bp ∧ ect e1 = (k : Int) ∧ e1.c = e.c + bit * 2 ^ k) ∨
      (k = 0 ∧ ¬ Pend e1 ∧ e1.bp = e.bp + 1 ∧ rd e1.buf e.bp = Bt e.bp)) :
    ∃ d1, rawDecode d = some (bit, d1) ∧ RR p0 Bt nt drop e1 d1 := by
  obtain ⟨hD, hm⟩ := hm
  have hk7 : k ≤ 7 := by have := h.cthi; omega
  rcases hm with ⟨hct, hdbp, hdc⟩ | ⟨hd2, hdc, hdbp, hebp, hct, hcsum⟩
  · rw [rawDecode_mid d k (by rw [hct, hk]) (by omega)]
    refine ⟨{ d with ct := (k : Int) }, by rw [hdc, hbit], hD.congr rfl, ?_⟩
    rcases hcase with ⟨_, hp1, hbp, hect, _⟩ | ⟨rfl, hnp, hbp, hrd⟩
    · exact Or.inr (Or.inl ⟨hp1, hect.symm, by rw [hbp]; exact hdbp, by rw [hbp]; exact hdc⟩)
    · refine Or.inl ⟨hnp, rfl, ?_, ?_⟩
      · show d.bp = e1.bp - p0; rw [hbp, hdbp]; have := h.hp; omega
      · show d.c = 255 ↔ _; rw [hbp, Nat.add_sub_cancel, hrd, hdc]
  · rw [hk, Int.toNat_natCast_add_one, Nat.pow_succ] at hcsum
    have hk6 : k + 1 ≤ 7 := (Nat.pow_le_pow_iff_right (a := 2) (by decide)).mp (by rw [Nat.pow_succ]; show _ ≤ 128; omega)
    obtain ⟨h255, h127⟩ := ones_bits k (Nat.le_of_succ_le_succ hk6)
    rw [hebp, (hfin.d2a hd2).2, h127] at hbit
    subst hbit
    rw [rawDecode_mid d (k + 1) (by rw [hct, hk]; omega) (by omega)]
    refine ⟨{ d with ct := ((k + 1 : Nat) : Int) }, by rw [hdc, h255], hD.congr rfl, Or.inr (Or.inr ⟨hd2, hdc, hdbp, ?_⟩)⟩
    rcases hcase with ⟨_, hp1, hbp, hect, hc⟩ | ⟨rfl, _, hbp, _⟩
    · refine Or.inl ⟨by rw [hbp]; exact hebp, hp1, ?_, ?_⟩
      · show ((k + 1 : Nat) : Int) = ect e1 + 1; rw [hect]; omega
      · rw [hect, hc, Int.toNat_natCast, Nat.one_mul]; omega
    · exact Or.inr ⟨by rw [hbp, hebp]; have := hfin.dle; omega, rfl⟩

theorem raw_step (p0 : Nat) (Bt : Nat → Nat) (nt drop : Nat) (hfin : RawFin p0 Bt nt drop) (e e1 : Enc) (d : Dec)
    (bit : Nat) (h : RawOk p0 e) (hb : bit ≤ 1) (hr : RR p0 Bt nt drop e d) (he : bypassEncode e bit = some e1)
    (hf : FR p0 Bt nt e1) : ∃ d1, rawDecode d = some (bit, d1) ∧ RR p0 Bt nt drop e1 d1 := by
  obtain ⟨k, hk, _⟩ := ect_nat p0 e h
  obtain ⟨hF, hlt, hbit, hcase⟩ := raw_enc p0 Bt nt e e1 bit k h hb hk he hf
  obtain ⟨d', hd', hm⟩ := raw_load p0 Bt nt drop hfin e d h hr hF hlt
  rw [hd']
  exact raw_mid p0 Bt nt drop hfin e e1 d' bit k h hk hm hbit hcase

theorem raw_init (p0 : Nat) (Bt : Nat → Nat) (nt drop : Nat) (e : Enc) (h : RawOk p0 e) (hi : e.ct = bypassCtInit)
    (seg : List Nat) (hlen : seg.length = nt - drop) (hseg : ∀ k, k < nt - drop → seg[k]? = some (Bt (p0 + k))) :
    RR p0 Bt nt drop e (Dec.newRaw seg) := by
  have hbp := (h.init hi).2
  have hect : ect e = 8 := by unfold ect; rw [if_pos hi]
  have hrdd : ∀ k, rd (seg ++ [0xFF, 0xFF]).toArray k = ((seg ++ [0xFF, 0xFF])[k]?).getD 0 := by
    intro k; unfold rd; rw [List.getElem?_toArray]
  refine ⟨⟨?_, ?_, ?_, ?_⟩, Or.inl ⟨not_pend_8 hect, rfl, ?_, ?_⟩⟩
  · show (seg ++ [0xFF, 0xFF]).toArray.size = _
    simp only [List.size_toArray, List.length_append, List.length_cons, List.length_nil]; omega
  · intro k hk
    show rd (seg ++ [0xFF, 0xFF]).toArray k = _
    rw [hrdd, List.getElem?_append_left (by omega), hseg k hk]; rfl
  · show rd (seg ++ [0xFF, 0xFF]).toArray (nt - drop) = _
    rw [hrdd, List.getElem?_append_right (by omega), hlen, Nat.sub_self]; rfl
  · show rd (seg ++ [0xFF, 0xFF]).toArray (nt - drop + 1) = _
    rw [hrdd, List.getElem?_append_right (by omega), hlen, show nt - drop + 1 - (nt - drop) = 1 by omega]; rfl
  · show 0 = e.bp - p0; omega
  · show (0 : Nat) = 255 ↔ _
    rw [hbp]
    constructor
    · intro hh; exact absurd hh (by decide)
    · intro hh; exact absurd hh h.prev

/-- the alternating padding 0,1,0,… below bit `k` (1,0,1,… for `bv = 1`) is a third of `2^k` (of `2^(k+1)`) -/
theorem pad_eq : ∀ (k c bv : Nat), k ≤ 8 → bv ≤ 1 → c + 2 ^ k ≤ 1024 → bypassFlushEnc.pad k c bv = c + 2 ^ (k + bv) / 3 := by
  intro k
  induction k with
  | zero => intro c bv _ hbv _; rcases (show bv = 0 ∨ bv = 1 by omega) with rfl | rfl <;> rfl
  | succ k ih =>
    intro c bv hk hbv hc
    rw [Nat.pow_succ] at hc
    have hbvp : bv * 2 ^ k ≤ 1 * 2 ^ k := Nat.mul_le_mul_right _ hbv
    rw [bypassFlushEnc.pad, shl32_bit bv k hbv (by omega), show u32 (c + bv * 2 ^ k) = c + bv * 2 ^ k from Nat.mod_eq_of_lt (by omega),
      ih _ _ (by omega) (by split <;> omega) (by omega)]
    rcases (show bv = 0 ∨ bv = 1 by omega) with rfl | rfl
    · simp
    · simp only [Nat.one_mul, if_neg (show ¬(1 = 0) by decide), Nat.add_zero, Nat.pow_succ]; omega

/-- state after `BypassFlushEnc`: a finished stream whose last byte is not 0xFF -/
structure RawEnd (p0 : Nat) (e ef : Enc) : Prop where
  bp1 : p0 ≤ ef.bp
  sz : ef.bp ≤ ef.buf.size
  bytes : ∀ i, rd ef.buf i < 256
  marker : ∀ i, i + 1 < ef.bp → rd ef.buf i = 255 → rd ef.buf (i + 1) ≤ 143
  last : rd ef.buf (ef.bp - 1) ≠ 255
  frozen : ∀ j, j < p0 → rd ef.buf j = rd e.buf j
  ctx : ef.ctx = e.ctx

theorem RawEnd.termOk {p0 : Nat} {e ef : Enc} (h : RawEnd p0 e ef) (hp : 1 ≤ ef.bp) (ctx : Array Nat) (hc : CtxOk ctx) :
    T1.TermOk { ef with ctx := ctx } :=
  ⟨hp, h.sz, h.bytes, h.marker, h.last, hc⟩

/-- the padding `2^k / 3` is below `2^(k-1)`: under a multiple of `2^k` it leaves the bits from `k` on alone and bit `k - 1` zero,
so the padded byte is never 0xFF and stays below 0x80 where it has to; the seven widths are checked one by one -/
theorem pad_byte (c k : Nat) (hk1 : 1 ≤ k) (hk : k ≤ 7) (hc : c < 256) (hmod : c % 2 ^ k = 0) :
    c + 2 ^ k / 3 < 256 ∧ (c + 2 ^ k / 3) / 2 ^ k = c / 2 ^ k ∧ c + 2 ^ k / 3 ≠ 255 ∧ (c < 128 → c + 2 ^ k / 3 < 128) := by
  have hk' : k = 1 ∨ k = 2 ∨ k = 3 ∨ k = 4 ∨ k = 5 ∨ k = 6 ∨ k = 7 := by omega
  rcases hk' with rfl | rfl | rfl | rfl | rfl | rfl | rfl <;> simp only [Nat.reducePow, Nat.reduceDiv] at hmod ⊢ <;> omega

/-- `BypassFlushEnc` with the reads inside the buffer -/
theorem bypassFlushEnc_form (e : Enc) (erterm : Bool) (hbp : 0 < e.bp) (hsz : e.bp ≤ e.buf.size) :
    bypassFlushEnc e erterm =
      if e.ct < 7 ∨ (e.ct = 7 ∧ (erterm = true ∨ rd e.buf (e.bp - 1) ≠ 255)) then
        some { e with buf := put e.buf e.bp (u8 (bypassFlushEnc.pad e.ct.toNat e.c 0)), bp := e.bp + 1, c := bypassFlushEnc.pad e.ct.toNat e.c 0, ct := if e.ct > 0 then 0 else e.ct }
      else if e.ct = 7 then some { e with bp := e.bp - 1 }
      else some (if e.ct = 8 ∧ erterm = false ∧ e.bp > 1 ∧ rd e.buf (e.bp - 1) = 0x7F ∧ rd e.buf (e.bp - 2) = 0xFF then
        { e with bp := e.bp - 2 } else e) := by
  unfold bypassFlushEnc
  have h1 : e.buf[e.bp - 1]? = some (rd e.buf (e.bp - 1)) := rd_some _ _ (by omega)
  simp only [h1, if_pos hbp, Option.map_some, Option.isNone_some, Bool.false_eq_true, and_false, if_false, Option.getD_some]
  simp only [gt_iff_lt, hbp, true_and, and_true, decide_eq_true_eq, Bool.not_eq_true]
  by_cases hpad : e.ct < 7 ∨ (e.ct = 7 ∧ (erterm = true ∨ rd e.buf (e.bp - 1) ≠ 255))
  · simp only [if_pos hpad]
    rfl
  · simp only [if_neg hpad]
    by_cases h7 : e.ct = 7
    · have hff : rd e.buf (e.bp - 1) = 255 := Decidable.byContradiction fun h' => hpad (Or.inr ⟨h7, Or.inr h'⟩)
      have het : erterm = false := by
        cases erterm with
        | false => rfl
        | true => exact absurd (Or.inr ⟨h7, Or.inl rfl⟩) hpad
      simp only [if_pos h7, if_pos hff, if_pos het]
    · simp only [if_neg h7]
      by_cases hc : e.ct = 8 ∧ erterm = false ∧ 1 < e.bp
      · have h2 : e.buf[e.bp - 2]? = some (rd e.buf (e.bp - 2)) := rd_some _ _ (by omega)
        simp only [hc, and_self, if_true, h2, true_and]
      · rw [if_neg hc, if_neg (fun hh => hc ⟨hh.1, hh.2.1, hh.2.2.1⟩)]
theorem raw_drop (p0 : Nat) (e : Enc) (h : RawOk p0 e) (drop : Nat) (hnp : ¬ Pend e) (hd : p0 + drop ≤ e.bp)
    (h0 : drop = 0 → rd e.buf (e.bp - 1) ≠ 255) (h1 : drop = 1 → rd e.buf (e.bp - 1) = 255)
    (h2 : drop = 2 → rd e.buf (e.bp - 2) = 255 ∧ rd e.buf (e.bp - 1) = 127) (hd2 : drop ≤ 2) :
    ∃ ef Bt nt drop', some { e with bp := e.bp - drop } = some ef ∧ RawFin p0 Bt nt drop' ∧ FR p0 Bt nt e ∧
      RawEnd p0 e ef ∧ ef.bp = p0 + nt - drop' ∧ (∀ k, p0 ≤ k → k < ef.bp → rd ef.buf k = Bt k) := by
  have hp1 := h.p1
  have hsz := h.sz
  refine ⟨_, rd e.buf, e.bp - p0, drop, rfl, ⟨by omega, hd2, fun hh => ?_, fun hh => ?_, h.bytes⟩,
    ⟨fun _ _ _ => rfl, by omega, fun hp => absurd hp hnp, fun hh => by omega⟩,
    ⟨by show p0 ≤ e.bp - drop; omega, by show e.bp - drop ≤ e.buf.size; omega, h.bytes,
      fun i hi => h.marker i (by have : i + 1 < e.bp - drop := hi; omega), ?_, fun _ _ => rfl, rfl⟩,
    by show e.bp - drop = _; omega, fun _ _ _ => rfl⟩
  · rw [Nat.add_sub_cancel' h.hp]; exact h1 hh
  · rw [Nat.add_sub_cancel' h.hp]; exact h2 hh
  · -- the byte in front of a dropped 0xFF is no 0xFF, since a 0xFF is followed by a byte ≤ 0x8F
    show rd e.buf (e.bp - drop - 1) ≠ 255
    intro hh
    rcases (show drop = 0 ∨ drop = 1 ∨ drop = 2 by omega) with rfl | rfl | rfl
    · exact h0 rfl hh
    · have := h.marker (e.bp - 1 - 1) (by omega) hh
      rw [show e.bp - 1 - 1 + 1 = e.bp - 1 by omega, h1 rfl] at this
      omega
    · have := h.marker (e.bp - 2 - 1) (by omega) hh
      rw [show e.bp - 2 - 1 + 1 = e.bp - 2 by omega, (h2 rfl).1] at this
      omega

theorem raw_flush_facts (p0 : Nat) (e : Enc) (h : RawOk p0 e) (erterm : Bool) :
    ∃ ef Bt nt drop, bypassFlushEnc e erterm = some ef ∧ RawFin p0 Bt nt drop ∧ FR p0 Bt nt e ∧ RawEnd p0 e ef ∧
      ef.bp = p0 + nt - drop ∧ (∀ k, p0 ≤ k → k < ef.bp → rd ef.buf k = Bt k) := by
  have hp0 := h.hp
  have hp1 := h.p1
  rw [bypassFlushEnc_form e erterm (by omega) h.sz]
  by_cases hpad : e.ct < 7 ∨ (e.ct = 7 ∧ (erterm = true ∨ rd e.buf (e.bp - 1) ≠ 255))
  · rw [if_pos hpad]
    have hle : e.ct ≤ 7 := by rcases hpad with h1 | ⟨h1, _⟩ <;> omega
    have hect : ect e = e.ct := ect_of_ct e _ (by omega) rfl
    obtain ⟨k, hk, _⟩ := ect_nat p0 e h
    have hmod := h.aligned hk
    rw [hect] at hk
    have hp256 : 2 ^ (k + 1) ≤ 256 := by
      have := pow_le_128 k (by omega); rw [Nat.pow_succ]; omega
    have hc8 := h.c8
    have hpb := pad_byte e.c (k + 1) (by omega) (by omega) h.c8 hmod
    rw [show e.ct.toNat = k + 1 by omega, pad_eq (k + 1) e.c 0 (by omega) (by omega) (by omega), Nat.add_zero]
    generalize 2 ^ (k + 1) / 3 = r at hpb ⊢
    rw [show u8 (e.c + r) = e.c + r from Nat.mod_eq_of_lt hpb.1, if_pos (show e.ct > 0 by omega)]
    have hw := h.write (e.c + r) hpb.1 (fun hff => hpb.2.2.2 (h.ff hff).2)
    have hrd := rd_put e.buf e.bp (e.c + r)
    generalize put e.buf e.bp (e.c + r) = buf' at *
    have hpre : ∀ j, j < e.bp → rd buf' j = rd e.buf j := fun j hj => by rw [hrd, if_neg (by omega)]
    refine ⟨_, rd buf', e.bp + 1 - p0, 0, rfl,
      ⟨by omega, by omega, fun hh => absurd hh (by decide), fun hh => absurd hh (by decide), hw.bytes⟩,
      ⟨fun j _ hj => (hpre j hj).symm, by omega, fun _ => by omega, fun _ => ?_⟩,
      ⟨hw.hp, hw.sz, hw.bytes, hw.marker, by show rd buf' e.bp ≠ 255; rw [hrd, if_pos rfl]; exact hpb.2.2.1,
        fun j hj => hpre j (by omega), rfl⟩,
      (Nat.add_sub_cancel' hw.hp).symm, fun _ _ _ => rfl⟩
    rw [hrd, if_pos rfl, hect, hk, Int.toNat_natCast_add_one]; exact hpb.2.1
  · rw [if_neg hpad]
    by_cases h7 : e.ct = 7
    · have hff : rd e.buf (e.bp - 1) = 255 := Decidable.byContradiction fun h' => hpad (Or.inr ⟨h7, Or.inr h'⟩)
      rw [if_pos h7]
      exact raw_drop p0 e h 1 (fun hp => hp.2 ⟨ect_of_ct e 7 (by decide) h7, hff⟩)
        (Decidable.byContradiction fun h' => h.prev (by rw [show p0 - 1 = e.bp - 1 by omega]; exact hff))
        (fun hh => absurd hh (by decide)) (fun _ => hff) (fun hh => absurd hh (by decide)) (by decide)
    · rw [if_neg h7]
      -- the counter is 8, or still the start sentinel, which `ect` reads as 8
      have h8 : ect e = 8 := by
        have hlo := h.ctlo
        have hhi := h.cthi
        have : ¬ e.ct < 7 := fun hh => hpad (Or.inl hh)
        unfold ect at hlo hhi ⊢
        split at hlo <;> omega
      have hnp := not_pend_8 h8
      by_cases hd : e.ct = 8 ∧ erterm = false ∧ e.bp > 1 ∧ rd e.buf (e.bp - 1) = 0x7F ∧ rd e.buf (e.bp - 2) = 0xFF
      · rw [if_pos hd]
        have hgt := h.first hd.1
        exact raw_drop p0 e h 2 hnp
          (Decidable.byContradiction fun h' => h.prev (by rw [show p0 - 1 = e.bp - 2 by omega]; exact hd.2.2.2.2))
          (fun hh => absurd hh (by decide)) (fun hh => absurd hh (by decide)) (fun _ => ⟨hd.2.2.2.2, hd.2.2.2.1⟩) (by decide)
      · rw [if_neg hd]
        exact raw_drop p0 e h 0 hnp (by omega) (fun _ hh => by have := (h.ff hh).1; omega)
          (fun hh => absurd hh (by decide)) (fun hh => absurd hh (by decide)) (by decide)

end Mqc
