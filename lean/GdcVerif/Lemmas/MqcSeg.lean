import GdcVerif.Lemmas.MqcRoundtrip
/-!
  Codeword segments of the MQ encoder: while a segment that started at buffer position `p0` (its first byte goes to
  `p0 + 1`) is being coded, the bytes at positions `≤ p0` are never touched — in particular the first byte-out of a
  segment carries nothing into the byte before it (`c + a ≤ 2^27` until then).  A segment starts with a fresh coder or
  with `RestartInitEnc` after a termination (`seg_restart`); `Encode` keeps the coder inside it (`seg_encode`).
-/
namespace Mqc

/-- `e` is inside the segment that started at position `p0` with buffer `b0` -/
def InSeg (p0 : Nat) (b0 : Array Nat) (e : Enc) : Prop :=
  (∀ j, j ≤ p0 → rd e.buf j = rd b0 j) ∧
  ((e.bp = p0 ∧ (e.c + e.a) * 2 ^ e.ct.toNat ≤ 134217728) ∨ (p0 < e.bp ∧ e.ct ≤ 8))

theorem InSeg.pre {p0 : Nat} {b0 : Array Nat} {e : Enc} (hs : InSeg p0 b0 e) : ∀ j, j ≤ p0 → rd e.buf j = rd b0 j := hs.1

theorem InSeg.start (e : Enc) (h : (e.c + e.a) * 2 ^ e.ct.toNat ≤ 134217728) : InSeg e.bp e.buf e :=
  ⟨fun _ _ => rfl, Or.inl ⟨rfl, h⟩⟩

theorem restartInitEnc_eq (e : Enc) (hbp : 1 ≤ e.bp) (hnf : e.buf[e.bp - 1]? ≠ some 0xFF) :
    restartInitEnc e = { e with a := 0x8000, c := 0, ct := 12, bp := e.bp - 1 } := by
  unfold restartInitEnc
  have hb : (if e.bp > start - 1 then e.bp - 1 else e.bp) = e.bp - 1 := by rw [if_pos (by unfold start; omega)]
  simp only [hb, if_neg hnf]

theorem seg_restart (e : Enc) (hbp : 1 ≤ e.bp) (hnf : e.buf[e.bp - 1]? ≠ some 0xFF) :
    InSeg (e.bp - 1) e.buf (restartInitEnc e) := by
  rw [restartInitEnc_eq e hbp hnf]
  exact InSeg.start { e with a := 0x8000, c := 0, ct := 12, bp := e.bp - 1 }
    (show (0 + 32768) * 2 ^ (12 : Int).toNat ≤ 134217728 by decide)

theorem InSeg.le {p0 : Nat} {b0 : Array Nat} {e : Enc} (hs : InSeg p0 b0 e) : p0 ≤ e.bp := by
  rcases hs.2 with ⟨h', _⟩ | ⟨h', _⟩ <;> omega

theorem InSeg.bound {p0 : Nat} {b0 : Array Nat} {e : Enc} (hs : InSeg p0 b0 e) (hb : e.bp = p0) :
    (e.c + e.a) * 2 ^ e.ct.toNat ≤ 134217728 := by
  rcases hs.2 with ⟨_, h'⟩ | ⟨h', _⟩
  · exact h'
  · omega

/-- `InSeg` sees `a`, `c`, `ct` through the scaled upper end of the interval only (and `ct` not going up) -/
theorem InSeg.mono {p0 : Nat} {b0 : Array Nat} {e : Enc} (hs : InSeg p0 b0 e) (e2 : Enc) (hbuf : e2.buf = e.buf)
    (hbp : e2.bp = e.bp) (hct : e2.ct ≤ e.ct) (hle : (e2.c + e2.a) * 2 ^ e2.ct.toNat ≤ (e.c + e.a) * 2 ^ e.ct.toNat) :
    InSeg p0 b0 e2 := by
  refine ⟨fun j hj => hbuf ▸ hs.1 j hj, ?_⟩
  rcases hs.2 with ⟨h1, h2⟩ | ⟨h1, h2⟩
  · exact Or.inl ⟨hbp.trans h1, Nat.le_trans hle h2⟩
  · exact Or.inr ⟨hbp ▸ h1, Int.le_trans hct h2⟩

theorem FA.no_carry {B : Nat → Nat} {last : Nat} {buf : Array Nat} {bp q u : Nat} (hf : FA B last buf bp q u)
    (hu : u ≤ 134217728) : B bp = rd buf bp := by
  have h0 := hf.up 0
  unfold Up Rv Wd Seg at h0
  simp only [Nat.pow_zero, Nat.mul_one, Nat.add_zero] at h0
  rcases hf.cur with h | h
  · exact h
  · rw [h] at h0; omega

theorem InSeg.final {p0 : Nat} {b0 : Array Nat} {e : Enc} {B : Nat → Nat} {last : Nat} (hs : InSeg p0 b0 e)
    (hf : FE B last e) : ∀ j, j ≤ p0 → B j = rd b0 j := by
  intro j hj
  rw [← hs.pre j hj]
  rcases Nat.lt_or_ge j e.bp with h | h
  · exact (hf.stable j h).symm
  · have hb : e.bp = p0 := by have := hs.le; omega
    rw [show j = e.bp by omega]
    exact hf.no_carry (hs.bound hb)

theorem seg_byteout (p0 : Nat) (b0 : Array Nat) {e e2 : Enc} {w nb δ : Nat} (hE : Emitted e e2 w nb δ)
    (hfr : ∀ j, j ≤ p0 → rd e.buf j = rd b0 j) (hp : p0 ≤ e.bp) (h0 : e.bp = p0 → e.c < 134217728) : InSeg p0 b0 e2 := by
  have hbp2 := hE.bp
  refine ⟨fun j hj => ?_, Or.inr ⟨by omega, by have := hE.ct78; omega⟩⟩
  rcases Nat.lt_or_ge j e.bp with hlt | hge
  · rw [hE.pre j hlt]; exact hfr j hj
  · have hjb : j = e.bp := by omega
    have hbp0 : e.bp = p0 := by omega
    have hc := h0 hbp0
    have hδ0 : δ = 0 := by
      have := hE.carry_le
      omega
    rw [hjb, hE.cur, hδ0, Nat.add_zero]
    exact hfr e.bp (by omega)

theorem seg_renormeLoop (p0 : Nat) (b0 : Array Nat) (fuel : Nat) (e e' : Enc) (h : RegOk e)
    (he : renormeLoop fuel e = some e') (hs : InSeg p0 b0 e) : InSeg p0 b0 e' := by
  refine renormeLoop_induct (P := fun _ e => InSeg p0 b0 e → InSeg p0 b0 e') e' (fun _ _ hs => hs) ?_ fuel e h he hs
  intro _ e e2 h _ hst ih hs
  apply ih
  rcases hst.out with ⟨_, rfl⟩ | ⟨hct, w, nb, δ, hE⟩
  · exact hs.mono _ rfl rfl (by show e.ct - 1 ≤ e.ct; omega) (Nat.le_of_eq (scale_step _ _ _ h.ctlo))
  · refine seg_byteout p0 b0 hE hs.pre hs.le (fun hbp => ?_)
    have h' := hs.bound hbp
    rw [← scale_step _ _ _ h.ctlo, hct, show (2:Nat) ^ (0:Int).toNat = 1 from rfl, Nat.mul_one] at h'
    exact Nat.lt_of_lt_of_le (Nat.lt_add_of_pos_right (Nat.mul_pos h.apos (by decide))) h'

theorem seg_encode (p0 : Nat) (b0 : Array Nat) (e e' : Enc) (bit cx : Nat) (h : RegOk e) (hn : 0x8000 ≤ e.a)
    (hcx : cx < e.ctx.size) (he : encode e bit cx = some e') (hs : InSeg p0 b0 e) : InSeg p0 b0 e' := by
  obtain ⟨a', c', ctx', _, hsum, _, hr, he'⟩ := encode_sub e bit cx h hn hcx
  exact seg_renormeLoop p0 b0 16 _ e' hr (he'.symm.trans he) (hs.mono _ rfl rfl (Int.le_refl _) (Nat.mul_le_mul_right _ hsum))
end Mqc
