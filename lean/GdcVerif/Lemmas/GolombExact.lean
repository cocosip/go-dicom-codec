import GdcVerif.Model.Golomb
import GdcVerif.Lemmas.Golomb
/-!
  `GolombWriter` bookkeeping (model `Model/Golomb.lean`): the `freeBitCount` low bits of the
  32-bit buffer are zero, so a 0xFF just written leaves at most 32 bits free, and
  therefore the end-of-scan `Flush()` never leaves a 0xFF as the last byte of the scan; it
  always writes at least one byte once a bit has been written.
-/
namespace Golomb

theorem m32_eq : M32 = 2 ^ 32 := by decide

theorem testBit_shl_mod_pow (W b k i : Nat) :
    ((b <<< k) % 2 ^ W).testBit i = (decide (i < W) && (decide (i ≥ k) && b.testBit (i - k))) := by
  rw [Nat.testBit_mod_two_pow, Nat.testBit_shiftLeft]

theorem testBit_shl_mod (b k i : Nat) : ((b <<< k) % M32).testBit i = (decide (i < 32) && (decide (i ≥ k) && b.testBit (i - k))) := by
  rw [m32_eq, testBit_shl_mod_pow]

/-- the bookkeeping invariant of this file (no relation to the run-length table `J` of T.87) -/
structure J (w : Writer) : Prop where
  inv : Inv w
  low : ∀ i : Nat, (i : Int) < w.free → w.buf.testBit i = false
  free : w.ff = true → w.free ≤ 32

theorem J_new : J Writer.new :=
  ⟨inv_new, fun i _ => Nat.zero_testBit i, by simp [Writer.new]⟩

theorem J_setFree (w : Writer) (h : J w) (f : Int) (hf : f ≤ w.free) (h32 : f ≤ 32) : J (setFree w f) := by
  obtain ⟨hi, hz, _⟩ := h
  exact ⟨inv_setFree w hi f, fun i hi' => hz i (by simp [setFree] at hi'; omega), fun _ => h32⟩

theorem J_flushStep (w : Writer) (h : J w) : J (flushStep w).1 := by
  by_cases hlt : w.free < 32
  · obtain ⟨hi, hz, _⟩ := h
    have hI := inv_flushStep w hi
    rw [flushStep_emit w hlt] at hI ⊢
    refine ⟨hI, fun i hit => ?_, fun hff' => ?_⟩
    · show ((w.buf <<< stepBits w) % M32).testBit i = false
      have hit' : (i : Int) < w.free + stepBits w := hit
      rw [testBit_shl_mod]
      by_cases h1 : i ≥ stepBits w
      · rw [hz (i - stepBits w) (by omega), Bool.and_false, Bool.and_false]
      · rw [decide_eq_false h1, Bool.false_and, Bool.and_false]
    · -- the byte 0xFF has its lowest bit set, i.e. bit `32 − stepBits` of the buffer: so that bit was not free
      have h255 : (w.buf >>> (32 - stepBits w)) % 256 = 255 := by simpa using hff'
      have hbit : w.buf.testBit (32 - stepBits w) = true := by
        have h0 : ((w.buf >>> (32 - stepBits w)) % 256).testBit 0 = true := by rw [h255]; decide
        rw [show (256 : Nat) = 2 ^ 8 from rfl, Nat.testBit_mod_two_pow, Nat.testBit_shiftRight] at h0
        simpa using h0
      have ht := stepBits_cases w
      show w.free + (stepBits w : Int) ≤ 32
      by_cases hc : ((32 - stepBits w : Nat) : Int) < w.free
      · rw [hz _ hc] at hbit
        exact absurd hbit (by decide)
      · omega
  · rw [flushStep_stop w (by omega)]
    exact J_setFree w h 32 (by omega) (Int.le_refl _)

theorem J_flush (w : Writer) (h : J w) : J (flush w) := flush_preserves J_flushStep w h

/-- the number of bits `n` iterations of `flush()` take from the buffer -/
def flushBits : Nat → Writer → Nat
  | 0, _ => 0
  | n + 1, w => if w.free < 32 then stepBits w + flushBits n (flushStep w).1 else 0

theorem step_free_emit (w : Writer) (h : w.free < 32) : (flushStep w).1.free = w.free + stepBits w := by
  rw [flushStep_emit w h]

/-- all `n` iterations emit, or the `freeBitCount >= 32` break fires after at most `n − 1` and resets the count -/
theorem flushN_free : ∀ (n : Nat) (w : Writer),
    ((flushN n w).free = w.free + flushBits n w ∧ 7 * n ≤ flushBits n w ∧ flushBits n w ≤ 8 * n) ∨
    ((flushN n w).free = 32 ∧ 32 ≤ w.free + flushBits n w ∧ flushBits n w + 8 ≤ 8 * n)
  | 0, w => Or.inl ⟨by simp [flushN, flushBits], Nat.le_refl _, Nat.le_refl _⟩
  | n + 1, w => by
    unfold flushBits
    by_cases hlt : w.free < 32
    · have ih := flushN_free n (flushStep w).1
      have ht := stepBits_cases w
      rw [flushN_emit n w hlt, if_pos hlt]
      rw [step_free_emit w hlt] at ih
      rcases ih with ih | ih
      · exact Or.inl (by omega)
      · exact Or.inr (by omega)
    · rw [flushN_stop n w (by omega), if_neg hlt]
      exact Or.inr ⟨rfl, by omega, by omega⟩

theorem flush_free (w : Writer) :
    ((flush w).free = w.free + flushBits 4 w ∧ 28 ≤ flushBits 4 w ∧ flushBits 4 w ≤ 32) ∨
    ((flush w).free = 32 ∧ 32 ≤ w.free + flushBits 4 w ∧ flushBits 4 w ≤ 24) := by
  have := flushN_free 4 w
  rw [flush_eq]
  omega

theorem flush_four (w : Writer) (h : w.free < 8) :
    (flush w).free = w.free + flushBits 4 w ∧ 28 ≤ flushBits 4 w ∧ flushBits 4 w ≤ 32 :=
  (flush_free w).resolve_right (by omega)

theorem J_orBuf (w : Writer) (h : J w) (x : Nat) (hx : x < M32)
    (hlow : ∀ i : Nat, (i : Int) < w.free → x.testBit i = false) : J (orBuf w x) := by
  obtain ⟨hi, hz, hfr⟩ := h
  refine ⟨inv_orBuf w hi x hx, ?_, hfr⟩
  intro i hi'
  simp only [orBuf] at hi' ⊢
  rw [Nat.testBit_or, hz i hi', hlow i hi']; rfl

theorem shl32_low (b : Nat) (k : Int) (i : Nat) (h : (i : Int) < k) : (shl32 b k).testBit i = false := by
  unfold shl32
  split
  · exact Nat.zero_testBit i
  · rw [testBit_shl_mod]
    have : ¬ i ≥ k.toNat := by omega
    simp [this]

theorem testBit_shl32 (v : Nat) (f : Int) (q : Nat) (hf : 0 ≤ f) (hq : q < 32) :
    (shl32 v f).testBit q = (decide (f.toNat ≤ q) && v.testBit (q - f.toNat)) := by
  unfold shl32
  split
  · rename_i h
    have : ¬ f.toNat ≤ q := by omega
    simp [this]
  · rw [testBit_shl_mod]
    simp [hq]

theorem testBit_shr32 (v : Nat) (k : Int) (q : Nat) (hk : 0 ≤ k) (hv : v < M32) (hq : q < 32) :
    (shr32 v k).testBit q = v.testBit (k.toNat + q) := by
  unfold shr32
  split
  · rename_i h
    rw [Nat.zero_testBit]
    have h32 : 32 ≤ k.toNat + q := by omega
    have : v < 2 ^ (k.toNat + q) := Nat.lt_of_lt_of_le (by rw [← m32_eq]; exact hv) (Nat.pow_le_pow_right (by decide) h32)
    rw [Nat.testBit_lt_two_pow this]
  · rw [Nat.testBit_shiftRight]

/-- the writer between two calls -/
structure K (w : Writer) : Prop where
  j : J w
  lo : 0 ≤ w.free
  hi : w.free ≤ 32

theorem K_new : K Writer.new := ⟨J_new, by decide, by decide⟩

theorem K_shl (w : Writer) (hJ : J w) (bits : Nat) (h0 : 0 ≤ w.free) (h32 : w.free ≤ 32) :
    K (orBuf w (shl32 bits w.free)) :=
  ⟨J_orBuf _ hJ _ (shl32_lt _ _) (fun i hi => shl32_low _ _ i hi), h0, h32⟩

/-- the overflow branch of `WriteBits`: its `flush()` writes all four bytes, 28..32 bits -/
theorem J_shrFlush (w : Writer) (hJ : J w) (bits : Nat) (hb : bits < M32) (hneg : w.free < 0) :
    J (flush (orBuf w (shr32 bits (-w.free)))) ∧
    ∃ s : Int, 28 ≤ s ∧ s ≤ 32 ∧ (flush (orBuf w (shr32 bits (-w.free)))).free = w.free + s := by
  have hJ1 : J (orBuf w (shr32 bits (-w.free))) := J_orBuf _ hJ _ (shr32_lt _ _ hb) (fun i hi => by omega)
  obtain ⟨hf, h28, h32⟩ := flush_four (orBuf w (shr32 bits (-w.free))) (by show w.free < 8; omega)
  exact ⟨J_flush _ hJ1, (flushBits 4 (orBuf w (shr32 bits (-w.free))) : Nat), by omega, by omega, hf⟩

theorem K_writeBits (w : Writer) (h : K w) (bits : Nat) (n : Int) (hb : bits < M32) (hn : 0 ≤ n ∧ n ≤ 32) :
    K (writeBits w bits n) := by
  obtain ⟨hJ, h0, h32⟩ := h
  have hJ0 : J (setFree w (w.free - n)) := J_setFree w hJ _ (by omega) (by omega)
  have hf0 : (setFree w (w.free - n)).free = w.free - n := rfl
  unfold writeBits
  dsimp only
  split
  · rename_i hge
    exact K_shl _ hJ0 bits hge (by omega)
  · rename_i hlt
    obtain ⟨hJ1, s1, _, _, hf1⟩ := J_shrFlush _ hJ0 bits hb (by omega)
    split
    · rename_i hneg
      obtain ⟨hJ2, s2, _, _, hf2⟩ := J_shrFlush _ hJ1 bits hb hneg
      exact K_shl _ hJ2 bits (by omega) (by omega)
    · rename_i hnn
      exact K_shl _ hJ1 bits (by omega) (by omega)

/-- what the bookkeeping needs of the `WriteBits` calls: the value may exceed `2^count` (`WritesFit` excludes that) -/
def WritesOk (ws : List (Nat × Int)) : Prop := ∀ p ∈ ws, p.1 < M32 ∧ 0 ≤ p.2 ∧ p.2 ≤ 32

theorem K_writeAll (ws : List (Nat × Int)) (w : Writer) (h : K w) (hv : WritesOk ws) : K (writeAll w ws) :=
  Loop.foldl_inv_mem _ K ws (fun p w hp hw => K_writeBits w hw p.1 p.2 (hv p hp).1 (hv p hp).2) w h

/-- at most 7 bits pending: `flush()` writes at most one byte -/
theorem flush_clears_ff (w : Writer) (hJ : J w) (h25 : 25 ≤ w.free) (hff : w.ff = true → w.free < 32) :
    (flush w).ff = false := by
  rw [flush_eq]
  by_cases hge : 32 ≤ w.free
  · rw [flushN_stop 3 w hge]
    show w.ff = false
    cases hf : w.ff
    · rfl
    · exact absurd (hff hf) (by omega)
  · have hf := step_free_emit w (by omega)
    have ht := stepBits_cases w
    rw [flushN_emit 3 w (by omega), flushN_stop 2 _ (by omega)]
    show (flushStep w).1.ff = false
    cases hf' : (flushStep w).1.ff
    · rfl
    · -- after a 0xFF at most 32 bits are free (`J.free`), so it would be a 7-bit byte: those are below 128
      have h32 := (J_flushStep w hJ).free hf'
      have h7 : stepBits w = 7 := by omega
      have hlt := shr25_lt w.buf hJ.inv.buf
      rw [flushStep_emit w (by omega), h7] at hf'
      have : (w.buf >>> 25) % 256 = 255 := by simpa using hf'
      omega

theorem finish_pad (w : Writer) (h25 : 25 ≤ w.free) (h32 : w.free ≤ 32) :
    writeBits w 0 (Int.tmod (w.free - 1) 8) = setFree w 25 := by
  have hpad : Int.tmod (w.free - 1) 8 = w.free - 25 := by
    rw [Int.tmod_eq_emod_of_nonneg (by omega)]; omega
  have e : w.free - (w.free - 25) = 25 := by omega
  unfold writeBits
  dsimp only
  rw [hpad, e, if_pos (by show (25 : Int) ≥ 0; decide)]
  show { setFree w 25 with buf := w.buf ||| 0 } = setFree w 25
  rw [Nat.or_zero]
  rfl

theorem finish_ff (w : Writer) (h : K w) : (finish w).ff = false := by
  obtain ⟨hJ, h0, h32⟩ := h
  have hJ1 := J_flush w hJ
  have h28 : 28 ≤ (flush w).free := by
    have := flush_free w
    omega
  unfold finish
  dsimp only
  generalize flush w = w1 at *
  split
  · rename_i hff
    rw [finish_pad w1 (by omega) (hJ1.free hff)]
    exact flush_clears_ff _ (J_setFree w1 hJ1 25 (by omega) (by decide)) (Int.le_refl 25) (fun _ => (by decide : (25 : Int) < 32))
  · rename_i hff
    exact flush_clears_ff w1 hJ1 (by omega) (fun h => absurd h hff)

theorem finish_last_ne (w : Writer) (h : K w) : (finish w).out.getLast? ≠ some 255 := by
  intro hl
  have hi : Inv (finish w) := inv_finish w h.j.inv
  have := hi.ffSet hl
  rw [finish_ff w h] at this
  exact absurd this (by decide)

/-- something is pending or already written -/
def M (w : Writer) : Prop := w.out ≠ [] ∨ w.free < 32

theorem flushStep_out (w : Writer) (h : M w) : (flushStep w).1.out ≠ [] := by
  unfold flushStep
  split
  · exact h.resolve_right (by omega)
  · split <;> simp

theorem flush_out (w : Writer) (h : M w) : (flush w).out ≠ [] := by
  rw [flush_eq]
  unfold flushN
  split
  · exact flushN_preserves (I := fun u => u.out ≠ []) (fun u hu => flushStep_out u (Or.inl hu)) 3 _ (flushStep_out w h)
  · exact flushStep_out w h

theorem M_writeBits (w : Writer) (bits : Nat) (n : Int) (hb : bits < M32) (hfree : w.free ≤ 32)
    (h : M w ∨ 1 ≤ n) (hn : 0 ≤ n) : M (writeBits w bits n) :=
  writeBits_preserves (fun _ _ _ h => h) (fun u hu => Or.inl (flush_out u hu)) w bits n hb
    (h.elim (Or.imp_right fun hl => by show w.free - n < 32; omega) fun h1 => Or.inr (by show w.free - n < 32; omega))

theorem M_writeAll : ∀ (ws : List (Nat × Int)) (w : Writer), K w →
    WritesOk ws → (M w ∨ ∃ p ∈ ws, 1 ≤ p.2) → M (writeAll w ws)
  | [], _, _, _, h => by
    rcases h with h | ⟨p, hp, _⟩
    · exact h
    · simp at hp
  | p :: rest, w, hK, hv, h => by
    show M (writeAll (writeBits w p.1 p.2) rest)
    have hp := hv p (by simp)
    have hK' := K_writeBits w hK p.1 p.2 hp.1 hp.2
    refine M_writeAll rest _ hK' (fun q hq => hv q (by simp [hq])) ?_
    rcases h with hM | ⟨q, hq, hq1⟩
    · exact Or.inl (M_writeBits w p.1 p.2 hp.1 hK.hi (Or.inl hM) hp.2.1)
    · simp only [List.mem_cons] at hq
      rcases hq with rfl | hq
      · exact Or.inl (M_writeBits w q.1 q.2 hp.1 hK.hi (Or.inr hq1) hp.2.1)
      · exact Or.inr ⟨q, hq, hq1⟩

theorem out_ne_writeBits (w : Writer) (bits : Nat) (n : Int) (hb : bits < M32) (h : w.out ≠ []) :
    (writeBits w bits n).out ≠ [] :=
  writeBits_preserves (I := fun u => u.out ≠ []) (fun _ _ _ h => h) (fun u hu => flush_out u (Or.inl hu)) w bits n hb h

theorem finish_out_ne (w : Writer) (h : M w) : (finish w).out ≠ [] := by
  unfold finish
  dsimp only
  have h1 : (flush w).out ≠ [] := flush_out w h
  split
  · exact flush_out _ (Or.inl (out_ne_writeBits _ 0 _ (by decide) h1))
  · exact flush_out _ (Or.inl h1)

end Golomb
