import GdcVerif.Model.JpegLsScan
import GdcVerif.Lemmas.Basics
import GdcVerif.Lemmas.JpegLsNear
import GdcVerif.Lemmas.GolombFit
/-!
  Per-step agreement of the scan model's regular-mode sample (`regular_sample`): the encoder step
  (`JpegLsScan.encRegular`) succeeds with a reconstruction in range and within NEAR of the source, and the
  decoder step (`decRegular`) on the bits it wrote recovers the same reconstruction, the same context table
  and leaves the following bits — the lock-step hypothesis for regular mode (run mode:
  `JpegLsRun.runlength_roundtrip`, `JpegLsScanL.interruption_sample`).  `regular_core` is the arithmetic.
-/
namespace JpegLsScan
open Gen.JpegLs JpegLsLemmas JpegLsNear Golomb

/-- invariant of the loop of `ComputeGolombParameter` (`for (N<<k) < A && k < 16 { k++ }`): the result is at most
    16, every smaller exponent is too small, and unless the cap stopped the loop the result is large
    enough.  `17 ≤ f + k`: the fuel (17 in the scan model) outlasts the cap. -/
theorem golombParam_inv (ctx : Context) : ∀ (f : Nat) (k : Int), 0 ≤ k → k ≤ 16 → 17 ≤ f + k.toNat →
    (∀ j : Nat, (j : Int) < k → ctx.N * 2 ^ j < ctx.A) →
    (k ≤ golombParam ctx f k ∧ golombParam ctx f k ≤ 16) ∧
    (∀ j : Nat, (j : Int) < golombParam ctx f k → ctx.N * 2 ^ j < ctx.A) ∧
    (golombParam ctx f k < 16 → ctx.A ≤ ctx.N * 2 ^ (golombParam ctx f k).toNat)
  | 0, k, h0, h16, hf, hj => by
    have : k = 16 := by omega
    subst this
    simp only [golombParam]
    exact ⟨⟨by omega, by omega⟩, hj, fun h => by omega⟩
  | f + 1, k, h0, h16, hf, hj => by
    unfold golombParam
    split
    · rename_i hc
      have ih := golombParam_inv ctx f (k + 1) (by omega) (by omega) (by omega) (by
        intro j hjk
        by_cases hjk' : (j : Int) < k
        · exact hj j hjk'
        · have : j = k.toNat := by omega
          subst this; exact hc.1)
      exact ⟨⟨by omega, ih.1.2⟩, ih.2.1, ih.2.2⟩
    · rename_i hc
      refine ⟨⟨by omega, h16⟩, hj, fun hk => ?_⟩
      omega

theorem golombParam_range (ctx : Context) : 0 ≤ golombParam ctx 17 0 ∧ golombParam ctx 17 0 ≤ 16 :=
  (golombParam_inv ctx 17 0 (by omega) (by omega) (by simp) (by intro j hj; omega)).1

/-- one regular-mode sample, once the context `ctx` is fetched and the prediction `pxv` corrected: the
    reconstruction is within NEAR of the source sample and in range, the arguments of
    `EncodeMappedValue` meet the hypotheses of the code round trip, and the decoder's un-mapping (with
    the `k = 0` correction) returns the error value -/
theorem regular_core (P : Nat) (N : Int) (h : Admissible P N) (ctx : Context) (qs xs pxv : Int)
    (hxs : 0 ≤ xs ∧ xs ≤ (2 : Int) ^ P - 1) (hpx : 0 ≤ pxv ∧ pxv ≤ (2 : Int) ^ P - 1) :
    let e := Traits.ComputeErrorValue (traits P N) (ApplySign (xs - pxv) (BitwiseSign qs))
    let k := golombParam ctx 17 0
    let corr := Context.GetErrorCorrection ctx k (traits P N).Near
    let mapped := MapErrorValue (Go.xor corr e)
    let rx := Traits.ComputeReconstructedSample (traits P N) pxv (ApplySign e (BitwiseSign qs))
    ((-N ≤ rx - xs ∧ rx - xs ≤ N) ∧ (0 ≤ rx ∧ rx ≤ (2 : Int) ^ P - 1)) ∧
    ((0 ≤ k ∧ k ≤ 31) ∧ (1 ≤ (traits P N).Qbpp ∧ (traits P N).Qbpp ≤ 16) ∧
      ((traits P N).Qbpp + 1 < (traits P N).Limit ∧ (traits P N).Limit ≤ 64) ∧
      (0 ≤ mapped ∧ mapped - 1 < 2 ^ (traits P N).Qbpp.toNat)) ∧
    (if k = 0 then Go.xor (UnmapErrorValue mapped) corr else UnmapErrorValue mapped) = e := by
  obtain ⟨q, hQ, hq1, hqP, _, _⟩ := traits_qbpp P N h
  have hP := h.1
  have hL := traits_limit P N hP
  have hlim : (1 ≤ (traits P N).Qbpp ∧ (traits P N).Qbpp ≤ 16) ∧
      ((traits P N).Qbpp + 1 < (traits P N).Limit ∧ (traits P N).Limit ≤ 64) := by rw [hL, hQ]; omega
  intro e k corr mapped rx
  have hk := golombParam_range ctx
  obtain ⟨hR1, hR16, h16⟩ := traits_range P N h
  obtain ⟨s, hs, hmul⟩ := applySign_mul qs
  have hb := near_sample_bound P N h pxv xs s hpx hxs hs
  have hcorr : (corr = 0 ∨ corr = -1) ∧ (k ≠ 0 → corr = 0) := errorCorrection_cases ctx k (traits P N).Near
  have hfit := near_mapped_fits P N h pxv xs s hpx hxs hs corr hcorr.1
  have he : e = err P N pxv xs s := by
    show Traits.ComputeErrorValue _ (ApplySign (xs - pxv) (BitwiseSign qs)) = _
    rw [hmul (xs - pxv) (by omega)]
    rfl
  have hrange := hb.2.2
  rw [← he] at hrange hfit
  refine ⟨?_, ⟨⟨hk.1, by omega⟩, hlim.1, hlim.2, hfit⟩, ?_⟩
  · have hrec : rx = recon P N pxv xs s := by
      show Traits.ComputeReconstructedSample _ pxv (ApplySign e (BitwiseSign qs)) = _
      rw [hmul e (by omega), he]
      rfl
    rw [hrec]
    exact ⟨hb.1, hb.2.1⟩
  · obtain ⟨hx, hcancel⟩ := xor_sign_cancel corr e hcorr.1 (by omega)
    show (if k = 0 then Go.xor (UnmapErrorValue (MapErrorValue (Go.xor corr e))) corr
      else UnmapErrorValue (MapErrorValue (Go.xor corr e))) = e
    rw [unmap_map _ (hx (by omega))]
    by_cases hk0 : k = 0
    · rw [if_pos hk0, hcancel]
    · rw [if_neg hk0, hcorr.2 hk0, Go.zero_xor e (by unfold Go.I64; omega)]

theorem getCtx_ok (cs : Array Context) (i : Int) (n : Nat) (hsz : cs.size = n + 1) (hi : 0 ≤ i ∧ i ≤ n) :
    ∃ ctx, getCtx cs i = .ok ctx := by
  unfold getCtx
  have h0 : ¬ i < 0 := by omega
  have hlt : i.toNat < cs.size := by omega
  simp only [h0, if_false, Array.getElem?_eq_getElem hlt]
  exact ⟨_, rfl⟩

theorem regular_sample (P : Nat) (N : Int) (h : Admissible P N) (cs : Array Context) (qs a b c xs : Int)
    (ctx : Context) (hctx : getCtx cs (ApplySign qs (BitwiseSign qs)) = .ok ctx)
    (hxs : 0 ≤ xs ∧ xs ≤ (2 : Int) ^ P - 1) :
    ∃ ws cs' rec, encRegular (traits P N) cs qs a b c xs = .ok (ws, cs', rec) ∧ cs'.size = cs.size ∧
      (-N ≤ rec - xs ∧ rec - xs ≤ N) ∧ (0 ≤ rec ∧ rec ≤ (2 : Int) ^ P - 1) ∧ WritesFit ws ∧
      ∀ rest, decRegular (traits P N) cs qs a b c (writesBits ws ++ rest) = .ok (cs', rec, rest) := by
  unfold encRegular decRegular
  simp only [hctx, bind, Except.bind]
  obtain ⟨hrec, ⟨hk, hq, hl, hm⟩, hun⟩ := regular_core P N h ctx qs xs _ hxs
    (correctPrediction_range (traits P N) (maxVal_nonneg P N) (Predict a b c + ApplySign ctx.C (BitwiseSign qs)))
  refine ⟨_, _, _, rfl, by simp, hrec.1, hrec.2, fit_encodeWrites _ _ _ _ hk hq hl hm.1, fun rest => ?_⟩
  rw [code_roundtrip _ _ _ _ rest hk hq hl hm]
  simp only [hun]

end JpegLsScan
