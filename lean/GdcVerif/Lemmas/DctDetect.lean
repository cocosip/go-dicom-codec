import GdcVerif.Model.Dct
/-! detectBitDepth skips segment payloads: whatever bytes DQT/APPn/COM payloads contain, the precision is read
    from the first SOF0..3 header. -/
namespace Dct

theorem detect_skip_seg (fuel m : Nat) (payload rest : List Nat) (hm : plainMarker m = true) :
    detectLoop (fuel + 1) (segBytes m payload ++ rest) = detectLoop fuel rest := by
  simp only [plainMarker, Bool.and_eq_true, bne_iff_ne, Bool.not_eq_true', Bool.and_eq_false_imp,
    decide_eq_true_eq] at hm
  obtain ⟨⟨⟨⟨⟨h1, h2⟩, h3⟩, h4⟩, h5⟩, h6⟩ := hm
  have e : (payload.length + 2) / 256 * 256 + (payload.length + 2) % 256 = payload.length + 2 := by omega
  have h3' : ¬ (m = 1 ∨ 208 ≤ m ∧ m ≤ 215) := by
    intro h; rcases h with h | h
    · exact h2 h
    · have := h3; simp at this; omega
  have h4' : ¬ (192 ≤ m ∧ m ≤ 195) := by
    intro h; have := h4; simp at this; omega
  have h56 : ¬ (m = 218 ∨ m = 217) := by
    intro h; rcases h with h | h
    · exact h5 h
    · exact h6 h
  simp only [segBytes, List.cons_append, List.nil_append, detectLoop]
  simp only [ne_eq, not_true_eq_false, if_false, h1, h3', h4', h56, e]
  rw [if_neg (by omega)]
  congr 1
  have h4e : 2 + (payload.length + 2) = payload.length + 4 := by omega
  rw [h4e]
  simp only [List.drop_succ_cons]
  rw [List.drop_append_of_le_length (Nat.le_refl _), List.drop_length, List.nil_append]

def segsBytes : List (Nat × List Nat) → List Nat
  | [] => []
  | (m, p) :: t => segBytes m p ++ segsBytes t

theorem detect_segments (segs : List (Nat × List Nat)) :
    ∀ (fuel : Nat) (sofm l1 l2 prec : Nat) (tail : List Nat),
    (∀ s ∈ segs, plainMarker s.1 = true) →
    192 ≤ sofm ∧ sofm ≤ 195 → (segsBytes segs).length < fuel →
    detectLoop fuel (segsBytes segs ++ 0xFF :: sofm :: l1 :: l2 :: prec :: tail) = if prec = 12 then 12 else 8 := by
  induction segs with
  | nil =>
    intro fuel sofm l1 l2 prec tail _ hs hf
    obtain ⟨k, rfl⟩ : ∃ k, fuel = k + 1 := ⟨fuel - 1, by omega⟩
    have h1 : ¬ sofm = 255 := by omega
    have h2 : ¬ (sofm = 1 ∨ 208 ≤ sofm ∧ sofm ≤ 215) := by omega
    simp [segsBytes, detectLoop, h1, h2, hs]
  | cons s t ih =>
    intro fuel sofm l1 l2 prec tail hall hs hf
    obtain ⟨k, rfl⟩ : ∃ k, fuel = k + 1 := ⟨fuel - 1, by omega⟩
    obtain ⟨m, p⟩ := s
    simp only [segsBytes, List.append_assoc]
    rw [detect_skip_seg k m p _ (hall (m, p) (by simp))]
    exact ih k sofm l1 l2 prec tail (fun s hs' => hall s (by simp [hs'])) hs
      (by simp [segsBytes, segBytes] at hf; omega)

end Dct
