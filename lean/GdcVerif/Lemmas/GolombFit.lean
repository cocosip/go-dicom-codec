import GdcVerif.Lemmas.GolombCode
import GdcVerif.Lemmas.GolombExact
/-!
  Well-formed `WriteBits` calls (`WritesFit`: `count ∈ 0..32`, `value < 2^count`), and that the calls of
  `EncodeMappedValue` (`Golomb.encodeWrites`) are well-formed.
-/
namespace Golomb

def WritesFit (ws : List (Nat × Int)) : Prop := ∀ p ∈ ws, 0 ≤ p.2 ∧ p.2 ≤ 32 ∧ p.1 < 2 ^ p.2.toNat

theorem WritesFit.ok {ws : List (Nat × Int)} (hf : WritesFit ws) : WritesOk ws := fun p hp => by
  obtain ⟨h0, h32, hv⟩ := hf p hp
  have : (2 : Nat) ^ p.2.toNat ≤ 2 ^ 32 := Nat.pow_le_pow_right (by decide) (by omega)
  exact ⟨by rw [m32_eq]; omega, h0, h32⟩

theorem fit_nil : WritesFit [] := fun _ hp => nomatch hp

theorem fit_append {a b : List (Nat × Int)} (ha : WritesFit a) (hb : WritesFit b) : WritesFit (a ++ b) :=
  List.forall_mem_append.mpr ⟨ha, hb⟩

theorem fit_cons {p : Nat × Int} {ws : List (Nat × Int)} :
    WritesFit (p :: ws) ↔ (0 ≤ p.2 ∧ p.2 ≤ 32 ∧ p.1 < 2 ^ p.2.toNat) ∧ WritesFit ws := List.forall_mem_cons

theorem fit_single (v : Nat) (n : Int) (h0 : 0 ≤ n) (h32 : n ≤ 32) (hv : v < 2 ^ n.toNat) : WritesFit [(v, n)] :=
  List.forall_mem_singleton.mpr ⟨h0, h32, hv⟩

theorem fit_zeros : ∀ (f : Nat) (n : Int), WritesFit (zerosWrites f n)
  | 0, _ => by unfold zerosWrites; exact fit_nil
  | f + 1, n => by
    unfold zerosWrites
    split
    · have hc : (0 : Int) ≤ (if n > 31 then 31 else n) ∧ (if n > 31 then 31 else n) ≤ 32 := by split <;> omega
      exact fit_cons.mpr ⟨⟨hc.1, hc.2, Nat.two_pow_pos _⟩, fit_zeros f _⟩
    · exact fit_nil

/-- the call that ends a unary prefix: `n − 1` zeros and a one -/
theorem fit_unary (n : Int) (h1 : 1 ≤ n) (h32 : n ≤ 32) : WritesFit [(1, n)] :=
  fit_single 1 n (by omega) h32 (Nat.one_lt_two_pow (by omega))

theorem fit_encodeWrites (k m limit qbpp : Int) (hk : 0 ≤ k ∧ k ≤ 31) (hq : 1 ≤ qbpp ∧ qbpp ≤ 16)
    (hl : qbpp + 1 < limit ∧ limit ≤ 64) (hm : 0 ≤ m) : WritesFit (encodeWrites k m limit qbpp) := by
  have hshr := Go.shr_eq m k
  have hpk : (0 : Int) < 2 ^ k.toNat := Int.pow_pos (by decide)
  have hh0 : 0 ≤ m / 2 ^ k.toNat := Int.ediv_nonneg hm (by omega)
  unfold encodeWrites
  simp only []
  rw [hshr]
  generalize m / 2 ^ k.toNat = h at *
  split
  · rename_i hn
    refine fit_append (fit_append ?_ ?_) ?_
    · split
      · exact fit_zeros _ _
      · exact fit_nil
    · have ht : Int.tdiv h 2 = h / 2 := Int.tdiv_eq_ediv_of_nonneg hh0
      split
      · rw [ht]; exact fit_unary _ (by omega) (by omega)
      · exact fit_unary _ (by omega) (by omega)
    · split
      · exact fit_single _ k hk.1 (by omega) (field_lt m k.toNat)
      · exact fit_nil
  · refine fit_append ?_ ?_
    · split
      · exact fit_append (fit_zeros _ _) (fit_unary _ (by omega) (by omega))
      · exact fit_unary _ (by omega) (by omega)
    · exact fit_single _ qbpp (by omega) (by omega) (field_lt (m - 1) qbpp.toNat)

end Golomb
