import GdcVerif.Lemmas.MqcExact
/-!
  The interval-containment argument of the MQ coder in exact arithmetic.

  `J` is the joint ideal machine: the ideal encoder interval `[L, L+a)` together with the prefix `P` of the
  code value read so far (`p` bits), all in the same units; a renormalisation shift doubles `L`, `a` and
  appends the next code bit to `P`.  The ideal decoder keeps only `D = P − L`, `a`, `p` and decides from
  `D < Qe` exactly like `decodeCore` (conditional exchange included).

  `ideal_roundtrip`: if the code value lies in the FINAL interval of the encoder, the ideal decoder returns
  every decision (MPS / LPS) the encoder was given — by interval nesting.  One decision (`idec_step`) has two
  cases, lower and upper sub-interval, once both step functions are in closed form (`jstep_eq`, `idecStep_eq`).
-/
namespace Mqc

structure IDec where
  D : Nat
  a : Nat
  p : Nat
deriving DecidableEq

def irenormD (src : Nat → Nat) : Nat → IDec → IDec
  | 0, d => d
  | f + 1, d => if d.a < 0x8000 then irenormD src f { D := d.D * 2 + src d.p, a := d.a * 2, p := d.p + 1 } else d

/-- ideal decoding step: returns "the decision is the MPS" and the next state (mirrors `decodeCore`) -/
def idecStep (src : Nat → Nat) (d : IDec) (qe : Nat) : Bool × IDec :=
  if d.D < qe then
    if d.a - qe < qe then (true, irenormD src 16 { d with a := qe })
    else (false, irenormD src 16 { d with a := qe })
  else
    if (d.a - qe) / 0x8000 % 2 ≠ 0 then (true, { d with D := d.D - qe, a := d.a - qe })
    else if d.a - qe < qe then (false, irenormD src 16 { d with D := d.D - qe, a := d.a - qe })
    else (true, irenormD src 16 { d with D := d.D - qe, a := d.a - qe })

def J.In (j : J) : Prop := j.L ≤ j.P ∧ j.P < j.L + j.a

/-- what the ideal decoder keeps of the joint state -/
def J.dec (j : J) : IDec := { D := j.P - j.L, a := j.a, p := j.p }

theorem irenormD_done (src : Nat → Nat) (fuel : Nat) (d : IDec) (h : ¬ d.a < 0x8000) : irenormD src fuel d = d := by
  cases fuel
  · rfl
  · rw [irenormD, if_neg h]

theorem idecStep_eq (src : Nat → Nat) (d : IDec) (qe : Nat) (q2 : qe ≤ 0x5601) :
    idecStep src d qe =
      if d.D < qe then (decide (d.a - qe < qe), irenormD src 16 { d with a := qe })
      else (!decide (d.a - qe < qe), irenormD src 16 { d with D := d.D - qe, a := d.a - qe }) := by
  unfold idecStep
  by_cases hx : d.a - qe < qe
  · rw [decide_eq_true hx, if_pos hx, if_pos hx, if_neg (show ¬ (d.a - qe) / 0x8000 % 2 ≠ 0 by omega)]; rfl
  · rw [decide_eq_false hx, if_neg hx, if_neg hx]
    by_cases hren : (d.a - qe) / 0x8000 % 2 ≠ 0
    · rw [if_pos hren, irenormD_done src 16 { d with D := d.D - qe, a := d.a - qe } (show ¬ d.a - qe < 0x8000 by omega)]
      rfl
    · rw [if_neg hren]; rfl

theorem jrenorm_sync (src : Nat → Nat) (hsrc : ∀ k, src k ≤ 1) : ∀ f j, (jrenorm src f j).In →
    j.In ∧ irenormD src f j.dec = (jrenorm src f j).dec := by
  intro f
  induction f with
  | zero => intro j h; exact ⟨h, rfl⟩
  | succ f ih =>
    intro j h
    rw [jrenorm] at h ⊢
    rw [irenormD]
    by_cases ha : j.a < 0x8000
    · rw [if_pos ha] at h ⊢
      rw [if_pos (show j.dec.a < 0x8000 from ha)]
      obtain ⟨⟨h1, h2⟩, hs⟩ := ih _ h
      have hb := hsrc j.p
      simp only [] at h1 h2
      refine ⟨⟨by omega, by omega⟩, ?_⟩
      rw [← hs]
      simp only [J.dec]
      rw [show (j.P - j.L) * 2 + src j.p = j.P * 2 + src j.p - j.L * 2 by omega]
    · rw [if_neg ha] at h ⊢
      rw [if_neg (show ¬ j.dec.a < 0x8000 from ha)]
      exact ⟨h, rfl⟩

theorem idec_step (src : Nat → Nat) (hsrc : ∀ k, src k ≤ 1) (j : J) (qe : Nat) (m : Bool)
    (ha : 0x8000 ≤ j.a) (q2 : qe ≤ 0x5601) (hin : (jstep src j qe m).In) :
    j.In ∧ idecStep src j.dec qe = (m, (jstep src j qe m).dec) := by
  rw [jstep_eq src j qe m q2] at hin ⊢
  rw [idecStep_eq src _ qe q2]
  show _ ∧ (if j.P - j.L < qe then _ else _) = _
  by_cases hlow : decide (j.a - qe < qe) = m
  · rw [if_pos hlow] at hin ⊢
    obtain ⟨⟨hb1, hb2⟩, hs⟩ := jrenorm_sync src hsrc 16 { j with a := qe } hin
    simp only [] at hb1 hb2
    refine ⟨⟨hb1, by omega⟩, ?_⟩
    rw [if_pos (show j.P - j.L < qe by omega)]
    exact Prod.ext hlow hs
  · rw [if_neg hlow] at hin ⊢
    obtain ⟨⟨hb1, hb2⟩, hs⟩ := jrenorm_sync src hsrc 16 { j with L := j.L + qe, a := j.a - qe } hin
    simp only [] at hb1 hb2
    refine ⟨⟨by omega, by omega⟩, ?_⟩
    rw [if_neg (show ¬ j.P - j.L < qe by omega)]
    refine Prod.ext (Bool.not_eq.mpr hlow) ?_
    show irenormD src 16 { D := j.P - j.L - qe, a := j.a - qe, p := j.p } = _
    rw [Nat.sub_sub]
    exact hs

theorem jrenorm_norm (src : Nat → Nat) : ∀ f j, 0x8000 ≤ j.a * 2 ^ f → 0x8000 ≤ (jrenorm src f j).a := by
  intro f
  induction f with
  | zero => intro j h; rw [jrenorm]; omega
  | succ f ih =>
    intro j h
    rw [jrenorm]
    by_cases ha : j.a < 0x8000
    · rw [if_pos ha]
      apply ih
      show 0x8000 ≤ j.a * 2 * 2 ^ f
      rw [Nat.pow_succ] at h
      rw [Nat.mul_assoc, Nat.mul_comm 2]; exact h
    · rw [if_neg ha]; omega

theorem jstep_norm (src : Nat → Nat) (j : J) (qe : Nat) (m : Bool) (ha : 0x8000 ≤ j.a) (q1 : 1 ≤ qe)
    (q2 : qe ≤ 0x5601) : 0x8000 ≤ (jstep src j qe m).a := by
  have h16 : (2 : Nat) ^ 16 = 65536 := by decide
  rw [jstep_eq src j qe m q2]
  split
  · exact jrenorm_norm src 16 { j with a := qe } (by show 0x8000 ≤ qe * 2 ^ 16; rw [h16]; omega)
  · exact jrenorm_norm src 16 { j with L := j.L + qe, a := j.a - qe }
      (by show 0x8000 ≤ (j.a - qe) * 2 ^ 16; rw [h16]; omega)

def idecRun (src : Nat → Nat) : IDec → List Nat → List Bool × IDec
  | d, [] => ([], d)
  | d, qe :: rest =>
    let r := idecStep src d qe
    let t := idecRun src r.2 rest
    (r.1 :: t.1, t.2)

theorem ideal_roundtrip (src : Nat → Nat) (hsrc : ∀ k, src k ≤ 1) :
    ∀ (steps : List (Nat × Bool)) (j : J), 0x8000 ≤ j.a → (∀ s ∈ steps, 1 ≤ s.1 ∧ s.1 ≤ 0x5601) →
      (jrun src j steps).In →
      j.In ∧ idecRun src j.dec (steps.map (·.1)) = (steps.map (·.2), (jrun src j steps).dec) := by
  intro steps
  induction steps with
  | nil => intro j _ _ hin; exact ⟨hin, rfl⟩
  | cons s rest ih =>
    intro j ha hq hin
    obtain ⟨qe, m⟩ := s
    obtain ⟨hq1, hq⟩ := List.forall_mem_cons.mp hq
    rw [jrun] at hin
    obtain ⟨hin1, hrest⟩ := ih (jstep src j qe m) (jstep_norm src j qe m ha hq1.1 hq1.2) hq hin
    obtain ⟨hin0, hstep⟩ := idec_step src hsrc j qe m ha hq1.2 hin1
    refine ⟨hin0, ?_⟩
    simp only [List.map_cons, idecRun, hstep, hrest, jrun]

/-- **MQ round trip against the ideal decoder**: for every decision sequence `ds` (context ids `< n`)
1. the code-shaped encoder does not panic and its registers + emitted bytes denote EXACTLY the ideal
   interval `[L, L + a)` reached by the ideal encoder on the `(Qe, MPS?)` trace of `ds` (`Exact`), carries
   and stuffed bytes included;
2. for ANY code bit source `src` whose value lies in that final interval, the ideal decoder — which sees only
   `D = value − L` and `a`, and decides by `D < Qe` with the same conditional exchange as `Decode` — returns
   exactly the MPS/LPS decisions of `ds`.
Not part of this statement: that the bytes returned by `Flush`, read with the 0xFF-stuffing rule and 1-padding,
are such a bit source, and that the code-shaped decoder refines the ideal decoder on it.  The round trip of the
code-shaped decoder on the bytes of `Flush` is `mq_roundtrip` (MqcRoundtrip2.lean), proved without the ideal decoder. -/
theorem roundtrip_ideal_partial (n : Nat) (ds : List (Nat × Nat)) (hds : ∀ d ∈ ds, d.2 < n)
    (src : Nat → Nat) (hsrc : ∀ k, src k ≤ 1) (P0 p0 : Nat) :
    ∃ e steps, encodeAll (Enc.new n) ds = some e ∧ trace (Enc.new n) ds = some steps ∧
      Exact e (jrun src { L := 0, a := 0x8000, P := P0, p := p0 } steps).L ∧
      e.a = (jrun src { L := 0, a := 0x8000, P := P0, p := p0 } steps).a ∧
      ((jrun src { L := 0, a := 0x8000, P := P0, p := p0 } steps).In →
        (idecRun src { D := P0, a := 0x8000, p := p0 } (steps.map (·.1))).1 = steps.map (·.2)) := by
  obtain ⟨h0, hn0, hs0⟩ := new_ok n
  obtain ⟨e, he, _, _⟩ := encodeAll_new n ds hds
  obtain ⟨steps, ht, hq, hs⟩ := encodeAll_exact src ds _ e _ h0 hn0 (by rw [hs0]; exact hds) he (sim_new n P0 p0)
  exact ⟨e, steps, he, ht, hs.L, hs.a, fun hin => congrArg Prod.fst
    (ideal_roundtrip src hsrc steps { L := 0, a := 0x8000, P := P0, p := p0 } (Nat.le_refl _) hq hin).2⟩

end Mqc
