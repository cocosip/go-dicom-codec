import GdcVerif.Model.T1
import GdcVerif.Lemmas.T1Tables
import GdcVerif.Lemmas.Mqc
import GdcVerif.Lemmas.MqcDec
import GdcVerif.Lemmas.Loops
import GdcVerif.Lemmas.Basics
import GdcVerif.Lemmas.Radix
/-!
  Facts about the code-shaped T1 model (`Model/T1.lean`): every context label it hands to the MQ coder is produced without a
  table-index panic and is `< NUMCONTEXTS = 19`; the scan positions and their eight neighbours lie inside the padded arrays,
  and `coords` and `columns` visit every sample once; what the flag updates do to a bit test of a flag word, once for any
  mask; the run-length scan of a column on both sides; the padded copy of the block and its read-back; the encoder-side
  invariant of a pass (`EncOkR` over any bit coder, `EncOk` over the MQ coder).
-/
namespace T1
open Gen Gen.J2kT1

theorem bit_le (f m : Nat) : bit f m ≤ 1 := by unfold bit; split <;> omega

theorem tabN_range (t : Array Int) (lo hi : Int) (hr : ∀ i (h : i < t.size), lo ≤ t[i] ∧ t[i] ≤ hi) (i : Nat)
    (h : i < t.size) : ∃ c, tabN t i = some c ∧ lo.toNat ≤ c ∧ c ≤ hi.toNat := by
  unfold tabN; rw [Array.getElem?_eq_getElem h]
  exact ⟨_, rfl, Int.toNat_le_toNat (hr i h).1, Int.toNat_le_toNat (hr i h).2⟩

theorem zcCtx_ok (f orient : Nat) : ∃ c, zcCtx f orient = some c ∧ c ≤ 8 := by
  have b1 := bit_le f fSigNW; have b2 := bit_le f fSigN; have b3 := bit_le f fSigNE; have b4 := bit_le f fSigW
  have b5 := bit_le f fSigE; have b6 := bit_le f fSigSW; have b7 := bit_le f fSigS; have b8 := bit_le f fSigSE
  refine (tabN_range _ _ _ zc_range _ ?_).imp fun _ h => ⟨h.1, h.2.2⟩
  rw [zc_all.1]; split <;> omega

theorem scTerm_le (p q : Prop) [Decidable p] [Decidable q] (a b : Nat) :
    (if p then a + (if q then b else 0) else 0) ≤ a + b := by
  split
  · split <;> omega
  · omega

theorem scIdx_lt (f : Nat) : scIdx f < 256 := by
  unfold scIdx
  have h1 := scTerm_le (has f fSigW = true) (has f fSignW = true) 8 1
  have h2 := scTerm_le (has f fSigN = true) (has f fSignN = true) 2 16
  have h3 := scTerm_le (has f fSigE = true) (has f fSignE = true) 32 4
  have h4 := scTerm_le (has f fSigS = true) (has f fSignS = true) 128 64
  omega

theorem scCtx_ok (f : Nat) : ∃ c, scCtx f = some c ∧ 9 ≤ c ∧ c ≤ 13 :=
  tabN_range _ _ _ sc_range _ (sc_all.1 ▸ scIdx_lt f)

theorem spb_ok (f : Nat) : ∃ b, spb f = some b ∧ b ≤ 1 :=
  (tabN_range _ _ _ spb_range _ (spb_all.1 ▸ scIdx_lt f)).imp fun _ h => ⟨h.1, h.2.2⟩

theorem mrCtx_ok (f : Nat) : 14 ≤ mrCtx f ∧ mrCtx f ≤ 16 := by
  unfold mrCtx
  have := mr_range (f : Int)
  simp only [CTXMRSTART, CTXMREND] at this
  omega

theorem foldlM_inv {α σ : Type} (P : σ → Prop) (Q : α → Prop) (f : σ → α → Option σ) :
    ∀ (l : List α), (∀ a ∈ l, Q a) → (∀ s a, P s → Q a → ∃ s', f s a = some s' ∧ P s') →
    ∀ s, P s → ∃ s', l.foldlM f s = some s' ∧ P s' := by
  intro l hq step s h0
  exact Loop.foldlM_inv_mem f P l (fun a s ha hs => step s a hs (hq a ha)) s h0

theorem coords_mem (w h x y : Nat) (hm : (x, y) ∈ coords w h) : x < w ∧ y < h := by
  unfold coords at hm
  simp only [List.mem_flatMap, List.mem_range, List.mem_map, List.mem_filter, decide_eq_true_eq] at hm
  obtain ⟨s, _, x', hx', dy, ⟨_, hdy⟩, heq⟩ := hm
  injection heq with h1 h2
  subst h1 h2
  exact ⟨hx', hdy⟩

theorem columns_mem (w h k i : Nat) (hm : (k, i) ∈ columns w h) : i < w ∧ k < h := by
  unfold columns at hm
  simp only [List.mem_flatMap, List.mem_range, List.mem_map] at hm
  obtain ⟨s, hs, i', hi', heq⟩ := hm
  injection heq with h1 h2
  subst h1 h2
  exact ⟨hi', by omega⟩

open Gen

theorem pad_lt (w h a b : Nat) (ha : a < h + 2) (hb : b < w + 2) : a * (w + 2) + b < (w + 2) * (h + 2) :=
  Nat.mul_comm (h + 2) _ ▸ Radix.lt ha hb

theorem idx_lt (w h x y : Nat) (hx : x < w) (hy : y < h) : idxOf w x y < (w + 2) * (h + 2) :=
  pad_lt w h (y + 1) (x + 1) (by omega) (by omega)

def InB (w h j : Nat) : Prop := ∃ x y, x < w ∧ y < h ∧ j = idxOf w x y

theorem idx_inj (w x y x' y' : Nat) (hx : x < w) (hx' : x' < w) (h : idxOf w x y = idxOf w x' y') : x = x' ∧ y = y' := by
  have := Radix.inj (n := w + 2) (by omega : x + 1 < w + 2) (by omega : x' + 1 < w + 2) h
  omega

theorem coords_cover (w h x y : Nat) (hx : x < w) (hy : y < h) : (x, y) ∈ coords w h := by
  unfold coords
  simp only [List.mem_flatMap, List.mem_range, List.mem_map, List.mem_filter, decide_eq_true_eq]
  exact ⟨y / 4, by omega, x, hx, y % 4, ⟨by omega, by omega⟩, by congr 1; omega⟩

theorem coords_nodup (w h : Nat) :
    (coords w h).Pairwise (fun a b => idxOf w a.1 a.2 ≠ idxOf w b.1 b.2) := by
  unfold coords
  rw [List.pairwise_flatMap]
  constructor
  · intro s _
    rw [List.pairwise_flatMap]
    constructor
    · intro x hx
      rw [List.pairwise_map]
      apply List.Pairwise.filter
      apply List.Pairwise.imp _ (List.pairwise_lt_range)
      intro a b hab heq
      have hx' := List.mem_range.mp hx
      have := (idx_inj w x _ x _ hx' hx' heq).2
      omega
    · apply List.Pairwise.imp_of_mem _ (List.pairwise_lt_range)
      intro x1 x2 hx1 hx2 h12 p hp q hq heq
      simp only [List.mem_map, List.mem_filter, List.mem_range] at hp hq hx1 hx2
      obtain ⟨d1, _, rfl⟩ := hp
      obtain ⟨d2, _, rfl⟩ := hq
      have := (idx_inj w x1 _ x2 _ hx1 hx2 heq).1
      omega
  · apply List.Pairwise.imp _ (List.pairwise_lt_range)
    intro s1 s2 h12 p hp q hq heq
    simp only [List.mem_flatMap, List.mem_map, List.mem_filter, List.mem_range, decide_eq_true_eq] at hp hq
    obtain ⟨x1, hx1, d1, ⟨hd1, _⟩, rfl⟩ := hp
    obtain ⟨x2, hx2, d2, ⟨hd2, _⟩, rfl⟩ := hq
    have := (idx_inj w x1 _ x2 _ hx1 hx2 heq).2
    omega

theorem columns_cover (w h x y : Nat) (hx : x < w) (hy : y < h) :
    ∃ c, c ∈ columns w h ∧ ∃ dy, dy < 4 ∧ c.1 + dy < h ∧ idxOf w x y = idxOf w c.2 (c.1 + dy) := by
  refine ⟨(y / 4 * 4, x), ?_, y % 4, by omega, by simp only []; omega, by simp only []; congr 1; omega⟩
  unfold columns
  simp only [List.mem_flatMap, List.mem_range, List.mem_map]
  exact ⟨y / 4, by omega, x, hx, rfl⟩

def gf (a : Array Nat) (j : Nat) : Nat := (a[j]?).getD 0

def gi (a : Array Int) (j : Nat) : Int := (a[j]?).getD 0

theorem gf_get (a : Array Nat) (j : Nat) (h : j < a.size) : gf a j = a[j] := by
  unfold gf; rw [Array.getElem?_eq_getElem h]; rfl

theorem gi_get (a : Array Int) (j : Nat) (h : j < a.size) : gi a j = a[j] := by
  unfold gi; rw [Array.getElem?_eq_getElem h]; rfl

theorem gf_some {a : Array Nat} {j : Nat} (h : j < a.size) : a[j]? = some (gf a j) := by
  rw [gf_get a j h]; exact Array.getElem?_eq_getElem h

theorem gi_some {a : Array Int} {j : Nat} (h : j < a.size) : a[j]? = some (gi a j) := by
  rw [gi_get a j h]; exact Array.getElem?_eq_getElem h

theorem gf_replicate (n j : Nat) : gf (Array.replicate n 0) j = 0 := by
  unfold gf; rw [Array.getElem?_replicate]; split <;> rfl

theorem gi_replicate (n j : Nat) : gi (Array.replicate n 0) j = 0 := by
  unfold gi; rw [Array.getElem?_replicate]; split <;> rfl

theorem gf_set (a : Array Nat) (i j v : Nat) (hi : i < a.size) :
    gf (a.setIfInBounds i v) j = if j = i then v else gf a j :=
  Array.getD_setIfInBounds_eq a i j v 0 hi

theorem gi_set (a : Array Int) (i j : Nat) (v : Int) (hi : i < a.size) :
    gi (a.setIfInBounds i v) j = if j = i then v else gi a j :=
  Array.getD_setIfInBounds_eq a i j v 0 hi

theorem orAt_ok (fl : Array Nat) (i m : Nat) (h : i < fl.size) : ∃ fl', orAt fl i m = some fl' ∧ fl'.size = fl.size := by
  unfold orAt
  rw [Array.getElem?_eq_getElem h]
  exact ⟨_, rfl, by simp⟩

theorem has_or (v m k : Nat) : has (v ||| m) k = (has v k || has m k) := by
  unfold has
  rw [Nat.and_or_distrib_right, Bool.eq_iff_iff]
  simp only [bne_iff_ne, ne_eq, Bool.or_eq_true, Nat.or_eq_zero_iff]
  omega

def sigA (fl : Array Nat) (j : Nat) : Bool := has (gf fl j) fSig

def visA (fl : Array Nat) (j : Nat) : Bool := has (gf fl j) fVisit

theorem sigA_get (fl : Array Nat) (i : Nat) (h : i < fl.size) : sigA fl i = has fl[i] fSig := by
  unfold sigA; rw [gf_get _ _ h]

theorem visA_get (fl : Array Nat) (i : Nat) (h : i < fl.size) : visA fl i = has fl[i] fVisit := by
  unfold visA; rw [gf_get _ _ h]

theorem orAt_some (fl fl' : Array Nat) (i m : Nat) (h : orAt fl i m = some fl') :
    i < fl.size ∧ fl' = fl.setIfInBounds i (gf fl i ||| m) := by
  unfold orAt at h
  rcases Nat.lt_or_ge i fl.size with hi | hi
  · rw [Array.getElem?_eq_getElem hi] at h
    exact ⟨hi, by rw [gf_get _ _ hi]; exact (Option.some.inj h).symm⟩
  · rw [Array.getElem?_eq_none hi] at h; cases h

theorem orAt_has (fl fl' : Array Nat) (i m : Nat) (h : orAt fl i m = some fl') (j k : Nat) :
    has (gf fl' j) k = (has (gf fl j) k || (decide (j = i) && has m k)) := by
  obtain ⟨hi, rfl⟩ := orAt_some _ _ _ _ h
  rw [gf_set _ _ _ _ hi]
  by_cases hji : j = i
  · rw [if_pos hji, has_or, hji]; simp
  · rw [if_neg hji]; simp [hji]

theorem orAt_size (fl fl' : Array Nat) (i m : Nat) (h : orAt fl i m = some fl') : fl'.size = fl.size := by
  rw [(orAt_some _ _ _ _ h).2, Array.size_setIfInBounds]

theorem orAt_keep (fl fl' : Array Nat) (i m : Nat) (h : orAt fl i m = some fl') (k : Nat) (hm : has m k = false) (j : Nat) :
    has (gf fl' j) k = has (gf fl j) k := by
  rw [orAt_has fl fl' i m h j k, hm]; simp

theorem orAt_sig (fl fl' : Array Nat) (i m : Nat) (h : orAt fl i m = some fl') (hm : has m fSig = false) (j : Nat) :
    sigA fl' j = sigA fl j := orAt_keep fl fl' i m h fSig hm j
theorem orAt_vis (fl fl' : Array Nat) (i m : Nat) (h : orAt fl i m = some fl') (hm : has m fVisit = false) (j : Nat) :
    visA fl' j = visA fl j := orAt_keep fl fl' i m h fVisit hm j

/-- the eight neighbours of `(x, y)` in the padded array, in the order `updateNeighborFlags` visits them -/
def nbrs (w x y : Nat) : List Nat :=
  [y * (w + 2) + (x + 1), (y + 2) * (w + 2) + (x + 1), (y + 1) * (w + 2) + x, (y + 1) * (w + 2) + (x + 2),
    y * (w + 2) + x, y * (w + 2) + (x + 2), (y + 2) * (w + 2) + x, (y + 2) * (w + 2) + (x + 2)]

/-- what each of them is told about the sample that became significant -/
def nbrBits (sign : Bool) : List Nat :=
  [fSigS ||| (if sign then fSignS else 0), fSigN ||| (if sign then fSignN else 0),
    fSigE ||| (if sign then fSignE else 0), fSigW ||| (if sign then fSignW else 0), fSigSE, fSigSW, fSigNE, fSigNW]

def orAll (fl : Array Nat) (l : List (Nat × Nat)) : Option (Array Nat) := l.foldlM (fun fl p => orAt fl p.1 p.2) fl

theorem updateNeighborFlags_eq (w : Nat) (fl : Array Nat) (x y idx : Nat) : updateNeighborFlags w fl x y idx =
    (fl[idx]?).bind fun f => orAll fl ((nbrs w x y).zip (nbrBits (has f fSign))) := by
  unfold updateNeighborFlags orAll nbrs nbrBits
  simp only [List.zip_cons_cons, List.zip_nil_right, List.foldlM_cons, List.foldlM_nil, bind_pure, Option.bind_eq_bind]

theorem orAll_keep : ∀ (l : List (Nat × Nat)) (fl fl' : Array Nat), orAll fl l = some fl' →
    fl'.size = fl.size ∧ ∀ k, (∀ p ∈ l, has p.2 k = false) → ∀ j, has (gf fl' j) k = has (gf fl j) k
  | [], fl, fl', h => by cases h; exact ⟨rfl, fun _ _ _ => rfl⟩
  | p :: l, fl, fl', h => by
    unfold orAll at h
    rw [List.foldlM_cons] at h
    obtain ⟨f1, h1, h⟩ := Option.bind_eq_some_iff.mp h
    obtain ⟨hs, hk⟩ := orAll_keep l f1 fl' h
    refine ⟨by rw [hs, orAt_size _ _ _ _ h1], fun k hm j => ?_⟩
    rw [hk k (fun q hq => hm q (List.mem_cons_of_mem _ hq)) j, orAt_keep _ _ _ _ h1 k (hm p List.mem_cons_self) j]

theorem orAll_ok (l : List (Nat × Nat)) (fl : Array Nat) (hl : ∀ p ∈ l, p.1 < fl.size) :
    ∃ fl', orAll fl l = some fl' ∧ fl'.size = fl.size := by
  unfold orAll
  exact Loop.foldlM_inv_mem (fun fl p => orAt fl p.1 p.2) (fun f : Array Nat => f.size = fl.size) l
    (fun p f hp hf => (orAt_ok f p.1 p.2 (by rw [hf]; exact hl p hp)).imp fun f' h => ⟨h.1, h.2.trans hf⟩) fl rfl

theorem nbrs_lt (w h x y : Nat) (hx : x < w) (hy : y < h) : ∀ i ∈ nbrs w x y, i < (w + 2) * (h + 2) := by
  intro i hi
  simp only [nbrs, List.mem_cons, List.not_mem_nil, or_false] at hi
  rcases hi with rfl | rfl | rfl | rfl | rfl | rfl | rfl | rfl <;> exact pad_lt w h _ _ (by omega) (by omega)

theorem unf_sig_vis (w : Nat) (fl fl' : Array Nat) (x y idx : Nat) (h : updateNeighborFlags w fl x y idx = some fl') :
    fl'.size = fl.size ∧ ∀ j, sigA fl' j = sigA fl j ∧ visA fl' j = visA fl j := by
  rw [updateNeighborFlags_eq] at h
  obtain ⟨f, _, h⟩ := Option.bind_eq_some_iff.mp h
  obtain ⟨hs, hk⟩ := orAll_keep _ _ _ h
  have hm : ∀ k, (∀ m ∈ nbrBits (has f fSign), has m k = false) → ∀ j, has (gf fl' j) k = has (gf fl j) k :=
    fun k hm => hk k fun p hp => hm p.2 (List.of_mem_zip hp).2
  exact ⟨hs, fun j => ⟨hm fSig (by cases has f fSign <;> decide) j, hm fVisit (by cases has f fSign <;> decide) j⟩⟩

theorem updateNeighborFlags_ok (w h : Nat) (fl : Array Nat) (x y : Nat) (hsz : fl.size = (w + 2) * (h + 2))
    (hx : x < w) (hy : y < h) :
    ∃ fl', updateNeighborFlags w fl x y (idxOf w x y) = some fl' ∧ fl'.size = fl.size := by
  rw [updateNeighborFlags_eq, Array.getElem?_eq_getElem (by rw [hsz]; exact idx_lt w h x y hx hy), Option.bind_some]
  exact orAll_ok _ fl fun p hp => hsz ▸ nbrs_lt w h x y hx hy p.1 (List.of_mem_zip hp).1

theorem has_pow (f n : Nat) : has f (2 ^ n) = decide (f / 2 ^ n % 2 = 1) := by
  unfold has
  rw [Nat.and_two_pow, Bool.eq_iff_iff, bne_iff_ne, decide_eq_true_iff, Nat.mul_ne_zero_iff]
  have := Nat.two_pow_pos n
  omega

theorem clr_visit (f : Nat) : has (clr f fVisit) fSig = has f fSig ∧ has (clr f fVisit) fVisit = false := by
  have e1 : fSig = 2 ^ 0 := rfl
  have e4 : fVisit = 2 ^ 2 := rfl
  unfold clr
  rw [e1, e4, has_pow, has_pow, has_pow, Nat.and_two_pow]
  -- `f - 4·(f/4 % 2)`: bit 0 as in `f`, bit 2 gone
  simp only [Nat.pow_zero, Nat.div_one, Nat.reducePow]
  constructor
  · congr 1; apply propext; omega
  · rw [decide_eq_false_iff_not]; omega

theorem clrvis_eff (fl : Array Nat) (idx : Nat) (hi : idx < fl.size) :
    (∀ j, sigA (fl.setIfInBounds idx (clr fl[idx] fVisit)) j = sigA fl j) ∧
    (∀ j, visA (fl.setIfInBounds idx (clr fl[idx] fVisit)) j = (visA fl j && !decide (j = idx))) := by
  constructor
  · intro j; unfold sigA; rw [gf_set _ _ _ _ hi]
    by_cases hji : j = idx
    · rw [if_pos hji, (clr_visit _).1, hji, gf_get _ _ hi]
    · rw [if_neg hji]
  · intro j; unfold visA; rw [gf_set _ _ _ _ hi]
    by_cases hji : j = idx
    · rw [if_pos hji, (clr_visit _).2]; simp [hji]
    · rw [if_neg hji]; simp [hji]

theorem clearVisit_size (fl : Array Nat) : (clearVisit fl).size = fl.size := Array.size_map ..

theorem gf_clearVisit (fl : Array Nat) (j : Nat) : gf (clearVisit fl) j = clr (gf fl j) fVisit := by
  unfold gf clearVisit; rw [Array.getElem?_map]; cases fl[j]? <;> rfl

theorem clearVisit_eff (fl : Array Nat) :
    (∀ j, sigA (clearVisit fl) j = sigA fl j) ∧ (∀ j, visA (clearVisit fl) j = false) :=
  ⟨fun j => by unfold sigA; rw [gf_clearVisit]; exact (clr_visit _).1,
    fun j => by unfold visA; rw [gf_clearVisit]; exact (clr_visit _).2⟩

/-- sample `dy` of the column is eligible for run-length mode -/
def RlGood (w : Nat) (fl : Array Nat) (k i dy : Nat) : Prop :=
  visA fl (idxOf w i (k + dy)) = false ∧ sigA fl (idxOf w i (k + dy)) = false ∧
    has (gf fl (idxOf w i (k + dy))) fSigNeighbors = false

def rlStep (w bp : Nat) (V : Array Int) (fl : Array Nat) (k i : Nat) (acc : Bool × Nat × Bool) (dy : Nat) :
    Option (Bool × Nat × Bool) :=
  if acc.2.2 then some acc else
  (fl[idxOf w i (k + dy)]?).bind fun f =>
  if has f fVisit then some (false, acc.2.1, true)
  else if has f fSig ∨ has f fSigNeighbors then some (false, acc.2.1, true)
  else (V[idxOf w i (k + dy)]?).bind fun v =>
    some (acc.1, if acc.2.1 = 4 ∧ magBit v bp ≠ 0 then dy else acc.2.1, false)

theorem rlScan_fold (w bp : Nat) (V : Array Int) (fl : Array Nat) (k i : Nat) :
    rlScan w bp V fl k i = ((List.range 4).foldlM (rlStep w bp V fl k i) (true, 4, false)).map fun r => (r.1, r.2.1) :=
  rfl

theorem rlStep_cases (w h bp : Nat) (V : Array Int) (fl : Array Nat) (k i dy : Nat)
    (hf : fl.size = (w + 2) * (h + 2)) (hd : V.size = (w + 2) * (h + 2)) (hi : i < w) (hk : k + dy < h)
    (can : Bool) (pos : Nat) :
    rlStep w bp V fl k i (can, pos, true) dy = some (can, pos, true) ∧
    (¬RlGood w fl k i dy → rlStep w bp V fl k i (can, pos, false) dy = some (false, pos, true)) ∧
    (RlGood w fl k i dy → rlStep w bp V fl k i (can, pos, false) dy =
      some (can, if pos = 4 ∧ magBit (gi V (idxOf w i (k + dy))) bp ≠ 0 then dy else pos, false)) := by
  have hix := idx_lt w h i (k + dy) hi hk
  have hiF : idxOf w i (k + dy) < fl.size := by rw [hf]; exact hix
  have hiV : idxOf w i (k + dy) < V.size := by rw [hd]; exact hix
  unfold rlStep RlGood
  rw [visA_get _ _ hiF, sigA_get _ _ hiF, gf_get _ _ hiF, gi_get _ _ hiV]
  simp only [Bool.false_eq_true, if_false, Array.getElem?_eq_getElem hiF, Array.getElem?_eq_getElem hiV,
    Option.bind_some]
  refine ⟨rfl, fun hng => ?_, fun hg => ?_⟩
  · by_cases hv : has fl[idxOf w i (k + dy)] fVisit = true
    · rw [if_pos hv]
    · rw [if_neg hv]
      by_cases hsn : has fl[idxOf w i (k + dy)] fSig = true ∨ has fl[idxOf w i (k + dy)] fSigNeighbors = true
      · rw [if_pos hsn]
      · exact absurd ⟨Bool.eq_false_iff.mpr hv, Bool.eq_false_iff.mpr fun hh => hsn (Or.inl hh),
          Bool.eq_false_iff.mpr fun hh => hsn (Or.inr hh)⟩ hng
  · rw [if_neg (by rw [hg.1]; decide), if_neg (by rw [hg.2.1, hg.2.2]; decide)]

/-- `pos = 4` is the model's stand-in for Go's `-1`: no sample of the column has bit `bp` set -/
theorem rlScan_spec (w h bp : Nat) (V : Array Int) (fl : Array Nat) (k i : Nat)
    (hf : fl.size = (w + 2) * (h + 2)) (hd : V.size = (w + 2) * (h + 2)) (hi : i < w) (hk : k + 3 < h) :
    ∃ can pos, rlScan w bp V fl k i = some (can, pos) ∧ (can = true ↔ ∀ dy, dy < 4 → RlGood w fl k i dy) ∧
      (can = true → (pos = 4 ∧ ∀ dy, dy < 4 → magBit (gi V (idxOf w i (k + dy))) bp = 0) ∨
        (pos < 4 ∧ magBit (gi V (idxOf w i (k + pos))) bp ≠ 0 ∧ ∀ dy, dy < pos → magBit (gi V (idxOf w i (k + dy))) bp = 0)) := by
  rw [rlScan_fold]
  -- either the scan is still running over eligible samples, or it has stopped at one that is not
  obtain ⟨r, er, hr⟩ := Loop.foldlM_range_inv (rlStep w bp V fl k i)
    (fun n (acc : Bool × Nat × Bool) =>
      (acc.1 = true ∧ acc.2.2 = false ∧ (∀ dy, dy < n → RlGood w fl k i dy) ∧
        ((acc.2.1 = 4 ∧ ∀ dy, dy < n → magBit (gi V (idxOf w i (k + dy))) bp = 0) ∨
          (acc.2.1 < n ∧ magBit (gi V (idxOf w i (k + acc.2.1))) bp ≠ 0 ∧
            ∀ dy, dy < acc.2.1 → magBit (gi V (idxOf w i (k + dy))) bp = 0))) ∨
      (acc.1 = false ∧ acc.2.2 = true ∧ ∃ dy, dy < n ∧ ¬RlGood w fl k i dy))
    4
    (by
      intro n s hn hinv
      obtain ⟨can, pos, stopped⟩ := s
      obtain ⟨c1, c2, c3⟩ := rlStep_cases w h bp V fl k i n hf hd hi (by omega) can pos
      simp only [] at hinv
      rcases hinv with ⟨rfl, rfl, h3, h4⟩ | ⟨rfl, rfl, dy, hdy, hb⟩
      · by_cases hg : RlGood w fl k i n
        · refine ⟨_, c3 hg, Or.inl ⟨rfl, rfl, Nat.forall_lt_succ_right.mpr ⟨h3, hg⟩, ?_⟩⟩
          · simp only []
            rcases h4 with ⟨hp4, hz⟩ | ⟨hpn, hnz, hz⟩
            · by_cases hm : magBit (gi V (idxOf w i (k + n))) bp ≠ 0
              · rw [if_pos ⟨hp4, hm⟩]; exact Or.inr ⟨by omega, hm, hz⟩
              · rw [if_neg (fun hh => hm hh.2)]
                exact Or.inl ⟨hp4, Nat.forall_lt_succ_right.mpr ⟨hz, Classical.not_not.mp hm⟩⟩
            · rw [if_neg (fun hh => by omega)]; exact Or.inr ⟨by omega, hnz, hz⟩
        · exact ⟨_, c2 hg, Or.inr ⟨rfl, rfl, n, by omega, hg⟩⟩
      · exact ⟨_, c1, Or.inr ⟨rfl, rfl, dy, by omega, hb⟩⟩)
    (true, 4, false)
    (Or.inl ⟨rfl, rfl, fun _ hh => absurd hh (by omega), Or.inl ⟨rfl, fun _ hh => absurd hh (by omega)⟩⟩)
  refine ⟨r.1, r.2.1, by rw [er]; rfl, ?_, fun hc => ?_⟩
  · rcases hr with ⟨h1, _, h3, _⟩ | ⟨h1, _, dy, hdy, hb⟩
    · rw [h1]; exact ⟨fun _ => h3, fun _ => rfl⟩
    · rw [h1]; exact ⟨fun hh => absurd hh (by decide), fun hall => absurd (hall dy hdy) hb⟩
  · rcases hr with ⟨_, _, _, h4⟩ | ⟨h1, _⟩
    · exact h4
    · rw [h1] at hc; exact absurd hc (by decide)

theorem rlScanDec_eq (w h bp : Nat) (V : Array Int) (fl : Array Nat) (k i : Nat)
    (hd : V.size = (w + 2) * (h + 2)) (hi : i < w) (hk : k + 3 < h) :
    rlScanDec w fl k i = (rlScan w bp V fl k i).map (·.1) := by
  rw [rlScan_fold]
  unfold rlScanDec
  rw [Option.map_map]
  have key := Loop.foldlM_sim (rlStep w bp V fl k i)
    (fun (acc : Bool × Bool) dy =>
        if acc.2 then some acc else
        (fl[idxOf w i (k + dy)]?).bind fun f =>
        if has f fVisit then some (false, true)
        else if has f fSig ∨ has f fSigNeighbors then some (false, true)
        else some acc)
    (fun (r : Bool × Nat × Bool) => (r.1, r.2.2)) (List.range 4)
    (by
      intro dy hdy s
      obtain ⟨can, pos, stopped⟩ := s
      have hix := idx_lt w h i (k + dy) hi (by have := List.mem_range.mp hdy; omega)
      unfold rlStep
      simp only []
      cases stopped with
      | true => rfl
      | false =>
        simp only [Bool.false_eq_true, if_false]
        cases fl[idxOf w i (k + dy)]? with
        | none => rfl
        | some f =>
          simp only [Option.bind_some]
          split
          · rfl
          · split
            · rfl
            · rw [Array.getElem?_eq_getElem (by rw [hd]; exact hix)]; rfl)
    (true, 4, false)
  refine (congrArg (Option.map (·.1)) key).trans ?_
  rw [Option.map_eq_map, Option.map_map]
  rfl

theorem rlScanDec_spec (w h : Nat) (fl : Array Nat) (k i : Nat)
    (hf : fl.size = (w + 2) * (h + 2)) (hi : i < w) (hk : k + 3 < h) :
    ∃ can, rlScanDec w fl k i = some can ∧ (can = true ↔ ∀ dy, dy < 4 → RlGood w fl k i dy) := by
  -- the verdict does not depend on the coefficients: any array of the right size serves
  obtain ⟨can, pos, er, hcan, _⟩ :=
    rlScan_spec w h 0 (Array.replicate ((w + 2) * (h + 2)) 0) fl k i hf Array.size_replicate hi hk
  exact ⟨can, by rw [rlScanDec_eq w h 0 _ fl k i Array.size_replicate hi hk, er]; rfl, hcan⟩

theorem setAll_spec {κ : Type} (pos : κ → Nat) (v : κ → Int) : ∀ (l : List κ) (a : Array Int), (∀ k ∈ l, pos k < a.size) →
    (l.foldl (fun a k => a.setIfInBounds (pos k) (v k)) a).size = a.size ∧
    (∀ j, (∀ k ∈ l, j ≠ pos k) → gi (l.foldl (fun a k => a.setIfInBounds (pos k) (v k)) a) j = gi a j) ∧
    (∀ k ∈ l, (∀ k' ∈ l, pos k' = pos k → v k' = v k) → gi (l.foldl (fun a k => a.setIfInBounds (pos k) (v k)) a) (pos k) = v k)
  | [], _, _ => ⟨rfl, fun _ _ => rfl, fun _ hk => absurd hk List.not_mem_nil⟩
  | k0 :: l, a, hb => by
    have hb0 := hb k0 List.mem_cons_self
    obtain ⟨h1, h2, h3⟩ := setAll_spec pos v l (a.setIfInBounds (pos k0) (v k0)) fun k hk => by
      rw [Array.size_setIfInBounds]; exact hb k (List.mem_cons_of_mem _ hk)
    rw [List.foldl_cons]
    refine ⟨h1.trans Array.size_setIfInBounds, fun j hj => ?_, fun k hk hc => ?_⟩
    · rw [h2 j fun k hk => hj k (List.mem_cons_of_mem _ hk), gi_set _ _ _ _ hb0, if_neg (hj k0 List.mem_cons_self)]
    · by_cases hex : ∃ k' ∈ l, pos k' = pos k
      · obtain ⟨k', hk', e⟩ := hex
        have hv := hc k' (List.mem_cons_of_mem _ hk') e
        rw [← e, ← hv]
        exact h3 k' hk' fun k'' hk'' e'' => (hc k'' (List.mem_cons_of_mem _ hk'') (e''.trans e)).trans hv.symm
      · have hk0 : k = k0 := (List.mem_cons.mp hk).resolve_right fun hkl => hex ⟨k, hkl, rfl⟩
        rw [h2 _ fun k' hk' e => hex ⟨k', hk', e.symm⟩, hk0, gi_set _ _ _ _ hb0, if_pos rfl]

theorem padBlock_spec (w h : Nat) (c : List Int) :
    (padBlock w h c).size = (w + 2) * (h + 2) ∧
    (∀ x y, x < w → y < h → gi (padBlock w h c) (idxOf w x y) = c.getD (y * w + x) 0) ∧
    (∀ j, (∀ x y, x < w → y < h → j ≠ idxOf w x y) → gi (padBlock w h c) j = 0) := by
  have e : padBlock w h c = ((List.range h).flatMap fun y => (List.range w).map fun x => (x, y)).foldl
      (fun a p => a.setIfInBounds (idxOf w p.1 p.2) (c.getD (p.2 * w + p.1) 0)) (Array.replicate ((w + 2) * (h + 2)) 0) := by
    unfold padBlock; rw [List.foldl_flatMap]; simp only [List.foldl_map]
  have mem : ∀ p : Nat × Nat, (p ∈ (List.range h).flatMap fun y => (List.range w).map fun x => (x, y)) ↔ p.1 < w ∧ p.2 < h := by
    intro p
    simp only [List.mem_flatMap, List.mem_map, List.mem_range]
    exact ⟨fun ⟨y, hy, x, hx, e⟩ => e ▸ ⟨hx, hy⟩, fun ⟨hx, hy⟩ => ⟨p.2, hy, p.1, hx, rfl⟩⟩
  obtain ⟨h1, h2, h3⟩ := setAll_spec (fun p : Nat × Nat => idxOf w p.1 p.2) (fun p => c.getD (p.2 * w + p.1) 0) _
    (Array.replicate ((w + 2) * (h + 2)) 0) fun p hp => by
      rw [Array.size_replicate]; exact idx_lt w h p.1 p.2 ((mem p).mp hp).1 ((mem p).mp hp).2
  rw [e]
  refine ⟨h1.trans Array.size_replicate, fun x y hx hy => h3 (x, y) ((mem _).mpr ⟨hx, hy⟩) fun p hp e => ?_, fun j hj => ?_⟩
  · obtain ⟨e1, e2⟩ := idx_inj w p.1 p.2 x y ((mem p).mp hp).1 hx e
    simp only [e1, e2]
  · rw [h2 j fun p hp => hj p.1 p.2 ((mem p).mp hp).1 ((mem p).mp hp).2, gi_replicate]
theorem padBlock_entry (w h : Nat) (c : List Int) (j : Nat) :
    gi (padBlock w h c) j = 0 ∨ ∃ k, gi (padBlock w h c) j = c.getD k 0 := by
  by_cases hj : ∀ x y, x < w → y < h → j ≠ idxOf w x y
  · exact Or.inl ((padBlock_spec w h c).2.2 j hj)
  · simp only [Classical.not_forall, Classical.not_not] at hj
    obtain ⟨x, y, hx, hy, rfl⟩ := hj
    exact Or.inr ⟨_, (padBlock_spec w h c).2.1 x y hx hy⟩

theorem padBlock_boundB (B : Nat) (hB : 0 < B) (w h : Nat) (c : List Int) (hc : ∀ v ∈ c, v.natAbs < B) :
    ∀ j, (gi (padBlock w h c) j).natAbs < B := by
  intro j
  rcases padBlock_entry w h c j with h0 | ⟨k, hk⟩
  · rw [h0]; exact hB
  · rw [hk]; exact List.getD_of_forall_mem (P := fun v : Int => v.natAbs < B) hc (d := 0) hB k

/-- the largest magnitude of the array, as `findMaxBitplane` computes it, through its upper bounds -/
theorem maxAbs_le (V : Array Int) (d : Nat) :
    V.foldl (fun m v => max m v.natAbs) 0 ≤ d ↔ ∀ j, (gi V j).natAbs ≤ d := by
  rw [← Array.foldl_toList, Loop.foldl_max_le Int.natAbs]
  refine ⟨fun ⟨_, hl⟩ j => ?_, fun hj => ⟨Nat.zero_le _, fun v hv => ?_⟩⟩
  · unfold gi
    by_cases hj : j < V.size
    · rw [Array.getElem?_eq_getElem hj]; exact hl _ (Array.mem_toList_iff.mpr (Array.getElem_mem hj))
    · rw [Array.getElem?_eq_none (by omega)]; exact Nat.zero_le _
  · obtain ⟨j, hlt, rfl⟩ := Array.mem_iff_getElem.mp (Array.mem_toList_iff.mp hv)
    exact gi_get V j hlt ▸ hj j

theorem findMaxBitplane_spec (V : Array Int) : (findMaxBitplane V = none ∧ ∀ j, gi V j = 0) ∨
    ∃ m, m ≠ 0 ∧ findMaxBitplane V = some (Nat.log2 m) ∧ ∀ d, m ≤ d ↔ ∀ j, (gi V j).natAbs ≤ d := by
  unfold findMaxBitplane
  simp only []
  split
  · next hm => exact Or.inl ⟨rfl, fun j => Int.natAbs_eq_zero.mp (Nat.le_zero.mp ((maxAbs_le V 0).mp (Nat.le_of_eq hm) j))⟩
  · next hm => exact Or.inr ⟨_, hm, rfl, maxAbs_le V⟩

theorem maxbp_zero (V : Array Int) (mb : Nat) (h : findMaxBitplane V = some mb) :
    ∀ j, (gi V j).natAbs / 2 ^ (mb + 1) = 0 := by
  obtain ⟨e, _⟩ | ⟨m, _, e, hle⟩ := findMaxBitplane_spec V <;> rw [e] at h <;> cases h
  exact fun j => Nat.div_eq_of_lt (Nat.lt_of_le_of_lt ((hle m).mp (Nat.le_refl m) j) Nat.lt_log2_self)

theorem rows_congr {α : Type} (w h : Nat) (f g : Nat → Nat → α) (hfg : ∀ x y, x < w → y < h → f x y = g x y) :
    ((List.range h).flatMap fun y => (List.range w).map fun x => f x y) =
      (List.range h).flatMap fun y => (List.range w).map fun x => g x y :=
  Radix.grid_congr w h (fun y x => f x y) (fun y x => g x y) fun y x hy hx => hfg x y hx hy

theorem rows_eq (w h : Nat) (c : List Int) (hc : c.length = w * h) :
    (List.range h).flatMap (fun y => (List.range w).map (fun x => c.getD (y * w + x) 0)) = c :=
  Radix.rows_eq 0 w h c hc

/-- `GetData()`: the padded array read back row by row -/
theorem readback (w h : Nat) (D : Array Int) (hsz : D.size = (w + 2) * (h + 2)) (f : Nat → Nat → Int)
    (hf : ∀ x y, x < w → y < h → gi D (idxOf w x y) = f x y) :
    ((List.range h).flatMap fun y => (List.range w).map fun x => idxOf w x y).mapM (fun i => D[i]?) =
      some ((List.range h).flatMap fun y => (List.range w).map fun x => f x y) := by
  rw [Loop.mapM_pure _ (gi D) _ (by
    intro i hi
    simp only [List.mem_flatMap, List.mem_range, List.mem_map] at hi
    obtain ⟨y, hy, x, hx, rfl⟩ := hi
    rw [Array.getElem?_eq_getElem (by rw [hsz]; exact idx_lt w h x y hx hy), gi_get]; rfl), List.map_flatMap]
  simp only [List.map_map]
  exact congrArg some (rows_congr w h _ _ hf)

theorem readback_zero (w h : Nat) (D : Array Int) (hsz : D.size = (w + 2) * (h + 2)) (h0 : ∀ j, gi D j = 0) :
    ((List.range h).flatMap fun y => (List.range w).map fun x => idxOf w x y).mapM (fun i => D[i]?) =
      some (List.replicate (w * h) 0) := by
  rw [← rows_eq w h (List.replicate (w * h) 0) List.length_replicate]
  exact readback w h D hsz _ fun x y _ _ => by
    rw [h0, List.getD_eq_getElem?_getD, List.getElem?_replicate]; split <;> rfl

theorem readout (w h : Nat) (coeffs : List Int) (hlen : coeffs.length = w * h) (D : Array Int)
    (hsz : D.size = (w + 2) * (h + 2)) (hdata : ∀ j, InB w h j → gi D j = gi (padBlock w h coeffs) j) :
    ((List.range h).flatMap fun y => (List.range w).map fun x => idxOf w x y).mapM (fun i => D[i]?) = some coeffs := by
  rw [readback w h D hsz _ (fun x y hx hy => by
    rw [hdata _ ⟨x, y, hx, hy, rfl⟩, (padBlock_spec w h coeffs).2.1 x y hx hy]), rows_eq w h coeffs hlen]

/-- the MQ encoder between two decisions -/
@[reducible] def MqOk (e : Mqc.Enc) : Prop := Mqc.RegOk e ∧ 0x8000 ≤ e.a ∧ e.ctx.size = 19

/-- encoder-side invariant of the pass state over a bit coder with invariant `P` -/
structure EncOkR (w h : Nat) (V : Array Int) (P : Mqc.Enc → Prop) (es : EncSt) : Prop where
  fsz : es.flags.size = (w + 2) * (h + 2)
  dsz : V.size = (w + 2) * (h + 2)
  coder : P es.mq

abbrev EncOk (w h : Nat) (data : Array Int) (st : EncSt) : Prop := EncOkR w h data MqOk st

theorem EncOk.reg {w h : Nat} {V : Array Int} {st : EncSt} (hs : EncOk w h V st) : Mqc.RegOk st.mq := hs.coder.1

theorem EncOk.norm {w h : Nat} {V : Array Int} {st : EncSt} (hs : EncOk w h V st) : 0x8000 ≤ st.mq.a := hs.coder.2.1

theorem EncOk.nctx {w h : Nat} {V : Array Int} {st : EncSt} (hs : EncOk w h V st) : st.mq.ctx.size = 19 := hs.coder.2.2

/-- the three `SetContextState` calls, as one function of the context array -/
def ctx3 (c : Array Nat) : Array Nat :=
  ((c.setIfInBounds CTXUNI (Mqc.u8 46)).setIfInBounds CTXRL (Mqc.u8 3)).setIfInBounds 0 (Mqc.u8 4)

theorem initCtx_eq (e : Mqc.Enc) (h : e.ctx.size = 19) : initCtx e = some { e with ctx := ctx3 e.ctx } := by
  unfold initCtx Mqc.setContextState
  simp only [Option.bind_eq_bind, h]
  rw [if_pos (by decide)]; simp only [Option.bind_some, Array.size_setIfInBounds, h]
  rw [if_pos (by decide)]; simp only [Option.bind_some, Array.size_setIfInBounds, h]
  rw [if_pos (by decide)]; rfl

theorem initCtxDec_eq (d : Mqc.Dec) (h : d.ctx.size = 19) : initCtxDec d = some { d with ctx := ctx3 d.ctx } := by
  unfold initCtxDec
  simp only [Option.bind_eq_bind, h]
  rw [if_pos (by decide)]; simp only [Option.bind_some, Array.size_setIfInBounds, h]
  rw [if_pos (by decide)]; simp only [Option.bind_some, Array.size_setIfInBounds, h]
  rw [if_pos (by decide)]; rfl

theorem ctx3_ok (c : Array Nat) (h : Mqc.CtxOk c) : Mqc.CtxOk (ctx3 c) ∧ (ctx3 c).size = c.size := by
  refine ⟨?_, by simp [ctx3]⟩
  apply Mqc.ctxOk_set; apply Mqc.ctxOk_set; apply Mqc.ctxOk_set _ _ _ h
  all_goals decide

theorem ctx3_reset : Mqc.CtxOk (ctx3 (Array.replicate 19 0)) ∧ (ctx3 (Array.replicate 19 0)).size = 19 :=
  ctx3_ok _ fun i => by rw [Mqc.rd_replicate0]; decide

theorem resetInit_eq (e : Mqc.Enc) (hsz : e.ctx.size = 19) :
    initCtx (Mqc.resetContexts e) = some { e with ctx := ctx3 (Array.replicate 19 0) } := by
  rw [initCtx_eq _ (by unfold Mqc.resetContexts; rw [Array.size_replicate]; exact hsz)]
  unfold Mqc.resetContexts; rw [hsz]

theorem MqOk.setCtx {e : Mqc.Enc} (h : MqOk e) (c : Array Nat) (hc : Mqc.CtxOk c) (hsz : c.size = 19) :
    MqOk { e with ctx := c } :=
  ⟨Mqc.regok_sub e h.1 e.a e.c c h.1.apos h.1.ahi (Nat.le_refl _) hc, h.2.1, hsz⟩

theorem initCtxDec_ok (d : Mqc.Dec) (h : Mqc.DecOk d) (hn : 0x8000 ≤ d.a) (hsz : d.ctx.size = 19) :
    ∃ d', initCtxDec d = some d' ∧ Mqc.DecOk d' ∧ 0x8000 ≤ d'.a ∧ d'.ctx.size = 19 := by
  -- for a variable `c`: unifying `{ d with ctx := ctx3 d.ctx }.ctx` with `ctx3 d.ctx` unfolds `ctx3` and is slow
  have set : ∀ c : Array Nat, Mqc.CtxOk c → c.size = 19 →
      Mqc.DecOk { d with ctx := c } ∧ 0x8000 ≤ ({ d with ctx := c } : Mqc.Dec).a ∧ ({ d with ctx := c } : Mqc.Dec).ctx.size = 19 :=
    fun c hc hs => ⟨⟨h.bpin, h.apos, h.ahi, h.ctlo, h.cthi, h.chi, hc⟩, hn, hs⟩
  obtain ⟨hok, hs3⟩ := ctx3_ok d.ctx h.ctx
  exact ⟨_, initCtxDec_eq d hsz, set _ hok (hs3.trans hsz)⟩

end T1
