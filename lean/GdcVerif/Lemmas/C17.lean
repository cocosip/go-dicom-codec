import GdcVerif.GoPrelude
import GdcVerif.Lemmas.GoBits
import GdcVerif.Model.C17Params
import GdcVerif.Model.Rle
import GdcVerif.Lemmas.RleEnc
import GdcVerif.Lemmas.RleFrame
import GdcVerif.Gen.JpegLs
import GdcVerif.Gen.ValidateJpegBaseline
import GdcVerif.Gen.ValidateJpegExtended
import GdcVerif.Gen.ValidateJpegLossless
import GdcVerif.Gen.ValidateJpegSv1
import GdcVerif.Gen.ValidateJpegLsNear
import GdcVerif.Gen.ValidateJ2k
import GdcVerif.Gen.ValidateHtj2k
/-!
  C17 — format-side definitions (`…Representable`, written from T.81 / T.87 / T.800, not from
  the code; `RleRepresentable`, from PS3.5 Annex G, is in `Props/C17.lean`) and, for
  `Props/C17.lean`, the Go integer arithmetic of the guards, `isPowerOfTwo` / `nearestPowerOf2`, the
  `Validate` methods field by field, the RLE `encodeFrame` case split.
-/
namespace C17

/-- T.81 B.2.2 (SOFn: Y, X) and T.87 C.2.2 (SOF55): 16-bit fields; X = 0 is not allowed and
    Y = 0 announces a DNL segment, which none of the encoders writes. -/
def Dim16 (n : Int) : Prop := 1 ≤ n ∧ n ≤ 65535

def bytesPerSample (p : Int) : Int := (p + 7) / 8

/-- the 16-bit big-endian size field as written by every writeSOF* (`byte(v>>8), byte(v)`) and
    read back by a decoder -/
def declared16 (v : Int) : Int := Go.uwrap8 (Go.shr v 8) * 256 + Go.uwrap8 v

/-- JPEG Baseline (SOF0): P = 8, Nf ∈ {1,3} as supported by the library, quality 1..100 -/
def BaselineRepresentable (len w h c q : Int) : Prop :=
  Dim16 w ∧ Dim16 h ∧ (c = 1 ∨ c = 3) ∧ (1 ≤ q ∧ q ≤ 100) ∧ len ≥ w * h * c

/-- JPEG Extended (SOF1): P = 8 (1 or 3 components) or P = 12 (monochrome only in this library) -/
def ExtendedRepresentable (len w h c p q : Int) : Prop :=
  Dim16 w ∧ Dim16 h ∧ (1 ≤ q ∧ q ≤ 100) ∧
  ((p = 8 ∧ (c = 1 ∨ c = 3) ∧ len ≥ w * h * c) ∨ (p = 12 ∧ c = 1 ∧ len ≥ w * h * 2))

/-- JPEG Lossless (SOF3): P 2..16, predictor selection value 1..7 (0 = let the encoder choose) -/
def LosslessRepresentable (len w h c p pred : Int) : Prop :=
  Dim16 w ∧ Dim16 h ∧ (c = 1 ∨ c = 3) ∧ (2 ≤ p ∧ p ≤ 16) ∧ (0 ≤ pred ∧ pred ≤ 7) ∧
  len ≥ w * h * c * bytesPerSample p

/-- JPEG-LS (SOF55, T.87): P 2..16; NEAR ≤ min(255, MAXVAL/2) with MAXVAL = 2^P − 1 (T.87 C.2.3) -/
def JpegLsRepresentable (len w h c p near : Int) : Prop :=
  Dim16 w ∧ Dim16 h ∧ (c = 1 ∨ c = 3) ∧ (2 ≤ p ∧ p ≤ 16) ∧
  (0 ≤ near ∧ near ≤ 255 ∧ near ≤ ((2 : Int) ^ p.toNat - 1) / 2) ∧
  len ≥ w * h * c * bytesPerSample p

def pow2s (lo hi : Nat) : List Int := (List.range (hi + 1 - lo)).map (fun k => (2 : Int) ^ (k + lo))

/-- the tile extent along one axis: the argument, 0 meaning the whole image (T.800 A.5.1 XTsiz/YTsiz) -/
def tileExtent (extent tile : Int) : Int := if tile = 0 then extent else tile

/-- tiles along one axis of an image at origin 0: ⌈extent / tile extent⌉ (T.800 B.3) -/
def tilesAlong (extent tile : Int) : Int := (extent + tileExtent extent tile - 1) / tileExtent extent tile

/-- JPEG 2000 (T.800 A.5.1 SIZ, A.6.1 COD): 32-bit image size, tile size 0 (= whole image) or
    positive and within the 32-bit XTsiz/YTsiz fields, at most 65535 tiles (A.4.2: Isot is a 16-bit
    tile index), code-block width/height 2^2..2^10 with area ≤ 4096 (xcb+ycb ≤ 12), precinct size 0
    (= default 2^15) or a power of two 2^0..2^15 (PPx/PPy are exponents), 1..65535 layers,
    progression order 0..4; components 1..4, depth 1..16, 0..6 levels and quality 1..100 (lossy)
    are what the library documents as supported; the byte count of the source frame is a Go `int`
    (2^63 − 1: the encoder multiplies it out in `int`) and the buffer holds it. -/
def J2kRepresentable (p : Gen.ValidateJ2k.EncodeParams) (len : Int) : Prop :=
  (1 ≤ p.Width ∧ p.Width ≤ 4294967295) ∧ (1 ≤ p.Height ∧ p.Height ≤ 4294967295) ∧
  (1 ≤ p.Components ∧ p.Components ≤ 4) ∧ (1 ≤ p.BitDepth ∧ p.BitDepth ≤ 16) ∧
  (0 ≤ p.NumLevels ∧ p.NumLevels ≤ 6) ∧
  p.CodeBlockWidth ∈ pow2s 2 10 ∧ p.CodeBlockHeight ∈ pow2s 2 10 ∧
  p.CodeBlockWidth * p.CodeBlockHeight ≤ 4096 ∧
  (0 ≤ p.TileWidth ∧ p.TileWidth ≤ 4294967295) ∧ (0 ≤ p.TileHeight ∧ p.TileHeight ≤ 4294967295) ∧
  tilesAlong p.Width p.TileWidth * tilesAlong p.Height p.TileHeight ≤ 65535 ∧
  (p.PrecinctWidth = 0 ∨ p.PrecinctWidth ∈ pow2s 0 15) ∧
  (p.PrecinctHeight = 0 ∨ p.PrecinctHeight ∈ pow2s 0 15) ∧
  (1 ≤ p.NumLayers ∧ p.NumLayers ≤ 65535) ∧
  (0 ≤ p.ProgressionOrder ∧ p.ProgressionOrder ≤ 4) ∧
  (p.Lossless = false → 1 ≤ p.Quality ∧ p.Quality ≤ 100) ∧
  p.Width * p.Height * p.Components * bytesPerSample p.BitDepth ≤ 9223372036854775807 ∧
  len ≥ p.Width * p.Height * p.Components * bytesPerSample p.BitDepth

instance (n : Int) : Decidable (Dim16 n) := by unfold Dim16; infer_instance
instance (a b c d e : Int) : Decidable (BaselineRepresentable a b c d e) := by
  unfold BaselineRepresentable; infer_instance
instance (a b c d e f : Int) : Decidable (ExtendedRepresentable a b c d e f) := by
  unfold ExtendedRepresentable; infer_instance
instance (a b c d e f : Int) : Decidable (LosslessRepresentable a b c d e f) := by
  unfold LosslessRepresentable; infer_instance
instance (a b c d e f : Int) : Decidable (JpegLsRepresentable a b c d e f) := by
  unfold JpegLsRepresentable; infer_instance
instance (p : Gen.ValidateJ2k.EncodeParams) (len : Int) : Decidable (J2kRepresentable p len) := by
  unfold J2kRepresentable tilesAlong tileExtent; infer_instance

theorem tdiv8 (p : Int) (h : 0 ≤ p) : Int.tdiv (p + 7) 8 = bytesPerSample p := by
  unfold bytesPerSample
  exact Int.tdiv_eq_ediv_of_nonneg (by omega)

/-- the `int`-overflow guard of jpeg2000 `validateParams`: width ≤ MaxInt / (components · bytes) / height -/
theorem mul_le_of_le_tdiv_tdiv (a h k M : Int) (hM : 0 ≤ M) (hk : 0 < k) (hh : 0 < h)
    (hle : a ≤ (Int.tdiv M k).tdiv h) : a * h * k ≤ M := by
  rw [Int.tdiv_eq_ediv_of_nonneg hM] at hle
  rw [Int.tdiv_eq_ediv_of_nonneg (Int.ediv_nonneg hM (by omega))] at hle
  have h1 : a * h ≤ M / k := (Int.le_ediv_iff_mul_le hh).1 hle
  exact (Int.le_ediv_iff_mul_le hk).1 h1

/-- the Go tile count of `validateParams` / `writeTiles` -/
theorem tdiv_tiles (extent tile : Int) (he : 1 ≤ extent) (ht : 0 ≤ tile) :
    (extent + (if tile = 0 then extent else tile) - 1).tdiv (if tile = 0 then extent else tile) =
      tilesAlong extent tile := by
  unfold tilesAlong tileExtent
  exact Int.tdiv_eq_ediv_of_nonneg (by split <;> omega)

/-- jpeg/extended/sequential12.go `encodeSequential12`, the 12-bit monochrome coder both entry points end in -/
theorem sequential12_accepts_representable (len w h c q : Int)
    (hacc : Gen.ValidateJpegExtended.encodeSequential12_accepts len w h c q = true) :
    ExtendedRepresentable len w h c 12 q := by
  unfold Gen.ValidateJpegExtended.encodeSequential12_accepts at hacc
  unfold ExtendedRepresentable Dim16
  simp at hacc
  omega

theorem declared16_of_fits (v : Int) (h0 : 0 ≤ v) (h1 : v ≤ 65535) : declared16 v = v := by
  unfold declared16 Go.uwrap8 Go.shr
  have : (8 : Int).toNat = 8 := rfl
  rw [this, Int.shiftRight_eq_div_pow]
  omega

open Gen.ValidateJ2k in
theorem isPowerOfTwo_pow2 (n : Int) (hn : n < 2 ^ 62) (hp : isPowerOfTwo n = true) : ∃ k : Nat, n = 2 ^ k := by
  unfold isPowerOfTwo at hp
  simp at hp
  obtain ⟨hpos, hand⟩ := hp
  obtain ⟨m, rfl⟩ : ∃ m : Nat, n = (m : Int) := ⟨n.toNat, by omega⟩
  have e1 : (m : Int) - 1 = ((m - 1 : Nat) : Int) := by omega
  rw [e1, Go.and_nat _ _ (by omega) (by omega)] at hand
  obtain ⟨k, hk⟩ := (Nat.and_sub_one_eq_zero_iff_isPowerOfTwo (n := m) (by omega)).mp (by omega)
  exact ⟨k, by rw [hk]; simp⟩

theorem pow2_mem_pow2s {lo hi k : Nat} (h1 : lo ≤ k) (h2 : k ≤ hi) : ((2 ^ k : Nat) : Int) ∈ pow2s lo hi := by
  unfold pow2s
  exact List.mem_map.mpr ⟨k - lo, List.mem_range.mpr (by omega), by rw [Nat.sub_add_cancel h1]; simp⟩

open Gen.ValidateJ2k in
theorem isPowerOfTwo_mem (n : Int) (lo hi : Nat) (hhi : hi ≤ 61)
    (hl : ((2 ^ lo : Nat) : Int) ≤ n) (hh : n ≤ ((2 ^ hi : Nat) : Int))
    (hp : isPowerOfTwo n = true) : n ∈ pow2s lo hi := by
  have h61 := Nat.pow_le_pow_right (n := 2) (by decide) hhi
  obtain ⟨k, hk⟩ := isPowerOfTwo_pow2 n (by omega) hp
  have hk' : n = ((2 ^ k : Nat) : Int) := by rw [hk]; simp
  rw [hk']
  exact pow2_mem_pow2s ((Nat.pow_le_pow_iff_right (a := 2) (by decide)).1 (by omega))
    ((Nat.pow_le_pow_iff_right (a := 2) (by decide)).1 (by omega))

/-- the generated `isPowerOfTwo` (n>0 && n&(n-1)==0, Go 64-bit `&`) on the range the code-block guard lets through -/
theorem isPowerOfTwo_range (n : Int) (h4 : 4 ≤ n) (h1024 : n ≤ 1024)
    (hp : Gen.ValidateJ2k.isPowerOfTwo n = true) : n ∈ pow2s 2 10 :=
  isPowerOfTwo_mem n 2 10 (by decide) (by omega) (by omega) hp

theorem isPowerOfTwo_precinct (n : Int) (h : n ≤ 32768)
    (hp : Gen.ValidateJ2k.isPowerOfTwo n = true) : n ∈ pow2s 0 15 := by
  have hpos : 0 < n := by
    unfold Gen.ValidateJ2k.isPowerOfTwo at hp
    simp at hp
    exact hp.1
  exact isPowerOfTwo_mem n 0 15 (by decide) (by omega) (by omega) hp

open C17Model

theorem pow2_succ_cast (j : Nat) : ((2 ^ j : Nat) : Int) * 2 = ((2 ^ (j + 1) : Nat) : Int) := by
  rw [Nat.pow_succ]
  omega

theorem npo2Loop_spec (n : Int) : ∀ (fuel j : Nat), n ≤ ((2 ^ (j + fuel) : Nat) : Int) →
    ∃ k, npo2Loop n fuel ((2 ^ j : Nat) : Int) = ((2 ^ k : Nat) : Int) ∧ n ≤ ((2 ^ k : Nat) : Int) ∧
      (k = j ∨ ((2 ^ (k - 1) : Nat) : Int) < n) := by
  intro fuel
  induction fuel with
  | zero => intro j h; exact ⟨j, by simp [npo2Loop], by simpa using h, Or.inl rfl⟩
  | succ f ih =>
    intro j h
    by_cases hlt : ((2 ^ j : Nat) : Int) < n
    · have hstep : npo2Loop n (f + 1) ((2 ^ j : Nat) : Int) = npo2Loop n f ((2 ^ (j + 1) : Nat) : Int) := by
        rw [npo2Loop, if_pos hlt, Go.shl_eq_mul_two, pow2_succ_cast]
      obtain ⟨k, hk, hn, hor⟩ := ih (j + 1) (by rw [show j + 1 + f = j + (f + 1) by omega]; exact h)
      refine ⟨k, by rw [hstep, hk], hn, Or.inr ?_⟩
      rcases hor with h1 | h1
      · subst h1; simpa using hlt
      · exact h1
    · refine ⟨j, ?_, by omega, Or.inl rfl⟩
      rw [npo2Loop, if_neg hlt]

theorem nearestPowerOf2_range (n : Int) (h4 : 4 ≤ n) (h1024 : n ≤ 1024) :
    nearestPowerOf2 n ∈ pow2s 2 10 := by
  have hfuel : n ≤ ((2 ^ (0 + n.toNat) : Nat) : Int) := by
    have := @Nat.lt_two_pow_self n.toNat
    rw [Nat.zero_add]; omega
  obtain ⟨k, hk, hn, hor⟩ := npo2Loop_spec n n.toNat 0 hfuel
  have hk2 : 2 ≤ k := (Nat.pow_le_pow_iff_right (a := 2) (by decide)).1 (by omega)
  have hprev : ((2 ^ (k - 1) : Nat) : Int) < n := hor.resolve_left (by omega)
  have hk10 : k - 1 < 10 := (Nat.pow_lt_pow_iff_right (a := 2) (by decide)).1 (by omega)
  have hdouble : ((2 ^ k : Nat) : Int) = ((2 ^ (k - 1) : Nat) : Int) * 2 := by
    rw [pow2_succ_cast, show k - 1 + 1 = k by omega]
  have h1 : ((2 ^ 0 : Nat) : Int) = 1 := rfl
  rw [h1] at hk
  unfold nearestPowerOf2
  rw [if_neg (by omega)]
  simp only [hk, Go.shr_one]
  have hhalf : ((2 ^ k : Nat) : Int) / 2 = ((2 ^ (k - 1) : Nat) : Int) := by omega
  rw [hhalf]
  split
  · rename_i hc
    -- the lower power wins only if 2n < 3·2^(k-1); with 4 ≤ n that is 2^1 < 2^(k-1)
    have : 1 < k - 1 := (Nat.pow_lt_pow_iff_right (a := 2) (by decide)).1 (by omega)
    exact pow2_mem_pow2s (by omega) (by omega)
  · exact pow2_mem_pow2s hk2 (by omega)

def clampI (lo hi x : Int) : Int := if x < lo then lo else if x > hi then hi else x

theorem clampI_range (lo hi x : Int) (h : lo ≤ hi) : lo ≤ clampI lo hi x ∧ clampI lo hi x ≤ hi := by
  unfold clampI
  omega

/-- Go `if rounded != x { x = rounded }` -/
theorem ite_bne_self (r x : Int) : (if (r != x) = true then r else x) = r := by
  by_cases h : r = x <;> simp [h]

/-! htj2k `Validate`, field by field: pushing the projection through the `if`s of the generated text
    (`apply_ite`) and dropping the branches that do not touch the field (`ite_self`) leaves the steps that
    write it, whatever the let/if layout of the translation. -/
section
open Gen.ValidateHtj2k

theorem htj2k_validate_quality (p : Parameters) :
    (Parameters.Validate p).1.Quality = clampI 1 100 p.Quality := by
  simp only [Parameters.Validate, apply_ite Parameters.Quality, ite_self, clampI, decide_eq_true_eq]

theorem htj2k_validate_levels (p : Parameters) :
    (Parameters.Validate p).1.NumLevels = clampI 0 6 p.NumLevels := by
  simp only [Parameters.Validate, apply_ite Parameters.NumLevels, ite_self, clampI, decide_eq_true_eq]

theorem htj2k_validate_width (p : Parameters) :
    (Parameters.Validate p).1.BlockWidth = nearestPowerOf2 (clampI 4 1024 p.BlockWidth) := by
  simp only [Parameters.Validate, apply_ite Parameters.BlockWidth, ite_self, clampI, decide_eq_true_eq,
    ite_bne_self]

theorem htj2k_validate_height (p : Parameters) :
    (Parameters.Validate p).1.BlockHeight = nearestPowerOf2 (clampI 4 1024 p.BlockHeight) := by
  simp only [Parameters.Validate, apply_ite Parameters.BlockHeight, ite_self, clampI, decide_eq_true_eq,
    ite_bne_self]

end

section
variable (p : J2kLosslessParams)

theorem j2kLossless_validate_levels :
    p.Validate.NumLevels = if p.NumLevels < 0 ∨ p.NumLevels > 6 then 5 else p.NumLevels := by
  simp only [J2kLosslessParams.Validate, apply_ite J2kLosslessParams.NumLevels, ite_self,
    Bool.or_eq_true, decide_eq_true_eq]

theorem j2kLossless_validate_rate : p.Validate.Rate = if p.Rate < 0 then 0 else p.Rate := by
  simp only [J2kLosslessParams.Validate, apply_ite J2kLosslessParams.Rate, ite_self]

theorem j2kLossless_validate_order :
    p.Validate.ProgressionOrder = if p.ProgressionOrder > 4 then 0 else p.ProgressionOrder := by
  simp only [J2kLosslessParams.Validate, apply_ite J2kLosslessParams.ProgressionOrder, ite_self]

theorem j2kLossless_validate_layers :
    p.Validate.NumLayers =
      if (p.AppendLosslessLayer && decide ((if p.NumLayers < 1 then 1 else p.NumLayers) < 2) &&
          p.targetRatioPos) = true
      then 2 else if p.NumLayers < 1 then 1 else p.NumLayers := by
  simp only [J2kLosslessParams.Validate, apply_ite J2kLosslessParams.NumLayers,
    apply_ite J2kLosslessParams.AppendLosslessLayer, apply_ite J2kLosslessParams.targetRatioPos, ite_self]

end

section
variable (p : J2kLossyParams)

theorem j2kLossy_validate_levels :
    p.Validate.NumLevels = if p.NumLevels < 0 ∨ p.NumLevels > 6 then 5 else p.NumLevels := by
  simp only [J2kLossyParams.Validate, apply_ite J2kLossyParams.NumLevels, ite_self,
    Bool.or_eq_true, decide_eq_true_eq]

theorem j2kLossy_validate_layers : p.Validate.NumLayers = if p.NumLayers < 1 then 1 else p.NumLayers := by
  simp only [J2kLossyParams.Validate, apply_ite J2kLossyParams.NumLayers, ite_self]

theorem j2kLossy_validate_rate : p.Validate.Rate = if p.Rate ≤ 0 then 16 else p.Rate := by
  simp only [J2kLossyParams.Validate, apply_ite J2kLossyParams.Rate, ite_self]

end

/-- the `tempBuffer` overrun flag is never raised (C01's encoder invariant), and the size guard of encodeFrame
    bounds what is returned -/
theorem encodeSegments_ok (i : Rle.Info) (src : Array Rle.Byte) :
    ∀ (n s : Nat) (body : List Rle.Byte) (offs : List Nat) (oob : Bool) (r : List Rle.Byte × List Nat × Bool),
      Rle.encodeSegments i src n s body offs oob = .ok r →
      r.2.2 = oob ∧ r.2.1.length = offs.length + n ∧
      (64 + body.length ≤ Rle.maxEncodedFrameLength → 64 + r.1.length ≤ Rle.maxEncodedFrameLength) := by
  intro n
  induction n with
  | zero =>
    intro s body offs oob r h
    simp [Rle.encodeSegments] at h
    cases h
    exact ⟨rfl, rfl, id⟩
  | succ n ih =>
    intro s body offs oob r h
    cases hrp : Rle.readPlane src (i.segStart s) i.segStride i.pixelCount with
    | none => rw [Rle.encodeSegments] at h; simp only [hrp] at h; cases h
    | some plane =>
      rw [Rle.encodeSegments_succ i src n s body offs oob plane hrp] at h
      split at h
      · cases h
      · rename_i hg
        obtain ⟨h1, h2, h3⟩ := ih _ _ _ _ r h
        have hc : (Rle.encodeSegment plane).1.length ≤ (Rle.chunkOf plane).length := by
          simp only [Rle.chunkOf, List.length_append]; omega
        exact ⟨h1, by rw [h2, List.length_append, List.length_singleton]; omega,
          fun _ => h3 (by simp only [List.length_append] at hg ⊢; omega)⟩

theorem encodeFrame_cases (i : Rle.Info) (src : Array Rle.Byte) :
    Rle.encodeFrame i src = .err ∨
    ∃ body offs, src.size ≠ 0 ∧ ¬ (i.numberOfSegments < 1 ∨ i.numberOfSegments > 15 ∨ i.pixelCount < 1) ∧
      offs.length = i.numberOfSegments ∧ 64 + body.length ≤ Rle.maxEncodedFrameLength ∧
      Rle.encodeFrame i src =
        .ok (Rle.le32 offs.length ++ (offs ++ List.replicate (15 - offs.length) 0).flatMap Rle.le32 ++
          Rle.padE body) := by
  unfold Rle.encodeFrame
  split
  · exact Or.inl rfl
  · split
    · exact Or.inl rfl
    · split
      · exact Or.inl rfl
      · rename_i body offs oob heq
        obtain ⟨rfl, hoffs, hfit⟩ := encodeSegments_ok i src _ _ _ _ _ _ heq
        exact Or.inr ⟨body, offs, ‹_›, ‹_›, by rw [hoffs]; exact Nat.zero_add _, hfit (by decide), rfl⟩

end C17
