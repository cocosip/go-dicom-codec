import GdcVerif.Model.Dwt53
import GdcVerif.Lemmas.GoBits
import GdcVerif.Lemmas.Basics
/-!
  5/3 DWT, one dimension.  `lift` / `unlift` state the transform in place (coefficient `p` at
  position `p`), the same for both parities of the origin; they are mutually inverse, and agree with
  their int32 reading under a magnitude bound.  The code-shaped functions of `Model/Dwt53.lean`
  compute `lift` / `unlift` in the deinterleaved layout `lay`.
-/
namespace Go

theorem forLoop_inv {σ : Type} (P : Nat → σ → Prop) (lo hi : Nat) (body : (i : Nat) → lo ≤ i → i < hi → σ → σ)
    (s : σ) (hle : lo ≤ hi) (h0 : P lo s) (hstep : ∀ i (h1 : lo ≤ i) (h2 : i < hi) s, P i s → P (i + 1) (body i h1 h2 s)) :
    P hi (forLoop lo hi body s) := by
  fun_induction forLoop lo hi body s with
  | case1 lo body s hlt ih =>
    exact ih hlt (hstep lo (Nat.le_refl _) hlt s h0) fun i h1 h2 s hp => hstep i (Nat.le_of_succ_le h1) h2 s hp
  | case2 lo body s hge => exact Nat.le_antisymm hle (Nat.le_of_not_lt hge) ▸ h0

end Go

namespace Dwt53

def toFn {w : Nat} (x : Vector Int w) (k : Nat) : Int := if h : k < w then x[k] else 0

theorem get_eq_toFn {w : Nat} (x : Vector Int w) (k : Nat) (h : k < w) : x[k] = toFn x k := by
  simp [toFn, h]

theorem ext_toFn {w : Nat} (x y : Vector Int w) (h : ∀ k, k < w → toFn x k = toFn y k) : x = y := by
  apply Vector.ext
  intro i hi
  rw [get_eq_toFn, get_eq_toFn]
  exact h i hi

theorem toFn_ge {w : Nat} (x : Vector Int w) (k : Nat) (hk : ¬ k < w) : toFn x k = 0 := by
  simp [toFn, hk]

theorem toFn_set {w : Nat} (v : Vector Int w) (i : Nat) (a : Int) (h : i < w) (k : Nat) :
    toFn (v.set i a h) k = if i = k then a else toFn v k := by
  unfold toFn
  by_cases hk : k < w
  · simp only [dif_pos hk, Vector.getElem_set]
  · rw [dif_neg hk, dif_neg hk, if_neg (by omega)]

theorem toFn_set_of {w : Nat} {v : Vector Int w} {i k : Nat} {a b : Int} (h : i < w)
    (h1 : i = k → a = b) (h2 : i ≠ k → toFn v k = b) : toFn (v.set i a h) k = b := by
  rw [toFn_set]
  exact ite_eq_of h1 h2

/-- the cells `c i`, `i < n`, of `d` hold `a i`, all others are as in `s0` -/
structure Filled {w : Nat} (c : Nat → Nat) (a : Nat → Int) (s0 : Vector Int w) (n : Nat) (d : Vector Int w) : Prop where
  cells : ∀ i, i < n → toFn d (c i) = a i
  rest : ∀ k, (∀ i, i < n → c i ≠ k) → toFn d k = toFn s0 k

/-- `for i := lo; i < hi; i++ { d[c i] = val i d }` over distinct cells `c i` -/
theorem forLoop_fill {w : Nat} (c : Nat → Nat) (a : Nat → Int) (s0 s : Vector Int w) (lo hi : Nat)
    (val : (i : Nat) → lo ≤ i → i < hi → Vector Int w → Int) (hc : ∀ i, lo ≤ i → i < hi → c i < w)
    (hinj : ∀ i j, i < j → j < hi → c i ≠ c j) (hle : lo ≤ hi) (hs : Filled c a s0 lo s)
    (hval : ∀ i h1 h2 d, (∀ k, (∀ j, j < i → c j ≠ k) → toFn d k = toFn s0 k) → val i h1 h2 d = a i) :
    Filled c a s0 hi (Go.forLoop lo hi (fun i h1 h2 d => d.set (c i) (val i h1 h2 d) (hc i h1 h2)) s) := by
  refine Go.forLoop_inv (P := Filled c a s0) lo hi _ s hle hs ?_
  intro n h1 h2 d ⟨ha, hb⟩
  refine ⟨fun i hi => ?_, fun k hk => ?_⟩
  · rcases Nat.lt_or_ge i n with hlt | hge
    · rw [toFn_set, if_neg fun h => hinj i n hlt h2 h.symm]
      exact ha i hlt
    · have : i = n := by omega
      subst this
      rw [toFn_set, if_pos rfl]
      exact hval i h1 h2 d hb
  · rw [toFn_set, if_neg (hk n (by omega))]
    exact hb k fun i hi => hk i (by omega)

section lifting
variable (wr : Int → Int)

def ends (w p : Nat) (first last mid : Int) : Int :=
  if p = 0 then first else if p + 1 = w then last else mid

theorem ends_first (w : Nat) (a b c : Int) : ends w 0 a b c = a := if_pos rfl

theorem ends_last {w p : Nat} (h0 : 0 < p) (h : p + 1 = w) (a b c : Int) : ends w p a b c = b := by
  rw [ends, if_neg (by omega), if_pos h]

theorem ends_mid {w p : Nat} (h0 : 0 < p) (h : p + 1 < w) (a b c : Int) : ends w p a b c = c := by
  rw [ends, if_neg (by omega), if_neg (by omega)]

/-- one lifting step at `p`: `a p` combined with its two neighbours in `n` by `o2`; at the two ends of the signal the one
neighbour there is, by `o1` -/
def step (w : Nat) (o1 : Int → Int → Int) (o2 : Int → Int → Int → Int) (a n : Nat → Int) (p : Nat) : Int :=
  ends w p (o1 (a 0) (n 1)) (o1 (a p) (n (p - 1))) (o2 (a p) (n (p - 1)) (n (p + 1)))

/-- high-pass coefficients -/
def detail (w : Nat) (f : Nat → Int) : Nat → Int :=
  step w (fun a b => wr (a - b)) (predict wr) f f

/-- low-pass coefficients -/
def smooth (w : Nat) (f : Nat → Int) : Nat → Int :=
  step w (fun a d => update wr a d d) (update wr) f (detail wr w f)

/-- the forward transform in place: low-pass at the positions `p` with `p + ph` even -/
def lift (w ph : Nat) (f : Nat → Int) (p : Nat) : Int :=
  if (p + ph) % 2 = 0 then smooth wr w f p else detail wr w f p

/-- samples at the low-pass positions, from the coefficients `g` in place -/
def unsmooth (w : Nat) (g : Nat → Int) : Nat → Int :=
  step w (unupdate1 wr) (unupdate wr) g g

/-- samples at the high-pass positions -/
def undetail (w : Nat) (g : Nat → Int) : Nat → Int :=
  step w (fun d s => wr (d + s)) (unpredict wr) g (unsmooth wr w g)

def unlift (w ph : Nat) (g : Nat → Int) (p : Nat) : Int :=
  if (p + ph) % 2 = 0 then unsmooth wr w g p else undetail wr w g p

end lifting

/-! ### `unlift` undoes `lift` (overflow-free reading `wr = id`)

An update step adds to the low-pass samples a function of the details, which it leaves alone, so
subtracting the same function restores them; then the same holds for the prediction step. -/

theorem unupdate_update (a d1 d2 : Int) : unupdate id (update id a d1 d2) d1 d2 = a :=
  Int.add_sub_cancel a _

/-- at the ends, where both neighbours are the one detail `d`: `(d + d + 2) >> 2 = (d + 1) >> 1` -/
theorem unupdate1_update (a d : Int) : unupdate1 id (update id a d d) d = a := by
  simp only [unupdate1, update, id, Go.shr_one, Go.shr_two]
  omega

theorem unpredict_predict (a b c : Int) : unpredict id (predict id a b c) b c = a :=
  Int.sub_add_cancel a _

theorem step_undo {w p : Nat} (hw : 2 ≤ w) (hp : p < w) {o1 o1' : Int → Int → Int} {o2 o2' : Int → Int → Int → Int}
    {a n a' n' : Nat → Int} (ha : a' p = step w o1 o2 a n p) (hn : ∀ q, q < w → (q + p) % 2 = 1 → n' q = n q)
    (h1 : ∀ a b, o1' (o1 a b) b = a) (h2 : ∀ a b c, o2' (o2 a b c) b c = a) : step w o1' o2' a' n' p = a p := by
  unfold step at ha ⊢
  rcases Nat.eq_zero_or_pos p with rfl | h0
  · rw [ends_first, ha, ends_first, hn 1 (by omega) rfl]
    exact h1 _ _
  · rcases Nat.lt_or_ge (p + 1) w with hl | hl
    · rw [ends_mid h0 hl, ha, ends_mid h0 hl, hn (p - 1) (by omega) (by omega), hn (p + 1) hl (by omega)]
      exact h2 _ _ _
    · have hl : p + 1 = w := by omega
      rw [ends_last h0 hl, ha, ends_last h0 hl, hn (p - 1) (by omega) (by omega)]
      exact h1 _ _

section roundtrip
variable {w ph : Nat} {f g : Nat → Int} (hw : 2 ≤ w) (hg : ∀ q, q < w → g q = lift id w ph f q)
include hw hg

theorem unsmooth_lift {p : Nat} (hp : p < w) (hlow : (p + ph) % 2 = 0) : unsmooth id w g p = f p :=
  step_undo hw hp ((hg p hp).trans (if_pos hlow)) (fun q hq h => (hg q hq).trans (if_neg (by omega)))
    unupdate1_update unupdate_update

theorem undetail_lift {p : Nat} (hp : p < w) (hhigh : (p + ph) % 2 = 1) : undetail id w g p = f p :=
  step_undo hw hp ((hg p hp).trans (if_neg (by omega))) (fun q hq h => unsmooth_lift hw hg hq (by omega))
    Int.sub_add_cancel unpredict_predict

theorem unlift_lift {p : Nat} (hp : p < w) : unlift id w ph g p = f p := by
  unfold unlift
  split
  · next h => exact unsmooth_lift hw hg hp h
  · next h => exact undetail_lift hw hg hp (by omega)

end roundtrip

/-! ### int32 reading: under a magnitude bound no operation wraps

`Exact32 wr`: `wr` leaves the int32 range alone, as the integers (`id`) and Go's int32 arithmetic
(`Go.wrap32`) do.  `Bnd M f`: every value of `f` lies in `[-M, M]`.  With `M ≤ 2^29 - 1 = 536870911`
(the widest intermediate value is `d1 + d2 + 2` of `update`, with `|d1|, |d2| ≤ 2M`: `4M + 2 < 2^31`)
every operation of `lift` computed with such a `wr` equals the overflow-free one and the coefficients
lie in `[-(2M+1), 2M+1]`; likewise for `unlift`, whose low-pass samples lie in `[-(2M+1), 2M+1]`. -/

def Exact32 (wr : Int → Int) : Prop := ∀ x, -2147483648 ≤ x → x < 2147483648 → wr x = x

theorem exact32_id : Exact32 id := fun _ _ _ => rfl

theorem exact32_wrap32 : Exact32 Go.wrap32 := fun _ h1 h2 => Go.wrap32_id h1 h2

def Bnd (M : Int) (f : Nat → Int) : Prop := ∀ k, -M ≤ f k ∧ f k ≤ M

theorem step_rel {R : Int → Int → Prop} {o1 o1' : Int → Int → Int} {o2 o2' : Int → Int → Int → Int} {A N : Int}
    {a n : Nat → Int} (ha : Bnd A a) (hn : Bnd N n)
    (h1 : ∀ {x y}, -A ≤ x ∧ x ≤ A → -N ≤ y ∧ y ≤ N → R (o1 x y) (o1' x y))
    (h2 : ∀ {x y z}, -A ≤ x ∧ x ≤ A → -N ≤ y ∧ y ≤ N → -N ≤ z ∧ z ≤ N → R (o2 x y z) (o2' x y z))
    (w p : Nat) : R (step w o1 o2 a n p) (step w o1' o2' a n p) := by
  unfold step ends
  split
  · exact h1 (ha 0) (hn 1)
  · split
    · exact h1 (ha p) (hn (p - 1))
    · exact h2 (ha p) (hn (p - 1)) (hn (p + 1))

section wrap
variable {wr : Int → Int} (hwr : Exact32 wr) {M a b c : Int} (hM : M ≤ 536870911)
include hwr hM

-- `id (a - b)`, not `a - b`: the end rule of `detail id` is `fun a b => id (a - b)`, and `detail_wrap` passes this to
-- `step_rel` as it stands
theorem sub_wrap (ha : -M ≤ a ∧ a ≤ M) (hb : -M ≤ b ∧ b ≤ M) :
    wr (a - b) = id (a - b) ∧ -(2 * M) ≤ id (a - b) ∧ id (a - b) ≤ 2 * M := by
  refine ⟨hwr _ (by omega) (by omega), ?_⟩
  simp only [id]
  omega

theorem predict_wrap (ha : -M ≤ a ∧ a ≤ M) (hb : -M ≤ b ∧ b ≤ M) (hc : -M ≤ c ∧ c ≤ M) :
    predict wr a b c = predict id a b c ∧
      -(2 * M) ≤ predict id a b c ∧ predict id a b c ≤ 2 * M := by
  simp only [predict, id, Go.shr_one]
  rw [hwr (b + c) (by omega) (by omega), hwr _ (by omega) (by omega)]
  omega

theorem update_wrap (ha : -M ≤ a ∧ a ≤ M) (hb : -(2 * M) ≤ b ∧ b ≤ 2 * M) (hc : -(2 * M) ≤ c ∧ c ≤ 2 * M) :
    update wr a b c = update id a b c ∧
      -(2 * M + 1) ≤ update id a b c ∧ update id a b c ≤ 2 * M + 1 := by
  simp only [update, id, Go.shr_two]
  rw [hwr (b + c) (by omega) (by omega), hwr (b + c + 2) (by omega) (by omega), hwr _ (by omega) (by omega)]
  omega

theorem unupdate1_wrap (ha : -M ≤ a ∧ a ≤ M) (hb : -M ≤ b ∧ b ≤ M) :
    unupdate1 wr a b = unupdate1 id a b ∧
      -(2 * M + 1) ≤ unupdate1 id a b ∧ unupdate1 id a b ≤ 2 * M + 1 := by
  simp only [unupdate1, id, Go.shr_one]
  rw [hwr (b + 1) (by omega) (by omega), hwr _ (by omega) (by omega)]
  omega

theorem unupdate_wrap (ha : -M ≤ a ∧ a ≤ M) (hb : -M ≤ b ∧ b ≤ M) (hc : -M ≤ c ∧ c ≤ M) :
    unupdate wr a b c = unupdate id a b c ∧
      -(2 * M + 1) ≤ unupdate id a b c ∧ unupdate id a b c ≤ 2 * M + 1 := by
  simp only [unupdate, id, Go.shr_two]
  rw [hwr (b + c) (by omega) (by omega), hwr (b + c + 2) (by omega) (by omega), hwr _ (by omega) (by omega)]
  omega

theorem add_wrap (ha : -M ≤ a ∧ a ≤ M) (hb : -(2 * M + 1) ≤ b ∧ b ≤ 2 * M + 1) :
    wr (a + b) = id (a + b) :=
  hwr _ (by omega) (by omega)

theorem unpredict_wrap (ha : -M ≤ a ∧ a ≤ M) (hb : -(2 * M + 1) ≤ b ∧ b ≤ 2 * M + 1)
    (hc : -(2 * M + 1) ≤ c ∧ c ≤ 2 * M + 1) : unpredict wr a b c = unpredict id a b c := by
  simp only [unpredict, id, Go.shr_one]
  rw [hwr (b + c) (by omega) (by omega), hwr _ (by omega) (by omega)]

variable {w : Nat} {f : Nat → Int} (hb : Bnd M f)
include hb

theorem detail_wrap (p : Nat) : detail wr w f p = detail id w f p ∧
    -(2 * M) ≤ detail id w f p ∧ detail id w f p ≤ 2 * M :=
  step_rel (R := fun x y => x = y ∧ -(2 * M) ≤ y ∧ y ≤ 2 * M) hb hb (sub_wrap hwr hM) (predict_wrap hwr hM) w p

theorem smooth_wrap (p : Nat) : smooth wr w f p = smooth id w f p ∧
    -(2 * M + 1) ≤ smooth id w f p ∧ smooth id w f p ≤ 2 * M + 1 := by
  have d := detail_wrap hwr hM hb (w := w)
  rw [smooth, funext fun q => (d q).1]
  exact step_rel (R := fun x y => x = y ∧ -(2 * M + 1) ≤ y ∧ y ≤ 2 * M + 1) hb (fun q => (d q).2)
    (fun hx hy => update_wrap hwr hM hx hy hy) (update_wrap hwr hM) w p

theorem lift_wrap (ph p : Nat) : lift wr w ph f p = lift id w ph f p ∧
    -(2 * M + 1) ≤ lift id w ph f p ∧ lift id w ph f p ≤ 2 * M + 1 := by
  unfold lift
  split
  · exact smooth_wrap hwr hM hb p
  · have := detail_wrap hwr hM hb (w := w) p
    exact ⟨this.1, by omega, by omega⟩

theorem unsmooth_wrap (p : Nat) : unsmooth wr w f p = unsmooth id w f p ∧
    -(2 * M + 1) ≤ unsmooth id w f p ∧ unsmooth id w f p ≤ 2 * M + 1 :=
  step_rel (R := fun x y => x = y ∧ -(2 * M + 1) ≤ y ∧ y ≤ 2 * M + 1) hb hb (unupdate1_wrap hwr hM)
    (unupdate_wrap hwr hM) w p

theorem unlift_wrap (ph p : Nat) : unlift wr w ph f p = unlift id w ph f p := by
  have s := unsmooth_wrap hwr hM hb (w := w)
  unfold unlift
  split
  · exact (s p).1
  · rw [undetail, funext fun q => (s q).1]
    exact step_rel (R := Eq) hb (fun q => (s q).2) (add_wrap hwr hM) (unpredict_wrap hwr hM) w p

end wrap

/-! ### the deinterleaved layout

The Go functions keep the low-pass coefficients in the first `sn` cells and the high-pass ones after
them; `lay sn ph p` is the cell of the coefficient at position `p`. -/

def lay (sn ph p : Nat) : Nat := if (p + ph) % 2 = 0 then p / 2 else sn + p / 2

theorem lay_even_low (sn m : Nat) : lay sn 0 (2 * m) = m := by
  rw [lay, if_pos (by omega)]
  omega
theorem lay_even_high (sn i : Nat) : lay sn 0 (2 * i + 1) = sn + i := by
  rw [lay, if_neg (by omega)]
  omega
theorem lay_odd_low (sn m : Nat) : lay sn 1 (2 * m + 1) = m := by
  rw [lay, if_pos (by omega)]
  omega
theorem lay_odd_high (sn i : Nat) : lay sn 1 (2 * i) = sn + i := by
  rw [lay, if_neg (by omega)]
  omega

/-- the coefficients of `y` in place -/
def inter {w : Nat} (sn ph : Nat) (y : Vector Int w) (p : Nat) : Int := toFn y (lay sn ph p)

theorem toFn_copyHigh {w : Nat} (sn : Nat) (data tmp : Vector Int w) (k : Nat) :
    toFn (copyHigh sn data tmp) k = if sn ≤ k then toFn tmp k else toFn data k := by
  unfold toFn copyHigh
  by_cases hk : k < w
  · simp only [dif_pos hk, Vector.getElem_ofFn, Fin.getElem_fin]
  · simp only [dif_neg hk, ite_self]

section code
variable (wr : Int → Int) {w : Nat} (x : Vector Int w)

theorem fwdEvenPredict_spec (hw : 2 ≤ w) (i : Nat) (hi : 2 * i + 1 < w) :
    toFn (fwdEvenPredict wr x hw) (snE w + i) = detail wr w (toFn x) (2 * i + 1) := by
  have hsn := snE_eq w
  have hloop : ∀ i, i < snE w - 1 →
      toFn (fwdEvenPredictLoop wr x hw) (snE w + i) = detail wr w (toFn x) (2 * i + 1) := by
    unfold fwdEvenPredictLoop
    refine (forLoop_fill (fun i => snE w + i) (fun i => detail wr w (toFn x) (2 * i + 1))
      _ _ 0 _ _ _ (fun _ _ _ _ => by omega) (Nat.zero_le _) ⟨fun _ h => by omega, fun _ _ => rfl⟩ ?_).cells
    intro n _ h2 _ _
    rw [detail, step, ends_mid (by omega) (by omega)]
    simp only [get_eq_toFn]
    rw [show 2 * n + 1 - 1 = n * 2 by omega, show 2 * n + 1 + 1 = (n + 1) * 2 by omega]
  unfold fwdEvenPredict
  simp only []
  split
  · next hev =>
    refine toFn_set_of _ (fun heq => ?_) fun hne => hloop i (by omega)
    have : i = snE w - 1 := by omega
    subst this
    rw [detail, step, ends_last (by omega) (by omega)]
    simp only [get_eq_toFn]
    rw [show 2 * (snE w - 1) + 1 - 1 = (snE w - 1) * 2 by omega]
  · next hodd => exact hloop i (by omega)

theorem fwdEvenUpdate_spec (tmp : Vector Int w) (hw : 2 ≤ w)
    (ht : ∀ i, 2 * i + 1 < w → toFn tmp (snE w + i) = detail wr w (toFn x) (2 * i + 1))
    (m : Nat) (hm : 2 * m < w) :
    toFn (fwdEvenUpdate wr x tmp hw) m = smooth wr w (toFn x) (2 * m) := by
  have hsn := snE_eq w
  have h1 : 1 ≤ w - snE w := by omega
  have hloop : Filled (fun m => m) (fun m => smooth wr w (toFn x) (2 * m)) x (w - snE w)
      (fwdEvenUpdateLoop wr x tmp hw) := by
    unfold fwdEvenUpdateLoop
    refine forLoop_fill _ _ x _ 1 _ _ _ (fun _ _ _ _ => by omega) h1
      ⟨fun m hm => ?_, fun k hk => by rw [toFn_set, if_neg (hk 0 Nat.one_pos)]⟩ ?_
    · have : m = 0 := by omega
      subst this
      rw [toFn_set, if_pos rfl, smooth, step, ends_first]
      simp only [get_eq_toFn, show toFn tmp (snE w) = detail wr w (toFn x) 1 from ht 0 (by omega)]
    intro n h1 h2 d hd
    rw [smooth, step, ends_mid (by omega) (by omega), show 2 * n - 1 = 2 * (n - 1) + 1 by omega]
    simp only [get_eq_toFn]
    rw [hd (2 * n) fun j _ => by omega, ht (n - 1) (by omega), ht n (by omega)]
  unfold fwdEvenUpdate
  simp only [Nat.max_eq_right h1]
  split
  · next hodd =>
    refine toFn_set_of _ (fun heq => ?_) fun hne => hloop.cells m (by omega)
    simp only [get_eq_toFn, heq]
    rw [smooth, step, ends_last (by omega) (by omega), show 2 * m - 1 = 2 * (m - 1) + 1 by omega,
      hloop.rest _ fun j _ => by omega, ht _ (by omega)]
  · next hev => exact hloop.cells m (by omega)

theorem forwardEven_lift (hw : 2 ≤ w) (p : Nat) (hp : p < w) :
    inter (snE w) 0 (forwardEven wr x hw) p = lift wr w 0 (toFn x) p := by
  have hsn := snE_eq w
  unfold inter forwardEven lift
  rw [toFn_copyHigh]
  by_cases h : p % 2 = 0
  · obtain ⟨m, rfl⟩ : ∃ m, p = 2 * m := ⟨p / 2, by omega⟩
    rw [lay_even_low, if_neg (by omega), if_pos (by omega)]
    exact fwdEvenUpdate_spec wr x _ hw (fwdEvenPredict_spec wr x hw) m hp
  · obtain ⟨i, rfl⟩ : ∃ i, p = 2 * i + 1 := ⟨p / 2, by omega⟩
    rw [lay_even_high, if_pos (by omega), if_neg (by omega)]
    exact fwdEvenPredict_spec wr x hw i hp

theorem predict_comm (a b c : Int) : predict wr a b c = predict wr a c b := by
  unfold predict
  rw [Int.add_comm]

theorem fwdOddPredict_spec (hw : 2 ≤ w) (i : Nat) (hi : 2 * i < w) :
    toFn (fwdOddPredict wr x hw) (snO w + i) = detail wr w (toFn x) (2 * i) := by
  have hsn := snO_eq w
  have h1 : 1 ≤ snO w := by omega
  have hloop : ∀ i, i < snO w →
      toFn (fwdOddPredictLoop wr x hw) (snO w + i) = detail wr w (toFn x) (2 * i) := by
    unfold fwdOddPredictLoop
    refine (forLoop_fill (fun i => snO w + i) (fun i => detail wr w (toFn x) (2 * i)) _ _ 1 _ _ _
      (fun _ _ _ _ => by omega) h1 ⟨fun i hi => ?_, fun _ _ => rfl⟩ ?_).cells
    · have : i = 0 := by omega
      subst this
      rw [toFn_set, if_pos rfl, detail, step, ends_first]
      simp only [get_eq_toFn]
    intro n _ h2 _ _
    rw [detail, step, ends_mid (by omega) (by omega), predict_comm, show 2 * n - 1 = 2 * (n - 1) + 1 by omega]
    simp only [get_eq_toFn]
  unfold fwdOddPredict
  simp only [Nat.max_eq_right h1]
  split
  · next hodd =>
    refine toFn_set_of _ (fun heq => ?_) fun hne => hloop i (by omega)
    have : i = snO w := by omega
    subst this
    rw [detail, step, ends_last (by omega) (by omega),
      show 2 * snO w - 1 = 2 * (snO w - 1) + 1 by omega]
    simp only [get_eq_toFn]
  · next hev => exact hloop i (by omega)

theorem fwdOddUpdate_spec (tmp : Vector Int w) (hw : 2 ≤ w)
    (ht : ∀ i, 2 * i < w → toFn tmp (snO w + i) = detail wr w (toFn x) (2 * i))
    (m : Nat) (hm : 2 * m + 1 < w) :
    toFn (fwdOddUpdate wr x tmp hw) m = smooth wr w (toFn x) (2 * m + 1) := by
  have hsn := snO_eq w
  have hloop : Filled (fun m => m) (fun m => smooth wr w (toFn x) (2 * m + 1)) x (w - snO w - 1)
      (fwdOddUpdateLoop wr x tmp hw) := by
    unfold fwdOddUpdateLoop
    refine forLoop_fill _ _ _ _ 0 _ _ _ (fun _ _ _ _ => by omega) (Nat.zero_le _)
      ⟨fun _ h => by omega, fun _ _ => rfl⟩ ?_
    intro n h1 h2 d hd
    rw [smooth, step, ends_mid (by omega) (by omega), Nat.add_sub_cancel, show 2 * n + 1 + 1 = 2 * (n + 1) by omega]
    simp only [get_eq_toFn]
    rw [hd (2 * n + 1) fun j _ => by omega, ht n (by omega), Nat.add_assoc, ht (n + 1) (by omega)]
  unfold fwdOddUpdate
  simp only []
  split
  · next hev =>
    refine toFn_set_of _ (fun heq => ?_) fun hne => hloop.cells m (by omega)
    simp only [get_eq_toFn, heq]
    rw [smooth, step, ends_last (by omega) (by omega), Nat.add_sub_cancel, hloop.rest _ fun j _ => by omega,
      ht _ (by omega)]
  · next hodd => exact hloop.cells m (by omega)

theorem forwardOdd_lift (hw : 2 ≤ w) (p : Nat) (hp : p < w) :
    inter (snO w) 1 (forwardOdd wr x hw) p = lift wr w 1 (toFn x) p := by
  have hsn := snO_eq w
  unfold inter forwardOdd lift
  rw [toFn_copyHigh]
  by_cases h : p % 2 = 1
  · obtain ⟨m, rfl⟩ : ∃ m, p = 2 * m + 1 := ⟨p / 2, by omega⟩
    rw [lay_odd_low, if_neg (by omega), if_pos (by omega)]
    exact fwdOddUpdate_spec wr x _ hw (fwdOddPredict_spec wr x hw) m hp
  · obtain ⟨i, rfl⟩ : ∃ i, p = 2 * i := ⟨p / 2, by omega⟩
    rw [lay_odd_high, if_pos (by omega), if_neg (by omega)]
    exact fwdOddPredict_spec wr x hw i hp

end code

/-! ### `Inverse53_1DWithParity`

The two sliding-window loops are one machine: a cursor on a low-pass position `c`, everything below it
final, the coefficient after it and the sample at it in two scalars.  A turn moves the cursor by two; the
loop ends two or three cells before the end.  With the origin even the cursor starts at 0, with the origin
odd at 1. -/

section cursor
variable (wr : Int → Int) {w : Nat} (ph : Nat) (g : Nat → Int)

/-- cursor at the low-pass position `c`: `tmp` is final below `c`, `hi` is the coefficient at `c + 1`,
`lo` the sample at `c` -/
structure Cursor (c : Nat) (tmp : Vector Int w) (hi lo : Int) : Prop where
  low : (c + ph) % 2 = 0
  hi_eq : hi = g (c + 1)
  lo_eq : lo = unsmooth wr w g c
  below : ∀ p, p < c → toFn tmp p = unlift wr w ph g p

variable {wr ph g} {c : Nat} {tmp : Vector Int w} {hi lo : Int} (h : Cursor wr ph g c tmp hi lo)
include h

theorem Cursor.at_cursor : unlift wr w ph g c = lo := by
  rw [unlift, if_pos h.low, h.lo_eq]

theorem Cursor.after_cursor (hc : c + 2 < w) {lo' : Int} (hlo' : lo' = unsmooth wr w g (c + 2)) :
    unlift wr w ph g (c + 1) = unpredict wr hi lo lo' := by
  have := h.low
  rw [unlift, if_neg (by omega), undetail, Dwt53.step, ends_mid (Nat.succ_pos c) hc, h.hi_eq, h.lo_eq, hlo']
  rfl

theorem Cursor.step (hc : c + 3 < w) {c' : Nat} {a b : Int} (ha : a = g c') (hb : b = g (c' + 1))
    (hc' : c' = c + 2) (h1 : c < w) (h2 : c + 1 < w) :
    Cursor wr ph g c' ((tmp.set c lo h1).set (c + 1) (unpredict wr hi lo (unupdate wr a hi b)) h2)
      b (unupdate wr a hi b) := by
  subst hc'
  have hlo' : unupdate wr a hi b = unsmooth wr w g (c + 2) := by
    rw [unsmooth, Dwt53.step, ends_mid (Nat.succ_pos _) hc, ha, hb, h.hi_eq]
    rfl
  refine ⟨by have := h.low; omega, hb, hlo', fun p hp => ?_⟩
  refine toFn_set_of _ (fun e => ?_) fun _ => toFn_set_of _ (fun e => ?_) fun _ => h.below p (by omega)
  · rw [← e, h.after_cursor (Nat.lt_of_succ_lt hc) hlo']
  · rw [← e, h.at_cursor]

theorem Cursor.finish2 (hw : w = c + 2) (h1 : c < w) (h2 : c + 1 < w) (p : Nat) (hp : p < w) :
    toFn ((tmp.set c lo h1).set (c + 1) (wr (hi + lo)) h2) p = unlift wr w ph g p := by
  have := h.low
  refine toFn_set_of _ (fun e => ?_) fun _ => toFn_set_of _ (fun e => ?_) fun _ => h.below p (by omega)
  · rw [← e, unlift, if_neg (by omega), undetail, Dwt53.step, ends_last (Nat.succ_pos c) hw.symm, h.hi_eq, h.lo_eq]
    rfl
  · rw [← e, h.at_cursor]

theorem Cursor.finish3 (hw : w = c + 3) {a : Int} (ha : a = g (c + 2)) (h1 : c < w) (h2 : c + 1 < w) (h3 : c + 2 < w)
    (p : Nat) (hp : p < w) :
    toFn (((tmp.set c lo h1).set (c + 1) (unpredict wr hi lo (unupdate1 wr a hi)) h2).set (c + 2)
      (unupdate1 wr a hi) h3) p = unlift wr w ph g p := by
  have := h.low
  have hlo' : unupdate1 wr a hi = unsmooth wr w g (c + 2) := by
    rw [unsmooth, Dwt53.step, ends_last (Nat.succ_pos _) hw.symm, ha, h.hi_eq]
    rfl
  refine toFn_set_of _ (fun e => ?_) fun _ => toFn_set_of _ (fun e => ?_) fun _ =>
    toFn_set_of _ (fun e => ?_) fun _ => h.below p (by omega)
  · rw [← e, hlo', unlift, if_pos (by omega)]
  · rw [← e, h.after_cursor (by omega) hlo']
  · rw [← e, h.at_cursor]

end cursor

section inverse
variable (wr : Int → Int) {w : Nat} (y : Vector Int w)

theorem unpredict_comm (a b c : Int) : unpredict wr a b c = unpredict wr a c b := by
  unfold unpredict
  rw [Int.add_comm b c]

theorem inverseEven_unlift (hw : 2 ≤ w) (p : Nat) (hp : p < w) :
    toFn (inverseEven wr y hw) p = unlift wr w 0 (inter (snE w) 0 y) p := by
  have hsn := snE_eq w
  have hlow : ∀ m, toFn y m = inter (snE w) 0 y (2 * m) := fun m => by rw [inter, lay_even_low]
  have hhigh : ∀ i, toFn y (snE w + i) = inter (snE w) 0 y (2 * i + 1) := fun i => by
    rw [inter, lay_even_high]
  generalize inter (snE w) 0 y = g at hlow hhigh ⊢
  have h1 : 1 ≤ w / 2 := by omega
  have hloop : Cursor wr 0 g (2 * (w / 2 - 1)) (invEvenLoop wr y hw).tmp (invEvenLoop wr y hw).d1n
      (invEvenLoop wr y hw).s0n := by
    unfold invEvenLoop
    refine Go.forLoop_inv (P := fun j (st : InvEvenSt w) => Cursor wr 0 g (2 * (j - 1)) st.tmp st.d1n st.s0n)
      _ _ _ _ h1 ⟨rfl, ?_, ?_, fun p hp => by omega⟩ fun j h1 h2 st h => ?_
    · simp only [get_eq_toFn]
      exact hhigh 0
    · simp only [get_eq_toFn]
      rw [unsmooth, step, ends_first, hlow 0, show toFn y (snE w) = g 1 from hhigh 0]
    · simp only [get_eq_toFn]
      -- the new cursor `2 * (j + 1 - 1)` computes to `2 * j`, where `hlow j`, `hhigh j` have the two reads
      exact h.step (by omega) (hlow j) (hhigh j) (by omega) _ _
  generalize hq : 2 * (w / 2 - 1) = q at hloop
  unfold inverseEven
  simp only [get_eq_toFn, Nat.max_eq_right h1, hq]
  split
  · next hodd =>
    -- three cells left; with `w` substituted the cells `w - 2`, `w - 1` compute to `finish3`'s `q + 1`, `q + 2`
    obtain rfl : w = q + 3 := by omega
    rw [toFn_set (i := q + 3 - 1), if_pos rfl, Vector.set_comm _ _ (by omega)]
    exact hloop.finish3 rfl ((hlow _).trans (by congr 1; omega)) _ _ _ p hp
  · next hev =>
    obtain rfl : w = q + 2 := by omega
    exact hloop.finish2 rfl _ _ p hp

theorem inverseOdd_unlift (hw : 3 ≤ w) (p : Nat) (hp : p < w) :
    toFn (inverseOdd wr y hw) p = unlift wr w 1 (inter (snO w) 1 y) p := by
  have hsn := snO_eq w
  have hlow : ∀ m, toFn y m = inter (snO w) 1 y (2 * m + 1) := fun m => by rw [inter, lay_odd_low]
  have hhigh : ∀ i, toFn y (snO w + i) = inter (snO w) 1 y (2 * i) := fun i => by
    rw [inter, lay_odd_high]
  generalize inter (snO w) 1 y = g at hlow hhigh ⊢
  have hle : 1 ≤ (w - 1) / 2 := by omega
  have hloop : Cursor wr 1 g (2 * ((w - 1) / 2) - 1) (invOddLoop wr y hw).tmp (invOddLoop wr y hw).s1
      (invOddLoop wr y hw).dc := by
    unfold invOddLoop
    have h1 : unupdate wr (toFn y 0) (toFn y (snO w)) (toFn y (snO w + 1)) = unsmooth wr w g 1 := by
      rw [unsmooth, step, ends_mid (by omega) (by omega), hlow 0, hhigh 1, show toFn y (snO w) = g 0 from hhigh 0]
    refine Go.forLoop_inv (P := fun j (st : InvOddSt w) => Cursor wr 1 g (2 * j - 1) st.tmp st.s1 st.dc)
      _ _ _ _ hle ⟨rfl, ?_, ?_, fun p hp => ?_⟩ fun j h1 h2 st h => ?_
    · simp only [get_eq_toFn]
      exact hhigh 1
    · simp only [get_eq_toFn]
      exact h1
    · obtain rfl : p = 0 := by omega
      simp only [get_eq_toFn, h1]
      rw [toFn_set, if_pos rfl, unlift, if_neg (by omega), undetail, step, ends_first,
        show toFn y (snO w) = g 0 from hhigh 0]
    · simp only [get_eq_toFn]
      rw [unpredict_comm]
      exact h.step (by omega) (hlow j) (hhigh (j + 1)) (by omega) _ _
  generalize hq : 2 * ((w - 1) / 2) - 1 = q at hloop
  unfold inverseOdd
  simp only [get_eq_toFn, Nat.max_eq_right hle, hq]
  split
  · next hev =>
    obtain rfl : w = q + 3 := by omega
    rw [unpredict_comm]
    exact hloop.finish3 rfl ((hlow _).trans (by congr 1; omega)) _ _ _ p hp
  · next hodd =>
    obtain rfl : w = q + 2 := by omega
    exact hloop.finish2 rfl _ _ p hp

end inverse

/-- parity of the low-pass positions -/
def phase (even : Bool) : Nat := bif even then 0 else 1

/-- number of low-pass coefficients -/
def snOf (even : Bool) (w : Nat) : Nat := bif even then snE w else snO w

theorem lay_surj {w k : Nat} (even : Bool) (hk : k < w) :
    ∃ p, p < w ∧ lay (snOf even w) (phase even) p = k := by
  have hE := snE_eq w
  have hO := snO_eq w
  cases even
  · show ∃ p, p < w ∧ lay (snO w) 1 p = k
    by_cases h : k < snO w
    · exact ⟨2 * k + 1, by omega, lay_odd_low _ _⟩
    · exact ⟨2 * (k - snO w), by omega, (lay_odd_high _ _).trans (by omega)⟩
  · show ∃ p, p < w ∧ lay (snE w) 0 p = k
    by_cases h : k < snE w
    · exact ⟨2 * k, by omega, lay_even_low _ _⟩
    · exact ⟨2 * (k - snE w) + 1, by omega, (lay_even_high _ _).trans (by omega)⟩

section parity
variable (wr : Int → Int) {w : Nat} (x : Vector Int w) (even : Bool) (hok : w ≠ 0 ∨ even = true)
  (hw : 2 ≤ w) (p : Nat) (hp : p < w)
include hw hp

theorem forward53_1d'_lift :
    inter (snOf even w) (phase even) (forward53_1d' wr x even hok) p = lift wr w (phase even) (toFn x) p := by
  unfold forward53_1d'
  cases even with
  | true =>
    rw [dif_pos rfl, dif_neg (by omega)]
    exact forwardEven_lift wr x _ p hp
  | false =>
    rw [dif_neg Bool.false_ne_true, dif_neg (by omega)]
    exact forwardOdd_lift wr x _ p hp

theorem inverse53_1d'_unlift :
    toFn (inverse53_1d' wr x even hok) p =
      unlift wr w (phase even) (inter (snOf even w) (phase even) x) p := by
  unfold inverse53_1d'
  cases even with
  | true =>
    rw [dif_pos rfl, dif_neg (by omega)]
    exact inverseEven_unlift wr x _ p hp
  | false =>
    rw [dif_neg Bool.false_ne_true, dif_neg (by omega)]
    by_cases h2 : w = 2
    · -- `width == 2`: two cells, both sides compute
      subst h2
      rw [dif_pos rfl]
      simp only [get_eq_toFn, toFn_set]
      obtain rfl | rfl : p = 0 ∨ p = 1 := by omega
      · rfl
      · rfl
    · rw [dif_neg h2]
      exact inverseOdd_unlift wr x _ p hp

end parity

/-- `Inverse53_1DWithParity ∘ Forward53_1DWithParity = id`, every length, both parities
(overflow-free reading). -/
theorem inverse53_forward53_1d' {w : Nat} (x : Vector Int w) (even : Bool) (hok : w ≠ 0 ∨ even = true) :
    inverse53_1d' id (forward53_1d' id x even hok) even hok = x := by
  by_cases hw : 2 ≤ w
  · apply ext_toFn
    intro p hp
    rw [inverse53_1d'_unlift id _ even hok hw p hp]
    exact unlift_lift hw (fun q hq => forward53_1d'_lift id x even hok hw q hq) hp
  · unfold inverse53_1d' forward53_1d'
    by_cases he : even = true
    · rw [dif_pos he, dif_pos he, dif_pos (by omega), dif_pos (by omega)]
    · have h1 : w = 1 := by cases hok with | inl h => omega | inr h => exact absurd h he
      subst h1
      rw [dif_neg he, dif_neg he, dif_pos rfl, dif_pos rfl]
      apply Vector.ext
      intro i hi
      have hi0 : i = 0 := by omega
      subst hi0
      simp only [Vector.getElem_set_self, id]
      exact Int.mul_tdiv_cancel _ (by decide)

/-- the same at the level of the Go functions (which panic on the empty slice with `even == false`) -/
theorem inverse53_forward53_1d {w : Nat} (x : Vector Int w) (even : Bool) :
    (forward53_1d id x even).bind (fun y => inverse53_1d id y even) =
      if w ≠ 0 ∨ even = true then some x else none := by
  unfold forward53_1d inverse53_1d
  by_cases hok : w ≠ 0 ∨ even = true
  · rw [dif_pos hok, if_pos hok, Option.bind_some, dif_pos hok, inverse53_forward53_1d']
  · rw [dif_neg hok, if_neg hok]
    rfl

theorem bnd_toFn {w : Nat} (x : Vector Int w) {M : Int} (hM0 : 0 ≤ M)
    (hb : ∀ k (h : k < w), -M ≤ x[k] ∧ x[k] ≤ M) : Bnd M (toFn x) := by
  intro k
  unfold toFn
  split
  · next h => exact hb k h
  · omega

theorem forward53_1d_exact {wr : Int → Int} (hwr : Exact32 wr) {w : Nat} (x : Vector Int w) (even : Bool) (hok : w ≠ 0 ∨ even = true)
    {M : Int} (hM0 : 0 ≤ M) (hM : M ≤ 536870911) (hb : ∀ k (h : k < w), -M ≤ x[k] ∧ x[k] ≤ M) :
    forward53_1d' wr x even hok = forward53_1d' id x even hok ∧
    Bnd (2 * M + 1) (toFn (forward53_1d' id x even hok)) := by
  have hB := bnd_toFn x hM0 hb
  by_cases hw : 2 ≤ w
  · have l32 := forward53_1d'_lift wr x even hok hw
    have l := forward53_1d'_lift id x even hok hw
    generalize forward53_1d' wr x even hok = y32 at l32 ⊢
    generalize forward53_1d' id x even hok = y at l ⊢
    have key : ∀ k, k < w → toFn y32 k = toFn y k ∧ -(2 * M + 1) ≤ toFn y k ∧ toFn y k ≤ 2 * M + 1 := by
      intro k hk
      obtain ⟨p, hp, rfl⟩ := lay_surj even hk
      have := lift_wrap hwr hM hB (w := w) (phase even) p
      rwa [← l32 p hp, ← l p hp] at this
    refine ⟨ext_toFn _ _ (fun k hk => (key k hk).1), fun k => ?_⟩
    by_cases hk : k < w
    · exact (key k hk).2
    · rw [toFn_ge _ _ hk]
      omega
  · unfold forward53_1d'
    by_cases he : even = true
    · simp only [dif_pos he, dif_pos (show w ≤ 1 by omega), true_and]
      intro k
      have := hB k
      omega
    · have h1 : w = 1 := by cases hok with | inl h => omega | inr h => exact absurd h he
      subst h1
      simp only [dif_neg he, ↓reduceDIte]
      have h0 := hb 0 (by omega)
      refine ⟨congrArg (x.set 0 · _) (hwr _ (by omega) (by omega)), fun k => ?_⟩
      rw [toFn_set]
      have := hB k
      simp only [id]
      split <;> omega

theorem inverse53_1d_exact {wr : Int → Int} (hwr : Exact32 wr) {w : Nat} (y : Vector Int w) (even : Bool) (hok : w ≠ 0 ∨ even = true)
    {B : Int} (hB : B ≤ 536870911) (hb : Bnd B (toFn y)) :
    inverse53_1d' wr y even hok = inverse53_1d' id y even hok := by
  by_cases hw : 2 ≤ w
  · apply ext_toFn
    intro p hp
    rw [inverse53_1d'_unlift _ _ _ _ hw p hp, inverse53_1d'_unlift _ _ _ _ hw p hp]
    exact unlift_wrap hwr hB (fun q => hb _) _ _
  · unfold inverse53_1d'
    by_cases he : even = true
    · simp only [dif_pos he, dif_pos (show w ≤ 1 by omega)]
    · have h1 : w = 1 := by cases hok with | inl h => omega | inr h => exact absurd h he
      subst h1
      simp only [dif_neg he, ↓reduceDIte]
      have h0 := hb 0
      rw [← get_eq_toFn y 0 (by omega)] at h0
      have ht := Int.tdiv_two y[0]
      exact congrArg (y.set 0 · _) (hwr _ (by omega) (by omega))

/-- forward transform in int32 arithmetic = forward transform without overflow, for `|x[k]| ≤ M ≤ 2^29-1`;
the coefficients are bounded by `2M+1` -/
theorem forward53_1d_int32 {w : Nat} (x : Vector Int w) (even : Bool) (hok : w ≠ 0 ∨ even = true)
    {M : Int} (hM0 : 0 ≤ M) (hM : M ≤ 536870911) (hb : ∀ k (h : k < w), -M ≤ x[k] ∧ x[k] ≤ M) :
    forward53_1d' Go.wrap32 x even hok = forward53_1d' id x even hok ∧
    Bnd (2 * M + 1) (toFn (forward53_1d' id x even hok)) :=
  forward53_1d_exact exact32_wrap32 x even hok hM0 hM hb

theorem inverse53_forward53_1d_int32 {w : Nat} (x : Vector Int w) (even : Bool) (hok : w ≠ 0 ∨ even = true)
    (hb : ∀ k (h : k < w), -268435455 ≤ x[k] ∧ x[k] ≤ 268435455) :
    inverse53_1d' Go.wrap32 (forward53_1d' Go.wrap32 x even hok) even hok = x := by
  -- `268435455 = 2^28 - 1`: the coefficients then are within `2^29 - 1`
  have hf := forward53_1d_int32 x even hok (M := 268435455) (by omega) (by omega) hb
  rw [hf.1, inverse53_1d_exact exact32_wrap32 _ even hok (B := 2 * 268435455 + 1) (by omega) hf.2]
  exact inverse53_forward53_1d' x even hok

end Dwt53
