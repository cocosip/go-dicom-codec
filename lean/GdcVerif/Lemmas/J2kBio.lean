import GdcVerif.Model.J2kSample
import GdcVerif.Lemmas.BitList
import GdcVerif.Lemmas.Basics
/-! bioWriter / bioReader byte-level round trip, including flush and alignToByte, through the byte form of a header bit
    string as a relation: `Packed p bs bytes` cuts `bs` into the chunks the bytes hold (7 bits after 0xFF, else 8).  Writer
    and reader go by induction on the relation, where the chunks are given; cutting an arbitrary bit string into chunks
    (`packed_exists`) is done once. -/
namespace J2k

/-- usable bits of the byte that follows byte `p` -/
def cap (p : Nat) : Nat := if p == 255 then 7 else 8

theorem cap_cases (p : Nat) : cap p = 7 ∨ cap p = 8 := by unfold cap; split <;> simp

theorem cap_bounds (p : Nat) : 7 ≤ cap p ∧ cap p ≤ 8 := by rcases cap_cases p with h | h <;> omega

/-- writer state at the start of a fresh byte, `hi` being the byte emitted last (0 initially) -/
def wStart (buf : List Nat) (hi : Nat) : BioW := { buf := buf, out := hi * 256, ct := cap hi }

theorem wStart_new : BioW.new = wStart [] 0 := rfl

/-- `byteOut` and `byteIn` test the shifted register against 0xff00 -/
theorem cap_eq (lo : Nat) (hl : lo < 256) : (if lo * 256 == 0xff00 then 7 else 8) = cap lo := by
  unfold cap
  by_cases h : lo = 255
  · subst h; rfl
  · rw [if_neg (by simp; omega), if_neg (by simp; exact h)]

theorem byteOut_eq (w : BioW) (h lo : Nat) (ho : w.out = h * 256 + lo) (hl : lo < 256) :
    w.byteOut = wStart (w.buf ++ [lo]) lo := by
  unfold BioW.byteOut wStart
  have e1 : w.out * 256 % 65536 = lo * 256 := by omega
  have e2 : lo * 256 / 256 % 256 = lo := by omega
  simp only [e1, e2, cap_eq lo hl]

/-- writing a chunk into bits that are clear adds it at the top of them -/
theorem wchunk : ∀ (c : List Bool) (buf : List Nat) (out ct : Nat), c.length ≤ ct → 2 ^ ct ∣ out →
    BioW.writeBitsList { buf := buf, out := out, ct := ct } c =
      { buf := buf, out := out + Bits.val c * 2 ^ (ct - c.length), ct := ct - c.length }
  | [], _, _, _, _, _ => by simp [BioW.writeBitsList, Bits.val]
  | b :: bs, buf, out, ct, hlen, hd => by
    obtain ⟨k, rfl⟩ : ∃ k, ct = k + 1 := ⟨ct - 1, by simp at hlen; omega⟩
    have hk : bs.length ≤ k := by simpa using hlen
    have hw : BioW.writeBit { buf := buf, out := out, ct := k + 1 } b =
        { buf := buf, out := out + b.toNat * 2 ^ k, ct := k } := by
      unfold BioW.writeBit
      simp only [Nat.add_one_ne_zero, beq_iff_eq, if_false, Nat.add_sub_cancel]
      cases b with
      | false => simp
      | true => simp [Nat.or_eq_add_of_dvd hd (Nat.pow_lt_pow_right (by decide) (Nat.lt_succ_self k))]
    have hd' : 2 ^ k ∣ out + b.toNat * 2 ^ k :=
      Nat.dvd_add (Nat.dvd_trans (Nat.pow_dvd_pow 2 (Nat.le_succ k)) hd) (Nat.dvd_mul_left ..)
    rw [BioW.writeBitsList, hw, wchunk bs buf _ k hk hd', Bits.val, List.length_cons, Nat.add_sub_add_right, Nat.add_mul,
      Nat.mul_assoc, ← Nat.pow_add, Nat.add_sub_cancel' hk, Nat.add_assoc]

theorem writeBitsList_append (w : BioW) (a b : List Bool) :
    w.writeBitsList (a ++ b) = (w.writeBitsList a).writeBitsList b := by
  induction a generalizing w with
  | nil => rfl
  | cons x xs ih => simp only [List.cons_append, BioW.writeBitsList]; exact ih _

theorem write_after_full (buf : List Nat) (h lo : Nat) (hl : lo < 256) (bs : List Bool) (hne : bs ≠ []) :
    BioW.writeBitsList { buf := buf, out := h * 256 + lo, ct := 0 } bs = (wStart (buf ++ [lo]) lo).writeBitsList bs := by
  obtain ⟨b, r, rfl⟩ := List.exists_cons_of_ne_nil hne
  have hct : (cap lo == 0) = false := by have := cap_bounds lo; simp; omega
  simp only [BioW.writeBitsList, BioW.writeBit, BEq.rfl, if_true,
    byteOut_eq { buf := buf, out := h * 256 + lo, ct := 0 } h lo rfl hl, wStart, hct, Bool.false_eq_true, if_false]

theorem flush_eq (w : BioW) (h lo : Nat) (ho : w.out = h * 256 + lo) (hl : lo < 256) :
    w.flush = w.buf ++ lo :: (if lo == 255 then [0] else []) := by
  unfold BioW.flush
  rw [byteOut_eq w h lo ho hl]
  by_cases h255 : lo = 255
  · subst h255
    have : (wStart (w.buf ++ [255]) 255).ct = 7 := rfl
    simp only [this, BEq.rfl, if_true]
    rw [byteOut_eq (wStart (w.buf ++ [255]) 255) 255 0 rfl (by decide)]; simp [wStart]
  · have h2 : (lo == 255) = false := by simp; exact h255
    have hc8 : cap lo = 8 := by unfold cap; simp [h2]
    simp [h2, wStart, hc8]

theorem flush_low (w : BioW) :
    w.flush = w.buf ++ w.out % 256 :: (if w.out % 256 == 255 then [0] else []) :=
  flush_eq w _ _ (Nat.div_add_mod' w.out 256).symm (Nat.mod_lt _ (by decide))

/-- the codestream byte after a packet header is never misread as a marker tail -/
theorem flush_last_not_FF (w : BioW) : w.flush.getLast? ≠ some 255 := by
  rw [flush_low]; split <;> simp_all

theorem flush_nonempty (w : BioW) : w.flush ≠ [] := by
  rw [flush_low]; split <;> simp

theorem bit_of_low (g v k : Nat) (hk : k < 8) : (g * 256 + v) / 2 ^ k % 2 = v / 2 ^ k % 2 := by
  have e : g * 256 = 2 ^ k * (2 * (2 ^ (7 - k) * g)) := by
    rw [← Nat.mul_assoc, ← Nat.mul_assoc, ← Nat.pow_succ, ← Nat.pow_add, Nat.mul_comm,
      show k + 1 + (7 - k) = 8 by omega]
  rw [e, Nat.mul_add_div (Nat.two_pow_pos k), Nat.mul_add_mod]

theorem rchunk : ∀ (j ct : Nat) (data : List Nat) (g v : Nat), j ≤ ct → ct ≤ 8 →
    BioR.readBitsList { data := data, buf := g * 256 + v, ct := ct } j =
      some (Bits.msb (v / 2 ^ (ct - j)) j, { data := data, buf := g * 256 + v, ct := ct - j })
  | 0, _, _, _, _, _, _ => rfl
  | j + 1, ct, data, g, v, hj, hct => by
    obtain ⟨k, rfl⟩ : ∃ k, ct = k + 1 := ⟨ct - 1, by omega⟩
    unfold BioR.readBitsList BioR.readBit
    simp only [Nat.add_one_ne_zero, beq_iff_eq, if_false, Nat.add_sub_cancel]
    rw [bit_of_low g v k (by omega), rchunk j k data g v (by omega) (by omega), Nat.add_sub_add_right, Bits.msb_succ,
      Bits.testBit_eq_beq, Nat.div_div_eq_div_mul, ← Nat.pow_add, show k - j + j = k by omega]

theorem byteIn_eq (data : List Nat) (g p d ct : Nat) (hp : p < 256) (hd : d < 256) :
    BioR.byteIn { data := d :: data, buf := g * 256 + p, ct := ct } =
      some { data := data, buf := p * 256 + d, ct := cap p } := by
  unfold BioR.byteIn
  have e1 : (g * 256 + p) * 256 % 65536 = p * 256 := by omega
  simp only [e1, Nat.or_eq_add_of_dvd (x := p * 256) (k := 8) (Nat.dvd_mul_left ..) hd, cap_eq p hp]

theorem read_after_full (n : Nat) (data : List Nat) (g p d : Nat) (hp : p < 256) (hd : d < 256) (hn : n ≠ 0) :
    BioR.readBitsList { data := d :: data, buf := g * 256 + p, ct := 0 } n =
      BioR.readBitsList { data := data, buf := p * 256 + d, ct := cap p } n := by
  obtain ⟨j, rfl⟩ := Nat.exists_eq_succ_of_ne_zero hn
  have hne : (cap p == 0) = false := by have := cap_bounds p; simp; omega
  simp only [BioR.readBitsList, BioR.readBit, BEq.rfl, if_true, byteIn_eq data g p d 0 hp hd, hne]
  rfl

theorem readBitsList_append (a b : Nat) (r : BioR) :
    r.readBitsList (a + b) = (match r.readBitsList a with
      | none => none
      | some (xs, r') => match r'.readBitsList b with
        | none => none
        | some (ys, r'') => some (xs ++ ys, r'')) := by
  induction a generalizing r with
  | zero =>
    simp only [Nat.zero_add, BioR.readBitsList]
    cases r.readBitsList b <;> rfl
  | succ a ih =>
    rw [Nat.add_right_comm, BioR.readBitsList, BioR.readBitsList]
    cases r.readBit with
    | none => rfl
    | some q =>
      simp only [ih]
      cases q.2.readBitsList a with
      | none => rfl
      | some q2 => simp only []; cases q2.2.readBitsList b <;> rfl

theorem align_after (p v ct : Nat) (rest : List Nat) (hv : v < 256) :
    ∃ r', BioR.alignToByte { data := (if v == 255 then [0] else []) ++ rest, buf := p * 256 + v, ct := ct } = some r' ∧
      r'.data = rest := by
  unfold BioR.alignToByte
  by_cases h : v = 255
  · subst h
    have e : (p * 256 + 255) % 256 = 255 := by omega
    simp only [e, BEq.rfl, if_true, List.cons_append, List.nil_append, byteIn_eq rest p 255 0 _ (by decide) (by decide)]
    exact ⟨_, rfl, rfl⟩
  · have e : ((p * 256 + v) % 256 == 255) = false := by simp; omega
    have e2 : (v == 255) = false := by simp [h]
    simp only [e, e2, Bool.false_eq_true, if_false, List.nil_append]
    exact ⟨_, rfl, rfl⟩

/-- the byte holding chunk `c` after byte `p`: the bits of `c` at the top of the `cap p` usable ones -/
def chunkByte (p : Nat) (c : List Bool) : Nat := Bits.val c * 2 ^ (cap p - c.length)

theorem chunkByte_bound (p : Nat) (c : List Bool) (hc : c.length ≤ cap p) :
    chunkByte p c + 2 ^ (cap p - c.length) ≤ 2 ^ cap p := by
  have := Nat.mul_le_mul_right (2 ^ (cap p - c.length)) (Bits.val_lt c)
  rwa [← Nat.pow_add, show c.length + (cap p - c.length) = cap p by omega, Nat.succ_mul] at this

theorem chunkByte_lt (p : Nat) (c : List Bool) (hc : c.length ≤ cap p) : chunkByte p c < 256 := by
  have h2 := chunkByte_bound p c hc
  have hp := Nat.two_pow_pos (cap p - c.length)
  rcases cap_cases p with hk | hk <;> rw [hk] at h2 hp <;> omega

theorem msb_chunkByte (p : Nat) (c : List Bool) : Bits.msb (chunkByte p c / 2 ^ (cap p - c.length)) c.length = c := by
  rw [chunkByte, Nat.mul_div_cancel _ (Nat.two_pow_pos _), Bits.msb_val]

theorem wStart_chunk (buf : List Nat) (p : Nat) (c : List Bool) (hc : c.length ≤ cap p) :
    (wStart buf p).writeBitsList c = { buf := buf, out := p * 256 + chunkByte p c, ct := cap p - c.length } :=
  wchunk c buf (p * 256) (cap p) hc (Nat.dvd_mul_left_of_dvd (Nat.pow_dvd_pow 2 (cap_bounds p).2) p)

theorem read_chunk (data : List Nat) (g p : Nat) (c : List Bool) (hp : p < 256) (hpos : 0 < c.length) (hc : c.length ≤ cap p) :
    BioR.readBitsList { data := chunkByte p c :: data, buf := g * 256 + p, ct := 0 } c.length =
      some (c, { data := data, buf := p * 256 + chunkByte p c, ct := cap p - c.length }) := by
  rw [read_after_full _ data g p _ hp (chunkByte_lt p c hc) (Nat.ne_of_gt hpos),
    rchunk _ _ data p _ hc (cap_bounds p).2, msb_chunkByte]

inductive Packed : Nat → List Bool → List Nat → Prop
  | last (p : Nat) (c : List Bool) : c ≠ [] → c.length ≤ cap p →
      Packed p c (chunkByte p c :: (if chunkByte p c == 255 then [0] else []))
  | more (p : Nat) (c rest : List Bool) (bytes : List Nat) : c.length = cap p → rest ≠ [] →
      Packed (chunkByte p c) rest bytes → Packed p (c ++ rest) (chunkByte p c :: bytes)

theorem packed_exists (p : Nat) (bs : List Bool) (hne : bs ≠ []) : ∃ bytes, Packed p bs bytes := by
  have hb := cap_bounds p
  by_cases hlast : bs.length ≤ cap p
  · exact ⟨_, .last p bs hne hlast⟩
  · have htl : (bs.take (cap p)).length = cap p := by rw [List.length_take]; omega
    have hdne : bs.drop (cap p) ≠ [] := fun h => by have := congrArg List.length h; simp at this; omega
    obtain ⟨bytes, hp⟩ := packed_exists (chunkByte p (bs.take (cap p))) (bs.drop (cap p)) hdne
    have := Packed.more p _ _ bytes htl hdne hp
    rw [List.take_append_drop] at this
    exact ⟨_, this⟩
termination_by bs.length
decreasing_by simp; omega

theorem writer_packed {p : Nat} {bs : List Bool} {bytes : List Nat} (h : Packed p bs bytes) :
    ∀ buf, ((wStart buf p).writeBitsList bs).flush = buf ++ bytes := by
  induction h with
  | last p c _ hc =>
    intro buf
    rw [wStart_chunk buf p c hc, flush_eq _ p _ rfl (chunkByte_lt p c hc)]
  | more p c rest bytes hc hne _ ih =>
    intro buf
    have hc' : c.length ≤ cap p := by omega
    rw [writeBitsList_append, wStart_chunk buf p c hc', hc, Nat.sub_self,
      write_after_full buf p _ (chunkByte_lt p c hc') rest hne, ih, List.append_assoc]
    rfl

theorem reader_packed {p : Nat} {bs : List Bool} {bytes : List Nat} (h : Packed p bs bytes) :
    ∀ (g : Nat) (rest : List Nat), p < 256 →
    ∃ r, BioR.readBitsList { data := bytes ++ rest, buf := g * 256 + p, ct := 0 } bs.length = some (bs, r) ∧
      ∃ r', r.alignToByte = some r' ∧ r'.data = rest := by
  induction h with
  | last p c hne hc =>
    intro g rest hp
    rw [List.cons_append, read_chunk _ g p c hp (List.length_pos_iff.mpr hne) hc]
    exact ⟨_, rfl, align_after p _ _ rest (chunkByte_lt p c hc)⟩
  | more p c tl bytes hc _ _ ih =>
    intro g rest hp
    have hcp := cap_bounds p
    have hc' : c.length ≤ cap p := by omega
    obtain ⟨r2, hr2, hal⟩ := ih p rest (chunkByte_lt p c hc')
    rw [List.length_append, readBitsList_append, List.cons_append, read_chunk _ g p c hp (by omega) hc', hc, Nat.sub_self]
    simp only [hr2]
    exact ⟨r2, rfl, hal⟩

theorem header_packed (bits : List Bool) (hne : bits ≠ []) :
    ∃ bytes, Packed 0 bits bytes ∧ (BioW.new.writeBitsList bits).flush = bytes := by
  obtain ⟨bytes, hp⟩ := packed_exists 0 bits hne
  exact ⟨bytes, hp, by rw [wStart_new, writer_packed hp [], List.nil_append]⟩

theorem bio_read_align (bits : List Bool) (rest : List Nat) (hne : bits ≠ []) :
    ∃ r1 r2, (BioR.new ((BioW.new.writeBitsList bits).flush ++ rest)).readBitsList bits.length = some (bits, r1) ∧
      r1.alignToByte = some r2 ∧ r2.data = rest := by
  obtain ⟨bytes, hp, hfl⟩ := header_packed bits hne
  obtain ⟨r1, hr1, r2, hr2, hd⟩ := reader_packed hp 0 rest (by decide)
  exact ⟨r1, r2, hfl ▸ hr1, hr2, hd⟩

end J2k
