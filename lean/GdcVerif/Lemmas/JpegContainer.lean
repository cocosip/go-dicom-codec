import GdcVerif.Model.JpegContainer
import GdcVerif.Spec.StrictJpeg
import GdcVerif.Lemmas.GoBits
import GdcVerif.Lemmas.Basics
import GdcVerif.Model.JpegLossless
/-!
  C16, JPEG family: the code-shaped container model (`Model/JpegContainer.lean`) against the independent strict
  reader (`Spec/StrictJpeg.lean`).  A segment the model writes is `encSeg m pl`, which the strict reader's
  `nextSegment` takes apart again; `parse_stream` is the container theorem over any scan with `ScanOk`.
  Then the two writers' stuffing invariants as scan predicates, and single DHT / DQT / SOF payloads through the
  strict segment parsers.
-/
namespace JpegC
open StrictJpeg

theorem byteOf_natCast (n : Nat) : byteOf (n : Int) = n % 256 := by
  unfold byteOf; omega

theorem byteOf_lt (x : Int) : byteOf x < 256 := by
  unfold byteOf; omega

theorem byteOf_toNat {x : Int} (h0 : 0 ≤ x) (h : x < 256) : byteOf x = x.toNat := by
  rw [byteOf, Int.emod_eq_of_lt h0 h]

theorem u16Of_toNat {x : Int} (h0 : 0 ≤ x) (h : x < 65536) : u16Of x = x.toNat := by
  rw [u16Of, Int.emod_eq_of_lt h0 h]

theorem u32Of_toNat {x : Int} (h0 : 0 ≤ x) (h : x < 4294967296) : u32Of x = x.toNat := by
  rw [u32Of, Int.emod_eq_of_lt h0 h]

theorem u16Of_small (n : Nat) (h : n < 65536) : u16Of (n : Int) = n := by
  rw [u16Of_toNat (Int.natCast_nonneg n) (by omega), Int.toNat_natCast]

theorem u32Of_small (n : Nat) (h : n < 4294967296) : u32Of (n : Int) = n := by
  rw [u32Of_toNat (Int.natCast_nonneg n) (by omega), Int.toNat_natCast]

theorem be16_length (v : Nat) : (be16 v).length = 2 := rfl

theorem be32_length (v : Nat) : (be32 v).length = 4 := rfl

theorem byteOf_and255 (n : Nat) : byteOf (Go.and (n : Int) 0xFF) = n % 256 := by
  rw [Go.and_255]
  unfold byteOf
  omega

theorem j2kSegment_eq (marker : Int) (data : List Nat) (n : Nat) (hn : data.length + 2 = n) (h : n < 65536) :
    j2kSegment marker data = be16 marker.toNat ++ be16 n ++ data := by
  have : u16Of ((data.length : Int) + 2) = n := by unfold u16Of; omega
  rw [j2kSegment, this]

theorem writeSegment_eq (marker : Int) (data : List Nat) (n : Nat) (hn : data.length + 2 = n) (h : n < 65536) :
    writeSegment marker data = writeMarker marker ++ be16 n ++ data :=
  j2kSegment_eq marker data n hn h

def encSeg (m : Nat) (pl : List Nat) : List Nat :=
  [0xFF, m, (pl.length + 2) / 256, (pl.length + 2) % 256] ++ pl

theorem writeSegment_encSeg (marker : Int) (lo : Nat) (hm : writeMarker marker = [0xFF, lo]) (data : List Nat)
    (hl : data.length + 2 < 65536) : writeSegment marker data = encSeg lo data := by
  have : (data.length + 2) / 256 % 256 = (data.length + 2) / 256 := by omega
  rw [writeSegment_eq marker data _ rfl hl, hm, be16, this]
  rfl

theorem nextSegment_encSeg (m : Nat) (pl rest : List Nat) (hm : standalone m = false)
    (hl : pl.length + 2 < 65536) : nextSegment (encSeg m pl ++ rest) = some (m, pl, rest) := by
  have e : (pl.length + 2) / 256 * 256 + (pl.length + 2) % 256 - 2 = pl.length := by omega
  simp [encSeg, nextSegment, hm, e]
  omega

def foldSteps (st : St) : List (Nat × List Nat) → Option St
  | [] => some st
  | s :: r => (step st s.1 s.2).bind fun st1 => foldSteps st1 r

def encSegs (segs : List (Nat × List Nat)) : List Nat := (segs.map fun s => encSeg s.1 s.2).flatten
def segsLen (segs : List (Nat × List Nat)) : Nat := (segs.map fun s => 4 + s.2.length).sum

theorem encSegs_length (segs : List (Nat × List Nat)) : (encSegs segs).length = segsLen segs := by
  induction segs with
  | nil => rfl
  | cons s r ih => simp [encSegs, segsLen, encSeg] at ih ⊢; omega

theorem segs_le_len (segs : List (Nat × List Nat)) : segs.length ≤ segsLen segs := by
  induction segs with
  | nil => simp [segsLen]
  | cons s r ih => simp [segsLen] at ih ⊢; omega

def SegOk (s : Nat × List Nat) : Prop := standalone s.1 = false ∧ s.1 ≠ 0xDA ∧ s.2.length + 2 < 65536

instance (s : Nat × List Nat) : Decidable (SegOk s) := by unfold SegOk; infer_instance

/-- the header walk: one turn per segment of `segs`, the last turn on SOS -/
theorem headerLoop_header (sos tail : List Nat) (hl : sos.length + 2 < 65536) (segs : List (Nat × List Nat)) :
    ∀ (st st' : St) (fuel off : Nat), (∀ s ∈ segs, SegOk s) → foldSteps st segs = some st' → segs.length < fuel →
    headerLoop fuel st (encSegs segs ++ (encSeg 0xDA sos ++ tail)) off =
      (parseSos st' sos).map fun sh => (st', sh, tail, off + segsLen segs + 4 + sos.length) := by
  induction segs with
  | nil =>
    intro st st' fuel off _ h hf
    obtain ⟨f, rfl⟩ : ∃ f, fuel = f + 1 := ⟨fuel - 1, by simp at hf; omega⟩
    cases h
    rw [encSegs, List.map_nil, List.flatten_nil, List.nil_append, headerLoop, nextSegment_encSeg _ _ _ (by decide) hl]
    simp [segsLen]
  | cons s r ih =>
    intro st st' fuel off hok h hf
    obtain ⟨f, rfl⟩ : ∃ f, fuel = f + 1 := ⟨fuel - 1, by simp at hf; omega⟩
    obtain ⟨h1, h2, h3⟩ := hok s (by simp)
    simp only [foldSteps] at h
    cases hst : step st s.1 s.2 with
    | none => simp [hst] at h
    | some st1 =>
      simp [hst] at h
      have e : encSegs (s :: r) ++ (encSeg 0xDA sos ++ tail) = encSeg s.1 s.2 ++ (encSegs r ++ (encSeg 0xDA sos ++ tail)) := by
        simp [encSegs]
      have eo : off + 4 + s.2.length + segsLen r = off + segsLen (s :: r) := by
        simp only [segsLen, List.map_cons, List.sum_cons]; omega
      rw [e, headerLoop, nextSegment_encSeg _ _ _ h1 h3]
      simp only [h2, if_false, hst]
      rw [ih st1 st' f _ (fun x hx => hok x (by simp [hx])) h (by simpa using hf), eo]

theorem foldSteps_append (a b : List (Nat × List Nat)) : ∀ st : St,
    foldSteps st (a ++ b) = (foldSteps st a).bind fun st1 => foldSteps st1 b := by
  induction a with
  | nil => intro st; rfl
  | cons s r ih =>
    intro st
    simp only [List.cons_append, foldSteps]
    cases step st s.1 s.2 with
    | none => rfl
    | some st1 => exact ih st1

theorem encSegs_append (a b : List (Nat × List Nat)) : encSegs (a ++ b) = encSegs a ++ encSegs b := by
  simp [encSegs]

/-- `bytes` is SOI followed by the well-formed segments `segs`, which take the strict reader from the empty
    state to `st` -/
structure Prefix (bytes : List Nat) (segs : List (Nat × List Nat)) (st : St) : Prop where
  bytes_eq : bytes = [0xFF, 0xD8] ++ encSegs segs
  ok : ∀ s ∈ segs, SegOk s
  fold : foldSteps {} segs = some st

theorem Prefix.snoc {bytes : List Nat} {segs : List (Nat × List Nat)} {st st' : St} (h : Prefix bytes segs st)
    (marker : Int) (m : Nat) (pl : List Nat) (hm : writeMarker marker = [0xFF, m]) (hs : SegOk (m, pl))
    (hstep : step st m pl = some st') : Prefix (bytes ++ writeSegment marker pl) (segs ++ [(m, pl)]) st' := by
  refine ⟨?_, fun s hmem => ?_, ?_⟩
  · rw [h.bytes_eq, writeSegment_encSeg _ _ hm _ hs.2.2, encSegs_append, List.append_assoc]
    simp [encSegs]
  · rcases List.mem_append.1 hmem with h1 | h1
    · exact h.ok s h1
    · rw [List.mem_singleton.1 h1]; exact hs
  · rw [foldSteps_append, h.fold]
    simp only [Option.bind, foldSteps, hstep]

/-- `NoMarker` and `NoMarkerLS` recurse alike, so one induction serves both escape rules -/
theorem entropy_esc (ls rst : Bool) (rest : List Nat) : ∀ scan : List Nat, (if ls then NoMarkerLS scan else NoMarker scan) = true →
    entropy ls rst (scan ++ 0xFF :: 0xD9 :: rest) = some (scan, rest) := by
  intro scan
  induction scan using NoMarker.induct with
  | case1 => intro _; simp [entropy]
  | case2 => intro h; cases ls <;> simp [NoMarker, NoMarkerLS] at h
  | case3 b2 rest2 ih =>
    intro h
    have hb : (if ls then decide (b2 < 0x80) else decide (b2 = 0)) = true ∧ b2 ≠ 0xD9 ∧
        (if ls then NoMarkerLS rest2 else NoMarker rest2) = true := by
      cases ls
      · simp [NoMarker] at h ⊢
        exact ⟨h.1, by omega, h.2⟩
      · simp [NoMarkerLS] at h ⊢
        exact ⟨h.1, by omega, h.2⟩
    simp [entropy, ih hb.2.2, hb.1, hb.2.1]
  | case4 b rest' hb ih =>
    intro h
    cases rest' with
    | nil => simp [entropy, hb]
    | cons b2 r2 =>
      have h' : (if ls then NoMarkerLS (b2 :: r2) else NoMarker (b2 :: r2)) = true := by
        cases ls <;> simp [NoMarker, NoMarkerLS, hb] at h ⊢ <;> exact h.2
      have := ih h'
      rw [List.cons_append] at this
      rw [List.cons_append, List.cons_append, entropy]
      simp [hb, this]

theorem stuffOk_eq_noMarker (l : List Nat) : JLL.StuffOk l = NoMarker l := by
  induction l using JLL.StuffOk.induct with
  | case1 => rfl
  | case2 => rfl
  | case3 x rest2 ih => simp only [JLL.StuffOk, NoMarker, if_true, ih]
  | case4 b rest hb ih => rw [JLL.StuffOk.eq_def, NoMarker.eq_def]; simp only [hb, if_false, ih]

/-- the shape of C03's `Golomb.Stuffed` (every 0xFF that has a successor is followed by a byte < 0x80) -/
def PairStuffed : List Nat → Prop
  | a :: b :: rest => (a = 255 → b < 128) ∧ PairStuffed (b :: rest)
  | _ => True

theorem noMarkerLS_of_pairStuffed : ∀ (out : List Nat), PairStuffed out → (∀ b ∈ out, b < 256) →
    out.getLast? ≠ some 255 → NoMarkerLS out = true := by
  intro out
  induction out using NoMarkerLS.induct with
  | case1 => intros; rfl
  | case2 => intro _ _ h; simp at h
  | case3 b2 rest ih =>
    intro hs hb hl
    have h1 : b2 < 128 := hs.1 rfl
    cases rest with
    | nil => simp [NoMarkerLS, h1]
    | cons c r =>
      have hs2 : PairStuffed (c :: r) := hs.2.2
      have := ih hs2 (fun x hx => hb x (by simp [hx])) (by simpa [List.getLast?_cons_cons] using hl)
      simp [NoMarkerLS, h1, this]
  | case4 b rest hb' ih =>
    intro hs hb hl
    have hb256 : b < 256 := hb b (by simp)
    cases rest with
    | nil => simp [NoMarkerLS, hb', hb256]
    | cons c r =>
      have hs2 : PairStuffed (c :: r) := hs.2
      have := ih hs2 (fun x hx => hb x (by simp [hx])) (by simpa [List.getLast?_cons_cons] using hl)
      rw [NoMarkerLS.eq_def]
      simp [hb', hb256]
      cases r <;> simpa [NoMarkerLS] using this

def ScanOk (sof : Nat) (scan : List Nat) : Prop :=
  if sof = 0xF7 then NoMarkerLS scan = true else NoMarker scan = true

theorem entropy_scanOk {sof : Nat} {scan : List Nat} (rst : Bool) (rest : List Nat) (h : ScanOk sof scan) :
    entropy (decide (sof = 0xF7)) rst (scan ++ 0xFF :: 0xD9 :: rest) = some (scan, rest) :=
  entropy_esc _ rst rest scan (by unfold ScanOk at h; split at h <;> simp [*])

/-- the container theorem, `container_parse` of Props/C16.  A DRI segment may be among `segs`: a scan that satisfies `ScanOk` has
    no RSTm. -/
theorem parse_stream (segs : List (Nat × List Nat)) (sos scan : List Nat) (st : St) (sh : ScanHdr) (f : Frame)
    (hsegs : ∀ s ∈ segs, SegOk s) (hfold : foldSteps {} segs = some st)
    (hsosl : sos.length + 2 < 65536) (hsos : parseSos st sos = some sh)
    (hf : st.frame = some f) (hscan : ScanOk f.sof scan) (hne : scan ≠ []) :
    parse ([0xFF, 0xD8] ++ encSegs segs ++ encSeg 0xDA sos ++ scan ++ [0xFF, 0xD9]) =
      some { frame := f, scan := sh, dqt := st.dqt, dht := st.dht,
             hdrEnd := 2 + segsLen segs + 4 + sos.length,
             scanEnd := 2 + segsLen segs + 4 + sos.length + scan.length } := by
  have hlen : segs.length < (encSegs segs ++ (encSeg 0xDA sos ++ (scan ++ [0xFF, 0xD9]))).length := by
    have := segs_le_len segs
    simp [encSegs_length, encSeg]; omega
  have e : [0xFF, 0xD8] ++ encSegs segs ++ encSeg 0xDA sos ++ scan ++ [0xFF, 0xD9]
      = 0xFF :: 0xD8 :: (encSegs segs ++ (encSeg 0xDA sos ++ (scan ++ [0xFF, 0xD9]))) := by simp
  rw [e, parse]
  simp only [ne_eq, not_true_eq_false, or_self, if_false]
  rw [headerLoop_header sos _ hsosl segs {} st _ _ hsegs hfold hlen, hsos]
  simp only [Option.map_some, hf, entropy_scanOk _ _ hscan]
  cases scan with
  | nil => exact absurd rfl hne
  | cons a r => simp

theorem parseDht_single (fuel b tc th : Nat) (bits vals : List Nat) (hb1 : b / 16 = tc) (hb2 : b % 16 = th)
    (htc : tc ≤ 1) (hth : th ≤ 3) (hlen : bits.length = 16) (hs : bits.sum = vals.length) (h256 : vals.length ≤ 256)
    (hk : kraft bits < 65536) (hn : vals.Nodup) :
    parseDht (fuel + 1) (b :: (bits ++ vals)) = some [{ tc := tc, th := th, bits := bits, vals := vals }] := by
  have t16 : (bits ++ vals).take 16 = bits := List.take_left' hlen
  have d16 : (bits ++ vals).drop 16 = vals := List.drop_left' hlen
  simp only [parseDht, hb1, hb2, t16, d16, hs]
  simp [hn, hlen]
  omega

theorem parseDqt_single (fuel b tq : Nat) (q : List Nat) (hb1 : b / 16 = 0) (hb2 : b % 16 = tq) (htq : tq ≤ 3)
    (hlen : q.length = 64) (hnz : ∀ x ∈ q, x ≠ 0) :
    parseDqt (fuel + 1) (b :: q) = some [{ pq := 0, tq := tq, q := q }] := by
  have hany : q.any (fun x => decide (x = 0)) = false := by
    simp; exact hnz
  simp only [parseDqt, hb1, hb2]
  have t : q.take 64 = q := by rw [← hlen]; simp
  have d : q.drop 64 = [] := by rw [← hlen]; simp
  simp [t, d, hany]
  omega
/-- the side conditions of B.2.2 on a component list, as `parseSof` tests them -/
def compsOk (sof : Nat) (comps : List Comp) : Bool :=
  !(comps.any fun c => c.h < 1 ∨ c.h > 4 ∨ c.v < 1 ∨ c.v > 4 ∨ c.tq > 3) && decide ((comps.map (·.id)).Nodup) &&
  !decide ((sof = 0xC3 ∨ sof = 0xF7) ∧ comps.any (·.tq ≠ 0))

theorem parseComps_length {n : Nat} {cb : List Nat} {comps : List Comp} (h : parseComps n cb = some comps) :
    comps.length = n ∧ cb.length = 3 * n := by
  induction n, cb using parseComps.induct generalizing comps with
  | case1 => cases h; exact ⟨rfl, rfl⟩
  | case2 n c hv tq rest ih =>
    obtain ⟨cs, hcs, rfl⟩ := Option.map_eq_some_iff.1 h
    have := ih hcs
    simp only [List.length_cons]
    omega
  | case3 n cb h0 h1 => simp [parseComps] at h

theorem parseSof_ok (sof P H W c : Nat) (comps : List Comp) (cb : List Nat) (hc1 : 1 ≤ c)
    (hcb : parseComps c cb = some comps) (hc : compsOk sof comps = true)
    (hP : precisionOk sof P = true) (hW : 1 ≤ W ∧ W < 65536) (hH : 1 ≤ H ∧ H < 65536) :
    parseSof sof ([P, H / 256, H % 256, W / 256, W % 256, c] ++ cb) =
      some { sof := sof, p := P, y := H, x := W, comps := comps } := by
  have ey : H / 256 * 256 + H % 256 = H := Nat.div_add_mod' H 256
  have ex : W / 256 * 256 + W % 256 = W := Nat.div_add_mod' W 256
  simp only [compsOk, Bool.and_eq_true, Bool.not_eq_true', decide_eq_true_eq, decide_eq_false_iff_not] at hc
  obtain ⟨⟨h2, h3⟩, h4⟩ := hc
  have c1 : ¬ (c < 1 ∨ W < 1 ∨ H < 1 ∨ ¬ precisionOk sof P = true) := by
    rintro (h | h | h | h)
    · omega
    · omega
    · omega
    · exact h hP
  simp only [List.cons_append, List.nil_append, parseSof, hcb, ey, ex]
  rw [if_neg c1, if_neg (by rw [h2]; exact Bool.false_ne_true), if_neg (not_not_intro h3), if_neg h4]

end JpegC
