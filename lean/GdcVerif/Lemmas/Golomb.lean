import GdcVerif.Model.Golomb
import GdcVerif.Lemmas.Loops
/-!
  Lemmas about the JPEG-LS bit writer model (`Model/Golomb.lean`):
  the byte-stuffing invariant "no 0xFF is followed by a byte ≥ 0x80" for EVERY sequence of
  `WriteBits` calls (any uint32 values, any counts — also counts outside 0..32) and the final `Flush`.
  Shared with C16 (no marker can appear inside a JPEG-LS scan).
-/
namespace Golomb

theorem stuffed_snoc : ∀ (l : List Nat) (b : Nat),
    Stuffed l → (l.getLast? = some 255 → b < 128) → Stuffed (l ++ [b])
  | [], b, _, _ => trivial
  | [a], b, _, h => by
    show (a = 255 → b < 128) ∧ Stuffed [b]
    exact ⟨fun ha => h (by simp [ha]), trivial⟩
  | a :: c :: rest, b, hs, h => by
    obtain ⟨h1, h2⟩ := hs
    show (a = 255 → c < 128) ∧ Stuffed ((c :: rest) ++ [b])
    refine ⟨h1, stuffed_snoc (c :: rest) b h2 ?_⟩
    intro hl; apply h
    simpa [List.getLast?_cons_cons] using hl

structure Inv (w : Writer) : Prop where
  buf : w.buf < M32
  stuffed : Stuffed w.out
  ffSet : w.out.getLast? = some 255 → w.ff = true
  bytes : ∀ b ∈ w.out, b < 256

theorem inv_new : Inv Writer.new := ⟨by decide, trivial, by simp [Writer.new], by simp [Writer.new]⟩

theorem shr25_lt (b : Nat) (h : b < M32) : (b >>> 25) % 256 < 128 := by
  unfold M32 at h
  rw [Nat.shiftRight_eq_div_pow]
  omega

/-- the bits an emitting iteration of `flush()` takes from the buffer -/
def stepBits (w : Writer) : Nat := if w.ff then 7 else 8

theorem stepBits_cases (w : Writer) : stepBits w = 7 ∨ stepBits w = 8 := by
  unfold stepBits
  split
  · exact Or.inl rfl
  · exact Or.inr rfl

theorem flushStep_emit (w : Writer) (h : w.free < 32) :
    flushStep w = (Writer.mk ((w.buf <<< stepBits w) % M32) (w.free + stepBits w)
      ((w.buf >>> (32 - stepBits w)) % 256 == 255) (w.out ++ [(w.buf >>> (32 - stepBits w)) % 256]), true) := by
  have hge : ¬ w.free ≥ 32 := by omega
  unfold flushStep stepBits
  cases w.ff <;> simp only [hge, if_false, if_true, Bool.false_eq_true] <;> rfl

theorem flushStep_stop (w : Writer) (h : 32 ≤ w.free) : flushStep w = (setFree w 32, false) := by
  unfold flushStep
  rw [if_pos h]
  rfl

theorem getLast_snoc (l : List Nat) (b : Nat) : (l ++ [b]).getLast? = some b := by simp

theorem inv_setFree (w : Writer) (h : Inv w) (f : Int) : Inv (setFree w f) := ⟨h.buf, h.stuffed, h.ffSet, h.bytes⟩

theorem inv_flushStep (w : Writer) (h : Inv w) : Inv (flushStep w).1 := by
  by_cases hlt : w.free < 32
  · obtain ⟨hb, hs, hf, hy⟩ := h
    rw [flushStep_emit w hlt]
    refine ⟨Nat.mod_lt _ (by decide), stuffed_snoc _ _ hs (fun hl => ?_), fun hl => ?_, fun b hb' => ?_⟩
    · -- after 0xFF the byte is the top 7 bits of the 32-bit buffer
      have h7 : stepBits w = 7 := if_pos (hf hl)
      rw [h7]
      exact shr25_lt w.buf hb
    · have : (w.buf >>> (32 - stepBits w)) % 256 = 255 := by simpa using hl
      show ((w.buf >>> (32 - stepBits w)) % 256 == 255) = true
      rw [this]
      rfl
    · rcases List.mem_append.mp hb' with h1 | h1
      · exact hy b h1
      · rw [List.mem_singleton.mp h1]
        exact Nat.mod_lt _ (by decide)
  · rw [flushStep_stop w (by omega)]
    exact inv_setFree w h 32

/-- the loop of `flush()`: up to `n` iterations, stopped by an iteration that emits nothing -/
def flushN : Nat → Writer → Writer
  | 0, w => w
  | n + 1, w => if (flushStep w).2 then flushN n (flushStep w).1 else (flushStep w).1

theorem flushN_emit (n : Nat) (w : Writer) (h : w.free < 32) : flushN (n + 1) w = flushN n (flushStep w).1 := by
  rw [flushN, flushStep_emit w h, if_pos rfl]

theorem flushN_stop (n : Nat) (w : Writer) (h : 32 ≤ w.free) : flushN (n + 1) w = setFree w 32 := by
  rw [flushN, flushStep_stop w h, if_neg Bool.false_ne_true]

theorem flush_eq (w : Writer) : flush w = flushN 4 w := by
  simp only [flush, flushN]
  cases (flushStep w).2 <;> cases (flushStep (flushStep w).1).2 <;>
    cases (flushStep (flushStep (flushStep w).1).1).2 <;> simp

theorem flushN_preserves {I : Writer → Prop} (hstep : ∀ w, I w → I (flushStep w).1) :
    ∀ (n : Nat) (w : Writer), I w → I (flushN n w)
  | 0, _, h => h
  | n + 1, w, h => by
    unfold flushN
    split
    · exact flushN_preserves hstep n _ (hstep w h)
    · exact hstep w h

theorem flush_preserves {I : Writer → Prop} (hstep : ∀ w, I w → I (flushStep w).1) (w : Writer) (h : I w) :
    I (flush w) := by
  rw [flush_eq]
  exact flushN_preserves hstep 4 w h

theorem inv_flush (w : Writer) (h : Inv w) : Inv (flush w) := flush_preserves inv_flushStep w h

theorem shl32_lt (b : Nat) (k : Int) : shl32 b k < M32 := by
  unfold shl32; split
  · decide
  · exact Nat.mod_lt _ (by decide)

theorem shr32_lt (b : Nat) (k : Int) (h : b < M32) : shr32 b k < M32 := by
  unfold shr32; split
  · decide
  · exact Nat.lt_of_le_of_lt (Nat.shiftRight_le _ _) h

theorem inv_orBuf (w : Writer) (h : Inv w) (x : Nat) (hx : x < M32) : Inv (orBuf w x) :=
  ⟨Nat.or_lt_two_pow (n := 32) h.buf hx, h.stuffed, h.ffSet, h.bytes⟩

/-- `WriteBits` after its first statement (`freeBitCount -= bitCount`) only ORs uint32 values into the buffer and
    flushes -/
theorem writeBits_preserves {I : Writer → Prop} (hor : ∀ w x, x < M32 → I w → I (orBuf w x)) (hfl : ∀ w, I w → I (flush w))
    (w : Writer) (bits : Nat) (n : Int) (hb : bits < M32) (h0 : I (setFree w (w.free - n))) :
    I (writeBits w bits n) := by
  unfold writeBits
  have h1 := hfl _ (hor _ _ (shr32_lt bits (-(setFree w (w.free - n)).free) hb) h0)
  dsimp only
  split
  · exact hor _ _ (shl32_lt _ _) h0
  · split
    · exact hor _ _ (shl32_lt _ _) (hfl _ (hor _ _ (shr32_lt bits _ hb) h1))
    · exact hor _ _ (shl32_lt _ _) h1

theorem inv_writeBits (w : Writer) (h : Inv w) (bits : Nat) (n : Int) (hb : bits < M32) :
    Inv (writeBits w bits n) :=
  writeBits_preserves (fun w x hx h => inv_orBuf w h x hx) inv_flush w bits n hb (inv_setFree w h _)

theorem inv_writeAll (ws : List (Nat × Int)) (w : Writer) (h : Inv w) (hv : ∀ p ∈ ws, p.1 < M32) :
    Inv (writeAll w ws) :=
  Loop.foldl_inv_mem _ Inv ws (fun p w hp hw => inv_writeBits w hw p.1 p.2 (hv p hp)) w h

theorem inv_finish (w : Writer) (h : Inv w) : Inv (finish w) := by
  unfold finish
  simp only []
  have h1 := inv_flush w h
  split
  · exact inv_flush _ (inv_writeBits _ h1 0 _ (by decide))
  · exact inv_flush _ h1

theorem zerosWrites_lt : ∀ (f : Nat) (n : Int), ∀ p ∈ zerosWrites f n, p.1 < M32
  | 0, _ => nofun
  | f + 1, n => by
    unfold zerosWrites
    split
    · exact List.forall_mem_cons.mpr ⟨(by decide : 0 < M32), zerosWrites_lt f _⟩
    · nofun

/-- every value `EncodeMappedValue` hands to `WriteBits` is 0, 1 or reduced mod 2^32, whatever its arguments -/
theorem encodeWrites_lt (k m limit qbpp : Int) : ∀ p ∈ encodeWrites k m limit qbpp, p.1 < M32 := by
  have one : ∀ n : Int, ∀ p ∈ [((1 : Nat), n)], p.1 < M32 := fun _ => List.forall_mem_singleton.mpr (by decide : 1 < M32)
  have field : ∀ (x : Nat) (n : Int), ∀ p ∈ [(x % M32, n)], p.1 < M32 :=
    fun _ _ => List.forall_mem_singleton.mpr (Nat.mod_lt _ (by decide))
  unfold encodeWrites
  simp only []
  split
  · refine List.forall_mem_append.mpr ⟨List.forall_mem_append.mpr ⟨?_, one _⟩, ?_⟩
    · split
      · exact zerosWrites_lt _ _
      · nofun
    · split
      · exact field _ _
      · nofun
  · refine List.forall_mem_append.mpr ⟨?_, field _ _⟩
    split
    · exact List.forall_mem_append.mpr ⟨zerosWrites_lt _ _, one _⟩
    · exact one _

theorem inv_encodeMappedValue (w : Writer) (h : Inv w) (k m limit qbpp : Int) :
    Inv (encodeMappedValue w k m limit qbpp) :=
  inv_writeAll _ w h (encodeWrites_lt k m limit qbpp)

theorem inv_encodeAll (calls : List (Int × Int × Int × Int)) (w : Writer) (h : Inv w) :
    Inv (calls.foldl (fun w q => encodeMappedValue w q.1 q.2.1 q.2.2.1 q.2.2.2) w) :=
  Loop.foldl_inv_mem _ Inv calls (fun q w _ hw => inv_encodeMappedValue w hw q.1 q.2.1 q.2.2.1 q.2.2.2) w h

end Golomb
