import GdcVerif.Model.J2kPacketBody
import GdcVerif.Lemmas.Basics
/-!
  C09: every buffer `gatherCBData` allocates is at most the packet body, the bodies are at most the tile
  data that was left — also through the end-of-data `break` of `decodePacket`, which hands over untrimmed
  declared lengths.
-/
namespace PktBody

theorem bodyLoop_body (total : Nat) (mode : Mode) (off : Nat) (cs : List Incl) (r : BodyRes)
    (h : bodyLoop total mode off cs = some r) :
    r.off = off + r.body ∧ r.body ≤ total - off := by
  -- the branches of the loop in the model's order: list exhausted, the `break`, error returns (3, 4, 5, 7),
  -- a block is read (6), a block without contribution (8)
  fun_induction bodyLoop total mode off cs generalizing r with
  | case1 | case2 => cases h; exact ⟨rfl, Nat.zero_le _⟩
  | case3 | case4 | case5 | case7 => cases h
  | case6 off c cs _ hlt _ l1 p1 _ l2 r' hr ih =>
    cases h
    -- a block that is read is trimmed to the bytes that are left
    have hl1 : off + l1 ≤ total := by simp only [l1]; split <;> omega
    have hl2 : off + l2 ≤ total := by
      simp only [l2]
      split
      · split <;> omega
      · exact hl1
    obtain ⟨e1, e2⟩ := ih r' hr
    exact ⟨by simp only; omega, by simp only; omega⟩
  | case8 off c cs _ r' hr ih => cases h; exact ih r' hr

theorem gatherAllocs_sum (bodyLen ncb idx off : Nat) (cs : List Incl) :
    (gatherAllocs bodyLen ncb idx off cs).sum ≤ bodyLen - off := by
  fun_induction gatherAllocs bodyLen ncb idx off cs with
  | case1 => exact Nat.zero_le _
  | case2 _ _ _ _ _ ih => exact ih
  | case3 _ _ _ _ _ _ ih => omega
  | case4 _ _ c _ _ _ ih =>
    -- a buffer is allocated only if it ends inside the body
    rw [List.sum_append]
    split <;> simp only [List.sum_cons, List.sum_nil] <;> omega

theorem gatherAllocs_le (bodyLen ncb idx off : Nat) (cs : List Incl) :
    ∀ a ∈ gatherAllocs bodyLen ncb idx off cs, a ≤ bodyLen := fun _ ha =>
  Nat.le_trans (List.le_sum_of_mem ha) (Nat.le_trans (gatherAllocs_sum bodyLen ncb idx off cs) (Nat.sub_le _ _))

theorem decodeSeq_sum (total : Nat) (mode : Mode) (off : Nat) (ps : List Pkt) (rs : List PktRes)
    (h : decodeSeq total mode off ps = some rs) : (tileAllocs rs).sum ≤ total - off := by
  -- packets exhausted, data exhausted, error returns (3, 5, 6), an empty packet (4), a packet with a body (7)
  fun_induction decodeSeq total mode off ps generalizing rs with
  | case1 | case2 => cases h; exact Nat.zero_le _
  | case3 | case5 | case6 => cases h
  | case4 off p _ _ _ rs' hr ih => cases h; have := ih rs' hr; simp only [tileAllocs]; omega
  | case7 off p _ hlt cs _ r hb rs' hr ih =>
    cases h
    -- also when the header runs past the data: then nothing is left and the body is empty
    obtain ⟨e1, e2⟩ := bodyLoop_body _ _ _ _ _ hb
    have s1 := gatherAllocs_sum r.body r.incls.length 0 0 r.incls
    have s2 := ih rs' hr
    simp only [tileAllocs, List.sum_append]
    omega

end PktBody
