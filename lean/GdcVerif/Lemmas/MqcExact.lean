import GdcVerif.Lemmas.Mqc
/-!
  MQ encoder, exact-value semantics ("carry propagation and bit stuffing are value preserving").

  `val buf bp` is the exact integer denoted by the bytes `buf[0..bp]` in units of the last byte's least
  significant bit, where a byte that follows a 0xFF weighs 2^7 (its top bit is the carry slot) and every
  other byte 2^8.  The ideal low end of the coding interval, `L` (unbounded: `+= Qe` on the upper
  sub-interval, `*= 2` on every renormalisation shift), satisfies at every point of every run

      val buf bp · 2^27 + c · 2^ct = L · 2^ct                                   (`Exact`)

  i.e. emitted bytes + code register are exactly `L`, whatever carries were propagated (`buffer[bp]++`)
  or parked in a stuffed byte.  `L` and the width `a` are those of the joint machine `J` (`Sim`), whose step is
  "select a sub-interval, renormalise" (`jstep_eq`).
-/
namespace Mqc
open Gen.J2kMqc

def val (buf : Array Nat) : Nat → Nat
  | 0 => rd buf 0
  | i + 1 => rd buf (i + 1) + val buf i * (if rd buf i = 255 then 128 else 256)

theorem val_congr (b b' : Array Nat) : ∀ i, (∀ j, j ≤ i → rd b' j = rd b j) → val b' i = val b i := by
  intro i
  induction i with
  | zero => intro h; simp only [val]; exact h 0 (Nat.le_refl _)
  | succ i ih =>
    intro h
    simp only [val]
    rw [h (i + 1) (Nat.le_refl _), h i (by omega), ih (fun j hj => h j (by omega))]

theorem val_add (buf buf' : Array Nat) (bp δ : Nat) (hcur : rd buf' bp = rd buf bp + δ)
    (hpre : ∀ i, i < bp → rd buf' i = rd buf i) : val buf' bp = val buf bp + δ := by
  cases bp with
  | zero => simp only [val]; exact hcur
  | succ k =>
    simp only [val]
    rw [hcur, hpre k (by omega), val_congr buf buf' k (fun j hj => hpre j (by omega))]
    omega

def Exact (e : Enc) (L : Nat) : Prop :=
  val e.buf e.bp * 134217728 + e.c * 2 ^ e.ct.toNat = L * 2 ^ e.ct.toNat

theorem byteout_val {e e2 : Enc} {w nb δ : Nat} (hE : Emitted e e2 w nb δ) :
    val e2.buf e2.bp * 134217728 + e2.c * 2 ^ e2.ct.toNat =
      (val e.buf e.bp * 134217728 + e.c) * 2 ^ e2.ct.toNat := by
  have hv := val_add e.buf e2.buf e.bp δ hE.cur hE.pre
  have hW : (if rd e2.buf e.bp = 255 then 128 else 256) = 2 ^ w := by
    rcases hE.w78 with rfl | rfl
    · exact if_pos (hE.w7.mp rfl)
    · exact if_neg (fun h => absurd (hE.w7.mpr h) (by decide))
  have hM := hE.split
  rw [hE.bp, hE.ct, Int.toNat_natCast]
  simp only [val]
  -- `(nb + (V + δ)·W)·2^27 + c'·W = (V·2^27 + c)·W`, linear in the products with `W = 2^w`
  rw [hE.byte, hv, hW, Nat.add_mul _ δ, Nat.add_mul _ e.c, Nat.mul_right_comm _ 134217728]
  omega

/-- the joint ideal machine: the encoder's interval `[L, L + a)` and, for `MqcIdeal`, the prefix `P` (`p` bits, taken
from the bit source `src`) of the code value read so far; this file speaks of `L` and `a` only -/
structure J where
  L : Nat
  a : Nat
  P : Nat
  p : Nat

def jrenorm (src : Nat → Nat) : Nat → J → J
  | 0, j => j
  | f + 1, j => if j.a < 0x8000 then jrenorm src f { L := j.L * 2, a := j.a * 2, P := j.P * 2 + src j.p, p := j.p + 1 } else j

def jstep (src : Nat → Nat) (j : J) (qe : Nat) (m : Bool) : J :=
  if m then
    if (j.a - qe) / 0x8000 % 2 = 0 then
      if j.a - qe < qe then jrenorm src 16 { j with a := qe }
      else jrenorm src 16 { j with L := j.L + qe, a := j.a - qe }
    else { j with L := j.L + qe, a := j.a - qe }
  else
    if j.a - qe < qe then jrenorm src 16 { j with L := j.L + qe, a := j.a - qe }
    else jrenorm src 16 { j with a := qe }

theorem exact_shift (e : Enc) (L : Nat) (a' : Nat) (h : Exact e L) (hct : 1 ≤ e.ct) :
    Exact { e with a := a', c := e.c * 2, ct := e.ct - 1 } (L * 2) := by
  unfold Exact at h ⊢
  have h1 : e.ct.toNat = (e.ct - 1).toNat + 1 := by omega
  rw [h1, Nat.pow_succ] at h
  show val e.buf e.bp * 134217728 + e.c * 2 * 2 ^ (e.ct - 1).toNat = L * 2 * 2 ^ (e.ct - 1).toNat
  rw [Nat.mul_assoc e.c, Nat.mul_assoc L, Nat.mul_comm 2]
  exact h

theorem exact_step (e e2 : Enc) (L : Nat) (h : RegOk e) (hs : RenStep e e2) (hx : Exact e L) : Exact e2 (L * 2) := by
  have hx1 := exact_shift e L (e.a * 2) hx h.ctlo
  rcases hs.out with ⟨_, rfl⟩ | ⟨hct, w, nb, δ, hE⟩
  · exact hx1
  · have hv := byteout_val hE
    unfold Exact at hx1 ⊢
    simp only [hct, show (2 : Nat) ^ (0 : Int).toNat = 1 from rfl, Nat.mul_one] at hx1 hv
    rw [hv, hx1]

theorem jrenorm_done (src : Nat → Nat) (fuel : Nat) (j : J) (h : ¬ j.a < 0x8000) : jrenorm src fuel j = j := by
  cases fuel
  · rfl
  · rw [jrenorm, if_neg h]

theorem jstep_eq (src : Nat → Nat) (j : J) (qe : Nat) (m : Bool) (q2 : qe ≤ 0x5601) :
    jstep src j qe m = jrenorm src 16
      (if decide (j.a - qe < qe) = m then { j with a := qe } else { j with L := j.L + qe, a := j.a - qe }) := by
  unfold jstep
  by_cases hx : j.a - qe < qe
  · rw [decide_eq_true hx, if_pos hx, if_pos hx, if_pos (show (j.a - qe) / 0x8000 % 2 = 0 by omega)]
    cases m <;> rfl
  · rw [decide_eq_false hx, if_neg hx, if_neg hx]
    cases m
    · rfl
    · by_cases hren : (j.a - qe) / 0x8000 % 2 = 0
      · rw [if_pos hren]; rfl
      · rw [if_neg hren]
        exact (jrenorm_done src 16 _ (show ¬ j.a - qe < 0x8000 by omega)).symm

/-- the encoder `e` is at the state `j` of the joint machine: bytes and code register denote `j.L`, `a` is the width -/
structure Sim (e : Enc) (j : J) : Prop where
  L : Exact e j.L
  a : e.a = j.a

theorem renormeLoop_exact (src : Nat → Nat) (fuel : Nat) (e : Enc) (j : J) (h : RegOk e) (hs : Sim e j) (e' : Enc)
    (he : renormeLoop fuel e = some e') : Sim e' (jrenorm src fuel j) := by
  refine renormeLoop_induct (P := fun fuel e => ∀ j : J, Sim e j → Sim e' (jrenorm src fuel j)) e' ?_ ?_ fuel e h he j hs
  · intro hge fuel j hs
    rw [jrenorm_done src fuel j (by rw [← hs.a]; omega)]
    exact hs
  · intro fuel e e2 h hlt hst ih j hs
    rw [jrenorm, if_pos (by rw [← hs.a]; exact hlt)]
    exact ih _ ⟨exact_step e e2 j.L h hst hs.L, by show e2.a = j.a * 2; rw [hst.a, hs.a]⟩

theorem exact_add (e : Enc) (L q : Nat) (hx : Exact e L) :
    val e.buf e.bp * 134217728 + (e.c + q) * 2 ^ e.ct.toNat = (L + q) * 2 ^ e.ct.toNat := by
  unfold Exact at hx
  rw [Nat.add_mul, Nat.add_mul, ← Nat.add_assoc, hx]

theorem encodeCore_exact (src : Nat → Nat) (e : Enc) (bit cx cxv qe nmps nlps sw : Nat) (j : J) (h : RegOk e)
    (hn : 0x8000 ≤ e.a) (q2 : 1 ≤ qe) (q3 : qe ≤ 0x5601) (m2 : nmps < 47) (l2 : nlps < 47) (hs : Sim e j) :
    ∀ e', encodeCore e bit cx cxv qe nmps nlps sw = some e' → Sim e' (jstep src j qe (decide (bit = cxv / 128))) := by
  have hah := h.ahi
  have hadd := exact_add e j.L qe hs.L
  intro e' he'
  rw [jstep_eq src j qe _ q3, ← hs.a]
  rcases encodeCore_cases e bit cx cxv qe nmps nlps sw h hn q2 q3 m2 l2 with
    ⟨hb, hge, _, he⟩ | ⟨v, _, ⟨hx, hr, he⟩ | ⟨_, hx, hr, he⟩⟩
  · rw [if_neg (fun hd => by have := decide_eq_decide.mp hd; omega),
      jrenorm_done src 16 _ (show ¬ e.a - qe < 0x8000 by omega)]
    obtain rfl := Option.some.inj (he.symm.trans he')
    exact ⟨hadd, rfl⟩
  · rw [if_pos (decide_eq_decide.mpr hx)]
    exact renormeLoop_exact src 16 _ { j with a := qe } hr ⟨hs.L, rfl⟩ e' (he.symm.trans he')
  · rw [if_neg (fun hd => by have := decide_eq_decide.mp hd; omega)]
    exact renormeLoop_exact src 16 _ { j with L := j.L + qe, a := e.a - qe } hr ⟨hadd, rfl⟩ e' (he.symm.trans he')

/-- the probability `qe` and the MPS-ness of a decision, read from the encoder's context state
(the same reads as `encode`) -/
def stepOf (ctx : Array Nat) (bit cx : Nat) : Option (Nat × Bool) :=
  match ctx[cx]? with
  | none => none
  | some v =>
    match lookup (v % 128) with
    | none => none
    | some (qe, _, _, _) => some (qe, decide (bit = v / 128))

def jrun (src : Nat → Nat) : J → List (Nat × Bool) → J
  | j, [] => j
  | j, (qe, m) :: rest => jrun src (jstep src j qe m) rest

/-- the `(qe, isMPS)` trace of a decision sequence as the code-shaped encoder sees it (adaptive contexts) -/
def trace : Enc → List (Nat × Nat) → Option (List (Nat × Bool))
  | _, [] => some []
  | e, (bit, cx) :: ds =>
    match stepOf e.ctx bit cx, encode e bit cx with
    | some s, some e' => (trace e' ds).map (s :: ·)
    | _, _ => none

theorem encode_exact (src : Nat → Nat) (e e1 : Enc) (bit cx : Nat) (j : J) (h : RegOk e) (hn : 0x8000 ≤ e.a)
    (hcx : cx < e.ctx.size) (he : encode e bit cx = some e1) (hs : Sim e j) :
    ∃ qe m, stepOf e.ctx bit cx = some (qe, m) ∧ 1 ≤ qe ∧ qe ≤ 0x5601 ∧ Sim e1 (jstep src j qe m) := by
  obtain ⟨qe, nmps, nlps, sw, hlk, q2, q3, m2, l2, _⟩ := lookup_wf (rd e.ctx cx % 128) (h.ctx cx).1
  refine ⟨qe, decide (bit = rd e.ctx cx / 128), ?_, q2, q3,
    encodeCore_exact src e bit cx (rd e.ctx cx) qe nmps nlps sw j h hn q2 q3 m2 l2 hs e1
      (encode_eq e bit cx _ qe nmps nlps sw (rd_some e.ctx cx hcx) hlk ▸ he)⟩
  unfold stepOf
  rw [rd_some e.ctx cx hcx]
  simp only [hlk]

theorem encodeAll_exact (src : Nat → Nat) (ds : List (Nat × Nat)) (e ef : Enc) (j : J) (h : RegOk e) (hn : 0x8000 ≤ e.a)
    (hds : ∀ d ∈ ds, d.2 < e.ctx.size) (he : encodeAll e ds = some ef) (hs : Sim e j) :
    ∃ steps, trace e ds = some steps ∧ (∀ s ∈ steps, 1 ≤ s.1 ∧ s.1 ≤ 0x5601) ∧ Sim ef (jrun src j steps) := by
  refine encodeAll_induct (P := fun e ds => ∀ j, Sim e j → ∃ steps, trace e ds = some steps ∧
    (∀ s ∈ steps, 1 ≤ s.1 ∧ s.1 ≤ 0x5601) ∧ Sim ef (jrun src j steps)) ef
    (fun j hs => ⟨[], rfl, List.forall_mem_nil _, hs⟩) ?_ ds e h hn hds he j hs
  intro e e1 bit cx ds h hn hcx he1 ih j hs
  obtain ⟨qe, m, hst, q2, q3, hs1⟩ := encode_exact src e e1 bit cx j h hn hcx he1 hs
  obtain ⟨steps, ht, hq, hsf⟩ := ih _ hs1
  exact ⟨(qe, m) :: steps, by rw [trace, hst, he1]; simp only [ht, Option.map_some],
    List.forall_mem_cons.mpr ⟨⟨q2, q3⟩, hq⟩, hsf⟩

theorem sim_new (n : Nat) (P p : Nat) : Sim (Enc.new n) { L := 0, a := 0x8000, P := P, p := p } := by
  refine ⟨?_, rfl⟩
  unfold Exact Enc.new
  simp only [val]
  show rd #[0] 0 * 134217728 + 0 * 2 ^ (12 : Int).toNat = 0 * 2 ^ (12 : Int).toNat
  simp [rd]

end Mqc
