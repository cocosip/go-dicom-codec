import GdcVerif.Lemmas.DctBlock
import GdcVerif.Lemmas.DctColour
/-! The plane side of `c11_bound_rgb` (Props/C11, where the composition with the colour matrices is done): a padded
  plane holds the generated forward conversion inside the image, its samples are bytes, and `block_bound_lin` read
  per plane position. -/
namespace Dct
open Gen.JpegBaseline Gen.JpegStd

theorem planeOf_inside (img : Rgb) (w h : Nat) (c X Y : Nat) (hX : X < w) (hY : Y < h) :
    planeOf img w h c Y X =
      (let f := rgbToYCbCr.entry default Y X Y 0 (img Y X).1 (img Y X).2.fst (img Y X).2.snd 0 0 0
       match c with | 0 => f.1 | 1 => f.2.fst | _ => f.2.snd) := by
  have e1 : min (Y : Int) ((h : Int) - 1) = (Y : Int) := by omega
  have e2 : min (X : Int) ((w : Int) - 1) = (X : Int) := by omega
  simp only [planeOf, e1, e2, Int.toNat_natCast]
  rcases c with _ | _ | c <;> rfl

theorem planeOf_byte (img : Rgb) (w h : Int) (c row col : Nat) :
    0 ≤ planeOf img w h c row col ∧ planeOf img w h c row col ≤ 255 := by
  simp only [planeOf, fwd_entry_eq]
  rcases c with _ | _ | c <;> exact ⟨(clamp_byte _).1, (clamp_byte _).2.1⟩

/-- the deviation `d` is the form the colour lemmas take: `block_bound_lin` at the sample's place in its block -/
theorem decodedPlane_dev (pl q : Blk) (hb : ∀ y j, 0 ≤ pl y j ∧ pl y j ≤ 255) (hq : ∀ v k, 1 ≤ q v k) (X Y : Nat) :
    ∃ d, near d (decodedPlane pl q X Y) (pl Y X) ∧
      288230376151711744 * d ≤ 415051741658464912 + 268435456 * LinB q := by
  have h := block_bound_lin (blockOfPlane pl (X / 8) (Y / 8)) q (fun y j => hb _ _) hq (Y % 8) (X % 8)
    (Nat.mod_lt _ (by decide)) (Nat.mod_lt _ (by decide))
  have e : blockOfPlane pl (X / 8) (Y / 8) (Y % 8) (X % 8) = pl Y X := by
    simp only [blockOfPlane]
    rw [(by omega : Y / 8 * 8 + Y % 8 = Y), (by omega : X / 8 * 8 + X % 8 = X)]
  rw [e] at h
  unfold near decodedPlane
  generalize blockF (blockOfPlane pl (X / 8) (Y / 8)) q (Y % 8) (X % 8) - pl Y X = δ at h ⊢
  exact ⟨δ.natAbs, by omega, by omega⟩

end Dct
