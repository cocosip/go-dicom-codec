import GdcVerif.Lemmas.JpegFrames
import GdcVerif.Lemmas.JllScan
import GdcVerif.Lemmas.Golomb
/-!
  C16, composition with the scan writers: the bytes of any admissible `HuffmanEncoder` (C02) or `GolombWriter` (C03)
  write list are a scan the frame theorems accept (not empty, no unescaped marker), and what `.ok` of a header model
  says about its arguments, so that the `*_stream_wf_*` theorems of Props/C16 need only "the header was emitted".
-/
namespace JpegC
open StrictJpeg

theorem writeBits_progress (e : JLL.HuffEnc) (v n : Nat) (h : 1 ≤ e.nBits ∨ 1 ≤ n) :
    (e.writeBits v n).2 ≠ [] ∨ 1 ≤ (e.writeBits v n).1.nBits := by
  unfold JLL.HuffEnc.writeBits
  by_cases hn : n = 0
  · simp only [hn, if_true]; right; omega
  · simp only [hn, if_false]
    rw [JLL.drain]
    by_cases hb : e.nBits + n ≥ 8
    · left; simp only [hb, dite_true]; unfold JLL.stuff; split <;> simp
    · right; simp only [hb, dite_false]; omega

theorem writeAll_ne_nil : ∀ (ws : List (Nat × Nat)) (e : JLL.HuffEnc), (1 ≤ e.nBits ∨ ∃ w ∈ ws, 1 ≤ w.2) →
    JLL.writeAll e ws ≠ [] := by
  intro ws
  induction ws with
  | nil =>
    intro e h
    rcases h with h | ⟨w, hw, _⟩
    · simp only [JLL.writeAll, JLL.HuffEnc.flush, show e.nBits > 0 from h, if_true]
      unfold JLL.stuff
      split <;> simp
    · simp at hw
  | cons x r ih =>
    intro e h hc
    obtain ⟨v, n⟩ := x
    obtain ⟨h1, h2⟩ := List.append_eq_nil_iff.1 (show (e.writeBits v n).2 ++ JLL.writeAll (e.writeBits v n).1 r = [] from hc)
    refine ih _ ?_ h2
    rcases h with h | ⟨w, hw, hw1⟩
    · exact Or.inl ((writeBits_progress e v n (Or.inl h)).resolve_left fun hne => hne h1)
    · rcases List.mem_cons.1 hw with rfl | hw
      · exact Or.inl ((writeBits_progress e v n (Or.inr hw1)).resolve_left fun hne => hne h1)
      · exact Or.inr ⟨w, hw, hw1⟩

/-- a guard of a header model that was passed: every model opens with `if <bad argument> then .err else …` -/
theorem ok_of_guard {α : Type} {c : Prop} [Decidable c] {x : Outcome α} {a : α}
    (h : (if c then .err else x) = .ok a) : ¬ c ∧ x = .ok a := by
  split at h
  · cases h
  · exact ⟨‹¬ c›, h⟩

theorem losslessHeader_ok_args {w h p pred : Int} {c : Nat} {t : HuffTable} {hdr : List Nat}
    (hok : losslessHeader w h c p pred t = .ok hdr) :
    (0 < w ∧ w ≤ 65535) ∧ (0 < h ∧ h ≤ 65535) ∧ (c = 1 ∨ c = 3) ∧ (2 ≤ p ∧ p ≤ 16) ∧ (0 ≤ pred ∧ pred ≤ 7) := by
  obtain ⟨g1, hok⟩ := ok_of_guard hok
  obtain ⟨g2, hok⟩ := ok_of_guard hok
  obtain ⟨g3, hok⟩ := ok_of_guard hok
  obtain ⟨g4, -⟩ := ok_of_guard hok
  omega

theorem jpeglsHeader_ok_args {w h p near : Int} {c : Nat} {hdr : List Nat}
    (hok : jpeglsHeader w h c p near = .ok hdr) :
    (0 < w ∧ w ≤ 65535) ∧ (0 < h ∧ h ≤ 65535) ∧ (c = 1 ∨ c = 3) ∧ (2 ≤ p ∧ p ≤ 16) ∧ (0 ≤ near ∧ near ≤ 255) := by
  obtain ⟨g1, hok⟩ := ok_of_guard hok
  obtain ⟨g2, hok⟩ := ok_of_guard hok
  obtain ⟨g3, hok⟩ := ok_of_guard hok
  obtain ⟨g4, -⟩ := ok_of_guard hok
  omega

theorem baselineHeader_ok_args {w h : Int} {c : Nat} {t : BaseTables} {hdr : List Nat}
    (hok : baselineHeader w h c t = .ok hdr) :
    (0 < w ∧ w ≤ 65535) ∧ (0 < h ∧ h ≤ 65535) ∧ (c = 1 ∨ c = 3) := by
  obtain ⟨g1, hok⟩ := ok_of_guard hok
  obtain ⟨g2, -⟩ := ok_of_guard hok
  omega

theorem ext12Header_ok_args {w h : Int} {q : List Int} {dc ac : HuffTable} {hdr : List Nat}
    (hok : ext12Header w h q dc ac = .ok hdr) : (0 < w ∧ w ≤ 65535) ∧ (0 < h ∧ h ≤ 65535) := by
  obtain ⟨g1, -⟩ := ok_of_guard hok
  omega

/-- admissible Huffman write lists: every width ≤ 16 (what `WriteBits` is called with) and at least one bit -/
def WritesOk (ws : List (Nat × Nat)) : Prop := (∀ w ∈ ws, w.2 ≤ 16) ∧ ∃ w ∈ ws, 1 ≤ w.2

/-- C02's stuffing invariant in C16's vocabulary -/
theorem huffman_scan_ok (ws : List (Nat × Nat)) (h : WritesOk ws) :
    NoMarker (JLL.writeAll {} ws) = true ∧ JLL.writeAll {} ws ≠ [] :=
  ⟨by rw [← stuffOk_eq_noMarker]; exact JLL.writeAll_stuffOk ws h.1, writeAll_ne_nil ws {} (Or.inr h.2)⟩

/-- the `standard.HuffmanTable` the lossless encoders hand to `writeDHT`, from JLL's (bits, values) -/
def tableOf (bits : List Nat) (values : Array Nat) : HuffTable :=
  { bits := bits.map Int.ofNat, values := values.toList }

theorem golombStuffed_pairStuffed : ∀ (l : List Nat), Golomb.Stuffed l → PairStuffed l
  | [], _ => trivial
  | [_], _ => trivial
  | _ :: b :: rest, h => ⟨h.1, golombStuffed_pairStuffed (b :: rest) h.2⟩

/-- what C03 supplies about the end of the scan (proved there as `C03.golomb_scan_end`, from the `freeBitCount`
    bookkeeping of `Flush`; here the hypothesis of `jpegls_stream_wf_golomb_writes_partial`, which
    `jpegls_stream_wf_golomb_writes` discharges): the flushed scan does not end on 0xFF and is not empty -/
def GolombScanEnd_pending_C03 (ws : List (Nat × Int)) : Prop :=
  (Golomb.finish (Golomb.writeAll Golomb.Writer.new ws)).out.getLast? ≠ some 255 ∧
  (Golomb.finish (Golomb.writeAll Golomb.Writer.new ws)).out ≠ []

end JpegC
