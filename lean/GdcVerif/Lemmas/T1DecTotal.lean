import GdcVerif.Lemmas.T1Sched
/-!
  The block decoder `DecodeWithBitplane` never index-panics, whatever the bytes, the pass count, the claimed top plane
  and the reconstruction rule (`decodeBlockG` of `Lemmas/T1DecG.lean`): every pass keeps `DecStOk` (array sizes, the MQ
  decoder's registers), which no stored value enters; the loop is the fold of its iteration (`decLoopG_run`).
-/
namespace T1
open Gen
open Mqc

structure DecStOk (w h : Nat) (st : DecSt) : Prop where
  fsz : st.flags.size = (w + 2) * (h + 2)
  dsz : st.data.size = (w + 2) * (h + 2)
  reg : Mqc.DecOk st.mq
  norm : 0x8000 ≤ st.mq.a
  nctx : st.mq.ctx.size = 19

theorem mqDecode_ok (w h : Nat) (st : DecSt) (hs : DecStOk w h st) (cx : Nat) (hcx : cx < 19) :
    ∃ b mq, Mqc.decode st.mq cx = some (b, mq) ∧ DecStOk w h { st with mq := mq } := by
  obtain ⟨b, mq, he, _, hr, hn, hsz, _⟩ := Mqc.decode_spec st.mq cx hs.reg hs.norm (by rw [hs.nctx]; exact hcx)
  exact ⟨b, mq, he, ⟨hs.fsz, hs.dsz, hr, hn, by rw [hsz]; exact hs.nctx⟩⟩

theorem DecStOk.resize {w h : Nat} {st st' : DecSt} (hs : DecStOk w h st) (hf : st'.flags.size = st.flags.size)
    (hd : st'.data.size = st.data.size) (hm : st'.mq = st.mq) : DecStOk w h st' :=
  ⟨hf.trans hs.fsz, hd.trans hs.dsz, hm ▸ hs.reg, hm ▸ hs.norm, hm ▸ hs.nctx⟩

theorem DecStOk.flag {w h : Nat} {st : DecSt} (hs : DecStOk w h st) {x y : Nat} (hx : x < w) (hy : y < h) :
    idxOf w x y < st.flags.size ∧ ∃ f, st.flags[idxOf w x y]? = some f :=
  have hi : idxOf w x y < st.flags.size := by rw [hs.fsz]; exact idx_lt w h x y hx hy
  ⟨hi, _, Array.getElem?_eq_getElem hi⟩

variable (rc : Recon)

theorem decSign_ok (w h bp : Nat) (st : DecSt) (hs : DecStOk w h st) (f x y : Nat) (hx : x < w) (hy : y < h) :
    ∃ st', decSignG rc false w bp st f x y (idxOf w x y) = some st' ∧ DecStOk w h st' := by
  obtain ⟨sc, esc, hsc1, hsc2⟩ := scCtx_ok f
  obtain ⟨sp, esp, _⟩ := spb_ok f
  obtain ⟨b, mq, em, hm⟩ := mqDecode_ok w h st hs sc (by omega)
  obtain ⟨fl', efl, sfl, _⟩ := signFlags_ok w h st.flags x y (signCode false sp b) hx hy hs.fsz
  rw [decSignG_run esc esp (show decBit false st.mq sc = some (b, mq) from em)
      (by rw [hs.dsz]; exact idx_lt w h x y hx hy), efl]
  exact ⟨_, rfl, hm.resize sfl (Array.size_setIfInBounds ..) rfl⟩

theorem decSigProp_ok (w h orient bp : Nat) (st : DecSt) (hs : DecStOk w h st) :
    ∃ st', decSigPropG rc false w h orient bp st = some st' ∧ DecStOk w h st' := by
  unfold decSigPropG decBit
  apply foldlM_inv (DecStOk w h) (fun (p : Nat × Nat) => p.1 < w ∧ p.2 < h) _ (coords w h)
    (fun p hp => coords_mem w h p.1 p.2 hp) _ st hs
  intro s p hps hq
  obtain ⟨x, y⟩ := p
  obtain ⟨hi, f, ef⟩ := hps.flag hq.1 hq.2
  simp only [ef, Option.bind_eq_bind, Option.bind_some, Bool.false_eq_true, if_false]
  split
  · exact ⟨s, rfl, hps⟩
  · split
    · exact ⟨s, rfl, hps⟩
    · obtain ⟨c, ec, hc⟩ := zcCtx_ok f orient
      obtain ⟨b, mq, em, hm⟩ := mqDecode_ok w h s hps c (by omega)
      obtain ⟨fl, efl, sfl⟩ := orAt_ok s.flags (idxOf w x y) fVisit hi
      simp only [ec, em, efl, Option.bind_some]
      have hok : DecStOk w h { flags := fl, data := s.data, mq := mq } := hm.resize sfl rfl rfl
      split
      · exact decSign_ok rc w h bp _ hok _ x y hq.1 hq.2
      · exact ⟨_, rfl, hok⟩

theorem decMagRef_ok (w h bp : Nat) (st : DecSt) (hs : DecStOk w h st) :
    ∃ st', decMagRefG rc false w h bp st = some st' ∧ DecStOk w h st' := by
  unfold decMagRefG decBit
  apply foldlM_inv (DecStOk w h) (fun (p : Nat × Nat) => p.1 < w ∧ p.2 < h) _ (coords w h)
    (fun p hp => coords_mem w h p.1 p.2 hp) _ st hs
  intro s p hps hq
  obtain ⟨x, y⟩ := p
  obtain ⟨hi, f, ef⟩ := hps.flag hq.1 hq.2
  simp only [ef, Option.bind_eq_bind, Option.bind_some, Bool.false_eq_true, if_false]
  split
  · exact ⟨s, rfl, hps⟩
  · have hmr := mrCtx_ok f
    obtain ⟨b, mq, em, hm⟩ := mqDecode_ok w h s hps (mrCtx f) (by omega)
    obtain ⟨fl, efl, sfl⟩ := orAt_ok s.flags (idxOf w x y) fRefine hi
    rw [em, Option.bind_some, Array.getElem?_eq_getElem (by rw [hps.dsz, ← hps.fsz]; exact hi), Option.bind_some, efl]
    exact ⟨_, rfl, hm.resize sfl (Array.size_setIfInBounds ..) rfl⟩

theorem dclean_tail (w h : Nat) (s : DecSt) (hs : DecStOk w h s) (x y : Nat) (b : Bool)
    (hx : x < w) (hy : y < h) :
    ∃ r, (s.flags[idxOf w x y]?.bind fun f' =>
        some (({ flags := s.flags.setIfInBounds (idxOf w x y) (clr f' fVisit), data := s.data, mq := s.mq } : DecSt), b)) = some r ∧
      DecStOk w h r.1 := by
  obtain ⟨_, f, ef⟩ := hs.flag hx hy
  rw [ef]
  exact ⟨_, rfl, hs.resize (Array.size_setIfInBounds ..) rfl rfl⟩

theorem dsign_tail (w h bp : Nat) (s : DecSt) (hs : DecStOk w h s) (f x y : Nat) (b : Bool)
    (hx : x < w) (hy : y < h) :
    ∃ r, ((decSignG rc false w bp s f x y (idxOf w x y)).bind fun st =>
        st.flags[idxOf w x y]?.bind fun f' =>
          some (({ flags := st.flags.setIfInBounds (idxOf w x y) (clr f' fVisit), data := st.data, mq := st.mq } : DecSt), b)) = some r ∧
      DecStOk w h r.1 := by
  obtain ⟨s1, e1, h1⟩ := decSign_ok rc w h bp s hs f x y hx hy
  rw [e1]; simp only [Option.bind_some]
  exact dclean_tail w h s1 h1 x y b hx hy

theorem decCleanSample_ok (w h orient bp : Nat) (st : DecSt) (hs : DecStOk w h st) (x y : Nat) (p : Bool)
    (hx : x < w) (hy : y < h) :
    ∃ r, decCleanSampleG rc w orient bp st x y p = some r ∧ DecStOk w h r.1 := by
  unfold decCleanSampleG
  obtain ⟨_, f, ef⟩ := hs.flag hx hy
  simp only [ef, Option.bind_eq_bind, Option.bind_some]
  split
  · exact ⟨_, rfl, hs.resize (Array.size_setIfInBounds ..) rfl rfl⟩
  · cases p
    · obtain ⟨c, ec, hc⟩ := zcCtx_ok f orient
      obtain ⟨b, mq, em, hm⟩ := mqDecode_ok w h st hs c (by omega)
      simp only [Bool.false_eq_true, if_false, ec, em, Option.bind_some]
      split
      · exact dsign_tail rc w h bp _ hm _ x y false hx hy
      · exact dclean_tail w h _ hm x y false hx hy
    · simp only [if_true, Option.bind_some]
      rw [if_pos (by decide)]
      exact dsign_tail rc w h bp st hs _ x y false hx hy

theorem dnormal_ok (w h orient bp : Nat) (st : DecSt) (hs : DecStOk w h st) (k i : Nat) (hi : i < w) :
    ∃ st', ((List.range 4).filter (fun dy => k + dy < h)).foldlM (fun st dy => do
        let (st, _) ← decCleanSampleG rc w orient bp st i (k + dy) false
        some st) st = some st' ∧ DecStOk w h st' := by
  apply foldlM_inv (DecStOk w h) (fun dy => k + dy < h) _ _ _ _ st hs
  · intro a ha
    simp only [List.mem_filter, decide_eq_true_eq] at ha
    exact ha.2
  · intro s dy hps hdy
    obtain ⟨r, er, hr⟩ := decCleanSample_ok rc w h orient bp s hps i (k + dy) false hi hdy
    simp only [Option.bind_eq_bind]
    rw [er]
    exact ⟨r.1, rfl, hr⟩

theorem decCleanup_ok (w h orient bp : Nat) (st : DecSt) (hs : DecStOk w h st) :
    ∃ st', decCleanupG rc w h orient bp st = some st' ∧ DecStOk w h st' := by
  unfold decCleanupG
  apply foldlM_inv (DecStOk w h) (fun (p : Nat × Nat) => p.2 < w ∧ p.1 < h) _ (columns w h)
    (fun p hp => columns_mem w h p.1 p.2 hp) _ st hs
  intro s p hps hq
  obtain ⟨k, i⟩ := p
  simp only [Option.bind_eq_bind]
  split
  · rename_i hk3
    obtain ⟨r, er, _⟩ := rlScanDec_spec w h s.flags k i hps.fsz hq.1 hk3
    rw [er]; simp only [Option.bind_some]
    split
    · obtain ⟨b, mq, em, hm⟩ := mqDecode_ok w h s hps CTXRL (by decide)
      rw [em]; simp only [Option.bind_some]
      split
      · exact ⟨_, rfl, hm⟩
      · obtain ⟨b2, mq2, em2, hm2⟩ := mqDecode_ok w h _ hm CTXUNI (by decide)
        rw [em2]; simp only [Option.bind_some]
        obtain ⟨b3, mq3, em3, hm3⟩ := mqDecode_ok w h _ hm2 CTXUNI (by decide)
        rw [em3]; simp only [Option.bind_some]
        obtain ⟨r2, er2, hr2⟩ := foldlM_inv (fun (acc : DecSt × Bool) => DecStOk w h acc.1) (fun dy => dy < 4)
          (fun (acc : DecSt × Bool) dy => decCleanSampleG rc w orient bp acc.1 i (k + dy) acc.2)
          ((List.range 4).filter (fun dy => b2 * 2 + b3 ≤ dy))
          (by intro a ha; simp only [List.mem_filter, List.mem_range] at ha; exact ha.1)
          (by intro acc dy hacc hdy; exact decCleanSample_ok rc w h orient bp acc.1 hacc i (k + dy) acc.2 hq.1 (by omega))
          (({ flags := s.flags, data := s.data, mq := mq3 } : DecSt), true) hm3
        rw [er2]
        exact ⟨_, rfl, hr2⟩
    · exact dnormal_ok rc w h orient bp s hps k i hq.1
  · exact dnormal_ok rc w h orient bp s hps k i hq.1

theorem resetCtxDec_ok (w h : Nat) (st : DecSt) (hs : DecStOk w h st) :
    ∃ m, resetCtxDec st.mq = some m ∧ DecStOk w h { st with mq := m } := by
  unfold resetCtxDec
  obtain ⟨d', ed, hd, hn, hsz⟩ := initCtxDec_ok { st.mq with ctx := Array.replicate st.mq.ctx.size 0 }
    ⟨hs.reg.bpin, hs.reg.apos, hs.reg.ahi, hs.reg.ctlo, hs.reg.cthi, hs.reg.chi,
      by intro i; show Mqc.rd (Array.replicate _ 0) i % 128 < 47 ∧ _; rw [Mqc.rd_replicate0]; decide⟩
    hs.norm (by show (Array.replicate _ 0).size = 19; rw [Array.size_replicate]; exact hs.nctx)
  exact ⟨d', ed, ⟨hs.fsz, hs.dsz, hd, hn, hsz⟩⟩

theorem segmarkDec_ok (w h : Nat) (st : DecSt) (hs : DecStOk w h st) :
    ∃ m, segmarkDec st.mq = some m ∧ DecStOk w h { st with mq := m } := by
  unfold segmarkDec
  obtain ⟨b1, m1, e1, h1⟩ := mqDecode_ok w h st hs CTXUNI (by decide)
  obtain ⟨b2, m2, e2, h2⟩ := mqDecode_ok w h _ h1 CTXUNI (by decide)
  obtain ⟨b3, m3, e3, h3⟩ := mqDecode_ok w h _ h2 CTXUNI (by decide)
  obtain ⟨b4, m4, e4, h4⟩ := mqDecode_ok w h _ h3 CTXUNI (by decide)
  simp only [Option.bind_eq_bind, e1, e2, e3, e4, Option.bind_some]
  exact ⟨m4, rfl, h4⟩

theorem passD_ok (w h orient bp pi pt : Nat) (st : DecSt) (hs : DecStOk w h st) :
    ∃ st2, passDV rc false w h orient bp pt (cvD pi pt st) = some st2 ∧ DecStOk w h st2 := by
  have hs1 : DecStOk w h (cvD pi pt st) := by
    unfold cvD; split
    · exact hs.resize (clearVisit_size _) rfl rfl
    · exact hs
  unfold passDV
  split
  · exact decSigProp_ok rc w h orient bp _ hs1
  · exact decMagRef_ok rc w h bp _ hs1
  · exact decCleanup_ok rc w h orient bp _ hs1

theorem segD_ok (w h style pt : Nat) (st : DecSt) (hs : DecStOk w h st) :
    ∃ st', segD style pt st = some st' ∧ DecStOk w h st' := by
  unfold segD
  split
  · obtain ⟨m, em, hm⟩ := segmarkDec_ok w h st hs
    rw [em]; exact ⟨_, rfl, hm⟩
  · exact ⟨st, rfl, hs⟩

theorem decStep_ok (w h orient style np mb i : Nat) (ds : DecSt) (hs : DecStOk w h ds) :
    ∃ ds', decStep rc w h orient style np mb i ds = some ds' ∧ DecStOk w h ds' := by
  obtain ⟨st2, e2, hs2⟩ := passD_ok rc w h orient (planeOf mb i) i (typeOf i) ds hs
  obtain ⟨st3, e3, hs3⟩ := segD_ok w h style (typeOf i) st2 hs2
  unfold decStep
  rw [e2, Option.bind_some, e3, Option.bind_some]
  split
  · obtain ⟨m, em, hm⟩ := resetCtxDec_ok w h st3 hs3
    rw [em]; exact ⟨_, rfl, hm⟩
  · exact ⟨_, rfl, hs3⟩

theorem decLoop_ok (w h orient style np : Nat) (mb : Int) (ds : DecSt) (hs : DecStOk w h ds) :
    ∃ r, decLoopG rc w h orient style np (np + 1) ds mb 0 2 = some r ∧ DecStOk w h r := by
  by_cases hneg : mb < 0
  · exact ⟨ds, decLoopG_exit _ _ _ _ _ _ _ _ _ _ _ (Or.inl hneg), hs⟩
  obtain ⟨m, rfl⟩ : ∃ m : Nat, mb = (m : Int) := ⟨mb.toNat, by omega⟩
  have hrun := decLoopG_run rc w h orient style np m (min np (3 * m + 1)) (np + 1 - min np (3 * m + 1)) ds 0 (by omega) (by omega)
  rw [show planeI m 0 = (m : Int) by unfold planeI; omega, show np + 1 - min np (3 * m + 1) + min np (3 * m + 1) = np + 1 by omega]
    at hrun
  obtain ⟨ds', hf, hs'⟩ := Loop.foldlM_inv_mem (fun s i => decStep rc w h orient style np m i s) (DecStOk w h)
    (List.range' 0 (min np (3 * m + 1))) (fun i s _ hs => decStep_ok rc w h orient style np m i s hs) ds hs
  have hf' : (List.range' 0 (min np (3 * m + 1))).foldlM (fun s i => decStep rc w h orient style np m i s) ds = some ds' := hf
  refine ⟨ds', ?_, hs'⟩
  rw [show (2 : Nat) = typeOf 0 from rfl, hrun, hf', Option.bind_some]
  exact decLoopG_exit _ _ _ _ _ _ _ _ _ _ _ (by unfold planeI; omega)

theorem decodeBlockG_no_panic (w h orient style np : Nat) (mb : Int) (bytes : List Nat) (hb : bytes.length ≠ 0) :
    ∃ out, decodeBlockG rc w h orient style np mb bytes = .ok out := by
  unfold decodeBlockG
  rw [if_neg hb]
  obtain ⟨d, ed, hd, hn, hsz, _⟩ := Mqc.decNew_spec bytes NUMCONTEXTS
  rw [ed]; simp only []
  obtain ⟨d', ed', hd', hn', hsz'⟩ := initCtxDec_ok d hd hn hsz
  rw [ed']; simp only []
  obtain ⟨r, er, hr⟩ := decLoop_ok rc w h orient style np mb
    { flags := Array.replicate ((w + 2) * (h + 2)) 0, data := Array.replicate ((w + 2) * (h + 2)) 0, mq := d' }
    ⟨by simp, by simp, hd', hn', hsz'⟩
  rw [er]; simp only []
  rw [readback w h r.data hr.dsz _ (fun _ _ _ _ => rfl)]
  exact ⟨_, rfl⟩

theorem decodeBlock_no_panic (w h orient style np : Nat) (mb : Int) (bytes : List Nat) (hb : bytes.length ≠ 0) :
    ∃ out, decodeBlock w h orient style np mb bytes = .ok out := by
  rw [decodeBlock_eqG]; exact decodeBlockG_no_panic plainR w h orient style np mb bytes hb

end T1
