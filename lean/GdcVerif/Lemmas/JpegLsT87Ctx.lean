import GdcVerif.Gen.JpegLs
import GdcVerif.Lemmas.JpegLsT87
import GdcVerif.Spec.T87
/-!
  Generated context-update kernels (`Context.UpdateContext`, `RunModeContext.UpdateVariables`,
  `RunModeContext.ComputeMap`) vs T.87 code segments A.12/A.13 and A.21/A.23 (`Spec/T87.lean`),
  and the invariants of the regular-mode update (`1 ≤ N ≤ RESET`, `−128 ≤ C ≤ 127`, `−N < B ≤ 0`),
  which are read off A.13.
-/
namespace JpegLsT87
open Gen.JpegLs

/-- the standard's view of the code's regular-mode context -/
def ctxSpec (c : Context) : T87.Ctx := { A := c.A, B := c.B, C := c.C, N := c.N }

/-- the standard's view of the code's run-interruption context -/
def riSpec (c : RunModeContext) : T87.RICtx := { RItype := c.runInterruptionType, A := c.A, N := c.N, Nn := c.NN }

/-- the `>>` the standard writes for a possibly negative `B` is floor division -/
theorem neg_shift (B : Int) (h : ¬ B ≥ 0) : -((1 - B) / 2) = B / 2 := by omega

/-- A.12 in the code's arithmetic: `|Errval|` as `Go.abs`, the halving of `B` as floor division -/
theorem updateVariables_floor (p : T87.Params) (q : T87.Ctx) (e : Int) :
    T87.updateVariables p q e =
      if q.N = p.RESET then
        { q with A := (q.A + Go.abs e) / 2, B := (q.B + e * (2 * p.NEAR + 1)) / 2, N := q.N / 2 + 1 }
      else { q with A := q.A + Go.abs e, B := q.B + e * (2 * p.NEAR + 1), N := q.N + 1 } := by
  unfold T87.updateVariables Go.abs
  have hB : ∀ B : Int, (if B ≥ 0 then B / 2 else -((1 - B) / 2)) = B / 2 := fun B => by
    split
    · rfl
    · exact neg_shift B ‹_›
  simp only [hB]

theorem updateBias_post (q : T87.Ctx) (hN : 1 ≤ q.N) (hC : -128 ≤ q.C ∧ q.C ≤ 127) :
    (T87.updateBias q).A = q.A ∧ (T87.updateBias q).N = q.N ∧
    (-128 ≤ (T87.updateBias q).C ∧ (T87.updateBias q).C ≤ 127) ∧
    (-q.N < (T87.updateBias q).B ∧ (T87.updateBias q).B ≤ 0) := by
  unfold T87.updateBias T87.MIN_C T87.MAX_C
  split
  · dsimp only
    refine ⟨rfl, rfl, ?_, ?_⟩ <;> split <;> omega
  · split
    · dsimp only
      refine ⟨rfl, rfl, ?_, ?_⟩ <;> split <;> omega
    · exact ⟨rfl, rfl, hC, by omega⟩

/-- The one place where the generated `Context.UpdateContext` is taken apart: it is A.13 applied to an
    intermediate state `m` that has the `N` and `C` of A.12 always, and the `A` and `B` of A.12 as long
    as the overflow guard (2^24, not in the standard) does not fire. -/
theorem updateContext_stages (c : Context) (e near reset : Int) :
    ∃ m : T87.Ctx, ctxSpec (Context.UpdateContext c e near reset) = T87.updateBias m ∧
      m.C = c.C ∧ m.N = (if c.N = reset then c.N / 2 else c.N) + 1 ∧
      (c.A + Go.abs e < 16777216 → -16777216 < c.B + e * (2 * near + 1) → c.B + e * (2 * near + 1) < 16777216 →
        m.A = (if c.N = reset then (c.A + Go.abs e) / 2 else c.A + Go.abs e) ∧
        m.B = (if c.N = reset then (c.B + e * (2 * near + 1)) / 2 else c.B + e * (2 * near + 1))) := by
  unfold Context.UpdateContext
  extract_lets maxC minC ov c1 c2 c3 c4 c5 c6 d1 d2 d3 h1 h2 h3 d4 n1 p1 p2 p3 p4 p5 q1 q2 q3 q4 q5 q6 r1
  -- the overflow guard touches A and B only
  have s1 : d3.N = c.N ∧ d3.C = c.C := by
    simp only [d3, d2, d1, c6, c5, c4, c3, c2, c1, apply_ite Context.N, apply_ite Context.C, ite_self, and_self]
  have s2 : n1.C = c.C ∧ n1.N = (if c.N = reset then c.N / 2 else c.N) + 1 := by
    simp only [n1, d4, h3, h2, h1, apply_ite Context.N, apply_ite Context.C, s1, Go.shr_one, beq_iff_eq, ite_self, and_self]
  refine ⟨ctxSpec n1, ?_, s2.1, s2.2, ?_⟩
  · -- the bias update, branch by branch against A.13
    clear_value n1
    obtain ⟨A, N, B, C⟩ := n1
    by_cases hlo : B + N ≤ 0
    · have hlo' : B ≤ -N := by omega
      by_cases h2 : B + N ≤ -N <;> by_cases h3 : C > -128 <;>
        simp only [r1, p5, p4, p3, p2, p1, minC, decide_eq_true_eq, ctxSpec, T87.updateBias, T87.MIN_C,
          hlo, hlo', h2, h3, if_true, if_false]
    · have hlo' : ¬ B ≤ -N := by omega
      by_cases hhi : B > 0
      · by_cases h2 : B - N > 0 <;> by_cases h3 : C < 127 <;>
          simp only [r1, q6, q5, q4, q3, q2, q1, maxC, decide_eq_true_eq, ctxSpec, T87.updateBias, T87.MAX_C,
            hlo, hlo', hhi, h2, h3, if_true, if_false]
      · simp only [r1, q6, decide_eq_true_eq, ctxSpec, T87.updateBias, hlo, hlo', hhi, if_false]
  · intro hA hB1 hB2
    have s3 : d3 = c2 := by
      have hov : ¬ ((decide (c2.A ≥ ov) || decide (Go.abs c2.B ≥ ov)) = true) := by
        have hb := Go.abs_cases (c.B + e * (2 * near + 1))
        simp only [c2, c1, ov, Bool.or_eq_true, decide_eq_true_eq]
        omega
      simp only [d3, hov, if_false, Bool.false_eq_true]
    simp only [ctxSpec, n1, d4, h3, h2, h1, s3, c2, c1, Go.shr_one, beq_iff_eq]
    split <;> exact ⟨rfl, rfl⟩

theorem updateContext_inv (ctx : Context) (e near reset : Int) (hr : 1 ≤ reset)
    (hN : 1 ≤ ctx.N ∧ ctx.N ≤ reset) (hC : -128 ≤ ctx.C ∧ ctx.C ≤ 127) :
    (1 ≤ (Context.UpdateContext ctx e near reset).N ∧ (Context.UpdateContext ctx e near reset).N ≤ reset) ∧
    (-128 ≤ (Context.UpdateContext ctx e near reset).C ∧ (Context.UpdateContext ctx e near reset).C ≤ 127) ∧
    (-(Context.UpdateContext ctx e near reset).N < (Context.UpdateContext ctx e near reset).B ∧
       (Context.UpdateContext ctx e near reset).B ≤ 0) := by
  obtain ⟨m, hm, hmC, hmN, _⟩ := updateContext_stages ctx e near reset
  have hN' : 1 ≤ m.N ∧ m.N ≤ reset := by
    rw [hmN]
    split <;> omega
  obtain ⟨-, eN, bC, bB⟩ := updateBias_post m hN'.1 (by rw [hmC]; exact hC)
  rw [← eN, ← hm] at hN' bB
  rw [← hm] at bC
  exact ⟨hN', bC, bB⟩

theorem updateContext_eq (c : Context) (e near reset : Int) (p : T87.Params)
    (hN : p.NEAR = near) (hR : p.RESET = reset)
    (hA : c.A + Go.abs e < 16777216)
    (hB : -16777216 < c.B + e * (2 * near + 1) ∧ c.B + e * (2 * near + 1) < 16777216) :
    ctxSpec (Context.UpdateContext c e near reset) = T87.contextUpdate p (ctxSpec c) e := by
  obtain ⟨m, hm, hmC, hmN, hAB⟩ := updateContext_stages c e near reset
  obtain ⟨hmA, hmB⟩ := hAB hA hB.1 hB.2
  rw [hm, T87.contextUpdate, updateVariables_floor, hN, hR]
  congr 1
  obtain ⟨mA, mB, mC, mN⟩ := m
  subst hmA hmB hmC hmN
  show _ = if c.N = reset then _ else _
  split <;> rfl

theorem riUpdate_eq (c : RunModeContext) (e em reset : Int) (p : T87.Params) (hR : p.RESET = reset) :
    riSpec (RunModeContext.UpdateVariables c e em reset) = T87.riUpdate p (riSpec c) e em := by
  rw [JpegLsLemmas.updateVariables_eq]
  unfold T87.riUpdate riSpec
  rw [hR]
  split <;> rfl

theorem riMap_eq (c : RunModeContext) (e k : Int) :
    RunModeContext.ComputeMap c e k = T87.riMap (riSpec c) k e := by
  unfold RunModeContext.ComputeMap T87.riMap riSpec
  by_cases h1 : k = 0 <;> by_cases h2 : e > 0 <;> by_cases h3 : e < 0 <;> by_cases h4 : 2 * c.NN < c.N <;>
    simp [h1, h2, h3, h4] <;> omega

/-- the states a scan reaches (RESET = 64, |Errval| ≤ 2^16) -/
def CtxReach (c : Context) : Prop :=
  (0 ≤ c.A ∧ c.A ≤ c.N * 65536) ∧ (1 ≤ c.N ∧ c.N ≤ 64) ∧ (-c.N < c.B ∧ c.B ≤ 0) ∧ (-128 ≤ c.C ∧ c.C ≤ 127)

/-- `CtxReach` is an invariant of the standard's own update (A.12 + A.13 at RESET = 64); a state of the code
    whose view is that update inherits it -/
theorem contextUpdate_reach (p : T87.Params) (hR : p.RESET = 64) (c c' : Context) (e : Int) (h : CtxReach c)
    (he : -65536 ≤ e ∧ e ≤ 65536) (hc' : ctxSpec c' = T87.contextUpdate p (ctxSpec c) e) : CtxReach c' := by
  obtain ⟨hA, hN, -, hC⟩ := h
  rw [T87.contextUpdate] at hc'
  generalize hm : T87.updateVariables p (ctxSpec c) e = m at hc'
  -- A.12 keeps C and 1 ≤ N ≤ 64, and A ≤ N·2^16 survives the halving
  have hm' : m.C = c.C ∧ 1 ≤ m.N ∧ m.N ≤ 64 ∧ 0 ≤ m.A ∧ m.A ≤ m.N * 65536 := by
    have := Go.abs_cases e
    subst hm
    simp only [updateVariables_floor, ctxSpec, hR]
    split <;> dsimp only <;> omega
  obtain ⟨eA, eN, bC, bB⟩ := updateBias_post m hm'.2.1 (by rw [hm'.1]; exact hC)
  rw [← hc'] at bC bB eA eN
  simp only [ctxSpec] at bC bB eA eN
  unfold CtxReach
  omega

theorem ctxReach_step (c : Context) (e near : Int) (p : T87.Params) (hN : p.NEAR = near) (hR : p.RESET = 64)
    (h : CtxReach c) (he : -65536 ≤ e ∧ e ≤ 65536)
    (hm : -131072 ≤ e * (2 * near + 1) ∧ e * (2 * near + 1) ≤ 131072) :
    ctxSpec (Context.UpdateContext c e near 64) = T87.contextUpdate p (ctxSpec c) e ∧
    CtxReach (Context.UpdateContext c e near 64) := by
  -- a reachable state is far below the 2^24 guard; 2^17 in `hm` is a round bound with room to spare: a scan has
  -- `|Errval|·(2·NEAR+1) ≤ (RANGE+1)/2·(2·NEAR+1) < 2^16`, since `(RANGE−1)·(2·NEAR+1) ≤ MAXVAL+2·NEAR` (`WF.period`)
  have heq : ctxSpec (Context.UpdateContext c e near 64) = T87.contextUpdate p (ctxSpec c) e := by
    obtain ⟨hA, hNr, hB, -⟩ := h
    have hae := Go.abs_cases e
    exact updateContext_eq c e near 64 p hN hR (by omega) (by omega)
  exact ⟨heq, contextUpdate_reach p hR c _ e h he heq⟩

theorem ctxReach_run (near : Int) (p : T87.Params) (hN : p.NEAR = near) (hR : p.RESET = 64) :
    ∀ (es : List Int) (c : Context), CtxReach c →
      (∀ e ∈ es, (-65536 ≤ e ∧ e ≤ 65536) ∧ (-131072 ≤ e * (2 * near + 1) ∧ e * (2 * near + 1) ≤ 131072)) →
      ctxSpec (es.foldl (fun c e => Context.UpdateContext c e near 64) c) =
        es.foldl (fun q e => T87.contextUpdate p q e) (ctxSpec c) ∧
      CtxReach (es.foldl (fun c e => Context.UpdateContext c e near 64) c)
  | [], c, h, _ => ⟨rfl, h⟩
  | e :: es, c, h, hes => by
    have he := hes e (List.mem_cons_self ..)
    have st := ctxReach_step c e near p hN hR h he.1 he.2
    have ih := ctxReach_run near p hN hR es _ st.2 (fun e' h' => hes e' (List.mem_cons_of_mem _ h'))
    simp only [List.foldl_cons]
    rw [← st.1]
    exact ih

theorem ctxReach_init (range : Int) (hr : 2 ≤ range ∧ range ≤ 65536) : CtxReach (NewContext range) := by
  unfold NewContext CtxReach
  simp only []
  have : Int.tdiv (range + 32) 64 = (range + 32) / 64 := Int.tdiv_eq_ediv_of_nonneg (by omega)
  rw [this]
  omega

end JpegLsT87
