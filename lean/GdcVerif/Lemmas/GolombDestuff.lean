import GdcVerif.Lemmas.Basics
import GdcVerif.Lemmas.GolombExact
import GdcVerif.Lemmas.GolombFit
/-!
  Content exactness of the `GolombWriter` model: the bytes written, read back with the T.87 bit
  un-stuffing rule (`Golomb.destuff`), are exactly the bits of the `WriteBits` calls, followed by
  zero padding.  Proof: the 32-bit buffer is a window (`Win`) onto the list of pending bits, also
  while `WriteBits` holds more than 32 pending bits in its overflow branch (`Pend`).
  The window lemmas (`win_shift`, `win_top`: bits leave at the top; `win_or`: a value is OR-ed in below, for
  both shifts of `WriteBits` and for the reader's byte) are stated for a register of any width; the reader's
  64-bit cache uses them too.
-/
namespace Golomb

def pg (P : List Bool) (j : Nat) : Bool := P.getD j false

def takeZ (P : List Bool) (t : Nat) : List Bool := (List.range t).map (pg P)

theorem getD_bitsOf (v : Nat) : ∀ (n i : Nat), (bitsOf v n).getD i false = (decide (i < n) && v.testBit (n - 1 - i)) :=
  fun n i => bitsOf_eq ▸ Bits.getD_msb v n i

theorem length_takeZ (P : List Bool) (t : Nat) : (takeZ P t).length = t := by simp [takeZ]

theorem getD_takeZ (P : List Bool) (t i : Nat) (h : i < t) : (takeZ P t).getD i false = pg P i :=
  List.getD_map_range (pg P) false h

theorem takeZ_eq_take (P : List Bool) (t : Nat) (h : t ≤ P.length) : takeZ P t = P.take t := by
  unfold takeZ
  refine List.ext_getElem (by simp; omega) fun i h1 h2 => ?_
  rw [List.getElem_map, List.getElem_range, List.getElem_take]
  exact (List.getElem_eq_getD false).symm

theorem pg_drop (P : List Bool) (t j : Nat) : pg (P.drop t) j = pg P (j + t) := by
  unfold pg
  simp only [List.getD_eq_getElem?_getD, List.getElem?_drop]
  rw [Nat.add_comm]

theorem pg_zero_beyond (Q : List Bool) (j : Nat) (h : Q.length ≤ j) : pg Q j = false := by
  unfold pg; rw [List.getD_eq_getElem?_getD, List.getElem?_eq_none h]; rfl

theorem pg_append_left (P X : List Bool) (j : Nat) (h : j < P.length) : pg (P ++ X) j = pg P j := by
  unfold pg; simp only [List.getD_eq_getElem?_getD]; rw [List.getElem?_append_left h]

theorem pg_append_right (P X : List Bool) (j : Nat) (h : P.length ≤ j) : pg (P ++ X) j = pg X (j - P.length) := by
  unfold pg; simp only [List.getD_eq_getElem?_getD]; rw [List.getElem?_append_right h]

theorem pg_pad (P : List Bool) (r j : Nat) : pg (P ++ List.replicate r false) j = pg P j := by
  by_cases h : j < P.length
  · exact pg_append_left P _ j h
  · rw [pg_append_right P _ j (by omega), pg_zero_beyond P j (by omega)]
    unfold pg
    simp only [List.getD_eq_getElem?_getD, List.getElem?_replicate]
    split <;> rfl

theorem takeZ_pad (P : List Bool) (t : Nat) (h : P.length ≤ t) :
    takeZ P t = P ++ List.replicate (t - P.length) false := by
  have e : takeZ P t = takeZ (P ++ List.replicate (t - P.length) false) t :=
    List.map_congr_left fun j _ => (pg_pad P _ j).symm
  rw [e, takeZ_eq_take _ _ (by simp; omega), List.take_of_length_le (by simp; omega)]

theorem pg_bitsOf {S rest : List Bool} {N v n : Nat} (h : S.drop N = bitsOf v n ++ rest) (i : Nat) (hi : i < n) :
    pg S (N + n - 1 - i) = v.testBit i := by
  rw [show N + n - 1 - i = n - 1 - i + N by omega, ← pg_drop, h, pg_append_left _ _ _ (by rw [length_bitsOf]; omega)]
  unfold pg
  rw [getD_bitsOf, decide_eq_true (by omega : n - 1 - i < n), Bool.true_and, show n - 1 - (n - 1 - i) = i by omega]

/-- the register shows the first `m` bits of `S` (its bit `W − 1` first) and is zero below -/
def Win (W buf : Nat) (S : List Bool) (m : Nat) : Prop :=
  ∀ q, q < W → buf.testBit q = (decide (W - 1 - q < m) && pg S (W - 1 - q))

theorem win_shift {W buf : Nat} {S : List Bool} {m : Nat} (t : Nat) (hw : Win W buf S m) (hm : m ≤ W)
    (htm : t ≤ m) : Win W ((buf <<< t) % 2 ^ W) (S.drop t) (m - t) := by
  intro q hq
  rw [testBit_shl_mod_pow, pg_drop, decide_eq_true hq, Bool.true_and]
  by_cases h1 : q ≥ t
  · have e : W - 1 - (q - t) = W - 1 - q + t := by omega
    rw [hw (q - t) (by omega), e, decide_eq_true h1, Bool.true_and,
      decide_eq_decide.mpr (by omega : W - 1 - q + t < m ↔ W - 1 - q < m - t)]
  · rw [decide_eq_false h1, Bool.false_and, decide_eq_false (by omega : ¬ W - 1 - q < m - t), Bool.false_and]

theorem win_top {W buf : Nat} {S : List Bool} {m : Nat} (t : Nat) (hw : Win W buf S m)
    (htm : t ≤ m) (htW : t ≤ W) (htS : t ≤ S.length) : bitsOf (buf >>> (W - t)) t = S.take t := by
  rw [← takeZ_eq_take S t htS, bitsOf_eq, Bits.msb_eq_map]
  refine List.map_congr_left fun i hi => ?_
  have hi := List.mem_range.mp hi
  rw [Nat.testBit_shiftRight, hw (W - t + (t - 1 - i)) (by omega), show W - 1 - (W - t + (t - 1 - i)) = i by omega,
    decide_eq_true (by omega : i < m), Bool.true_and]

/-- OR-ing in a value `x` that holds the `n` low bits of `v` where they belong when these are the bits
    `e − n ≤ j < e` of `S` (index `j` sits at register position `W − 1 − j`, so bit `i` of `v` at
    `i + W − e`): a window of `m` bits, `e − n ≤ m ≤ e`, grows to `e` bits; where `x` and the register
    overlap they agree -/
theorem win_or {W buf x : Nat} {S : List Bool} {m : Nat} (v n e : Nat) (hw : Win W buf S m)
    (hs : ∀ i, i < n → i < e → pg S (e - 1 - i) = v.testBit i) (hv : v < 2 ^ n) (ham : e - n ≤ m) (hme : m ≤ e)
    (hx : ∀ q, q < W → x.testBit q = (decide (W ≤ q + e) && v.testBit (q + e - W))) :
    Win W (buf ||| x) S e := by
  intro q hq
  rw [Nat.testBit_or, hw q hq, hx q hq, decide_eq_decide.mpr (by omega : W - 1 - q < e ↔ W ≤ q + e)]
  by_cases hje : W ≤ q + e
  · rw [decide_eq_true hje, Bool.true_and, Bool.true_and]
    by_cases hi : q + e - W < n
    · rw [← hs _ hi (by omega), show e - 1 - (q + e - W) = W - 1 - q by omega]
      cases pg S (W - 1 - q) <;> simp
    · -- above the bits of `v`, so already shown
      rw [Nat.testBit_lt_two_pow (Nat.lt_of_lt_of_le hv (Nat.pow_le_pow_right (by decide) (by omega))),
        Bool.or_false, decide_eq_true (by omega : W - 1 - q < m), Bool.true_and]
  · rw [decide_eq_false hje, decide_eq_false (by omega : ¬ W - 1 - q < m)]
    rfl

theorem win_extend {W buf : Nat} {Q : List Bool} {m : Nat} (hw : Win W buf Q m)
    (hz : ∀ j, m ≤ j → j < W → pg Q j = false) : Win W buf Q W := by
  intro q hq
  rw [hw q hq, decide_eq_true (by omega : W - 1 - q < W), Bool.true_and]
  by_cases hj : W - 1 - q < m
  · rw [decide_eq_true hj, Bool.true_and]
  · rw [decide_eq_false hj, hz _ (by omega) (by omega)]; rfl

theorem win_append {W buf : Nat} {P : List Bool} {m : Nat} (X : List Bool) (hw : Win W buf P m) (hm : m ≤ P.length) :
    Win W buf (P ++ X) m := by
  intro q hq
  rw [hw q hq]
  by_cases hj : W - 1 - q < m
  · rw [pg_append_left P X _ (by omega)]
  · rw [decide_eq_false hj, Bool.false_and, Bool.false_and]

/-- the state `afterFF` in which `destuff`, started in state `a`, leaves the bytes `l` -/
def endsFF : List Nat → Bool → Bool
  | [], a => a
  | x :: l, _ => endsFF l (x == 255)

theorem endsFF_snoc : ∀ (l : List Nat) (a : Bool) (b : Nat), endsFF (l ++ [b]) a = (b == 255)
  | [], _, _ => rfl
  | x :: l, _, b => endsFF_snoc l (x == 255) b

theorem destuff_snoc : ∀ (l : List Nat) (a : Bool) (b : Nat),
    destuff (l ++ [b]) a = destuff l a ++ bitsOf b (if endsFF l a then 7 else 8)
  | [], a, b => by cases a <;> simp [destuff, endsFF]
  | x :: l, a, b => by
    show _ ++ destuff (l ++ [b]) (x == 255) = _ ++ destuff l (x == 255) ++ _
    rw [destuff_snoc l (x == 255) b, List.append_assoc]
    rfl

/-- the writer state as a window onto the pending bits `Q`, the first `m` of which are in the buffer;
    `B` = everything written so far -/
structure Xinv (w : Writer) (Q : List Bool) (m : Nat) (B : List Bool) : Prop where
  ff : endsFF w.out false = w.ff
  win : Win 32 w.buf Q m
  bits : destuff w.out false ++ Q = B
  m32 : m ≤ 32
  mQ : m ≤ Q.length

theorem X_flushStep (w : Writer) (Q : List Bool) (m : Nat) (B : List Bool) (h : Xinv w Q m B)
    (hfree : w.free < 32) (hm : 8 ≤ m) :
    Xinv (flushStep w).1 (Q.drop (stepBits w)) (m - stepBits w) B := by
  obtain ⟨hE, hW, hD, hm32, hmQ⟩ := h
  have ht := stepBits_cases w
  rw [flushStep_emit w hfree]
  refine ⟨?_, ?_, ?_, by omega, by rw [List.length_drop]; omega⟩
  · exact endsFF_snoc w.out false _
  · rw [m32_eq]
    exact win_shift (stepBits w) hW hm32 (by omega)
  · have hbits : bitsOf ((w.buf >>> (32 - stepBits w)) % 256) (stepBits w) = Q.take (stepBits w) := by
      rw [show (256 : Nat) = 2 ^ 8 from rfl, show bitsOf (_ % 2 ^ 8) _ = _ from bitsOf_eq ▸ Bits.msb_mod _ (by omega),
        win_top (stepBits w) hW (by omega) (by omega) (by omega)]
    show destuff (w.out ++ [_]) false ++ _ = B
    rw [destuff_snoc, hE]
    show destuff w.out false ++ bitsOf _ (stepBits w) ++ _ = B
    rw [hbits, List.append_assoc, List.take_append_drop]
    exact hD

theorem X_flushN : ∀ (n : Nat) (w : Writer) (Q : List Bool) (m : Nat) (B : List Bool), Xinv w Q m B →
    8 * n ≤ m → Xinv (flushN n w) (Q.drop (flushBits n w)) (m - flushBits n w) B
  | 0, w, Q, m, B, h, _ => by simpa [flushN, flushBits] using h
  | n + 1, w, Q, m, B, h, hm => by
    unfold flushBits
    by_cases hlt : w.free < 32
    · have ht := stepBits_cases w
      have hX2 := X_flushN n (flushStep w).1 (Q.drop (stepBits w)) (m - stepBits w) B
        (X_flushStep w Q m B h hlt (by omega)) (by omega)
      rw [List.drop_drop, Nat.sub_sub] at hX2
      rw [flushN_emit n w hlt, if_pos hlt]
      exact hX2
    · rw [flushN_stop n w (by omega), if_neg hlt]
      exact ⟨h.ff, h.win, h.bits, h.m32, h.mQ⟩

/-- the pending list `Q` ends with the `n` low bits of `v` (as far as it reaches back) -/
def VEnd (Q : List Bool) (v n : Nat) : Prop :=
  ∀ i, i < n → i < Q.length → pg Q (Q.length - 1 - i) = v.testBit i

theorem vend_append (P : List Bool) (v n : Nat) : VEnd (P ++ bitsOf v n) v n := by
  intro i hi _
  rw [List.length_append, length_bitsOf]
  exact pg_bitsOf (rest := []) (by rw [List.drop_left, List.append_nil]) i hi

theorem vend_drop {Q : List Bool} {v n : Nat} (s : Nat) (h : VEnd Q v n) : VEnd (Q.drop s) v n := by
  intro i hi hl
  rw [List.length_drop] at hl ⊢
  rw [pg_drop, ← h i hi (by omega)]
  congr 1
  omega

/-- resting state: `P` = the pending bits, all of them in the buffer; `B` = everything written so far -/
def Rest (w : Writer) (B : List Bool) : Prop :=
  ∃ P : List Bool, Xinv w P P.length B ∧ w.free = 32 - (P.length : Int)

theorem rest_new : Rest Writer.new [] :=
  ⟨[], ⟨rfl, fun q _ => by simp [Writer.new, pg], rfl, Nat.zero_le _, Nat.le_refl _⟩, rfl⟩

/-- inside `WriteBits(v, n)`: the pending bits `Q` end with the bits of `v`, of which those from index
    `|Q| − n` on may still be missing from the buffer; `freeBitCount` already counts all of `Q` and may
    be negative -/
structure Pend (w : Writer) (Q : List Bool) (m : Nat) (v n : Nat) (B : List Bool) : Prop where
  x : Xinv w Q m B
  spec : VEnd Q v n
  ham : Q.length - n ≤ m
  hfree : w.free = 32 - (Q.length : Int)

theorem pend_shl {w : Writer} {Q : List Bool} {m : Nat} {v n : Nat} {B : List Bool}
    (h : Pend w Q m v n B) (hv : v < 2 ^ n) (h0 : 0 ≤ w.free) :
    Rest (orBuf w (shl32 v w.free)) B := by
  obtain ⟨⟨hE, hW, hD, hm, hmQ⟩, hs, ham, hfree⟩ := h
  refine ⟨Q, ⟨hE, ?_, hD, by omega, Nat.le_refl _⟩, hfree⟩
  refine win_or v n Q.length hW hs hv ham hmQ (fun q hq => ?_)
  rw [testBit_shl32 v _ q h0 hq, decide_eq_decide.mpr (by omega : w.free.toNat ≤ q ↔ 32 ≤ q + Q.length),
    show q - w.free.toNat = q + Q.length - 32 by omega]

theorem pend_shrFlush {w : Writer} {Q : List Bool} {m : Nat} {v n : Nat} {B : List Bool}
    (h : Pend w Q m v n B) (hv : v < 2 ^ n) (hn : n ≤ 32) (hneg : w.free < 0) :
    ∃ s : Nat, 28 ≤ s ∧ s ≤ 32 ∧
      Pend (flush (orBuf w (shr32 v (-w.free)))) (Q.drop s) (32 - s) v n B := by
  obtain ⟨⟨hE, hW, hD, hm, hmQ⟩, hs, ham, hfree⟩ := h
  have hv32 : v < M32 := Nat.lt_of_lt_of_le hv (by rw [m32_eq]; exact Nat.pow_le_pow_right (by decide) hn)
  have hX1 : Xinv (orBuf w (shr32 v (-w.free))) Q 32 B := by
    refine ⟨hE, ?_, hD, by decide, by omega⟩
    refine win_extend (win_or v n Q.length hW hs hv ham hmQ (fun q hq => ?_)) (fun j h1 h2 => by omega)
    rw [testBit_shr32 v _ q (by omega) hv32 hq, decide_eq_true (by omega : 32 ≤ q + Q.length), Bool.true_and,
      show (-w.free).toNat + q = q + Q.length - 32 by omega]
  have hX2 := X_flushN 4 _ Q 32 B hX1 (by decide)
  obtain ⟨hf, h28, h32⟩ := flush_four (orBuf w (shr32 v (-w.free))) (by show w.free < 8; omega)
  change _ = w.free + _ at hf
  rw [← flush_eq] at hX2
  generalize flushBits 4 (orBuf w (shr32 v (-w.free))) = s at *
  refine ⟨s, by omega, by omega, hX2, vend_drop s hs, by rw [List.length_drop]; omega, ?_⟩
  rw [List.length_drop]
  omega

theorem rest_writeBits (w : Writer) (B : List Bool) (v n : Nat) (h : Rest w B) (hv : v < 2 ^ n) (hn : n ≤ 32) :
    Rest (writeBits w v (n : Int)) (B ++ bitsOf v n) := by
  obtain ⟨P, ⟨hE, hW, hD, hPlen, _⟩, hfree⟩ := h
  have h0 : Pend (setFree w (w.free - n)) (P ++ bitsOf v n) P.length v n (B ++ bitsOf v n) :=
    ⟨⟨hE, win_append _ hW (Nat.le_refl _),
        by show destuff w.out false ++ (P ++ bitsOf v n) = _; rw [← List.append_assoc, hD], hPlen,
        by rw [List.length_append]; omega⟩,
      vend_append P v n, by simp only [List.length_append, length_bitsOf]; omega,
      by show w.free - (n : Int) = _; simp only [List.length_append, length_bitsOf]; omega⟩
  unfold writeBits
  dsimp only
  split
  · rename_i hge
    exact pend_shl h0 hv hge
  · rename_i hlt
    obtain ⟨s1, _, _, h1⟩ := pend_shrFlush h0 hv hn (by omega)
    split
    · rename_i hneg
      obtain ⟨s2, _, _, h2⟩ := pend_shrFlush h1 hv hn hneg
      refine pend_shl h2 hv ?_
      have := h2.hfree
      simp only [List.length_drop, List.length_append, length_bitsOf] at this
      omega
    · rename_i hnn
      exact pend_shl h1 hv (by omega)

theorem rest_writeAll : ∀ (ws : List (Nat × Int)) (w : Writer) (B : List Bool), Rest w B → WritesFit ws →
    Rest (writeAll w ws) (B ++ writesBits ws)
  | [], w, B, h, _ => by simpa [writeAll, writesBits] using h
  | p :: rest, w, B, h, hf => by
    obtain ⟨⟨h0, h32, hv⟩, hrest⟩ := fit_cons.mp hf
    have e : p.2 = ((p.2.toNat : Nat) : Int) := by omega
    have h1 := rest_writeBits w B p.1 p.2.toNat h hv (by omega)
    rw [← e] at h1
    rw [writesBits_cons, ← List.append_assoc]
    exact rest_writeAll rest (writeBits w p.1 p.2) _ h1 hrest

theorem drop_pad (P : List Bool) (r s : Nat) (h : P.length ≤ s) :
    (P ++ List.replicate r false).drop s = List.replicate (P.length + r - s) false := by
  have e : s = P.length + (s - P.length) := by omega
  rw [e, ← List.drop_drop, List.drop_left, List.drop_replicate]
  congr 1; omega

theorem append_zeros_cancel (X B : List Bool) (r N : Nat) (hr : r ≤ N)
    (h : X ++ List.replicate r false = B ++ List.replicate N false) : X = B ++ List.replicate (N - r) false := by
  have e : List.replicate N false = List.replicate (N - r) false ++ List.replicate r false := by
    rw [List.replicate_append_replicate]; congr 1; omega
  rw [e, ← List.append_assoc] at h
  exact List.append_cancel_right h

/-- The pending bits are followed through the two flushes of `Flush()` as `P ++ 0^96`: each may take 32 bits and
    the window has to stay full. -/
theorem finish_destuff (w : Writer) (B : List Bool) (hJ : J w) (h : Rest w B) :
    ∃ k, destuff (finish w).out false = B ++ List.replicate k false := by
  obtain ⟨P, ⟨hE, hW, hD, hPlen, _⟩, hfree⟩ := h
  have hJ1 := J_flush w hJ
  have hX0 : Xinv w (P ++ List.replicate 96 false) 32 (B ++ List.replicate 96 false) :=
    ⟨hE, win_extend (win_append _ hW (Nat.le_refl _)) (fun j hj _ => by rw [pg_pad, pg_zero_beyond P j hj]),
      by rw [← List.append_assoc, hD], by decide, by simp⟩
  have hX1 := X_flushN 4 w _ 32 _ hX0 (by decide)
  have hf1 := flush_free w
  rw [← flush_eq] at hX1
  generalize flushBits 4 w = s1 at *
  have h28 : 28 ≤ (flush w).free := by omega
  -- all of `P` is in the buffer or out, so what the window hides is zero
  have hX1' : Xinv (flush w) ((P ++ List.replicate 96 false).drop s1) 32 (B ++ List.replicate 96 false) :=
    ⟨hX1.ff, win_extend hX1.win (fun j hj _ => by rw [pg_drop, pg_pad, pg_zero_beyond P _ (by omega)]), hX1.bits,
      by decide, by simp [List.length_drop]; omega⟩
  unfold finish
  dsimp only
  generalize flush w = w1 at *
  -- `w2`, the state before the second flush: same buffer and bytes, possibly fewer free bits
  generalize hw2 : (if w1.ff = true then _ else w1 : Writer) = w2
  have ⟨hX2, hfree2le, hfree2ge⟩ : Xinv w2 ((P ++ List.replicate 96 false).drop s1) 32 (B ++ List.replicate 96 false) ∧
      w2.free ≤ w1.free ∧ 25 ≤ w2.free := by
    rw [← hw2]
    by_cases hff : w1.ff = true
    · have hle := hJ1.free hff
      rw [if_pos hff, finish_pad w1 (by omega) hle]
      exact ⟨⟨hX1'.ff, hX1'.win, hX1'.bits, by decide, hX1'.mQ⟩,
        by show (25 : Int) ≤ w1.free; omega, Int.le_refl _⟩
    · rw [if_neg hff]
      exact ⟨hX1', by omega, by omega⟩
  have hX3 := X_flushN 4 w2 _ 32 _ hX2 (by decide)
  have hf3 := flush_free w2
  rw [← flush_eq] at hX3
  generalize flushBits 4 w2 = s2 at *
  have hD3 := hX3.bits
  rw [List.drop_drop, drop_pad P 96 (s1 + s2) (by omega)] at hD3
  exact ⟨_, append_zeros_cancel _ _ _ 96 (by omega) hD3⟩

theorem writer_destuff (ws : List (Nat × Int)) (hf : WritesFit ws) :
    ∃ k, destuff (finish (writeAll Writer.new ws)).out false = writesBits ws ++ List.replicate k false := by
  have := finish_destuff _ _ (K_writeAll ws _ K_new hf.ok).j (rest_writeAll ws Writer.new [] rest_new hf)
  simpa using this

end Golomb
