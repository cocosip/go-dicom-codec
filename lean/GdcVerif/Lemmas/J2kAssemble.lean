import GdcVerif.Lemmas.J2kTiles
import GdcVerif.Lemmas.Radix
/-! split (transformTile copy) / assemble (AssembleTile) identity on index-function planes. -/
namespace J2k

theorem copyRow_row {W r c w : Nat} (hcw : c + w ≤ W) (dst src : Plane) (b i : Nat) :
    copyRow dst (r * W + c) src b w i =
      if i / W = r ∧ c ≤ i % W ∧ i % W < c + w then src (b + (i % W - c)) else dst i := by
  have hdm := Nat.div_add_mod i W
  unfold copyRow
  by_cases hc : r * W + c ≤ i ∧ i < r * W + c + w
  · obtain ⟨k, rfl⟩ : ∃ k, i = r * W + k := ⟨i - r * W, by omega⟩
    have e := Radix.div_mod r (show k < W by omega)
    rw [if_pos hc, e.1, e.2, if_pos (by omega)]
    congr 2; omega
  · rw [if_neg hc, if_neg]
    rintro ⟨rfl, h1, h2⟩
    rw [Nat.mul_comm] at hdm
    omega

theorem split_spec (img : Plane) (W x0 y0 w : Nat) (tile : Plane) :
    ∀ h ty tx, ty < h → tx < w →
      splitTile img W x0 y0 w h tile (ty * w + tx) = img ((y0 + ty) * W + x0 + tx) := by
  intro h
  induction h with
  | zero => intro ty tx h; omega
  | succ h ih =>
    intro ty tx hty htx
    unfold splitTile copyRow
    by_cases he : ty = h
    · subst he
      rw [if_pos (by omega)]
      congr 1; omega
    · have hlt : ty < h := by omega
      have := Radix.lt hlt htx
      rw [if_neg (by omega)]
      exact ih ty tx hlt htx

/-- sample `i` of a `W`-wide plane lies in the rectangle with corner (x0, y0), `w` columns and `h` rows -/
def InRect (W x0 y0 w h i : Nat) : Prop := y0 ≤ i / W ∧ i / W < y0 + h ∧ x0 ≤ i % W ∧ i % W < x0 + w

instance (W x0 y0 w h i : Nat) : Decidable (InRect W x0 y0 w h i) := by unfold InRect; infer_instance

theorem inRect_succ (W x0 y0 w h i : Nat) :
    InRect W x0 y0 w (h + 1) i ↔ (i / W = y0 + h ∧ x0 ≤ i % W ∧ i % W < x0 + w) ∨ InRect W x0 y0 w h i := by
  unfold InRect
  omega

theorem assemble_spec (tile : Plane) (W x0 y0 w : Nat) (out : Plane) (hcw : x0 + w ≤ W) :
    ∀ h i, assembleTile tile W x0 y0 w h out i =
      if InRect W x0 y0 w h i then tile ((i / W - y0) * w + (i % W - x0)) else out i := by
  intro h
  induction h with
  | zero =>
    intro i
    rw [if_neg (by unfold InRect; omega)]
    rfl
  | succ h ih =>
    intro i
    unfold assembleTile
    rw [copyRow_row hcw, ih i]
    simp only [inRect_succ]
    by_cases hr : i / W = y0 + h ∧ x0 ≤ i % W ∧ i % W < x0 + w
    · rw [if_pos hr, if_pos (Or.inl hr), hr.1, Nat.add_sub_cancel_left]
    · simp only [hr, false_or, if_false]

theorem tile_roundtrip (src out z : Plane) (W x0 y0 w h : Nat) (hcw : x0 + w ≤ W) (i : Nat) :
    assembleTile (splitTile src W x0 y0 w h z) W x0 y0 w h out i = if InRect W x0 y0 w h i then src i else out i := by
  rw [assemble_spec _ _ _ _ _ _ hcw]
  by_cases hin : InRect W x0 y0 w h i
  · rw [if_pos hin, if_pos hin]
    unfold InRect at hin
    rw [split_spec src W x0 y0 w z h (i / W - y0) (i % W - x0) (by omega) (by omega)]
    congr 1
    have hdm := Nat.div_add_mod i W
    have e : y0 + (i / W - y0) = i / W := by omega
    rw [e, Nat.mul_comm]
    omega
  · rw [if_neg hin, if_neg hin]

def InTile (W H TW TH : Nat) (j i : Nat) : Prop :=
  let r := tileRectNat W H TW TH j
  InRect W r.1 r.2.1 r.2.2.1 r.2.2.2 i

theorem sa_covered (src out : Plane) (W H TW TH : Nat) (hW : 1 ≤ W) (hTW : 1 ≤ TW) (hTH : 1 ≤ TH) :
    ∀ k, k ≤ numTilesNat W H TW TH → ∀ i, (∃ j, j < k ∧ InTile W H TW TH j i) →
      splitAssemble src W H TW TH k out i = src i := by
  intro k
  induction k with
  | zero => intro _ i ⟨j, hj, _⟩; omega
  | succ k ih =>
    intro hk i ⟨j, hj, hin⟩
    unfold splitAssemble
    simp only []
    have hri := enc_in_image (W : Int) H TW TH k (by omega) (by omega) (by omega) (by omega) (by omega)
      (by unfold numTilesNat at hk; omega)
    have hcw : (tileRectNat W H TW TH k).1 + (tileRectNat W H TW TH k).2.2.1 ≤ W := by
      unfold tileRectNat; simp only [] at hri ⊢; omega
    rw [tile_roundtrip src _ _ W _ _ _ _ hcw i]
    by_cases hc : InTile W H TW TH k i
    · exact if_pos hc
    · exact (if_neg hc).trans (ih (by omega) i
        ⟨j, Nat.lt_of_le_of_ne (Nat.le_of_lt_succ hj) fun hjk => hc (hjk ▸ hin), hin⟩)

theorem tile_cover (W H TW TH : Nat) (hW : 1 ≤ W) (hTW : 1 ≤ TW) (hTH : 1 ≤ TH) (i : Nat) (hi : i < W * H) :
    ∃ j, j < numTilesNat W H TW TH ∧ InTile W H TW TH j i := by
  have hx : i % W < W := Nat.mod_lt _ (by omega)
  have hy : i / W < H := Nat.div_lt_of_lt_mul hi
  obtain ⟨idx, h0, h1, hin⟩ := enc_cover (W : Int) H TW TH (i % W : Nat) (i / W : Nat) (by omega) (by omega)
    (Int.natCast_nonneg _) (Int.ofNat_lt.mpr hx) (Int.natCast_nonneg _) (Int.ofNat_lt.mpr hy)
  refine ⟨idx.toNat, by unfold numTilesNat; omega, ?_⟩
  have hri := enc_in_image (W : Int) H TW TH idx (by omega) (by omega) (by omega) (by omega) h0 h1
  unfold InTile InRect tileRectNat
  rw [show ((idx.toNat : Nat) : Int) = idx by omega]
  unfold inRect at hin
  simp only [] at hri ⊢
  omega

end J2k
