import GdcVerif.Lemmas.T1SegFrame
import GdcVerif.Lemmas.T1LayeredStep
/-!
  `Encode` / `DecodeWithBitplane` and the layered API for the styles without TERMALL and LAZY, where the whole block is
  one MQ codeword segment (`block_seg`).  The block round trip for any reconstruction rule and any pass count comes in
  two halves: `blockG_enc` (the encoder, and that the decoder's passes run on its bytes; the only place where the full
  and a truncated pass count differ) and `blockG_dec` (what `DecodeWithBitplane` then returns).  For these styles
  `EncodeLayered` emits the bytes of `Encode` with one rate per pass (`encLoopL_noLazy`) and `DecodeLayeredWithMode`
  hands over to `DecodeWithBitplane` (`t1_layered_roundtrip_plain`).
-/
namespace T1
open Gen

theorem encodeBlock_eq (w h orient style mb np : Nat) (coeffs : List Int) (hlen : coeffs.length = w * h)
    (hmb : findMaxBitplane (padBlock w h coeffs) = some mb) :
    encodeBlock w h orient style coeffs np =
      match encLoop w h orient style (padBlock w h coeffs) mb np (np + 1) (es0 w h) (mb : Int) 0 2 false with
      | none => .panic
      | some (st, t) =>
        if t then .ok (Mqc.getBuffer st.mq)
        else match Mqc.flush st.mq with
          | some (_, bytes) => .ok bytes
          | none => .panic := by
  unfold encodeBlock
  rw [if_neg (by rw [hlen]; exact fun hc => hc rfl)]
  simp only []
  rw [hmb]
  simp only []
  rw [(enc_start w h _ (padBlock_spec w h coeffs).1).1]
  rfl

theorem encodeLayered_eq (w h orient style mb np : Nat) (coeffs : List Int) (hlen : coeffs.length = w * h)
    (hmb : findMaxBitplane (padBlock w h coeffs) = some mb) :
    encodeLayered w h orient style coeffs np =
      match encLoopL w h orient style (padBlock w h coeffs) mb np (np + 1) (es0 w h) (mb : Int) 0 2 false [] with
      | none => .panic
      | some (st, t, recs) =>
        match (if t then some (Mqc.getBuffer st.mq) else (Mqc.flush st.mq).map (·.2)) with
        | none => .panic
        | some bytes => .ok (normalizeRates (recs.map (·.1)) bytes, (mb : Int), bytes) := by
  unfold encodeLayered
  rw [if_neg (by rw [hlen]; exact fun hc => hc rfl)]
  simp only []
  rw [hmb]
  simp only []
  rw [(enc_start w h _ (padBlock_spec w h coeffs).1).1]
  rfl

/-- **the encoder half of the block round trips**, `n + 1` passes: the last pass of the block is terminated inside the
loop by the style's termination, an earlier one by `Flush` behind the loop and the context reset; either way the
block is one codeword segment (`block_seg`), on whose bytes the decoder's coder opens and its `n + 1` passes run -/
theorem blockG_enc {rc : Recon} {δ bound : Nat} {val : Nat → Int → Int} (hR : rc.Holds δ bound val) (hb : 0 < bound)
    (w h orient style mb : Nat) (coeffs : List Int) (hlen : coeffs.length = w * h)
    (hbnd : ∀ c ∈ coeffs, c.natAbs < bound) (hmb : findMaxBitplane (padBlock w h coeffs) = some mb)
    (hT : Go.and (style : Int) J2kT1.CblkStyleTermAll = 0) (hL : Go.and (style : Int) J2kT1.CblkStyleLazy = 0)
    (n : Nat) (hn : n ≤ 3 * mb) :
    ∃ bytes, encodeBlock w h orient style coeffs (n + 1) = .ok bytes ∧ (styPterm style = false ∨ n < 3 * mb → bytes ≠ []) ∧
      ∃ d1 ds', (Mqc.Dec.new bytes NUMCONTEXTS).bind initCtxDec = some d1 ∧
        ((List.range' 0 n).foldlM (fun s i => stepDR rc w h orient style (mb + δ) i s)
            { flags := Array.replicate ((w + 2) * (h + 2)) 0, data := Array.replicate ((w + 2) * (h + 2)) 0, mq := d1 }).bind
          (stepDL rc w h orient style (mb + δ) n) = some ds' ∧
        Out val w h (padBlock w h coeffs) (planeOf mb n) (typeOf n) ds' := by
  have hVb := padBlock_boundB bound hb w h coeffs hbnd
  rw [encodeBlock_eq w h orient style mb (n + 1) coeffs hlen hmb]
  by_cases hn' : n = 3 * mb
  · subst hn'
    obtain ⟨esP, ef, es4, heP, hef, he4, hbuf, hne, hdec⟩ :=
      block_seg hR.zero w h mb coeffs hmb style _ _
        (fun R => Post val w h (padBlock w h coeffs) R (planeOf mb (3 * mb)) (typeOf (3 * mb)))
        (fun _ => Out val w h (padBlock w h coeffs) (planeOf mb (3 * mb)) (typeOf (3 * mb)))
        (fun F R hC hX es hs => by
          have := passes_lock hC hX hR hVb (R := R) orient style mb (3 * mb) 0 es (by omega) hs
          rw [Nat.zero_add] at this; exact this)
        (fun _ _ _ _ _ _ hP => hP.out)
    refine ⟨Mqc.getBuffer ef, ?_, fun hh => hh.elim hne (fun hlt => absurd hlt (Nat.lt_irrefl _)), hdec⟩
    rw [encLoop_full w h orient style _ mb (3 * mb + 1) hT hL _ (Nat.le_refl _)]
    simp only [heP, Option.bind_some, hef, he4, Option.map_some, if_true, hbuf]
  · obtain ⟨esP, ef, _, heP, hef, _, _, hne, hdec⟩ :=
      block_seg hR.zero w h mb coeffs hmb 0
        (fun es => (List.range' 0 (n + 1)).foldlM (fun s i => stepR w h orient style (padBlock w h coeffs) mb i s) es)
        (fun ds => ((List.range' 0 n).foldlM (fun s i => stepDR rc w h orient style (mb + δ) i s) ds).bind
          (stepDL rc w h orient style (mb + δ) n))
        (fun _ _ => Out val w h (padBlock w h coeffs) (planeOf mb n) (typeOf n)) (fun _ => _)
        (fun F R hC hX es0 hs0 => by
          obtain ⟨es3, he3, hok3, hback3, hlock3⟩ := passes_lock hC hX hR hVb (R := R) orient style mb n 0 es0 (by omega) hs0
          rw [Nat.zero_add] at he3 hlock3
          obtain ⟨es4, he4, hok4, hback4⟩ := resetE_ok hX style es3 hok3
          refine ⟨es4, by rw [foldR_succ, Nat.zero_add, he3]; exact he4, hok4, fun hF => hback3 (hback4 hF), fun hF ds hPI => ?_⟩
          obtain ⟨ds', hd', hP⟩ := hlock3 (hback4 hF) ds hPI
          exact ⟨ds', hd', hP.out⟩)
        (fun _ _ _ _ _ _ hQ => hQ)
    refine ⟨Mqc.getBuffer ef, ?_, fun _ => hne (by decide), hdec⟩
    rw [encLoop_cut w h orient style _ mb (n + 1) hT hL _ (by omega), heP]
    simp only [Option.map_some, Bool.false_eq_true, if_false, flush_of_termMq0 hef]

/-- **the decoder half of the block round trips**: `DecodeWithBitplane` with `n + 1` passes on non-empty bytes, once
its coder opens and the passes run, returns what `Out` says of the data behind the last pass -/
theorem blockG_dec (rc : Recon) (val : Nat → Int → Int) (w h orient style mb n : Nat) (coeffs : List Int)
    (hn : n < 3 * mb + 1) {bp pt : Nat} {bytes : List Nat} {d1 : Mqc.Dec} {ds' : DecSt}
    (hd1 : (Mqc.Dec.new bytes NUMCONTEXTS).bind initCtxDec = some d1)
    (hd' : ((List.range' 0 n).foldlM (fun s i => stepDR rc w h orient style mb i s)
          { flags := Array.replicate ((w + 2) * (h + 2)) 0, data := Array.replicate ((w + 2) * (h + 2)) 0, mq := d1 }).bind
        (stepDL rc w h orient style mb n) = some ds')
    (hO : Out val w h (padBlock w h coeffs) bp pt ds') :
    ∃ lev : Nat → Nat → Nat,
      (bytes ≠ [] → decodeBlockG rc w h orient style (n + 1) (mb : Int) bytes =
        .ok ((List.range h).flatMap fun y => (List.range w).map fun x => val (lev x y) (coeffs.getD (y * w + x) 0))) ∧
      ∀ x y, x < w → y < h → (lev x y = bp ∨ lev x y = bp + 1) ∧ (pt = 2 → lev x y = bp) := by
  obtain ⟨_, hVget, _⟩ := padBlock_spec w h coeffs
  obtain ⟨lev, hdsz, hdata⟩ := hO
  refine ⟨fun x y => lev (idxOf w x y), fun hnb => ?_, fun x y hx hy => (hdata _ ⟨x, y, hx, hy, rfl⟩).2⟩
  unfold decodeBlockG
  rw [if_neg (fun h0 => hnb (List.length_eq_zero_iff.mp h0))]
  cases hd0 : Mqc.Dec.new bytes NUMCONTEXTS with
  | none => rw [hd0] at hd1; exact absurd hd1 (by simp)
  | some d0 =>
    rw [hd0] at hd1
    simp only []
    rw [show initCtxDec d0 = some d1 from hd1]
    simp only []
    rw [decLoopG_all rc w h orient style mb n _ hn, hd']
    simp only []
    rw [readback w h ds'.data hdsz _ (fun x y hx hy => by rw [(hdata _ ⟨x, y, hx, hy, rfl⟩).1, hVget x y hx hy])]

/-- **the block round trip for any reconstruction rule and any style without LAZY and TERMALL** (all passes): the
decoder, started `δ` plane indices above the block's top plane, returns `val 0 c` for every coefficient `c`.  Under
PTERM the stream may in principle be empty, which the decoder rejects. -/
theorem blockG_roundtrip {rc : Recon} {δ bound : Nat} {val : Nat → Int → Int} (hR : rc.Holds δ bound val) (hb : 0 < bound)
    (w h orient style mb : Nat) (coeffs : List Int) (hlen : coeffs.length = w * h)
    (hbnd : ∀ c ∈ coeffs, c.natAbs < bound) (hmb : findMaxBitplane (padBlock w h coeffs) = some mb)
    (hT : Go.and (style : Int) J2kT1.CblkStyleTermAll = 0) (hL : Go.and (style : Int) J2kT1.CblkStyleLazy = 0) :
    ∃ bytes, encodeBlock w h orient style coeffs (3 * mb + 1) = .ok bytes ∧ (styPterm style = false → bytes ≠ []) ∧
      (bytes ≠ [] → decodeBlockG rc w h orient style (3 * mb + 1) ((mb + δ : Nat) : Int) bytes =
        .ok ((List.range h).flatMap fun y => (List.range w).map fun x => val 0 (coeffs.getD (y * w + x) 0))) := by
  obtain ⟨bytes, he, hne, d1, ds', hd1, hd', hO⟩ :=
    blockG_enc hR hb w h orient style mb coeffs hlen hbnd hmb hT hL (3 * mb) (Nat.le_refl _)
  obtain ⟨lev, hd, hl⟩ := blockG_dec rc val w h orient style (mb + δ) (3 * mb) coeffs (by omega) hd1 hd' hO
  obtain ⟨l1, l2, _⟩ := idx_last mb
  refine ⟨bytes, he, fun hp => hne (Or.inl hp), fun hnb => ?_⟩
  rw [hd hnb, rows_congr w h _ _ fun x y hx hy => by rw [(hl x y hx hy).2 l2, l1]]

/-- **T1 block round trip without LAZY and TERMALL** (`Encode` / `DecodeWithBitplane`; RESET, VSC, PTERM, SEGSYM arbitrary) -/
theorem t1_roundtrip_plainP (w h orient style mb : Nat) (coeffs : List Int) (hlen : coeffs.length = w * h)
    (hbnd : ∀ c ∈ coeffs, c.natAbs < 2147483648) (hmb : findMaxBitplane (padBlock w h coeffs) = some mb)
    (hT : Go.and (style : Int) J2kT1.CblkStyleTermAll = 0) (hL : Go.and (style : Int) J2kT1.CblkStyleLazy = 0) :
    ∃ bytes, encodeBlock w h orient style coeffs (3 * mb + 1) = .ok bytes ∧ (styPterm style = false → bytes ≠ []) ∧
      (bytes ≠ [] → decodeBlock w h orient style (3 * mb + 1) (mb : Int) bytes = .ok coeffs) := by
  obtain ⟨bytes, he, hne, hd⟩ := blockG_roundtrip plainR_holds (by decide) w h orient style mb coeffs hlen hbnd hmb hT hL
  refine ⟨bytes, he, hne, fun hb => ?_⟩
  rw [decodeBlock_eqG, show (mb : Int) = ((mb + 0 : Nat) : Int) from rfl, hd hb]
  simp only [tr_plane0, rows_eq w h coeffs hlen]

/-- **T1 block round trip for the styles built from RESET, VSC and SEGSYM** (no LAZY, TERMALL, PTERM), all passes -/
theorem t1_roundtrip_styles (w h orient style mb : Nat) (coeffs : List Int) (hlen : coeffs.length = w * h)
    (hbnd : ∀ c ∈ coeffs, c.natAbs < 2147483648) (hmb : findMaxBitplane (padBlock w h coeffs) = some mb)
    (hT : Go.and (style : Int) J2kT1.CblkStyleTermAll = 0) (hL : Go.and (style : Int) J2kT1.CblkStyleLazy = 0)
    (hP : styPterm style = false) :
    ∃ bytes, encodeBlock w h orient style coeffs (3 * mb + 1) = .ok bytes ∧
      decodeBlock w h orient style (3 * mb + 1) (mb : Int) bytes = .ok coeffs := by
  obtain ⟨bytes, he, hne, hd⟩ := t1_roundtrip_plainP w h orient style mb coeffs hlen hbnd hmb hT hL
  exact ⟨bytes, he, hd (hne hP)⟩

/-- **T1 block round trip (style 0, all passes)**: `Encode` then `DecodeWithBitplane` with the block's top
bit-plane and all `3·(mb+1) − 2` passes returns the coefficients -/
theorem t1_roundtrip (w h orient mb : Nat) (coeffs : List Int) (hlen : coeffs.length = w * h)
    (hbnd : ∀ c ∈ coeffs, c.natAbs < 2147483648) (hmb : findMaxBitplane (padBlock w h coeffs) = some mb) :
    ∃ bytes, encodeBlock w h orient 0 coeffs (3 * mb + 1) = .ok bytes ∧
      decodeBlock w h orient 0 (3 * mb + 1) (mb : Int) bytes = .ok coeffs :=
  t1_roundtrip_styles w h orient 0 mb coeffs hlen hbnd hmb (by decide) (by decide) (by decide)

/-- **a truncated pass count, any reconstruction rule** (style without LAZY and TERMALL, `1 ≤ np < 3·mb+1`): the decoder
returns `val (lev x y) c` for every coefficient `c`, where `lev x y` is the plane of the last coded pass or the one above -/
theorem blockG_truncated {rc : Recon} {δ bound : Nat} {val : Nat → Int → Int} (hR : rc.Holds δ bound val) (hb : 0 < bound)
    (w h orient style mb np : Nat) (coeffs : List Int) (hlen : coeffs.length = w * h)
    (hbnd : ∀ c ∈ coeffs, c.natAbs < bound) (hmb : findMaxBitplane (padBlock w h coeffs) = some mb)
    (hT : Go.and (style : Int) J2kT1.CblkStyleTermAll = 0) (hL : Go.and (style : Int) J2kT1.CblkStyleLazy = 0)
    (h1 : 1 ≤ np) (h2 : np < 3 * mb + 1) :
    ∃ (bytes : List Nat) (lev : Nat → Nat → Nat), encodeBlock w h orient style coeffs np = .ok bytes ∧
      decodeBlockG rc w h orient style np ((mb + δ : Nat) : Int) bytes =
        .ok ((List.range h).flatMap fun y => (List.range w).map fun x => val (lev x y) (coeffs.getD (y * w + x) 0)) ∧
      ∀ x y, x < w → y < h → (lev x y = mb - (np + 1) / 3 ∨ lev x y = mb - (np + 1) / 3 + 1) ∧
        (np % 3 = 1 → lev x y = mb - (np + 1) / 3) := by
  obtain ⟨n, rfl⟩ : ∃ n, np = n + 1 := ⟨np - 1, by omega⟩
  obtain ⟨bytes, he, hne, d1, ds', hd1, hd', hO⟩ :=
    blockG_enc hR hb w h orient style mb coeffs hlen hbnd hmb hT hL n (by omega)
  obtain ⟨lev, hd, hl⟩ := blockG_dec rc val w h orient style (mb + δ) n coeffs (by omega) hd1 hd' hO
  refine ⟨bytes, lev, he, hd (hne (Or.inr (by omega))), fun x y hx hy => ?_⟩
  obtain ⟨hl1, hl2⟩ := hl x y hx hy
  unfold planeOf at hl1 hl2
  unfold typeOf at hl2
  exact ⟨hl1, fun hh => hl2 (by omega)⟩

/-- **T1 with a truncated pass count** (style without LAZY and TERMALL, `1 ≤ np < 3·mb+1`): the decoder, given the
same pass count, returns every coefficient truncated below plane `lev x y`, which is the plane of the last coded
pass or the one above it (exactly that plane after a cleanup pass) -/
theorem t1_truncated (w h orient style mb np : Nat) (coeffs : List Int) (hlen : coeffs.length = w * h)
    (hbnd : ∀ c ∈ coeffs, c.natAbs < 2147483648) (hmb : findMaxBitplane (padBlock w h coeffs) = some mb)
    (hT : Go.and (style : Int) J2kT1.CblkStyleTermAll = 0) (hL : Go.and (style : Int) J2kT1.CblkStyleLazy = 0)
    (h1 : 1 ≤ np) (h2 : np < 3 * mb + 1) :
    ∃ (bytes : List Nat) (lev : Nat → Nat → Nat), encodeBlock w h orient style coeffs np = .ok bytes ∧
      decodeBlock w h orient style np (mb : Int) bytes =
        .ok ((List.range h).flatMap fun y => (List.range w).map fun x => tr (lev x y) (coeffs.getD (y * w + x) 0)) ∧
      ∀ x y, x < w → y < h → (lev x y = mb - (np + 1) / 3 ∨ lev x y = mb - (np + 1) / 3 + 1) ∧
        (np % 3 = 1 → lev x y = mb - (np + 1) / 3) := by
  rw [decodeBlock_eqG]
  exact blockG_truncated plainR_holds (by decide) w h orient style mb np coeffs hlen hbnd hmb hT hL h1 h2

theorem normalizeRates_length (rs data : List Nat) : (normalizeRates rs data).length = rs.length := by
  unfold normalizeRates
  induction rs with
  | nil => rfl
  | cons r rs ih =>
    rw [List.foldr_cons]
    simp only [List.length_cons]
    rw [← ih]

theorem style_bits : ∀ s, s < 64 →
    styLazy s = decide (Go.and (s : Int) J2kT1.CblkStyleLazy ≠ 0) ∧
    styTermall s = decide (Go.and (s : Int) J2kT1.CblkStyleTermAll ≠ 0) := by decide

/-- **layered T1 round trip without TERMALL and LAZY** (one codeword segment; PTERM allowed): the layered encoder emits the bytes of
`Encode`, one rate per pass, and the layered decoder is `DecodeWithBitplane` on them -/
theorem t1_layered_roundtrip_plain (w h orient style mb : Nat) (coeffs : List Int) (hlen : coeffs.length = w * h)
    (hbnd : ∀ c ∈ coeffs, c.natAbs < 2147483648) (hmb : findMaxBitplane (padBlock w h coeffs) = some mb)
    (hs : style < 64) (hT : Go.and (style : Int) J2kT1.CblkStyleTermAll = 0)
    (hL : Go.and (style : Int) J2kT1.CblkStyleLazy = 0) :
    ∃ rates bytes, encodeLayered w h orient style coeffs (3 * mb + 1) = .ok (rates, (mb : Int), bytes) ∧
      (styPterm style = false → bytes ≠ []) ∧
      (bytes ≠ [] → decodeLayered w h orient style (mb : Int) rates bytes = .ok coeffs) := by
  obtain ⟨bytes, henc, hnonempty, hdec⟩ := t1_roundtrip_plainP w h orient style mb coeffs hlen hbnd hmb hT hL
  rw [encodeBlock_eq w h orient style mb _ coeffs hlen hmb] at henc
  cases hl : encLoop w h orient style (padBlock w h coeffs) mb (3 * mb + 1) (3 * mb + 1 + 1) (es0 w h) (mb : Int) 0 2 false with
  | none => rw [hl] at henc; exact absurd henc (by simp)
  | some r =>
    rw [hl] at henc
    obtain ⟨st, t⟩ := r
    simp only [] at henc
    obtain ⟨recs, hrl, hrn⟩ := encLoopL_noLazy w h orient style (padBlock w h coeffs) mb (3 * mb + 1) hL (3 * mb + 1) 1
      (es0 w h) [] (st, t) (Nat.le_refl _) (Nat.le_refl _) (Or.inl rfl) (by rw [Nat.add_comm 1]; exact hl)
    rw [Nat.add_comm 1] at hrl
    have hb : (if t = true then some (Mqc.getBuffer st.mq) else (Mqc.flush st.mq).map (·.2)) = some bytes := by
      cases t with
      | true => simp only [if_true] at henc ⊢; injection henc with henc; rw [henc]
      | false =>
        simp only [Bool.false_eq_true, if_false] at henc ⊢
        cases hf : Mqc.flush st.mq with
        | none => rw [hf] at henc; exact absurd henc (by simp)
        | some fb =>
          rw [hf] at henc
          obtain ⟨e', b'⟩ := fb
          simp only [] at henc
          injection henc with henc
          rw [henc]; rfl
    refine ⟨normalizeRates (recs.map (·.1)) bytes, bytes, ?_, hnonempty, ?_⟩
    · rw [encodeLayered_eq w h orient style mb _ coeffs hlen hmb, hrl]
      simp only [List.nil_append, hb]
    · intro hnb
      have hdec := hdec hnb
      have hne : bytes.length ≠ 0 := fun h0 => hnb (List.length_eq_zero_iff.mp h0)
      unfold decodeLayered
      rw [if_neg hne, if_neg (by rw [normalizeRates_length, List.length_map, hrn]; omega)]
      rw [if_pos ⟨by rw [(style_bits style hs).2]; simpa using hT, by rw [(style_bits style hs).1]; simpa using hL⟩, normalizeRates_length, List.length_map, hrn]
      exact hdec

end T1
