import GdcVerif.Model.Adapters
namespace Adapters

/-- The parameter depth of jpeg/extended is never used: one of the two BitsStored overrides always applies. -/
theorem passDown_spec {k : Codec} {fi : FI} {e : Int} {p : Passed} : passDown k fi e = some p →
    (k.usesBitsStored = true → (fi.BS + 7) / 8 = (fi.BA + 7) / 8) ∧
    (match k with
      | .baseline => 1 ≤ fi.BS ∧ fi.BS ≤ 8
      | .extended => 1 ≤ fi.BS ∧ fi.BS ≤ 12
      | .jls | .jlsNear => 2 ≤ fi.BS ∧ fi.BS ≤ 16
      | _ => True) ∧
    p = ⟨fi.W, fi.H, fi.SPP,
      match k with
      | .rle | .htj2k => fi.BA
      | .baseline => 8
      | .extended => if fi.BS ≤ 8 then 8 else 12
      | _ => fi.BS,
      match k with
      | .j2kLossless | .j2kLossy | .htj2k => fi.PR != 0
      | _ => false⟩ := by
  intro h
  unfold passDown at h
  split at h
  · cases h
  · rename_i hg
    refine ⟨fun hk => by simpa [hk] using hg, ?_⟩
    cases k <;> simp only [] at h ⊢
    case rle | lossless | sv1 | j2kLossless | j2kLossy | htj2k =>
      cases h
      exact ⟨trivial, rfl⟩
    case baseline | jls | jlsNear =>
      split at h <;> cases h
      exact ⟨by omega, rfl⟩
    case extended =>
      split at h
      · cases h
      · split at h
        · cases h
          exact ⟨by omega, by rw [if_pos (by omega)]⟩
        · split at h
          · cases h
            exact ⟨by omega, by rw [if_neg (by omega)]⟩
          · omega

/-- The container guard and the range checks of `passDown` make the encoder read as many bytes per sample as the native
    frame has (`C10Adapters.DepthMatches`), for any FrameInfo; only RLE, which has no guard, needs BitsAllocated to be a
    positive `uint16`. -/
theorem bytesRead_passDown {k : Codec} {fi : FI} {e : Int} (hba : k = .rle → 0 < fi.BA ∧ fi.BA ≤ 65536) {p : Passed}
    (hp : passDown k fi e = some p) : bytesRead k p.depth = containerBytes fi := by
  obtain ⟨hg, hr, rfl⟩ := passDown_spec hp
  unfold containerBytes bytesRead
  cases k <;>
    simp only [Codec.usesBitsStored, forall_const, reduceCtorEq, false_implies] at hg hr hba ⊢ <;>
    omega

theorem loopFrom_spec {Out : Type} (work : List Nat → Option Out) (frames : List (List Nat)) :
    ∀ (i : Nat) (dst : List Out), ∃ pre post outs, frames = pre ++ post ∧ pre.map work = outs.map some ∧
      (∀ f ∈ pre, f ≠ []) ∧ (∀ f ∈ post.head?, f = [] ∨ work f = none) ∧
      loopFrom work frames i dst =
        if post.isEmpty then .ok (dst ++ outs) else .err (dst ++ outs) (i + pre.length) := by
  induction frames with
  | nil => exact fun i dst => ⟨[], [], [], rfl, rfl, nofun, nofun, by rw [List.append_nil, loopFrom]; rfl⟩
  | cons f rest ih =>
    intro i dst
    rw [loopFrom]
    split
    · rename_i he
      exact ⟨[], f :: rest, [], rfl, rfl, nofun, fun g hg => Option.some.inj hg ▸ Or.inl (List.length_eq_zero_iff.mp he),
        by rw [List.append_nil]; rfl⟩
    · rename_i hne
      split
      · rename_i hw
        exact ⟨[], f :: rest, [], rfl, rfl, nofun, fun g hg => Option.some.inj hg ▸ Or.inr hw, by rw [List.append_nil]; rfl⟩
      · rename_i o ho
        obtain ⟨pre, post, outs, rfl, hw, hpre, hpost, h⟩ := ih (i + 1) (dst ++ [o])
        refine ⟨f :: pre, post, o :: outs, rfl, by rw [List.map_cons, List.map_cons, ho, hw], ?_, hpost, ?_⟩
        · intro g hg
          rcases List.mem_cons.mp hg with rfl | hg
          · exact fun hc => hne (by rw [hc]; rfl)
          · exact hpre g hg
        · rw [h, List.append_assoc, List.singleton_append, List.length_cons, Nat.add_assoc, Nat.add_comm 1]

end Adapters
