import GdcVerif.Lemmas.Dct
/-! Fixed-point colour matrices of the baseline codec (GENERATED kernels): range of the forward values (Cb and Cr
    in 1..256; that 256 occurs, so that the clamp is needed, is `c11_colour_clamp_needed` of Props/C11), the stored
    bytes in closed form, round-trip error. -/
namespace Dct
open Gen.JpegBaseline Gen.JpegStd

def fwdY (r g b : Int) : Int := (19595 * r + 38470 * g + 7471 * b + 32768) / 65536
def fwdCb (r g b : Int) : Int := (-11056 * r - 21712 * g + 32768 * b + 8421376) / 65536
def fwdCr (r g b : Int) : Int := (32768 * r - 27440 * g - 5328 * b + 8421376) / 65536

theorem fwd_entry_eq (enc : Encoder) (row col sr st r g b a1 a2 a3 : Int) :
    rgbToYCbCr.entry enc row col sr st r g b a1 a2 a3 =
      (Go.uwrap8 (Clamp (fwdY r g b) 0 255), Go.uwrap8 (Clamp (fwdCb r g b) 0 255), Go.uwrap8 (Clamp (fwdCr r g b) 0 255)) := by
  simp only [rgbToYCbCr.entry, fwdY, fwdCb, fwdCr, Go.shr, Int.shiftRight_eq_div_pow]
  simp

theorem fwd_ranges (r g b : Int) (hr : 0 ≤ r ∧ r ≤ 255) (hg : 0 ≤ g ∧ g ≤ 255) (hb : 0 ≤ b ∧ b ≤ 255) :
    0 ≤ fwdY r g b ∧ fwdY r g b ≤ 255 ∧ 1 ≤ fwdCb r g b ∧ fwdCb r g b ≤ 256 ∧ 1 ≤ fwdCr r g b ∧ fwdCr r g b ≤ 256 := by
  simp only [fwdY, fwdCb, fwdCr]; omega

theorem inv_eq (y cb cr : Int) :
    ycbcrToRGB y cb cr =
      (Go.uwrap8 (Clamp (y + 91881 * (cr - 128) / 65536) 0 255),
       Go.uwrap8 (Clamp (y - (22554 * (cb - 128) + 46802 * (cr - 128)) / 65536) 0 255),
       Go.uwrap8 (Clamp (y + 116130 * (cb - 128) / 65536) 0 255)) := by
  simp only [ycbcrToRGB, Go.shr, Int.shiftRight_eq_div_pow]
  simp

theorem clamp_toward (v b : Int) (hb : 0 ≤ b ∧ b ≤ 255) :
    (0 ≤ max 0 (min 255 v) - b ∧ max 0 (min 255 v) - b ≤ v - b) ∨
    (v - b ≤ max 0 (min 255 v) - b ∧ max 0 (min 255 v) - b ≤ 0) := by
  omega

theorem fwd_entry_clamped (enc : Encoder) (row col sr st a1 a2 a3 r g b : Int)
    (hr : 0 ≤ r ∧ r ≤ 255) (hg : 0 ≤ g ∧ g ≤ 255) (hb : 0 ≤ b ∧ b ≤ 255) :
    rgbToYCbCr.entry enc row col sr st r g b a1 a2 a3 = (fwdY r g b, min 255 (fwdCb r g b), min 255 (fwdCr r g b)) := by
  have h := fwd_ranges r g b hr hg hb
  rw [fwd_entry_eq, (clamp_byte _).2.2, (clamp_byte _).2.2, (clamp_byte _).2.2]
  congr 1
  · omega
  · congr 1 <;> omega

/-- half a unit (32768/65536), the clamp at 255 included: Cb and Cr reach 256 only by rounding 255.5 up -/
theorem fwd_near (r g b : Int) (hr : 0 ≤ r ∧ r ≤ 255) (hg : 0 ≤ g ∧ g ≤ 255) (hb : 0 ≤ b ∧ b ≤ 255) :
    near 32768 (65536 * fwdY r g b) (19595 * r + 38470 * g + 7471 * b) ∧
    near 32768 (65536 * (min 255 (fwdCb r g b) - 128)) (-11056 * r - 21712 * g + 32768 * b) ∧
    near 32768 (65536 * (min 255 (fwdCr r g b) - 128)) (32768 * r - 27440 * g - 5328 * b) := by
  simp only [near, fwdY, fwdCb, fwdCr]; omega

/-- 80000, 70000, 95000 (units 1/65536): the half units of `fwd_near` weighted with the row of the inverse matrix
    ((65536 + 91881)/2 = 78709, (65536 + 22554 + 46802)/2 = 67446, (65536 + 116130)/2 = 90833) plus what the product of the
    two matrices lacks of 65536²·I, over 0..255 -/
theorem matrices_inverse (r g b : Int) (hr : 0 ≤ r ∧ r ≤ 255) (hg : 0 ≤ g ∧ g ≤ 255) (hb : 0 ≤ b ∧ b ≤ 255) :
    near 80000 (65536 * fwdY r g b + 91881 * (min 255 (fwdCr r g b) - 128)) (65536 * r) ∧
    near 70000 (65536 * fwdY r g b + -(22554 * (min 255 (fwdCb r g b) - 128) + 46802 * (min 255 (fwdCr r g b) - 128)))
      (65536 * g) ∧
    near 95000 (65536 * fwdY r g b + 116130 * (min 255 (fwdCb r g b) - 128)) (65536 * b) := by
  obtain ⟨hy, hcb, hcr⟩ := fwd_near r g b hr hg hb
  generalize fwdY r g b = y at *
  generalize min 255 (fwdCb r g b) = cb at *
  generalize min 255 (fwdCr r g b) = cr at *
  unfold near at *
  refine ⟨?_, ?_, ?_⟩ <;> omega

/-- one output channel `clamp(y' + f)` of the inverse conversion, `f` a rounded linear form `N'/65536` of the chroma
    samples -/
theorem channel_bound (t y' Y f N' N K dy E : Int) (ht : 0 ≤ t ∧ t ≤ 255) (hf : near 65535 (65536 * f) N')
    (hN : near E N' N) (hy : near dy y' Y) (hK : near K (65536 * Y + N) (65536 * t)) :
    near (65536 * dy + E + K + 65535) (65536 * max 0 (min 255 (y' + f))) (65536 * t) := by
  have := clamp_toward (y' + f) t ht
  unfold near at *
  omega

/-- each chroma deviation enters with its matrix entry; the constants are the defect of the two matrices
    (`matrices_inverse`) plus the floor of the inverse form -/
theorem rgb_near (r g b y' cb' cr' dy dcb dcr : Int)
    (hr : 0 ≤ r ∧ r ≤ 255) (hg : 0 ≤ g ∧ g ≤ 255) (hb : 0 ≤ b ∧ b ≤ 255)
    (h1 : near dy y' (fwdY r g b)) (h2 : near dcb cb' (min 255 (fwdCb r g b)))
    (h3 : near dcr cr' (min 255 (fwdCr r g b))) :
    near (65536 * dy + 91881 * dcr + 80000 + 65535) (65536 * (ycbcrToRGB y' cb' cr').1) (65536 * r) ∧
    near (65536 * dy + (22554 * dcb + 46802 * dcr) + 70000 + 65535) (65536 * (ycbcrToRGB y' cb' cr').2.fst) (65536 * g) ∧
    near (65536 * dy + 116130 * dcb + 95000 + 65535) (65536 * (ycbcrToRGB y' cb' cr').2.snd) (65536 * b) := by
  have hK := matrices_inverse r g b hr hg hb
  simp only [inv_eq, fun v => (clamp_byte v).2.2, (Int.sub_eq_add_neg : y' - _ = _)]
  exact ⟨channel_bound r y' _ _ (91881 * (cr' - 128)) _ _ dy _ hr
      (by unfold near; omega) (by unfold near at *; omega) h1 hK.1,
    channel_bound g y' _ _ (-(22554 * (cb' - 128) + 46802 * (cr' - 128))) _ _ dy _ hg
      (by unfold near; omega) (by unfold near at *; omega) h1 hK.2.1,
    channel_bound b y' _ _ (116130 * (cb' - 128)) _ _ dy _ hb
      (by unfold near; omega) (by unfold near at *; omega) h1 hK.2.2⟩
end Dct
