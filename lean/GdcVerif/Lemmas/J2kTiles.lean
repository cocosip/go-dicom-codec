import GdcVerif.Model.J2kTiles
import GdcVerif.Lemmas.GoBits
import GdcVerif.Lemmas.Basics
import GdcVerif.Lemmas.Radix
/-! Tile geometry (C19).  One axis is `[0, n)` cut into cells of `t`, the last one clipped to `n` (block `q` exists iff
    it starts inside, `Int.lt_ceilDiv_iff`); a tile index is a two-digit numeral (row, column); the encoder's and the
    assembler's generated tile bounds both equal the closed form `rectOf`, through which cover, containment and
    uniqueness of the encoder's rectangles are proved, one axis at a time. -/
namespace J2k
open Gen.J2kTiles

theorem isEven_eq (x : Int) : isEven x = decide (x % 2 = 0) := by
  unfold isEven; rw [Go.and_one]; by_cases h : x % 2 = 0 <;> simp [h]

/-- t2/geometry.go repeats the kernel word for word (`kernels_t2_eq` in `J2kResDims`); likewise `nextCoord` below -/
theorem isEvenT2_eq (x : Int) : Gen.J2kT2.isEven x = decide (x % 2 = 0) := isEven_eq x

theorem nextCoord_eq (x : Int) : nextCoord x = (x + 1) / 2 := by
  unfold nextCoord Go.shr
  show (x + 1) >>> (1 : Nat) = _
  rw [Int.shiftRight_eq_div_pow]; rfl

theorem nextCoordT2_eq (x : Int) : Gen.J2kT2.nextCoord x = (x + 1) / 2 := nextCoord_eq x

theorem encNumTiles_ediv {n t : Int} (hn : 0 ≤ n) (ht : 1 ≤ t) : encNumTiles n t = (n + t - 1) / t :=
  Int.tdiv_eq_ediv_of_nonneg (by omega)

theorem cell_bounds {q n t : Int} (ht : 0 < t) (hq0 : 0 ≤ q) (hq : q < (n + t - 1) / t) :
    0 ≤ q * t ∧ q * t < (if q * t + t > n then n else q * t + t) ∧ (if q * t + t > n then n else q * t + t) ≤ n := by
  have h := (Int.lt_ceilDiv_iff ht).mp hq
  have h0 : 0 ≤ q * t := Int.mul_nonneg hq0 (by omega)
  refine ⟨h0, ?_, ?_⟩ <;> split <;> omega

theorem cell_mem (x n : Int) {t : Int} (ht : 0 < t) (hx : x < n) :
    x / t * t ≤ x ∧ x < (if x / t * t + t > n then n else x / t * t + t) := by
  obtain ⟨a1, a2⟩ := (Int.ediv_eq_iff_of_pos ht).1 rfl
  exact ⟨a1, by split <;> omega⟩

theorem cell_unique {x q n t : Int} (ht : 0 < t) (h1 : q * t ≤ x)
    (h2 : x < (if q * t + t > n then n else q * t + t)) : x / t = q :=
  (Int.ediv_eq_iff_of_pos ht).2 ⟨h1, by split at h2 <;> omega⟩

def rectOf (W H TW TH idx : Int) : Int × Int × Int × Int :=
  let nx := (W + TW - 1) / TW
  let x0 := idx % nx * TW
  let y0 := idx / nx * TH
  (x0, y0, (if x0 + TW > W then W else x0 + TW), (if y0 + TH > H then H else y0 + TH))

theorem encTileBounds_eq (W H TW TH idx : Int) (hW : 1 ≤ W) (hTW : 1 ≤ TW) (hidx : 0 ≤ idx) :
    encTileBounds W H TW TH idx = rectOf W H TW TH idx := by
  unfold encTileBounds Encoder.tileBounds encNumTiles encOf rectOf
  simp only []
  rw [Int.tdiv_eq_ediv_of_nonneg (by omega : 0 ≤ W + TW - 1), Int.tdiv_eq_ediv_of_nonneg hidx, Int.tmod_eq_emod_of_nonneg hidx]
  simp only [gt_iff_lt, decide_eq_true_eq]

theorem ceilDiv_eq {a b : Int} (ha : 0 ≤ a) (hb : 1 ≤ b) : ceilDiv a b = (a + b - 1) / b := by
  unfold ceilDiv
  have h1 : ¬ b ≤ 0 := by omega
  simp only [h1, decide_false, ge_iff_le, ha, decide_true, if_true]
  simp
  exact Int.tdiv_eq_ediv_of_nonneg (by omega)

theorem GetTileBounds_rect (tl : TileLayout) (idx : Int) (h0 : 0 ≤ idx) (hlt : idx < tl.numTilesX * tl.numTilesY) :
    TileLayout.GetTileBounds tl idx =
      (max (idx % tl.numTilesX * tl.tileWidth + tl.tileOffsetX) tl.imageX0 - tl.imageX0,
       max (idx / tl.numTilesX * tl.tileHeight + tl.tileOffsetY) tl.imageY0 - tl.imageY0,
       min (idx % tl.numTilesX * tl.tileWidth + tl.tileOffsetX + tl.tileWidth) tl.imageX1 - tl.imageX0,
       min (idx / tl.numTilesX * tl.tileHeight + tl.tileOffsetY + tl.tileHeight) tl.imageY1 - tl.imageY0) := by
  have c1 : ¬ idx < 0 := by omega
  have c2 : ¬ idx ≥ tl.numTilesX * tl.numTilesY := by omega
  -- per component, so that the clipping may be written with `if` or with `min` / `max` in the Go source
  refine Prod.ext ?_ (Prod.ext ?_ (Prod.ext ?_ ?_)) <;>
    simp only [TileLayout.GetTileBounds, TileLayout.GetTileCount, c1, c2, decide_false, Bool.or_self, Bool.false_eq_true,
      if_false, Int.tdiv_eq_ediv_of_nonneg h0, Int.tmod_eq_emod_of_nonneg h0, decide_eq_true_eq] <;> omega

theorem decTileBounds_eq (W H TW TH idx : Int) (hW : 1 ≤ W) (hH : 1 ≤ H) (hTW : 1 ≤ TW) (hTH : 1 ≤ TH)
    (hidx : 0 ≤ idx) (hlt : idx < (W + TW - 1) / TW * ((H + TH - 1) / TH)) :
    decTileBounds W H TW TH idx = rectOf W H TW TH idx := by
  have hnx : 0 < (W + TW - 1) / TW := Int.ceilDiv_pos (by omega) hW
  have hx0 : 0 ≤ idx % ((W + TW - 1) / TW) * TW := Int.mul_nonneg (Int.emod_nonneg _ (by omega)) (by omega)
  have hy0 : 0 ≤ idx / ((W + TW - 1) / TW) * TH := Int.mul_nonneg (Int.ediv_nonneg hidx (by omega)) (by omega)
  have hcx : (decLayout W H TW TH).numTilesX = (W + TW - 1) / TW := by
    show ceilDiv (W - 0) TW = _; rw [Int.sub_zero, ceilDiv_eq (by omega) hTW]
  have hcy : (decLayout W H TW TH).numTilesY = (H + TH - 1) / TH := by
    show ceilDiv (H - 0) TH = _; rw [Int.sub_zero, ceilDiv_eq (by omega) hTH]
  unfold decTileBounds rectOf
  rw [GetTileBounds_rect _ idx hidx (by rw [hcx, hcy]; exact hlt), hcx]
  simp only [decLayout, Int.add_zero, Int.sub_zero]
  refine Prod.ext ?_ (Prod.ext ?_ (Prod.ext ?_ ?_)) <;> simp only [] <;> omega

theorem enc_eq_dec (W H TW TH idx : Int) (hW : 1 ≤ W) (hH : 1 ≤ H) (hTW : 1 ≤ TW) (hTH : 1 ≤ TH)
    (hidx : 0 ≤ idx) (hlt : idx < encNumTiles W TW * encNumTiles H TH) :
    encTileBounds W H TW TH idx = decTileBounds W H TW TH idx := by
  rw [encNumTiles_ediv (by omega) hTW, encNumTiles_ediv (by omega) hTH] at hlt
  rw [encTileBounds_eq W H TW TH idx hW hTW hidx, decTileBounds_eq W H TW TH idx hW hH hTW hTH hidx hlt]

/-- the tile is the one with index `⌊y/TH⌋·nx + ⌊x/TW⌋`, by `enc_unique` the only one -/
theorem enc_cover (W H TW TH x y : Int) (hTW : 1 ≤ TW) (hTH : 1 ≤ TH)
    (hx0 : 0 ≤ x) (hx : x < W) (hy0 : 0 ≤ y) (hy : y < H) :
    ∃ idx, 0 ≤ idx ∧ idx < encNumTiles W TW * encNumTiles H TH ∧ inRect (encTileBounds W H TW TH idx) x y := by
  have hcx : x / TW < (W + TW - 1) / TW := Int.div_lt_ceilDiv (by omega) hx
  have hcy : y / TH < (H + TH - 1) / TH := Int.div_lt_ceilDiv (by omega) hy
  have hqx : 0 ≤ x / TW := Int.ediv_nonneg hx0 (by omega)
  have hqy : 0 ≤ y / TH := Int.ediv_nonneg hy0 (by omega)
  have h0 : 0 ≤ y / TH * ((W + TW - 1) / TW) + x / TW := Int.add_nonneg (Int.mul_nonneg hqy (by omega)) hqx
  have hd := Radix.div_mod_int (a := y / TH) hqx hcx
  refine ⟨_, h0, ?_, ?_⟩
  · rw [encNumTiles_ediv (by omega) hTW, encNumTiles_ediv (by omega) hTH]
    exact Radix.lt_int hcy hqx hcx
  · rw [encTileBounds_eq W H TW TH _ (by omega) hTW h0]
    unfold inRect rectOf
    simp only []
    rw [hd.1, hd.2]
    obtain ⟨x1, x2⟩ := cell_mem x W (by omega : 0 < TW) hx
    obtain ⟨y1, y2⟩ := cell_mem y H (by omega : 0 < TH) hy
    exact ⟨x1, x2, y1, y2⟩

theorem enc_in_image (W H TW TH idx : Int) (hW : 1 ≤ W) (hH : 0 ≤ H) (hTW : 1 ≤ TW) (hTH : 1 ≤ TH)
    (hidx : 0 ≤ idx) (hlt : idx < encNumTiles W TW * encNumTiles H TH) :
    let r := encTileBounds W H TW TH idx
    0 ≤ r.1 ∧ r.1 < r.2.2.1 ∧ r.2.2.1 ≤ W ∧ 0 ≤ r.2.1 ∧ r.2.1 < r.2.2.2 ∧ r.2.2.2 ≤ H := by
  rw [encNumTiles_ediv (by omega) hTW, encNumTiles_ediv hH hTH] at hlt
  rw [encTileBounds_eq W H TW TH idx hW hTW hidx]
  obtain ⟨hm0, hm1, hd0, hd1⟩ := Radix.digits_int (Int.ceilDiv_pos (by omega) hW) hidx hlt
  obtain ⟨x1, x2, x3⟩ := cell_bounds (n := W) (by omega : 0 < TW) hm0 hm1
  obtain ⟨y1, y2, y3⟩ := cell_bounds (n := H) (by omega : 0 < TH) hd0 hd1
  exact ⟨x1, x2, x3, y1, y2, y3⟩

theorem enc_unique (W H TW TH x y idx : Int) (hW : 1 ≤ W) (hTW : 1 ≤ TW) (hTH : 1 ≤ TH) (hidx : 0 ≤ idx)
    (hin : inRect (encTileBounds W H TW TH idx) x y) : idx = y / TH * ((W + TW - 1) / TW) + x / TW := by
  rw [encTileBounds_eq W H TW TH idx hW hTW hidx] at hin
  obtain ⟨h1, h2, h3, h4⟩ := hin
  rw [cell_unique (by omega) h1 h2, cell_unique (by omega) h3 h4]
  exact (Int.ediv_mul_add_emod idx _).symm

end J2k
