import GdcVerif.Lemmas.J2kContainer
import GdcVerif.Spec.StrictJ2kHeader
/-!
  C16: the strict SIZ / COD / QCD readers (`Spec/StrictJ2kHeader.lean`) applied to the bytes of the
  `writeSIZ` / `writeCOD` / `writeQCD` models return exactly the parameters.
-/
namespace JpegC
open StrictJ2k Gen.C16J2kMarkers

theorem mCOD : be16 MarkerCOD.toNat = [0xFF, 0x52] := by decide
theorem mQCD : be16 MarkerQCD.toNat = [0xFF, 0x5C] := by decide

/-- parameters the SIZ fields can carry and the strict reader admits; `validateParams` (HEAD) admits a subset
    (1–4 components, depth 1–16) -/
structure J2kParams.SizOk (p : J2kParams) : Prop where
  w : 0 < p.width ∧ p.width < 4294967296
  h : 0 < p.height ∧ p.height < 4294967296
  c : 1 ≤ p.components ∧ p.components ≤ 16384
  d : 1 ≤ p.bitDepth ∧ p.bitDepth ≤ 38
  tw : 0 ≤ p.tileWidth ∧ p.tileWidth < 4294967296
  th : 0 ≤ p.tileHeight ∧ p.tileHeight < 4294967296

theorem be16_w16 (v : Nat) (h : v < 65536) : w16 (v / 256 % 256) (v % 256) = v := be16_decode v h

theorem be32_w32 (v : Nat) (h : v < 4294967296) :
    w32 (v / 16777216 % 256) (v / 65536 % 256) (v / 256 % 256) (v % 256) = v := be32_decode v h

/-- Ssiz (A.5.1): depth − 1 in bits 0–6, the sign in bit 7 -/
theorem ssiz_fields : ∀ d < 38, ∀ sg : Bool,
    (if sg then d ||| 0x80 else d) % 128 = d ∧ decide ((if sg then d ||| 0x80 else d) ≥ 128) = sg := by decide

theorem parseSizComps_replicate (s : Nat) (hs : s % 128 ≤ 37) : ∀ n : Nat,
    parseSizComps n (List.replicate n [s, 1, 1]).flatten =
      some (List.replicate n { depthM1 := s % 128, signed := decide (s ≥ 128), xr := 1, yr := 1 }) := by
  intro n
  induction n with
  | zero => rfl
  | succ k ih =>
    have : ¬ (s % 128 > 37 ∨ 1 < 1 ∨ 1 < 1) := by omega
    simp [List.replicate_succ, parseSizComps, ih]
    omega

theorem parseSiz_bytes (rsiz W H TW TH C s : Nat) (hr : rsiz < 65536) (hW : 1 ≤ W ∧ W < 4294967296)
    (hH : 1 ≤ H ∧ H < 4294967296) (hTW : 1 ≤ TW ∧ TW < 4294967296) (hTH : 1 ≤ TH ∧ TH < 4294967296)
    (hC : 1 ≤ C ∧ C ≤ 16384) (hs : s % 128 ≤ 37) :
    parseSiz ([0xFF, 0x51] ++ be16 (38 + 3 * C) ++ be16 rsiz ++ be32 W ++ be32 H ++ be32 0 ++ be32 0 ++
      be32 TW ++ be32 TH ++ be32 0 ++ be32 0 ++ be16 C ++ (List.replicate C [s, 1, 1]).flatten) = some
      { rsiz := rsiz, xsiz := W, ysiz := H, xosiz := 0, yosiz := 0, xtsiz := TW, ytsiz := TH, xtosiz := 0, ytosiz := 0,
        comps := List.replicate C { depthM1 := s % 128, signed := decide (s ≥ 128), xr := 1, yr := 1 } } := by
  have hl16 := be16_w16 (38 + 3 * C) (by omega)
  have hc16 := be16_w16 C (by omega)
  have hr16 := be16_w16 rsiz hr
  have z : w32 (0 / 16777216 % 256) (0 / 65536 % 256) (0 / 256 % 256) (0 % 256) = 0 := by decide
  simp only [be16, be32, List.cons_append, List.nil_append, parseSiz, hl16, hc16, hr16, z,
    be32_w32 W hW.2, be32_w32 H hH.2, be32_w32 TW hTW.2, be32_w32 TH hTH.2, parseSizComps_replicate s hs C]
  have c1 : ¬ (38 + 3 * C ≠ 38 + 3 * C ∨ C < 1 ∨ C > 16384) := by omega
  have c2 : ¬ (W < 1 ∨ H < 1 ∨ TW < 1 ∨ TH < 1) := by omega
  have c3 : ¬ (0 ≥ W ∨ 0 ≥ H ∨ 0 > 0 ∨ 0 > 0 ∨ 0 + TW ≤ 0 ∨ 0 + TH ≤ 0) := by omega
  simp only [if_neg c1, if_neg c2, if_neg c3, Option.map_some]

/-- the coding parameters the COD fields and the strict reader admit, with default precincts (custom precinct sizes
    are outside the C16 domain): progression 0..4, 1..65535 layers, 0..32 levels, code-block sides 2^kx × 2^ky with
    kx, ky ≥ 2 and kx + ky ≤ 12; `validateParams` (HEAD) admits a subset (0..6 levels) -/
structure J2kParams.CodOk (p : J2kParams) (kx ky : Nat) : Prop where
  prog : 0 ≤ p.prog ∧ p.prog ≤ 4
  layers : 1 ≤ p.numLayers ∧ p.numLayers ≤ 65535
  levels : 0 ≤ p.numLevels ∧ p.numLevels ≤ 32
  cbw : p.cbw = ((2 ^ kx : Nat) : Int)
  cbh : p.cbh = ((2 ^ ky : Nat) : Int)
  k : 2 ≤ kx ∧ 2 ≤ ky ∧ kx + ky ≤ 12
  prec : p.precW = 0 ∧ p.precH = 0

theorem log2_pow (k : Nat) : log2 (((2 ^ k : Nat) : Int)) = k := by
  unfold log2
  rw [Int.toNat_natCast, Nat.log2_two_pow]

theorem writeCOD_layout (p : J2kParams) (kx ky : Nat) (hp : p.CodOk kx ky) :
    writeCOD p = [0xFF, 0x52] ++ be16 12 ++ [0, p.prog.toNat] ++ be16 p.numLayers.toNat ++
      [if usesColorTransform p then 1 else 0, p.numLevels.toNat, kx - 2, ky - 2, if p.htj2k then 0x40 else 0,
       if p.lossless then 1 else 0] := by
  obtain ⟨hprog, hlay, hlev, hcw, hch, hk, hprec⟩ := hp
  have e4 : byteOf ((kx : Int) - 2) = kx - 2 := by unfold byteOf; omega
  have e5 : byteOf ((ky : Int) - 2) = ky - 2 := by unfold byteOf; omega
  have hs : ¬ (p.precW > 0 ∨ p.precH > 0) := by omega
  have ht : (if (!p.lossless) = true then (0 : Nat) else 1) = if p.lossless then 1 else 0 := by cases p.lossless <;> rfl
  simp only [writeCOD, if_neg hs, Nat.zero_ne_one, if_false, List.append_nil]
  rw [j2kSegment_eq _ _ 12 rfl (by decide), mCOD, byteOf_toNat hprog.1 (by omega), u16Of_toNat (by omega) (by omega),
    byteOf_toNat hlev.1 (by omega), hcw, hch, log2_pow, log2_pow, e4, e5, ht]
  simp only [List.append_assoc]

theorem parseCod_bytes (prog layers mct lev xcb ycb st tr : Nat) (hprog : prog ≤ 4) (hlay : 1 ≤ layers ∧ layers < 65536)
    (hmct : mct ≤ 1) (hlev : lev ≤ 32) (hcb : xcb ≤ 8 ∧ ycb ≤ 8 ∧ xcb + ycb ≤ 8) (hst : st < 128) (htr : tr ≤ 1) :
    parseCod ([0xFF, 0x52] ++ be16 12 ++ [0, prog] ++ be16 layers ++ [mct, lev, xcb, ycb, st, tr]) = some
      { scod := 0, prog := prog, layers := layers, mct := mct, levels := lev, xcb := xcb, ycb := ycb, style := st,
        transform := tr, precincts := [] } := by
  simp only [be16, List.cons_append, List.nil_append, parseCod, be16_w16 layers hlay.2]
  have c1 : ¬ (w16 (12 / 256 % 256) (12 % 256) ≠ 12 + ([] : List Nat).length) := by decide
  have c2 : ¬ (0 > 7 ∨ prog > 4 ∨ layers < 1 ∨ mct > 1 ∨ lev > 32 ∨ xcb > 8 ∨ ycb > 8 ∨ xcb + ycb > 8 ∨ tr > 1 ∨ st ≥ 128) := by
    omega
  rw [if_neg c1, if_neg (by simp), if_neg c2, if_neg (by simp)]

theorem words_be16 : ∀ (steps : List Nat), (∀ s ∈ steps, s < 65536) → words (steps.flatMap be16) = some steps
  | [], _ => rfl
  | s :: r, h => by
    have ih := words_be16 r (fun x hx => h x (by simp [hx]))
    simp only [List.flatMap_cons, be16, List.cons_append, List.nil_append, words]
    rw [ih, be16_w16 s (h s (by simp))]
    rfl

theorem parseQcd_exponents (L G : Nat) (es : List Nat) (hn : es.length = 3 * L + 1) (hL : L ≤ 32) :
    parseQcd L ([0xFF, 0x5C] ++ be16 (3 * L + 4) ++ (32 * G) :: es.map (8 * ·)) = some { style := 0, guard := G, vals := es } := by
  simp only [be16, List.cons_append, List.nil_append, parseQcd, be16_w16 (3 * L + 4) (by omega)]
  have c1 : ¬ (3 * L + 4 ≠ 3 + (es.map (8 * ·)).length) := by rw [List.length_map, hn]; omega
  have c2 : ¬ ((es.map (8 * ·)).length ≠ 3 * L + 1 ∨ (es.map (8 * ·)).any (fun x => decide (x % 8 ≠ 0)) = true) := by
    simp [hn]
  have hv : (es.map (8 * ·)).map (· / 8) = es := by
    rw [List.map_map]
    exact (List.map_congr_left fun e _ => by simp).trans (List.map_id' es)
  simp only [if_neg c1, Nat.mul_mod_right, if_true, if_neg c2, hv, Nat.mul_div_cancel_left G (by decide : 0 < 32)]

theorem parseQcd_words (L G : Nat) (ws : List Nat) (hw : ∀ s ∈ ws, s < 65536) (hn : ws.length = 3 * L + 1) (hL : L ≤ 32) :
    parseQcd L ([0xFF, 0x5C] ++ be16 (6 * L + 5) ++ (32 * G + 2) :: ws.flatMap be16) = some { style := 2, guard := G, vals := ws } := by
  have hwl : (ws.flatMap be16).length = 2 * (3 * L + 1) := by rw [List.flatMap_length_const _ 2 be16_length, hn]
  have c1 : ¬ (6 * L + 5 ≠ 3 + (ws.flatMap be16).length) := by rw [hwl]; omega
  have hst : (32 * G + 2) % 32 = 2 := by omega
  have hgd : (32 * G + 2) / 32 = G := by omega
  rw [show be16 (6 * L + 5) = [(6 * L + 5) / 256 % 256, (6 * L + 5) % 256] from rfl]
  simp only [List.cons_append, List.nil_append, parseQcd, be16_w16 (6 * L + 5) (by omega), if_neg c1, hst, hgd,
    words_be16 ws hw]
  simp [hn]

theorem writeQCD_lossless_layout (p : J2kParams) (info : QcdInfo) (hl : p.lossless = true)
    (hg : 0 ≤ info.guardBits ∧ info.guardBits ≤ 7) (he : ∀ e ∈ info.expn, 0 ≤ e ∧ e ≤ 31) (hn : info.expn.length + 3 < 65536) :
    writeQCD p info = [0xFF, 0x5C] ++ be16 (info.expn.length + 3) ++
      (32 * info.guardBits.toNat) :: (info.expn.map Int.toNat).map (8 * ·) := by
  have eg : byteOf (Go.shl info.guardBits 5) = 32 * info.guardBits.toNat := by
    unfold byteOf Go.shl; simp; omega
  have ee : info.expn.map (fun e => byteOf (Go.shl e 3)) = (info.expn.map Int.toNat).map (8 * ·) := by
    rw [List.map_map]
    apply List.map_congr_left
    intro e hm
    have := he e hm
    unfold byteOf Go.shl; simp; omega
  simp only [writeQCD, hl, if_true, eg, ee]
  rw [j2kSegment_eq _ _ (info.expn.length + 3) (by simp) hn, mQCD]

theorem sqcd_expounded : ∀ g : Nat, g ≤ 7 → byteOf (Go.or (Go.shl (g : Int) 5) (Go.and 2 0x1F)) = 32 * g + 2 := by decide

theorem writeQCD_lossy_layout (p : J2kParams) (info : QcdInfo) (hl : p.lossless = false) (hs : info.style = 2)
    (hg : 0 ≤ info.guardBits ∧ info.guardBits ≤ 7) (he : ∀ s ∈ info.steps, 0 ≤ s ∧ s < 65536)
    (hn : 2 * info.steps.length + 3 < 65536) :
    writeQCD p info = [0xFF, 0x5C] ++ be16 (2 * info.steps.length + 3) ++
      (32 * info.guardBits.toNat + 2) :: (info.steps.map Int.toNat).flatMap be16 := by
  obtain ⟨G, hG⟩ : ∃ G : Nat, info.guardBits = G := ⟨info.guardBits.toNat, by omega⟩
  have eg : byteOf (Go.or (Go.shl info.guardBits 5) (Go.and info.style 0x1F)) = 32 * info.guardBits.toNat + 2 := by
    rw [hs, hG]; exact sqcd_expounded G (by omega)
  have es : (info.steps.flatMap fun s => be16 (u16Of s)) = (info.steps.map Int.toNat).flatMap be16 := by
    rw [← List.map_congr_left fun s hs => u16Of_toNat (he s hs).1 (he s hs).2, List.flatMap_map]
  simp only [writeQCD, hl, Bool.false_eq_true, if_false, eg, es]
  rw [j2kSegment_eq _ _ (2 * info.steps.length + 3)
    (by rw [List.length_cons, List.flatMap_length_const _ 2 be16_length, List.length_map]) hn, mQCD]

theorem flatMap_len_3n1 (f : Nat → List Int) (h0 : (f 0).length = 1) (hs : ∀ r, 0 < r → (f r).length = 3) :
    ∀ n : Nat, ((List.range (n + 1)).flatMap f).length = 3 * n + 1 := by
  intro n
  induction n with
  | zero => simpa [List.range_succ] using h0
  | succ k ih =>
    rw [List.range_succ, List.flatMap_append, List.length_append, ih]
    simp [hs (k + 1) (by omega)]
    omega

theorem losslessQcdInfo_len (p : J2kParams) (L : Nat) (hL : p.numLevels = L) :
    (losslessQcdInfo p).expn.length = 3 * L + 1 := by
  simp only [losslessQcdInfo, hL]
  have : ((L : Int) + 1).toNat = L + 1 := by omega
  rw [this]
  apply flatMap_len_3n1
  · simp
  · intro r hr
    have : ¬ (r = 0) := by omega
    simp [this]

theorem losslessLog2Gain_range (res band : Int) :
    0 ≤ Gen.C16J2k.losslessLog2Gain res band ∧ Gen.C16J2k.losslessLog2Gain res band ≤ 2 := by
  unfold Gen.C16J2k.losslessLog2Gain
  split
  · omega
  · split <;> omega

/-- an exponent is `bitDepth` + a gain of at most 2 and has five bits in SPqcd: hence depth ≤ 29 -/
theorem losslessQcdInfo_expn_range (p : J2kParams) (hd : 1 ≤ p.bitDepth ∧ p.bitDepth ≤ 29) :
    ∀ e ∈ (losslessQcdInfo p).expn, 0 ≤ e ∧ e ≤ 31 := by
  intro e he
  simp only [losslessQcdInfo, List.mem_flatMap, List.mem_range] at he
  obtain ⟨r, _, hr⟩ := he
  have h0 := losslessLog2Gain_range 0 0
  have h1 := losslessLog2Gain_range r 1
  have h2 := losslessLog2Gain_range r 2
  have h3 := losslessLog2Gain_range r 3
  split at hr
  · rw [List.mem_singleton] at hr
    omega
  · simp only [List.mem_cons, List.not_mem_nil, or_false] at hr
    omega

end JpegC
