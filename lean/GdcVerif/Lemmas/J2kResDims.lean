import GdcVerif.Lemmas.J2kTiles
/-! resolutionDimsWithOrigin: closed form (`resDims_closed`), agreement with the encoder's tile-local split at aligned
    origins (`aligned_agree`); the decoder's precinct count on one axis (`decNumPrecinct_eq`; `precinct_axis`: at origin 0
    it is the count the generated encoder kernels form from `ceilDivPow2`). -/
namespace J2k
open Gen.J2kTiles

theorem kernels_t2_eq : Gen.J2kT2.splitLengths = splitLengths ∧ Gen.J2kT2.isEven = isEven ∧
    Gen.J2kT2.nextCoord = nextCoord ∧ Gen.J2kT2.ceilDivPow2 = ceilDivPow2 ∧ Gen.J2kT2.ceilDiv = ceilDiv :=
  ⟨rfl, rfl, rfl, rfl, rfl⟩

theorem resDimsT2_eq (len x0 : Int) (n : Nat) : resDimsT2 len x0 n = resDims len x0 n := by
  induction n generalizing len x0 with
  | zero => rfl
  | succ n ih => unfold resDimsT2 resDims; rw [ih]; rfl

theorem splitLengths_eq (len x0 : Int) (hl : 0 ≤ len) :
    splitLengths len (isEven x0) = (x0 + len + 1) / 2 - (x0 + 1) / 2 := by
  unfold splitLengths
  rw [isEven_eq]
  by_cases h : x0 % 2 = 0
  · simp only [h, decide_true, if_true]
    rw [Int.tdiv_eq_ediv_of_nonneg (by omega)]; omega
  · simp only [h, decide_false]
    rw [Int.tdiv_eq_ediv_of_nonneg hl]; simp; omega

theorem resDims_closed (len x0 : Int) (n : Nat) (hl : 0 ≤ len) :
    resDims len x0 n =
      ((x0 + len + 2 ^ n - 1) / 2 ^ n - (x0 + 2 ^ n - 1) / 2 ^ n, (x0 + 2 ^ n - 1) / 2 ^ n) := by
  induction n generalizing len x0 with
  | zero => unfold resDims; simp; omega
  | succ n ih =>
    unfold resDims
    have hs := splitLengths_eq len x0 hl
    have hl' : 0 ≤ splitLengths len (isEven x0) := by rw [hs]; omega
    rw [ih _ _ hl', nextCoord_eq, hs]
    have e1 : (x0 + 1) / 2 + ((x0 + len + 1) / 2 - (x0 + 1) / 2) = (x0 + len + 1) / 2 := by omega
    have hpow : (2 : Int) ^ (n + 1) = 2 * 2 ^ n := by rw [Int.pow_succ]; omega
    rw [e1, Int.ceilDiv_two_ceilDiv (x0 + len), Int.ceilDiv_two_ceilDiv x0, hpow]

theorem ceilDivPow2_eq (len : Int) (n : Nat) (hl : 0 ≤ len) :
    ceilDivPow2 len n = (len + 2 ^ n - 1) / 2 ^ n := by
  unfold ceilDivPow2 Go.shl
  have hp : (0 : Int) < 2 ^ n := Int.pow_pos (by decide)
  by_cases h : n = 0
  · subst h; simp
  · have : ¬ ((n : Int) ≤ 0) := by omega
    simp only [this, decide_false, Bool.false_eq_true, if_false, Int.toNat_natCast, Int.one_mul]
    exact Int.tdiv_eq_ediv_of_nonneg (by omega)

/-- aligned tile origin: the OLD encoder's tile-local ceil split was the canvas split (why aligned tilings worked) -/
theorem aligned_agree (len x0 : Int) (n : Nat) (hl : 0 ≤ len) (hal : x0 % 2 ^ n = 0) :
    (resDims len x0 n).1 = encLowLenOld len n := by
  unfold encLowLenOld
  rw [resDims_closed len x0 n hl, ceilDivPow2_eq len n hl]
  simp only []
  have hx : x0 = x0 / 2 ^ n * 2 ^ n := by
    have := Int.mul_ediv_add_emod x0 (2 ^ n); rw [Int.mul_comm] at this; omega
  have e1 : x0 + len + 2 ^ n - 1 = (len + 2 ^ n - 1) + x0 / 2 ^ n * 2 ^ n := by omega
  have e2 : x0 + 2 ^ n - 1 = (2 ^ n - 1) + x0 / 2 ^ n * 2 ^ n := by omega
  rw [e1, e2, Int.add_mul_ediv_right _ _ (by omega), Int.add_mul_ediv_right _ _ (by omega)]
  have : ((2 : Int) ^ n - 1) / 2 ^ n = 0 := Int.ediv_eq_zero_of_lt (by omega) (by omega)
  omega

/-- T.800 B.6 on one axis: the precincts that meet `[x0, x0 + resW)` are `⌊x0/pw⌋ … ⌈(x0 + resW)/pw⌉ - 1` -/
theorem decNumPrecinct_eq (x0 resW pw : Int) (h0 : 0 ≤ x0) (hw : 1 ≤ resW) (hpw : 1 ≤ pw) :
    decNumPrecinct x0 resW pw = (x0 + resW + pw - 1) / pw - x0 / pw := by
  unfold decNumPrecinct Gen.J2kT2.floorDiv Gen.J2kT2.ceilDiv
  have c1 : ¬ pw ≤ 0 := by omega
  have c2 : x0 + resW ≥ 0 := by omega
  simp only [c1, decide_false, Bool.false_eq_true, if_false, ge_iff_le, h0, decide_true, if_true, c2]
  rw [Int.tdiv_eq_ediv_of_nonneg h0, Int.tdiv_eq_ediv_of_nonneg (by omega : 0 ≤ x0 + resW + pw - 1), ← Int.sub_mul]
  -- the first precinct starts at or before the origin, so before the end: there is at least one
  have hlo := Int.ediv_mul_le x0 (by omega : pw ≠ 0)
  have hq : x0 / pw < (x0 + resW + pw - 1) / pw := (Int.lt_ceilDiv_iff (by omega)).mpr (by omega)
  rw [Int.tdiv_eq_ediv_of_nonneg (Int.mul_nonneg (by omega) (by omega)), Int.mul_ediv_cancel _ (by omega : pw ≠ 0),
    if_neg (by omega)]

theorem precinct_axis (len p d : Int) (n : Nat) (hn : (n : Int) = d) (hl : 1 ≤ len) (hp : 1 ≤ p) :
    ceilDivPow2 len d = (resDimsT2 len 0 n).1 ∧ 1 ≤ ceilDivPow2 len d ∧
    Int.tdiv (ceilDivPow2 len d + p - 1) p = decNumPrecinct 0 (resDimsT2 len 0 n).1 p := by
  subst hn
  have h1 := aligned_agree len 0 n (by omega) (by simp)
  unfold encLowLenOld at h1
  rw [← resDimsT2_eq] at h1
  have h2 : 1 ≤ ceilDivPow2 len n := by
    rw [ceilDivPow2_eq len n (by omega)]
    have := Int.ceilDiv_pos (Int.pow_pos (by decide) : (0 : Int) < 2 ^ n) hl; omega
  refine ⟨h1.symm, h2, ?_⟩
  rw [← h1] at h2 ⊢
  rw [decNumPrecinct_eq 0 _ _ (Int.le_refl 0) h2 hp, Int.zero_add, Int.zero_ediv, Int.sub_zero]
  exact Int.tdiv_eq_ediv_of_nonneg (by omega)

end J2k
