import GdcVerif.Model.JpegLsRun
/-!
  C08: the run length `RunModeScanner.DecodeRunLength` hands back never exceeds the number of
  samples left in the line, and its `J[RunIndex]` lookups never leave the table — theorems over
  the run-mode model `Model/JpegLsRun.lean` (tied to the real function by the `jls-runseg-dec`
  correspondence lines).  `decodeSampleRunMode` / `doRunMode` write `runLength` samples (times the
  number of components for ILV = 2) starting at the current position: the bound is what keeps those
  writes inside the pixel buffer.  `Jv`, `Jv_range`, `J?_eq` and `inc_range` (the table `J` as a total
  function, RUNindex staying in 0..31) are also what the run-mode round trips of
  `Lemmas/JpegLsRun.lean` rest on.
-/
namespace JpegLsRun

def Jv (n : Nat) : Int := Gen.JpegLsRun.J.getD n 0

theorem Jv_range : ∀ n, n < 32 → 0 ≤ Jv n ∧ Jv n ≤ 15 := by decide

theorem J?_eq (idx : Int) (h : 0 ≤ idx ∧ idx ≤ 31) : J? idx = .ok (Jv idx.toNat) := by
  have hs : idx.toNat < Gen.JpegLsRun.J.size := by
    have : Gen.JpegLsRun.J.size = 32 := rfl
    omega
  unfold J? Jv
  rw [if_neg (by omega), Array.getElem?_eq_getElem hs]
  simp [Array.getD, hs]

theorem inc_range (idx : Int) (h : 0 ≤ idx ∧ idx ≤ 31) : 0 ≤ incRunIndex idx ∧ incRunIndex idx ≤ 31 := by
  unfold incRunIndex; split <;> omega

theorem sign_cases (n : Int) : Gen.JpegLsRun.Sign n = 1 ∨ Gen.JpegLsRun.Sign n = -1 := by
  unfold Gen.JpegLsRun.Sign; split <;> simp

theorem dec_range (idx : Int) (h : 0 ≤ idx ∧ idx ≤ 31) : 0 ≤ decRunIndex idx ∧ decRunIndex idx ≤ 31 := by
  unfold decRunIndex; split <;> omega

/-- the regenerated `RunModeScanner.incRunIndex` / `DecRunIndex` of runmode.go are the model's `incRunIndex` /
    `decRunIndex` on `RunIndex` and touch nothing else -/
theorem gen_incRunIndex (r : Gen.JpegLs.RunModeScanner) :
    r.incRunIndex = { r with RunIndex := incRunIndex r.RunIndex } := by
  unfold Gen.JpegLs.RunModeScanner.incRunIndex incRunIndex
  simp only [decide_eq_true_eq]
  split <;> rfl

theorem gen_decRunIndex (r : Gen.JpegLs.RunModeScanner) :
    r.DecRunIndex = { r with RunIndex := decRunIndex r.RunIndex } := by
  unfold Gen.JpegLs.RunModeScanner.DecRunIndex decRunIndex
  simp only [decide_eq_true_eq]
  split <;> rfl

/-- the outcome of `DecodeRunLength`: no table panic, and a result within the line and the J table -/
def RunOk (remaining : Int) (x : R (Int × Int × List Bool)) : Prop :=
  x ≠ .error .panic ∧ ∀ rl i rest, x = .ok (rl, i, rest) → 0 ≤ rl ∧ rl ≤ remaining ∧ 0 ≤ i ∧ i ≤ 31

theorem RunOk.err {remaining : Int} : RunOk remaining (.error .err) := ⟨nofun, nofun⟩

theorem RunOk.ok {remaining rl i : Int} {rest : List Bool} (h : 0 ≤ rl ∧ rl ≤ remaining ∧ 0 ≤ i ∧ i ≤ 31) :
    RunOk remaining (.ok (rl, i, rest)) :=
  ⟨nofun, fun _ _ _ e => by cases e; exact h⟩

/-- the loop keeps `0 ≤ runLength ≤ remaining` and RUNindex in the table, however it is left -/
theorem decRunLoop_spec (bs : List Bool) (idx rl remaining : Int) (hidx : 0 ≤ idx ∧ idx ≤ 31)
    (hrl : 0 ≤ rl ∧ rl ≤ remaining) : RunOk remaining ((decRunLoop bs idx rl remaining).map (Sum.elim id id)) := by
  induction bs generalizing idx rl with
  | nil => exact .err
  | cons b rest ih =>
    cases b with
    | false => exact .ok ⟨hrl.1, hrl.2, hidx⟩
    | true =>
      simp only [decRunLoop, J?_eq idx hidx, bind, Except.bind]
      generalize Jv idx.toNat = j
      have hp : (0 : Int) < 2 ^ j.toNat := Int.pow_pos (by decide)
      have hir := inc_range idx hidx
      split
      · exact .ok ⟨by omega, Int.le_refl _, by split <;> omega⟩
      · exact ih _ _ (by split <;> omega) (by omega)

theorem decodeRunLength_bound (bs : List Bool) (idx remaining : Int) (h0 : 0 ≤ idx) (h31 : idx ≤ 31)
    (hrem : 0 ≤ remaining) : RunOk remaining (decodeRunLength bs idx remaining) := by
  have hs := decRunLoop_spec bs idx 0 remaining ⟨h0, h31⟩ ⟨Int.le_refl 0, hrem⟩
  unfold decodeRunLength decodeRunLengthFrom
  cases hl : decRunLoop bs idx 0 remaining with
  | error e => rw [hl] at hs; exact hs
  | ok v =>
    rw [hl] at hs
    cases v with
    | inl r => exact hs
    | inr r =>
      obtain ⟨r, i, rest⟩ := r
      have hr := hs.2 r i rest rfl
      simp only [bind, Except.bind, J?_eq i hr.2.2]
      split
      · split
        · exact .err
        · split
          · exact .err
          · exact .ok (by omega)
      · split
        · exact .err
        · exact .ok (by omega)

end JpegLsRun
