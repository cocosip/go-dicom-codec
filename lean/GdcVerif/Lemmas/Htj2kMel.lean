import GdcVerif.Lemmas.Htj2kBits
import GdcVerif.Lemmas.BitList
/-!
  MEL coder round trip.  The packer is related to the bit list the decoder will see (`unpack`), the encoder to the
  abstract code `encS` of a symbol sequence, and the decoder is run on any reader whose remaining bits (`MelReader.view`)
  start with that code.
-/
namespace Htj2k

abbrev unpack : Bool → List Byte → List Bool := unpackBy fun n x => Bits.msb x n

theorem unpack_snoc (ff : Bool) (a : List Byte) (x : Byte) :
    unpack ff (a ++ [x]) = unpack ff a ++ Bits.msb x (byteCap ff a) :=
  unpackBy_snoc _ ff a x

/-- what the decoder will see of the packer's state: the completed bytes, then the bits of the open byte, which
    sit at the bottom of `tmp` -/
def MelPacker.view (p : MelPacker) : List Bool :=
  unpack false p.buf ++ Bits.msb p.tmp (byteCap false p.buf - p.remainingBits)

structure MelPacker.Inv (p : MelPacker) : Prop where
  rem : 1 ≤ p.remainingBits ∧ p.remainingBits ≤ byteCap false p.buf
  tmp : p.tmp < 2 ^ (byteCap false p.buf - p.remainingBits)
  stuffed : Stuffed false p.buf

theorem pk_init : ({} : MelPacker).Inv := ⟨by decide, by decide, trivial⟩

theorem pk_emit (p : MelPacker) (b : Bool) (h : p.Inv) :
    (p.emitBit b).Inv ∧ (p.emitBit b).view = p.view ++ [b] := by
  have hc := byteCap_le false p.buf
  obtain ⟨⟨hr1, hr2⟩, ht, hst⟩ := id h
  generalize hn : byteCap false p.buf - p.remainingBits = n at ht
  have hx : 2 * p.tmp + b.toNat < 2 ^ (n + 1) := by have := Bool.toNat_lt b; rw [Nat.pow_succ]; omega
  have hmsb : Bits.msb (2 * p.tmp + b.toNat) (n + 1) = Bits.msb p.tmp n ++ [b] := by
    have := Bits.msb_mul_add p.tmp (show b.toNat < 2 ^ 1 from Bool.toNat_lt b) n
    rw [Nat.pow_one] at this
    rw [this]; cases b <;> rfl
  have htmp : (2 * p.tmp + b.toNat) % 256 = 2 * p.tmp + b.toNat :=
    Nat.mod_eq_of_lt (Nat.lt_of_lt_of_le hx (Nat.pow_le_pow_right (by decide : 2 > 0) (by omega : n + 1 ≤ 8)))
  by_cases hr : p.remainingBits - 1 = 0
  · have hn1 : n + 1 = byteCap false p.buf := by omega
    obtain ⟨hs, _⟩ := stuffed_close p.buf _ hst (hn1 ▸ hx)
    have e := unpack_snoc false p.buf (2 * p.tmp + b.toNat)
    rw [← hn1, hmsb] at e
    have hbuf : p.emitBit b = ⟨p.buf ++ [2 * p.tmp + b.toNat], 0, if 2 * p.tmp + b.toNat = 255 then 7 else 8⟩ := by
      simp [MelPacker.emitBit, htmp, hr]
    rw [hbuf]
    have hcap := byteCap_snoc false p.buf (2 * p.tmp + b.toNat)
    refine ⟨⟨?_, ?_, hs⟩, ?_⟩
    · dsimp only
      rw [hcap]; split <;> omega
    · exact Nat.two_pow_pos _
    · rw [MelPacker.view, MelPacker.view]
      dsimp only
      rw [hcap, Nat.sub_self, e, hn]
      simp [Bits.msb]
  · have hbuf : p.emitBit b = ⟨p.buf, 2 * p.tmp + b.toNat, p.remainingBits - 1⟩ := by
      simp [MelPacker.emitBit, htmp, hr]
    rw [hbuf]
    have hn' : byteCap false p.buf - (p.remainingBits - 1) = n + 1 := by omega
    refine ⟨⟨?_, ?_, hst⟩, ?_⟩
    · dsimp only; omega
    · dsimp only; rw [hn']; exact hx
    · rw [MelPacker.view, MelPacker.view]
      dsimp only
      rw [hn', hmsb, hn, List.append_assoc]

theorem emitBits_cons (p : MelPacker) (b : Bool) (bs : List Bool) :
    p.emitBits (b :: bs) = (p.emitBit b).emitBits bs := rfl

theorem emitBits_append (p : MelPacker) (a b : List Bool) :
    p.emitBits (a ++ b) = (p.emitBits a).emitBits b := by
  simp [MelPacker.emitBits, List.foldl_append]

theorem pk_emits (bs : List Bool) : ∀ (p : MelPacker), p.Inv →
    (p.emitBits bs).Inv ∧ (p.emitBits bs).view = p.view ++ bs := by
  induction bs with
  | nil => intro p h; exact ⟨h, (List.append_nil _).symm⟩
  | cons b bs ih =>
    intro p h
    obtain ⟨h1, e1⟩ := pk_emit p b h
    obtain ⟨h2, e2⟩ := ih (p.emitBit b) h1
    exact ⟨h2, by rw [emitBits_cons, e2, e1, List.append_assoc]; rfl⟩

theorem pk_flush (p : MelPacker) (h : p.Inv) :
    (∃ z, unpack false p.flushBytes = p.view ++ List.replicate z false) ∧ Stuffed false p.flushBytes := by
  have hc := byteCap_le false p.buf
  obtain ⟨⟨hr1, hr2⟩, ht, hst⟩ := id h
  unfold MelPacker.flushBytes MelPacker.view
  generalize hn : byteCap false p.buf - p.remainingBits = n at ht ⊢
  by_cases h8 : p.remainingBits = 8
  · obtain rfl : n = 0 := by omega
    simp only [h8, ne_eq, not_true_eq_false, if_false]
    exact ⟨⟨0, by simp [Bits.msb]⟩, hst⟩
  · -- the open bits are shifted to the top of the byte: `remainingBits` zeros below them
    have hcap : n + p.remainingBits = byteCap false p.buf := by omega
    have hlt : p.tmp * 2 ^ p.remainingBits < 2 ^ byteCap false p.buf := by
      rw [← hcap, Nat.pow_add]; exact Nat.mul_lt_mul_of_pos_right ht (Nat.two_pow_pos _)
    obtain ⟨hs, h256⟩ := stuffed_close p.buf _ hst hlt
    have hsh := Bits.msb_mul_add p.tmp (Nat.two_pow_pos p.remainingBits) n
    rw [Nat.add_zero, Nat.mul_comm, Bits.msb_zero, hcap] at hsh
    simp only [h8, ne_eq, not_false_eq_true, if_true, Nat.mod_eq_of_lt h256]
    exact ⟨⟨p.remainingBits, by rw [unpack_snoc, hsh, List.append_assoc]⟩, hs⟩

/-- the code bits `EncodeBit*; Flush` emits from state `(run, k)` -/
def encS : Nat → Fin 13 → List Bool → List Bool
  | run, k, [] => if run > 0 then false :: Bits.msb run (melE k) else []
  | run, k, false :: ss => if run + 1 ≥ 2 ^ melE k then true :: encS 0 (kInc k) ss else encS (run + 1) k ss
  | run, k, true :: ss => false :: (Bits.msb run (melE k) ++ encS 0 (kDec k) ss)

theorem emitRunBits_eq (pk : MelPacker) (run t : Nat) : emitRunBits pk run t = pk.emitBits (Bits.msb run t) := by
  induction t generalizing pk with
  | zero => rfl
  | succ t ih => rw [emitRunBits, ih, Bits.msb, emitBits_cons, Nat.testBit_eq_decide_div_mod_eq]

theorem encodeAll_cons (m : MelEnc) (b : Bool) (bs : List Bool) :
    m.encodeAll (b :: bs) = (m.encodeBit b).encodeAll bs := rfl

theorem enc_refines (ss : List Bool) : ∀ (m : MelEnc), m.threshold = 2 ^ melE m.k →
    (m.encodeAll ss).flush = (m.pk.emitBits (encS m.run m.k ss)).flushBytes := by
  induction ss with
  | nil =>
    intro m _
    simp only [MelEnc.encodeAll, List.foldl_nil, MelEnc.flush, encS]
    by_cases hr : m.run > 0
    · simp only [hr, if_true, MelEnc.encodeBit, emitRunBits_eq, emitBits_cons]
      simp
    · simp [hr, MelPacker.emitBits]
  | cons s ss ih =>
    intro m hm
    rw [encodeAll_cons]
    cases s with
    | false =>
      by_cases hge : m.run + 1 ≥ 2 ^ melE m.k
      · have he : m.encodeBit false = { pk := m.pk.emitBit true, run := 0, k := kInc m.k, threshold := 2 ^ melE (kInc m.k) } := by
          simp [MelEnc.encodeBit, hm, hge]
        rw [he, ih _ rfl]
        simp only [encS, hge, if_true, emitBits_cons]
      · have he : m.encodeBit false = { m with run := m.run + 1 } := by
          simp [MelEnc.encodeBit, hm, hge]
        rw [he, ih ⟨m.pk, m.run + 1, m.k, m.threshold⟩ hm]
        simp only [encS, hge, if_false]
    | true =>
      have he : m.encodeBit true = { pk := (m.pk.emitBit false).emitBits (Bits.msb m.run (melE m.k)), run := 0, k := kDec m.k, threshold := 2 ^ melE (kDec m.k) } := by
        simp [MelEnc.encodeBit, emitRunBits_eq]
      rw [he, ih _ rfl]
      simp only [encS, emitBits_cons, emitBits_append]

/-- the `n` leading bits of the 8-bit register `v`, as `bit := (buf >> 7) & 1; buf <<= 1` delivers them -/
def topBits : Nat → Nat → List Bool
  | 0, _ => []
  | n + 1, v => decide (v / 128 % 2 = 1) :: topBits n (v * 2 % 256)

theorem msb_shl (v : Nat) : Bits.msb (v * 2 % 256) 8 = Bits.msb v 7 ++ [false] := by
  rw [show 256 = 2 ^ 8 from rfl, Bits.msb_mod _ (Nat.le_refl 8), Nat.mul_comm]
  exact Bits.msb_mul_add (n := 1) v (by decide : 0 < 2 ^ 1) 7

theorem topBits_eq : ∀ (n v : Nat), n ≤ 8 → topBits n v = (Bits.msb v 8).take n
  | 0, _, _ => rfl
  | n + 1, v, hn => by
    rw [topBits, topBits_eq n _ (by omega), msb_shl, Bits.msb_succ v 7,
      List.take_succ_cons, List.take_append_of_le_length (by simp; omega), Nat.testBit_eq_decide_div_mod_eq]

/-- the two loads of `MELDecoder.readBit`: the byte `x`, or `(x & 0x7F) << 1` after a 0xFF byte -/
theorem topBits_8 (x : Nat) : topBits 8 x = Bits.msb x 8 :=
  (topBits_eq 8 x (Nat.le_refl 8)).trans (List.take_of_length_le (by simp))

theorem topBits_7 (x : Nat) : topBits 7 (x % 128 * 2 % 256) = Bits.msb x 7 := by
  rw [topBits_eq 7 _ (by decide), msb_shl, List.take_left' (Bits.length_msb _ 7), show 128 = 2 ^ 7 from rfl,
    Bits.msb_mod x (Nat.le_refl 7)]

/-- the bits a `MelReader` will still deliver -/
def MelReader.view (r : MelReader) : List Bool := topBits r.bits r.buf ++ unpack (decide (r.lastByte = 255)) r.rest

theorem view_readBit (r : MelReader) :
    r.view = match r.readBit with
      | none => []
      | some (b, r') => b :: r'.view := by
  unfold MelReader.readBit
  by_cases hb : r.bits = 0
  · cases hr : r.rest with
    | nil => simp [MelReader.view, hb, hr, topBits, unpackBy]
    | cons x xs => by_cases hff : r.lastByte = 255 <;> simp [MelReader.view, hb, hr, hff, topBits, unpackBy, ← topBits_7, ← topBits_8]
  · obtain ⟨n, hn⟩ : ∃ n, r.bits = n + 1 := ⟨r.bits - 1, by omega⟩
    simp [MelReader.view, hn, topBits]

theorem readBit_of_view (r : MelReader) (b : Bool) (t : List Bool) (h : r.view = b :: t) :
    ∃ r', r.readBit = some (b, r') ∧ r'.view = t := by
  rw [view_readBit] at h
  cases hr : r.readBit with
  | none => rw [hr] at h; cases h
  | some p =>
    rw [hr] at h
    injection h with hb ht
    exact ⟨p.2, by rw [← hb], ht⟩

theorem readRunBits_view (l : List Bool) : ∀ (rd : MelReader) (acc : Nat) (s : List Bool), rd.view = l ++ s →
    ∃ rd', readRunBits rd l.length acc = some (acc * 2 ^ l.length + Bits.val l, rd') ∧ rd'.view = s := by
  induction l with
  | nil => intro rd acc s h; exact ⟨rd, by simp [readRunBits, Bits.val], h⟩
  | cons b l ih =>
    intro rd acc s h
    obtain ⟨rd1, h1, hv1⟩ := readBit_of_view rd _ _ h
    obtain ⟨rd2, h2, hv2⟩ := ih rd1 (2 * acc + b.toNat) s hv1
    refine ⟨rd2, ?_, hv2⟩
    rw [List.length_cons, readRunBits, h1]
    show readRunBits rd1 l.length _ = _
    rw [h2, Bits.val, Nat.pow_succ, Nat.add_mul, Nat.add_assoc, Nat.mul_comm 2 acc, Nat.mul_assoc, Nat.mul_comm 2]

theorem decodeN_succ (n : Nat) (m : MelDec) : m.decodeN (n + 1) =
    match m.decodeBit with
    | none => ([], false)
    | some (b, m') => (b :: (m'.decodeN n).1, (m'.decodeN n).2) := rfl

theorem decodeN_congr (a b : MelDec) (N : Nat) (hN : 0 < N) (h : a.decodeBit = b.decodeBit) :
    a.decodeN N = b.decodeN N := by
  obtain ⟨n, rfl⟩ : ∃ n, N = n + 1 := ⟨N - 1, by omega⟩
  rw [decodeN_succ, decodeN_succ, h]

theorem decodeN_pendingZeros (z : Nat) : ∀ (rd : MelReader) (k : Fin 13) (po : Bool) (N n : Nat), N = z + n →
    MelDec.decodeN N ⟨rd, k, z, po⟩ =
      (List.replicate z false ++ (MelDec.decodeN n ⟨rd, k, 0, po⟩).1, (MelDec.decodeN n ⟨rd, k, 0, po⟩).2) := by
  induction z with
  | zero => intro rd k po N n h; simp [h]
  | succ z ih =>
    intro rd k po N n h
    have hd : (MelDec.mk rd k (z + 1) po).decodeBit = some (false, ⟨rd, k, z, po⟩) := by
      simp [MelDec.decodeBit, MelDec.pending]
    rw [h, show z + 1 + n = (z + n) + 1 by omega, decodeN_succ, hd]
    simp only [ih rd k po (z + n) n rfl, List.replicate_succ, List.cons_append]

theorem decodeN_pendingOne (rd : MelReader) (k : Fin 13) (n : Nat) :
    MelDec.decodeN (n + 1) ⟨rd, k, 0, true⟩ =
      (true :: (MelDec.decodeN n ⟨rd, k, 0, false⟩).1, (MelDec.decodeN n ⟨rd, k, 0, false⟩).2) := by
  have hd : (MelDec.mk rd k 0 true).decodeBit = some (true, ⟨rd, k, 0, false⟩) := by
    simp [MelDec.decodeBit, MelDec.pending]
  rw [decodeN_succ, hd]

theorem step_lead1 (rd : MelReader) (k : Fin 13) (t : List Bool) (h : rd.view = true :: t) :
    ∃ rd', rd'.view = t ∧
      (MelDec.mk rd k 0 false).decodeBit = (MelDec.mk rd' (kInc k) (2 ^ melE k) false).decodeBit := by
  obtain ⟨rd', h1, hv⟩ := readBit_of_view rd _ _ h
  have hpos : 2 ^ melE k > 0 := Nat.two_pow_pos _
  exact ⟨rd', hv, by simp [MelDec.decodeBit, MelDec.pending, h1, hpos]⟩

theorem step_lead0 (rd : MelReader) (k : Fin 13) (r : Nat) (s : List Bool) (hr : r < 2 ^ melE k)
    (h : rd.view = false :: (Bits.msb r (melE k) ++ s)) :
    ∃ rd', rd'.view = s ∧ (MelDec.mk rd k 0 false).decodeBit = (MelDec.mk rd' (kDec k) r true).decodeBit := by
  obtain ⟨rd1, h1, hv1⟩ := readBit_of_view rd _ _ h
  obtain ⟨rd2, h2, hv2⟩ := readRunBits_view _ rd1 0 s hv1
  rw [Bits.length_msb, Nat.zero_mul, Nat.zero_add, Bits.val_msb, Nat.mod_eq_of_lt hr] at h2
  refine ⟨rd2, hv2, ?_⟩
  by_cases hz : r > 0
  · simp [MelDec.decodeBit, MelDec.pending, h1, h2, hz]
  · simp [MelDec.decodeBit, MelDec.pending, h1, h2, hz]

theorem decodeN_encS (bs : List Bool) : ∀ (run : Nat) (k : Fin 13) (rd : MelReader) (s : List Bool),
    run < 2 ^ melE k → rd.view = encS run k bs ++ s →
    MelDec.decodeN (run + bs.length) ⟨rd, k, 0, false⟩ = (List.replicate run false ++ bs, true) := by
  induction bs with
  | nil =>
    intro run k rd s hr hv
    by_cases hz : run > 0
    · -- the flush wrote the open run as a 0 and its length; the decoder never asks for the final 1
      simp only [encS, hz, if_true, List.cons_append] at hv
      obtain ⟨rd', _, hd⟩ := step_lead0 rd k run s hr hv
      rw [decodeN_congr _ _ _ (by simpa using hz) hd, decodeN_pendingZeros run rd' (kDec k) true _ 0 (by simp)]
      simp [MelDec.decodeN]
    · have : run = 0 := by omega
      subst this
      simp [MelDec.decodeN]
  | cons b bs ih =>
    intro run k rd s hr hv
    cases b with
    | false =>
      by_cases hge : run + 1 ≥ 2 ^ melE k
      · have hrun : 2 ^ melE k = run + 1 := by omega
        simp only [encS, hge, if_true, List.cons_append] at hv
        obtain ⟨rd', hv', hd⟩ := step_lead1 rd k _ hv
        have hi := ih 0 (kInc k) rd' s (Nat.two_pow_pos _) hv'
        rw [Nat.zero_add] at hi
        rw [decodeN_congr _ _ _ (by simp; omega) hd, hrun,
          decodeN_pendingZeros (run + 1) rd' (kInc k) false _ bs.length (by simp; omega), hi]
        simp [List.replicate_succ']
      · simp only [encS, hge, if_false] at hv
        have hi := ih (run + 1) k rd s (by omega) hv
        rw [List.length_cons, show run + (bs.length + 1) = run + 1 + bs.length by omega, hi, List.replicate_succ', List.append_assoc]
        rfl
    | true =>
      simp only [encS, List.cons_append, List.append_assoc] at hv
      obtain ⟨rd', hv', hd⟩ := step_lead0 rd k run _ hr hv
      have hi := ih 0 (kDec k) rd' s (Nat.two_pow_pos _) hv'
      rw [Nat.zero_add] at hi
      rw [decodeN_congr _ _ _ (by simp; omega) hd, decodeN_pendingZeros run rd' (kDec k) true _ (bs.length + 1) (by simp),
        decodeN_pendingOne, hi]
      simp

theorem melEncode_bits (bits : List Bool) :
    (∃ z, unpack false (melEncode bits) = encS 0 0 bits ++ List.replicate z false) ∧ Stuffed false (melEncode bits) := by
  unfold melEncode
  rw [enc_refines bits ({} : MelEnc) (by decide)]
  obtain ⟨h1, e1⟩ := pk_emits (encS 0 0 bits) {} pk_init
  obtain ⟨⟨z, ez⟩, hs⟩ := pk_flush _ h1
  exact ⟨⟨z, by rw [ez, e1]; rfl⟩, hs⟩

end Htj2k
