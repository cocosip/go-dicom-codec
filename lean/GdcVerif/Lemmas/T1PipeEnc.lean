import GdcVerif.Lemmas.T1LockStyles
import GdcVerif.Model.T1Pipe
/-!
  C20 / pipeline configuration, encoder side: `Encode` with `SetNMSEDecFractionalBits(fb)` on the block scaled by
  `2^fb` emits the bytes of the plain `Encode` on the block itself (styles without LAZY, TERMALL, PTERM, RESET).
-/
namespace T1
open Gen

theorem magBit_scale (v : Int) (fb bp : Nat) : magBit (v * ((2 ^ fb : Nat) : Int)) (bp + fb) = magBit v bp := by
  unfold magBit
  rw [Int.natAbs_mul, Int.natAbs_natCast, Nat.shiftRight_eq_div_pow, Nat.shiftRight_eq_div_pow, Nat.pow_add,
    Nat.mul_div_mul_right _ _ (Nat.pow_pos (by omega))]

theorem neg_scale (v : Int) (fb : Nat) : (v * ((2 ^ fb : Nat) : Int) < 0) ↔ v < 0 :=
  have hp : (0 : Int) < ((2 ^ fb : Nat) : Int) := Int.natCast_pos.mpr (Nat.pow_pos (by omega))
  ⟨fun h => Int.neg_of_mul_neg_left h hp, fun h => Int.mul_neg_of_neg_of_pos h hp⟩

/-! The encoder reads a coefficient only through its magnitude bit at the coded plane and its sign; scaling by `2^fb`
moves the one `fb` planes up and keeps the other. -/

theorem encSign_scale (fb w : Nat) (V : Array Int) (st : EncSt) (f x y idx : Nat) :
    encSign w (V.map (fun v => v * ((2 ^ fb : Nat) : Int))) st f x y idx = encSign w V st f x y idx := by
  unfold encSign
  simp only [Array.getElem?_map, Option.bind_eq_bind, Option.bind_map, Function.comp_def, neg_scale]

theorem encCleanSample_scale (fb w orient bp : Nat) (V : Array Int) (st : EncSt) (x y : Nat) (p : Bool) :
    encCleanSample w orient (bp + fb) (V.map (fun v => v * ((2 ^ fb : Nat) : Int))) st x y p =
      encCleanSample w orient bp V st x y p := by
  unfold encCleanSample
  simp only [Array.getElem?_map, Option.bind_eq_bind, Option.bind_map, Function.comp_def, magBit_scale, encSign_scale]

theorem passE_scale (fb w h orient bp pt : Nat) (V : Array Int) (st : EncSt) :
    passE w h orient (V.map (fun v => v * ((2 ^ fb : Nat) : Int))) (bp + fb) pt st = passE w h orient V bp pt st := by
  unfold passE encSigProp encMagRef encCleanup rlScan
  simp only [Array.getElem?_map, Option.bind_eq_bind, Option.bind_map, Function.comp_def, magBit_scale, encSign_scale,
    encCleanSample_scale]

theorem getD_map0 (c : List Int) (g : Int → Int) (hg : g 0 = 0) (k : Nat) : (c.map g).getD k 0 = g (c.getD k 0) := by
  rw [List.getD_eq_getElem?_getD, List.getD_eq_getElem?_getD, List.getElem?_map]
  cases c[k]? with
  | none => exact hg.symm
  | some v => rfl

theorem padBlock_map (w h : Nat) (c : List Int) (g : Int → Int) (hg : g 0 = 0) :
    padBlock w h (c.map g) = (padBlock w h c).map g := by
  obtain ⟨s1, v1, z1⟩ := padBlock_spec w h (c.map g)
  obtain ⟨s2, v2, z2⟩ := padBlock_spec w h c
  apply Array.ext (by rw [s1, Array.size_map, s2])
  intro j h1 h2
  rw [← gi_get _ j h1, Array.getElem_map, ← gi_get _ j (by rw [s2, ← s1]; exact h1)]
  by_cases hj : ∀ x y, x < w → y < h → j ≠ idxOf w x y
  · rw [z1 j hj, z2 j hj, hg]
  · simp only [Classical.not_forall, Classical.not_not] at hj
    obtain ⟨x, y, hx, hy, rfl⟩ := hj
    rw [v1 x y hx hy, v2 x y hx hy, getD_map0 c g hg]

theorem foldmax_scale (S : Nat) : ∀ (l : List Int) (a : Nat),
    l.foldl (fun m v => max m (v * (S : Int)).natAbs) (a * S) = (l.foldl (fun m v => max m v.natAbs) a) * S := by
  intro l
  induction l with
  | nil => intro a; rfl
  | cons v l ih =>
    intro a
    rw [List.foldl_cons, List.foldl_cons, Int.natAbs_mul, Int.natAbs_natCast, Nat.mul_max_mul_right, ih]

theorem log2_scale (m fb : Nat) (hm : m ≠ 0) : Nat.log2 (m * 2 ^ fb) = Nat.log2 m + fb := by
  have hp : 0 < 2 ^ fb := Nat.pow_pos (by omega)
  rw [Nat.log2_eq_iff (Nat.mul_ne_zero hm (by omega)), Nat.pow_add, show Nat.log2 m + fb + 1 = Nat.log2 m + 1 + fb by omega,
    Nat.pow_add]
  exact ⟨Nat.mul_le_mul_right _ (Nat.log2_self_le hm), Nat.mul_lt_mul_of_pos_right Nat.lt_log2_self hp⟩

theorem findMax_scale (fb : Nat) (V : Array Int) :
    findMaxBitplane (V.map (fun v => v * ((2 ^ fb : Nat) : Int))) = (findMaxBitplane V).map (· + fb) := by
  unfold findMaxBitplane
  simp only []
  rw [← Array.foldl_toList, ← Array.foldl_toList, Array.toList_map, List.foldl_map]
  have := foldmax_scale (2 ^ fb) V.toList 0
  rw [Nat.zero_mul] at this
  rw [this]
  by_cases h0 : List.foldl (fun m v => max m v.natAbs) 0 V.toList = 0
  · rw [h0, Nat.zero_mul]; rfl
  · rw [if_neg h0, if_neg (Nat.mul_ne_zero h0 (by have := Nat.pow_pos (n := fb) (show 0 < 2 by omega); omega))]
    simp only [Option.map_some]
    rw [log2_scale _ fb h0]

theorem encLoopF_exit (fb w h orient style : Nat) (data : Array Int) (mb np fuel : Nat) (st : EncSt) (bp : Int) (pi pt : Nat) (t : Bool)
    (hx : bp < (fb : Int) ∨ np ≤ pi) : encLoopF fb w h orient style data mb np fuel st bp pi pt t = some (st, t) := by
  cases fuel with
  | zero => rfl
  | succ f => unfold encLoopF; rw [if_neg (by omega)]

/-- what `Encode` does with the result of its loop -/
def endE : Option (EncSt × Bool) → Outcome (List Nat)
  | none => .panic
  | some (st, prevTerminated) =>
    if prevTerminated then .ok (Mqc.getBuffer st.mq)
    else match Mqc.flush st.mq with
      | some (_, bytes) => .ok bytes
      | none => .panic

/-- `endE` sees only where a run ends, so two runs are compared behind a common start -/
theorem endE_bind {α : Type} (x : Option α) (f g : α → Option (EncSt × Bool)) (h : ∀ a, endE (f a) = endE (g a)) :
    endE (x.bind f) = endE (x.bind g) := by
  cases x with
  | none => rfl
  | some a => exact h a

theorem encLoopF_eq (fb w h orient style : Nat) (V : Array Int) (mb np : Nat) (hfb : 1 ≤ fb)
    (hT : Go.and (style : Int) J2kT1.CblkStyleTermAll = 0) (hL : Go.and (style : Int) J2kT1.CblkStyleLazy = 0)
    (hP : styPterm style = false) (hR : styReset style = false) :
    ∀ (fuel : Nat) (es : EncSt) (n pi pt : Nat), pt ≤ 2 →
      endE (encLoopF fb w h orient style (V.map (fun v => v * ((2 ^ fb : Nat) : Int))) (mb + fb) np fuel es
          ((n + fb : Nat) : Int) pi pt false) =
        endE (encLoopF 0 w h orient style V mb np fuel es (n : Int) pi pt false) := by
  have hre : ∀ (x : EncSt), resetE style x = some x := by
    intro x; unfold resetE; rw [if_neg (by rw [hR]; simp)]
  intro fuel
  induction fuel with
  | zero => intro es n pi pt _; rfl
  | succ f ih =>
    intro es n pi pt hpt
    by_cases hc : pi < np
    · rw [encLoopF_stepG fb w h orient style _ (mb + fb) np f es (n + fb) pi pt false hpt hc (by omega),
        encLoopF_stepG 0 w h orient style V mb np f es n pi pt false hpt hc (Nat.zero_le _), passE_scale fb w h orient n pt V,
        nontermS _ _ _ _ hT hL (show ¬(((pt : Nat) : Int) = 2 ∧ (((n + fb : Nat) : Nat) : Int) = 0) by omega)]
      refine endE_bind _ _ _ fun st => endE_bind _ _ _ fun st1 => ?_
      simp only [termE, Bool.false_eq_true, if_false, hre, Option.bind_some]
      -- the cleanup pass of plane 0 is where the loops differ: the plain loop terminates it (`FlushToOutput`) and
      -- returns `prevTerminated`; the `fb` loop stands at plane `fb ≥ 1`, does not terminate, leaves below its floor,
      -- and the flush comes from `endE`
      by_cases hfin : pt = 2 ∧ n = 0
      · obtain ⟨rfl, rfl⟩ := hfin
        rw [show J2kT1.isTerminatingPass ((0 : Nat) : Int) (mb : Int) ((2 : Nat) : Int) (style : Int) = true from
          terminating_last _ _, encLoopF_exit _ _ _ _ _ _ _ _ _ _ _ _ _ _ (Or.inl (by omega))]
        simp only [if_true, hP, Bool.false_eq_true, if_false]
        cases hfl : Mqc.flushToOutput st1.mq with
        | none => unfold endE Mqc.flush; simp only [hfl, Option.map_none, Option.bind_none, Bool.false_eq_true, if_false]
        | some m =>
          simp only [Option.map_some, Option.bind_some]
          rw [encLoopF_exit _ _ _ _ _ _ _ _ _ _ _ _ _ _ (Or.inl (by omega))]
          unfold endE Mqc.flush; simp only [hfl, Option.map_some, Bool.false_eq_true, if_false, if_true]
      · rw [nontermS _ _ _ _ hT hL (show ¬(((pt : Nat) : Int) = 2 ∧ ((n : Nat) : Int) = 0) by omega)]
        simp only [Bool.false_eq_true, if_false, Option.bind_some]
        by_cases hp2 : pt = 2
        · rw [if_pos hp2, if_pos hp2, show (((n + fb : Nat) : Int) - 1) = (((n - 1) + fb : Nat) : Int) by omega,
            show ((n : Int) - 1) = ((n - 1 : Nat) : Int) by omega]
          exact ih st1 (n - 1) (pi + 1) 0 (by omega)
        · rw [if_neg hp2, if_neg hp2]
          exact ih st1 n (pi + 1) (pt + 1) (by omega)
    · rw [encLoopF_exit _ _ _ _ _ _ _ _ _ _ _ _ _ _ (Or.inr (by omega)), encLoopF_exit _ _ _ _ _ _ _ _ _ _ _ _ _ _ (Or.inr (by omega))]

/-- **pipeline configuration, encoder**: `Encode` with `SetNMSEDecFractionalBits(fb)` (`fb ≥ 1`) on the block scaled by
`2^fb` emits exactly the bytes of the plain `Encode` on the block, for every pass count (styles without LAZY,
TERMALL, PTERM, RESET) -/
theorem encodeBlockF_scale (fb w h orient style : Nat) (coeffs : List Int) (np : Nat) (hfb : 1 ≤ fb)
    (hT : Go.and (style : Int) J2kT1.CblkStyleTermAll = 0) (hL : Go.and (style : Int) J2kT1.CblkStyleLazy = 0)
    (hP : styPterm style = false) (hR : styReset style = false) :
    encodeBlockF fb w h orient style (coeffs.map (fun c => c * ((2 ^ fb : Nat) : Int))) np =
      encodeBlock w h orient style coeffs np := by
  unfold encodeBlockF encodeBlock
  rw [List.length_map]
  by_cases hl : coeffs.length ≠ w * h
  · rw [if_pos hl, if_pos hl]
  · rw [if_neg hl, if_neg hl]
    simp only []
    rw [padBlock_map w h coeffs _ (by simp), findMax_scale]
    cases findMaxBitplane (padBlock w h coeffs) with
    | none =>
      -- on the closed term `rfl` would run the flush of a fresh coder
      generalize Mqc.flush (Mqc.Enc.new NUMCONTEXTS) = o
      rfl
    | some mb =>
      simp only [Option.map_some]
      rw [if_neg (by omega)]
      cases initCtx (Mqc.Enc.new NUMCONTEXTS) with
      | none => rfl
      | some mq =>
        exact (encLoopF_eq fb w h orient style (padBlock w h coeffs) mb np hfb hT hL hP hR
          (np + 1) { flags := Array.replicate ((w + 2) * (h + 2)) 0, mq := mq } mb 0 2 (by omega)).trans
          (congrArg endE (encLoop_eqF _ _ _ _ _ _ _ _ _ _ _ _ _)).symm

end T1
