import GdcVerif.Model.JpegLossless
import GdcVerif.Lemmas.BitList
/-!
  Layer L4: bit-I/O round trip of the JPEG Huffman bit writer / reader model
  (`GdcVerif/Model/JpegLossless.lean`, sections 4, 5, 7).  The two ends of the byte channel:
  `Packs out bits` (what a writer has produced), `Reads d bs` (what a reader has before it),
  `Packs.reads` between them.
-/
namespace JLL

theorem bitsOf_eq : @bitsOf = @Bits.msb := by
  funext v n; induction n with
  | zero => rfl
  | succ n ih => rw [bitsOf, ih]; rfl

theorem ofBits_eq : @ofBits = @Bits.val := by
  funext l; induction l with
  | nil => rfl
  | cons b r ih => rw [ofBits, ih]; cases b <;> rfl

theorem bitsOf_length (v n : Nat) : (bitsOf v n).length = n := bitsOf_eq ▸ Bits.length_msb v n

theorem bitsOf_append (v m n : Nat) : bitsOf v (m + n) = bitsOf (v >>> n) m ++ bitsOf v n :=
  bitsOf_eq ▸ Bits.msb_add v m n

theorem ofBits_bitsOf (v n : Nat) : ofBits (bitsOf v n) = v % 2 ^ n := by
  rw [bitsOf_eq, ofBits_eq]; exact Bits.val_msb v n

theorem ofBits_lt (l : List Bool) : ofBits l < 2 ^ l.length := ofBits_eq ▸ Bits.val_lt l

theorem bitsOf_ofBits (l : List Bool) : bitsOf (ofBits l) l.length = l := by
  rw [bitsOf_eq, ofBits_eq]; exact Bits.msb_val l

theorem foldl_bits (l : List Bool) (a : Nat) :
    l.foldl (fun acc b => acc * 2 + (if b then 1 else 0)) a = a * 2 ^ l.length + ofBits l := by
  simp only [ofBits_eq, Bits.ite_eq_toNat, Nat.mul_comm _ 2, Bits.foldl_val]

theorem u32_testBit (x i : Nat) : (u32 x).testBit i = (decide (i < 32) && x.testBit i) := by
  have : u32 x = x % 2 ^ 32 := rfl
  rw [this, Nat.testBit_mod_two_pow]

theorem mask32_eq (n : Nat) (hn : n ≤ 31) : mask32 n = 2 ^ n - 1 := by
  unfold mask32 u32
  rw [Nat.one_shiftLeft]
  have h1 : 2 ^ n < 2 ^ 32 := Nat.pow_lt_pow_right (by omega) (by omega)
  have h2 : 0 < 2 ^ n := Nat.two_pow_pos n
  have h3 : (2:Nat) ^ 32 = 4294967296 := by decide
  omega

theorem unstuff_cons_ne {b : Nat} (h : b ≠ 0xFF) (l : List Nat) :
    unstuff (b :: l) = b :: unstuff l := by
  rw [unstuff.eq_def]; simp [h]

theorem unstuff_ff_cons (x : Nat) (l : List Nat) :
    unstuff (0xFF :: x :: l) = 0xFF :: unstuff l := by
  simp [unstuff]

theorem stuffOk_cons_ne {b : Nat} (h : b ≠ 0xFF) (l : List Nat) :
    StuffOk (b :: l) = (decide (b < 256) && StuffOk l) := by
  rw [StuffOk.eq_def]; simp [h]

theorem stuffOk_ff_cons (x : Nat) (l : List Nat) :
    StuffOk (0xFF :: x :: l) = (decide (x = 0) && StuffOk l) := by
  simp [StuffOk]

theorem unstuff_stuff_append (b : Nat) (l : List Nat) : unstuff (stuff b ++ l) = b :: unstuff l := by
  unfold stuff
  by_cases h : b = 0xFF
  · subst h; simp [unstuff_ff_cons]
  · simp [h, unstuff_cons_ne h]

theorem stuffOk_stuff_append (b : Nat) (hb : b < 256) (l : List Nat) :
    StuffOk (stuff b ++ l) = StuffOk l := by
  unfold stuff
  by_cases h : b = 0xFF
  · subst h; simp [stuffOk_ff_cons]
  · simp [h, stuffOk_cons_ne h, hb]

theorem unstuff_nil : unstuff [] = [] := by simp [unstuff]

theorem unstuff_flatMap_stuff (raw : List Nat) : unstuff (raw.flatMap stuff) = raw := by
  induction raw with
  | nil => exact unstuff_nil
  | cons b raw ih => rw [List.flatMap_cons, unstuff_stuff_append, ih]

theorem stuffOk_flatMap_stuff (raw : List Nat) (h : ∀ b ∈ raw, b < 256) :
    StuffOk (raw.flatMap stuff) = true := by
  induction raw with
  | nil => rfl
  | cons b raw ih =>
    rw [List.flatMap_cons, stuffOk_stuff_append b (h b (by simp)), ih fun x hx => h x (by simp [hx])]

def encPending (e : HuffEnc) : List Bool := bitsOf e.bits e.nBits

/-- `out` spells the bit string `bs` in whole bytes, a zero byte after every 0xFF (T.81 B.1.1.5) -/
def Emits (out : List Nat) (bs : List Bool) : Prop :=
  ∃ raw : List Nat, out = raw.flatMap stuff ∧ (∀ b ∈ raw, b < 256) ∧ raw.flatMap (fun b => bitsOf b 8) = bs

theorem Emits.nil : Emits [] [] := ⟨[], rfl, by simp, rfl⟩

theorem Emits.byte {b : Nat} (hb : b < 256) : Emits (stuff b) (bitsOf b 8) :=
  ⟨[b], by simp, by simpa using hb, by simp⟩

theorem Emits.append {o1 o2 : List Nat} {b1 b2 : List Bool} : Emits o1 b1 → Emits o2 b2 → Emits (o1 ++ o2) (b1 ++ b2)
  | ⟨r1, h1, h2, h3⟩, ⟨r2, g1, g2, g3⟩ =>
    ⟨r1 ++ r2, by rw [h1, g1, List.flatMap_append],
      fun b hb => (List.mem_append.1 hb).elim (h2 b) (g2 b), by rw [List.flatMap_append, h3, g3]⟩

theorem Emits.stuffOk {out : List Nat} {bs : List Bool} : Emits out bs → StuffOk out = true
  | ⟨raw, h1, h2, _⟩ => h1 ▸ stuffOk_flatMap_stuff raw h2

theorem Emits.unstuff {out : List Nat} {bs : List Bool} : Emits out bs →
    (unstuff out).flatMap (fun b => bitsOf b 8) = bs
  | ⟨raw, h1, _, h3⟩ => by rw [h1, unstuff_flatMap_stuff, h3]

/-- `out` is the byte image of the bit string `bits`: `Emits`, the last byte completed with 1-bits
    (T.81 F.1.2.3) -/
def Packs (out : List Nat) (bits : List Bool) : Prop :=
  ∃ n, n < 8 ∧ Emits out (bits ++ List.replicate n true)

/-- the reader `d` has exactly the bit string `bs` before it; `room` is what makes `Decode`'s fast path dead
    (`decode_fast_path_dead`) and keeps `fill` inside the 32-bit register -/
structure Reads (d : HuffDec) (bs : List Bool) : Prop where
  stuffed : StuffOk d.data = true
  room : d.nBits ≤ 7
  ahead : pending d = bs

theorem Packs.stuffOk {out : List Nat} {bits : List Bool} : Packs out bits → StuffOk out = true
  | ⟨_, _, h⟩ => h.stuffOk

theorem Packs.ne_nil {out : List Nat} {bits : List Bool} (h : Packs out bits) (hb : bits ≠ []) : out ≠ [] := by
  rintro rfl
  obtain ⟨_, _, h⟩ := h
  have := h.unstuff
  rw [unstuff_nil, List.flatMap_nil] at this
  exact hb (List.append_eq_nil_iff.1 this.symm).1

theorem Packs.reads {out : List Nat} {bits : List Bool} : Packs out bits →
    ∃ pad : List Bool, pad.length < 8 ∧ (∀ b ∈ pad, b = true) ∧ Reads { data := out } (bits ++ pad)
  | ⟨n, h3, h⟩ => ⟨_, by simpa using h3, fun _ hb => List.eq_of_mem_replicate hb, h.stuffOk, Nat.zero_le 7, h.unstuff⟩

theorem bitsOf_mod256 (x : Nat) : bitsOf (x % 256) 8 = bitsOf x 8 :=
  bitsOf_eq ▸ Bits.msb_mod x (k := 8) (Nat.le_refl 8)

theorem drain_spec (bits nBits : Nat) :
    ∃ bs, Emits (drain bits nBits).1 bs ∧ bs ++ bitsOf bits (drain bits nBits).2 = bitsOf bits nBits ∧
      (drain bits nBits).2 ≤ 7 := by
  fun_induction drain bits nBits with
  | case1 nBits h b r ih =>
    obtain ⟨bs, h1, h3, h4⟩ := ih
    refine ⟨_, (Emits.byte (Nat.mod_lt _ (by decide))).append h1, ?_, h4⟩
    rw [List.append_assoc, h3, bitsOf_mod256, ← bitsOf_append, show 8 + (nBits - 8) = nBits by omega]
  | case2 nBits h => exact ⟨[], Emits.nil, rfl, by omega⟩

theorem bitsOf_u32 (x : Nat) {t : Nat} (h : t ≤ 32) : bitsOf (u32 x) t = bitsOf x t :=
  bitsOf_eq ▸ Bits.msb_mod x h

/-- the one register fact of `WriteBits`, `Flush` and the reader's byte load -/
theorem reg_or (a v k n : Nat) (hk : k + n ≤ 32) (hv : v < 2 ^ n) :
    bitsOf (u32 (a <<< n) ||| v) (k + n) = bitsOf a k ++ bitsOf v n := by
  rw [bitsOf_eq]
  apply Bits.msb_concat
  · intro i hi
    have : v < 2 ^ (n + i) := Nat.lt_of_lt_of_le hv (Nat.pow_le_pow_right (by omega) (by omega))
    simp [u32_testBit, Nat.testBit_lt_two_pow this, show n + i < 32 by omega]
  · intro i hi
    simp [u32_testBit, show ¬ n ≤ i by omega]

theorem writeBits_reg (eb v k n : Nat) (hk : k + n ≤ 32) (hn : n ≤ 31) :
    bitsOf (u32 (u32 (eb <<< n) ||| (v &&& mask32 n))) (k + n) = bitsOf eb k ++ bitsOf v n := by
  rw [bitsOf_u32 _ hk, mask32_eq n hn, Nat.and_two_pow_sub_one_eq_mod,
    reg_or eb _ k n hk (Nat.mod_lt _ (Nat.two_pow_pos n)), bitsOf_eq, Bits.msb_mod v (Nat.le_refl n)]

theorem writeBits_nBits_le (e : HuffEnc) (v n : Nat) (he : e.nBits ≤ 7) :
    (e.writeBits v n).1.nBits ≤ 7 := by
  unfold HuffEnc.writeBits
  by_cases h0 : n = 0
  · simpa [h0] using he
  · simp only [h0, ↓reduceIte]
    obtain ⟨_, _, _, h4⟩ :=
      drain_spec (u32 (u32 (e.bits <<< n) ||| (v &&& mask32 n))) (e.nBits + n)
    exact h4

/-- `n ≤ 24`: with at most 7 bits pending, `nBits + n ≤ 31` fits the 32-bit register
    (`writeBits_reg`); the scan writes at most 16 bits per call. -/
theorem writeBits_spec (e : HuffEnc) (v n : Nat) (he : e.nBits ≤ 7) (hn : n ≤ 24) :
    ∃ bs, Emits (e.writeBits v n).2 bs ∧ bs ++ encPending (e.writeBits v n).1 = encPending e ++ bitsOf v n := by
  unfold HuffEnc.writeBits
  by_cases h0 : n = 0
  · subst h0
    exact ⟨[], Emits.nil, by simp [bitsOf]⟩
  · simp only [h0, ↓reduceIte]
    obtain ⟨bs, h1, h3, _⟩ :=
      drain_spec (u32 (u32 (e.bits <<< n) ||| (v &&& mask32 n))) (e.nBits + n)
    refine ⟨bs, h1, ?_⟩
    simp only [encPending]
    rw [h3, writeBits_reg _ _ _ _ (by omega) (by omega)]

theorem writeBits_bits (e : HuffEnc) (v n : Nat) (he : e.nBits ≤ 7) (hn : n ≤ 24) :
    (unstuff (e.writeBits v n).2).flatMap (fun b => bitsOf b 8) ++ encPending (e.writeBits v n).1
      = encPending e ++ bitsOf v n := by
  obtain ⟨bs, h1, h3⟩ := writeBits_spec e v n he hn
  rw [h1.unstuff, h3]

theorem writeBits_stuffOk (e : HuffEnc) (v n : Nat) (he : e.nBits ≤ 7) (hn : n ≤ 24) :
    StuffOk (e.writeBits v n).2 = true := by
  obtain ⟨bs, h1, _⟩ := writeBits_spec e v n he hn
  exact h1.stuffOk

theorem flush_byte (eb j k : Nat) (hjk : j + k = 8) :
    bitsOf ((u32 (eb <<< j) ||| (u32 (1 <<< j) - 1)) % 256) 8
      = bitsOf eb k ++ bitsOf (2 ^ j - 1) j := by
  have hu : u32 (1 <<< j) = 2 ^ j := by
    rw [Nat.one_shiftLeft]
    exact Nat.mod_eq_of_lt (Nat.pow_lt_pow_right (by omega) (by omega) : 2 ^ j < 2 ^ 32)
  rw [bitsOf_mod256, hu, show 8 = k + j by omega,
    reg_or eb _ k j (by omega) (Nat.sub_lt (Nat.two_pow_pos j) Nat.one_pos)]

theorem flush_spec (e : HuffEnc) (he : e.nBits ≤ 7) : Packs e.flush.2 (encPending e) := by
  unfold HuffEnc.flush
  by_cases h0 : e.nBits > 0
  · simp only [h0, ↓reduceIte]
    refine ⟨8 - e.nBits, by omega, ?_⟩
    -- the padding is the `2 ^ j - 1` that `Flush` ORs in below the pending bits
    rw [← Bits.msb_ones _ _ (Nat.le_refl _), ← bitsOf_eq, encPending,
      ← flush_byte e.bits (8 - e.nBits) e.nBits (by omega)]
    exact Emits.byte (by omega)
  · simp only [h0, ↓reduceIte]
    have : e.nBits = 0 := by omega
    exact ⟨0, by decide, by simpa [encPending, this, bitsOf] using Emits.nil⟩

theorem writeAll_spec (ws : List (Nat × Nat)) (hn : ∀ w ∈ ws, w.2 ≤ 24) :
    ∀ (e : HuffEnc), e.nBits ≤ 7 →
      Packs (writeAll e ws) (encPending e ++ ws.flatMap fun w => bitsOf w.1 w.2) := by
  induction ws with
  | nil =>
    intro e he
    simpa [writeAll] using flush_spec e he
  | cons w rest ih =>
    intro e he
    obtain ⟨v, n⟩ := w
    obtain ⟨bs, a1, a3⟩ := writeBits_spec e v n he (hn (v, n) (by simp))
    obtain ⟨k, b3, b1⟩ := ih (fun w hw => hn w (by simp [hw])) _ (writeBits_nBits_le e v n he)
    refine ⟨k, b3, ?_⟩
    have := a1.append b1
    rw [← List.append_assoc, ← List.append_assoc, a3] at this
    simpa [writeAll, List.append_assoc] using this

/-- a fresh encoder; the scan's widths are at most 16 (a code, or an amplitude) -/
theorem writeAll_packs (ws : List (Nat × Nat)) (hn : ∀ w ∈ ws, w.2 ≤ 16) :
    Packs (writeAll {} ws) (ws.flatMap fun w => bitsOf w.1 w.2) :=
  writeAll_spec ws (fun w hw => Nat.le_trans (hn w hw) (by decide)) {} (by decide)

theorem writeAll_stuffOk (ws : List (Nat × Nat)) (hn : ∀ w ∈ ws, w.2 ≤ 16) :
    StuffOk (writeAll {} ws) = true :=
  (writeAll_packs ws hn).stuffOk

theorem fetch_spec (data : List Nat) (hs : StuffOk data = true) (hne : data ≠ []) :
    ∃ b rest, fetch data = some (b, rest) ∧ b < 256 ∧ StuffOk rest = true ∧
      unstuff data = b :: unstuff rest := by
  cases data with
  | nil => exact absurd rfl hne
  | cons x r =>
    by_cases hx : x = 0xFF
    · subst hx
      cases r with
      | nil => simp [StuffOk] at hs
      | cons y r2 =>
        rw [stuffOk_ff_cons] at hs
        simp only [Bool.and_eq_true, decide_eq_true_eq] at hs
        obtain ⟨hy, hs2⟩ := hs
        subst hy
        exact ⟨0xFF, r2, by simp [fetch], by decide, hs2, unstuff_ff_cons 0 r2⟩
    · rw [stuffOk_cons_ne hx] at hs
      simp only [Bool.and_eq_true, decide_eq_true_eq] at hs
      exact ⟨x, r, by simp [fetch, hx], hs.1, hs.2, unstuff_cons_ne hx r⟩

theorem bitsOf_succ (v n : Nat) : bitsOf v (n + 1) = v.testBit n :: bitsOf v n := rfl

theorem Reads.readBit {d : HuffDec} {b : Bool} {rest : List Bool} (h : Reads d (b :: rest)) :
    ∃ d', d.readBit = some (b, d') ∧ Reads d' rest := by
  obtain ⟨hs, hb, hp⟩ := h
  unfold HuffDec.readBit
  by_cases h0 : d.nBits = 0
  · have hne : d.data ≠ [] := by
      intro hnil
      simp [pending, h0, hnil, bitsOf, unstuff_nil] at hp
    obtain ⟨x, r, hf, hx, hsr, hu⟩ := fetch_spec d.data hs hne
    -- an empty register: the bits ahead are those of the byte loaded, its top bit the one returned
    rw [pending, h0, hu, List.flatMap_cons] at hp
    injection hp with e1 e2
    exact ⟨⟨r, x, 7⟩, by simp only [h0, ↓reduceIte, hf, Bits.and_one_eq_one, e1], hsr, Nat.le_refl 7, e2⟩
  · obtain ⟨k, hk⟩ : ∃ k, d.nBits = k + 1 := ⟨d.nBits - 1, by omega⟩
    rw [pending, hk] at hp
    injection hp with e1 e2
    refine ⟨{ d with nBits := k }, ?_, hs, by simp only; omega, e2⟩
    rw [if_neg h0]
    simp only [Bits.and_one_eq_one, hk, Nat.add_sub_cancel, e1]

theorem readBit_eof (d : HuffDec) (_hs : StuffOk d.data = true) (hp : pending d = []) :
    d.readBit = none := by
  have hlen := congrArg List.length hp
  simp only [pending, List.length_append, bitsOf_length, List.length_nil] at hlen
  have h0 : d.nBits = 0 := by omega
  by_cases hd : d.data = []
  · simp [HuffDec.readBit, h0, hd, fetch]
  · obtain ⟨x, r, _, _, _, hu⟩ := fetch_spec d.data _hs hd
    rw [hu, List.flatMap_cons, List.length_append, bitsOf_length] at hlen
    omega

/-- `n ≤ 24`: the loop stops with `nBits ≤ n + 7 ≤ 31`, so no bit leaves the 32-bit register (`reg_or`) -/
theorem fill_spec {n : Nat} (hn : n ≤ 24) (data : List Nat) (bits nBits : Nat) (hs : StuffOk data = true)
    (hb : nBits ≤ n + 7) (hl : n ≤ (pending ⟨data, bits, nBits⟩).length) :
    ∃ d' : HuffDec, fill n data bits nBits = some (d'.data, d'.bits, d'.nBits) ∧ StuffOk d'.data = true ∧
      n ≤ d'.nBits ∧ d'.nBits ≤ n + 7 ∧ pending d' = pending ⟨data, bits, nBits⟩ := by
  induction h : n - nBits using Nat.strongRecOn generalizing data bits nBits with
  | _ m ih =>
    rw [fill]
    by_cases hlt : nBits < n
    · have hne : data ≠ [] := by
        rintro rfl
        simp only [pending, unstuff_nil, List.flatMap_nil, List.append_nil, bitsOf_length] at hl
        omega
      obtain ⟨x, r, hf, hx, hsr, hu⟩ := fetch_spec data hs hne
      have hp : pending ⟨r, u32 (u32 (bits <<< 8) ||| x), nBits + 8⟩ = pending ⟨data, bits, nBits⟩ := by
        simp only [pending]
        rw [bitsOf_u32 _ (by omega), reg_or bits x nBits 8 (by omega) hx, hu, List.flatMap_cons, List.append_assoc]
      obtain ⟨d', g1, g2, g3, g4, g5⟩ := ih _ (by omega) r _ (nBits + 8) hsr (by omega) (hp ▸ hl) rfl
      exact ⟨d', by simp only [hlt, hf, ↓reduceDIte, g1], g2, g3, g4, g5.trans hp⟩
    · exact ⟨⟨data, bits, nBits⟩, by simp only [hlt, ↓reduceDIte], hs, Nat.le_of_not_lt hlt, hb, rfl⟩

theorem Reads.readBits {d : HuffDec} {bs rest : List Bool} (h : Reads d (bs ++ rest)) (hn : bs.length ≤ 16) :
    ∃ d', d.readBits bs.length = some (ofBits bs, d') ∧ Reads d' rest := by
  obtain ⟨hs, hb, hp⟩ := h
  unfold HuffDec.readBits
  by_cases h0 : bs.length = 0
  · obtain rfl := List.eq_nil_of_length_eq_zero h0
    exact ⟨d, rfl, hs, hb, hp⟩
  · simp only [h0, ↓reduceIte]
    obtain ⟨d', g1, g2, g3, g4, g5⟩ := fill_spec (n := bs.length) (by omega) d.data d.bits d.nBits hs (by omega)
      (by rw [show pending ⟨d.data, d.bits, d.nBits⟩ = pending d from rfl, hp, List.length_append]; omega)
    simp only [g1]
    -- the register splits into the bits returned and the bits kept
    have h5 : bitsOf (d'.bits >>> (d'.nBits - bs.length)) bs.length ++
        pending ⟨d'.data, d'.bits, d'.nBits - bs.length⟩ = bs ++ rest := by
      rw [← hp, ← show pending d' = pending d from g5]
      simp only [pending]
      rw [← List.append_assoc, ← bitsOf_append, Nat.add_sub_cancel' g3]
    obtain ⟨e1, e2⟩ := List.append_inj h5 (bitsOf_length _ _)
    refine ⟨⟨d'.data, d'.bits, d'.nBits - bs.length⟩, ?_, g2, by simp only; omega, e2⟩
    rw [← congrArg ofBits e1, ofBits_bitsOf, mask32_eq _ (by omega), Nat.and_two_pow_sub_one_eq_mod]

/-- L4: a fresh reader over the writer's bytes has the written bits, then the 1-padding, pending -/
theorem huffbits_roundtrip (ws : List (Nat × Nat)) (hn : ∀ w ∈ ws, w.2 ≤ 16) :
    ∃ pad : List Bool, pad.length < 8 ∧ (∀ b ∈ pad, b = true) ∧
      pending { data := writeAll {} ws } = ws.flatMap (fun w => bitsOf w.1 w.2) ++ pad :=
  let ⟨pad, h1, h2, h3⟩ := (writeAll_packs ws hn).reads
  ⟨pad, h1, h2, h3.ahead⟩

/-- the 8-bit fast path of HuffmanDecoder.Decode is dead code: with fewer than 8 buffered bits
    Decode is its slow path -/
theorem decode_fast_path_dead (d : HuffDec) (t : Table) (hb : d.nBits ≤ 7) :
    d.decode t = decodeLoop t.values HuffDec.readBit t.codes 0 d := by
  unfold HuffDec.decode
  have : ¬ d.nBits ≥ 8 := by omega
  simp only [this, ↓reduceIte]

end JLL
