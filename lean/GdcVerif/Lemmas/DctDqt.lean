import GdcVerif.Model.Dct
import GdcVerif.Lemmas.Loops
import GdcVerif.Lemmas.Basics
/-! General DQT round trip: the bytes writeDQT emits, parsed by parseDQT, give back the table — for EVERY table
    with 64 entries in 0..255 (hence for all 100 qualities × both base tables, by c11_scaled_table_valid). -/
namespace Dct
open Gen.JpegStd List

def zzN (j : Nat) : Nat := ((ZigZag[j]?).getD 0).toNat

theorem getI_nat (a : Array Int) (n : Nat) : getI a (n : Int) = a[n]? := by simp [getI]

theorem getI_bind {a u : Array Int} {j : Nat} (h : (getI a j).bind (getI u) = some (j : Int)) :
    ∃ m : Nat, a[j]? = some (m : Int) ∧ m < u.size ∧ u[m]? = some (j : Int) := by
  rw [getI_nat] at h
  obtain ⟨z, hz, h⟩ := Option.bind_eq_some_iff.1 h
  simp only [getI] at h
  split at h
  · refine ⟨z.toNat, by rw [hz, Int.toNat_of_nonneg ‹_›], ?_, h⟩
    exact (Array.getElem?_eq_some_iff.1 h).1
  · cases h

/-- the finite fact about the zig-zag table, evaluated once (every entry read on the way is in range, or `getI` would
    answer `none`) -/
theorem zz_unz : ∃ u, unzigInit = some u ∧ u.size = 64 ∧ ∀ j : Nat, j < 64 →
    (getI ZigZag j).bind (getI u) = some (j : Int) ∧ (getI u j).bind (getI ZigZag) = some (j : Int) := by
  refine ⟨unzigInit.getD #[], ?_⟩
  decide +kernel

theorem zz_get (j : Nat) (hj : j < 64) : getI ZigZag (j : Int) = some (zzN j : Int) ∧ zzN j < 64 := by
  obtain ⟨u, _, hs, h⟩ := zz_unz
  obtain ⟨m, h1, h2, _⟩ := getI_bind (h j hj).1
  simp only [getI_nat, zzN, h1, Option.getD_some, Int.toNat_natCast]
  exact ⟨trivial, hs ▸ h2⟩

theorem zz_inj (i : Nat) (hi : i < 64) (j : Nat) (hj : j < 64) (e : zzN i = zzN j) : i = j := by
  obtain ⟨u, _, _, h⟩ := zz_unz
  obtain ⟨m, h1, _, h3⟩ := getI_bind (h i hi).1
  obtain ⟨m', h1', _, h3'⟩ := getI_bind (h j hj).1
  simp only [zzN, h1, h1', Option.getD_some, Int.toNat_natCast] at e
  rw [e, h3'] at h3
  exact Int.ofNat.inj (Option.some.inj h3).symm

theorem zz_surj (n : Nat) (hn : n < 64) : ∃ j, j < 64 ∧ zzN j = n := by
  obtain ⟨u, _, _, h⟩ := zz_unz
  obtain ⟨m, _, h2, h3⟩ := getI_bind (h n hn).2
  exact ⟨m, h2, by simp only [zzN, h3, Option.getD_some, Int.toNat_natCast]⟩

theorem setI_nat (a : Array Int) (n : Nat) (v : Int) (h : n < a.size) : setI a (n : Int) v = some (a.set n v h) := by
  simp [setI, h]

/-- the byte writeDQT stores at position 1+j -/
def dqtByte (q : Array Int) (j : Nat) : Int := Go.uwrap8 ((q[zzN j]?).getD 0)

theorem dqtPayload_eq (id : Int) (q : Array Int) (hq : q.size = 64) :
    dqtPayload id q = some (Go.uwrap8 id :: (List.range 64).map (dqtByte q)) := by
  have hm : (List.range 64).mapM (fun (j : Nat) => do
      let z ← getI ZigZag j
      let v ← getI q z
      pure (Go.uwrap8 v)) = some ((List.range 64).map (dqtByte q)) := by
    apply Loop.mapM_pure
    intro j hj
    have hj' := List.mem_range.1 hj
    obtain ⟨h1, h2⟩ := zz_get j hj'
    have h3 : q[zzN j]? = some q[zzN j] := Array.getElem?_eq_getElem (by omega)
    simp [h1, getI_nat, dqtByte, h3]
  simp only [dqtPayload, hm]
  rfl

theorem scatter_inv (data : List Int) (hlen : data.length = 64) : ∀ n, n ≤ 64 →
    ∃ t : Array Int, parseDQTn n data = some t ∧ t.size = 64 ∧ ∀ i, i < n → t[zzN i]? = data[i]?
  | 0, _ => ⟨Array.replicate 64 0, by simp [parseDQTn], by simp, by intro i hi; omega⟩
  | n + 1, hn => by
    obtain ⟨t, ht, hs, hinv⟩ := scatter_inv data hlen n (by omega)
    obtain ⟨h1, h2⟩ := zz_get n (by omega)
    obtain ⟨v, hd⟩ : ∃ v, data[n]? = some v := ⟨_, List.getElem?_eq_getElem (by omega)⟩
    refine ⟨t.set (zzN n) v (by omega), ?_, by simp [hs], ?_⟩
    · unfold parseDQTn at ht ⊢
      rw [List.range_succ, List.foldlM_append, ht]
      simp [h1, hd, setI_nat t (zzN n) v (by omega)]
    · intro i hi
      by_cases hin : i = n
      · subst hin; simp [hd]
      · have hne : zzN n ≠ zzN i := fun e => hin (zz_inj i (by omega) n (by omega) e.symm)
        rw [Array.getElem?_set_ne _ hne]
        exact hinv i (by omega)

theorem scatter_final (q t : Array Int) (hq : q.size = 64) (hs : t.size = 64)
    (hinv : ∀ i, i < 64 → t[zzN i]? = some (dqtByte q i))
    (hr : ∀ (n : Nat) (h : n < q.size), 0 ≤ q[n] ∧ q[n] ≤ 255) : t = q := by
  apply Array.ext (hs.trans hq.symm)
  intro n h1 h2
  obtain ⟨j, hj, e⟩ := zz_surj n (hs ▸ h1)
  have h3 := hinv j hj
  rw [e, Array.getElem?_eq_getElem h1] at h3
  have h5 : t[n] = dqtByte q j := Option.some.inj h3
  rw [h5]
  simp only [dqtByte, e, Array.getElem?_eq_getElem h2, Option.getD_some, Go.uwrap8]
  have := hr n h2
  omega

theorem parse_of_inv (q : Array Int) (L : List Int) (hq : q.size = 64) (hL : L.length = 64)
    (hLi : ∀ i, i < 64 → L[i]? = some (dqtByte q i))
    (hr : ∀ (n : Nat) (h : n < q.size), 0 ≤ q[n] ∧ q[n] ≤ 255) : parseDQT8 L = some q := by
  obtain ⟨t, ht, hs, hinv⟩ := scatter_inv L hL 64 (Nat.le_refl _)
  unfold parseDQT8
  rw [ht]
  exact congrArg some (scatter_final q t hq hs (fun i hi => (hinv i hi).trans (hLi i hi)) hr)

/-- a lemma of its own: a `show parseDQT8 _ = _` on the rewritten payload makes the kernel evaluate the payload -/
theorem bind_tail (a : Int) (L : List Int) : (some (a :: L)).bind (fun p => parseDQT8 p.tail) = parseDQT8 L := rfl

theorem dqt_roundtrip_general (id : Int) (q : Array Int) (hq : q.size = 64)
    (hr : ∀ (n : Nat) (h : n < q.size), 0 ≤ q[n] ∧ q[n] ≤ 255) :
    (dqtPayload id q).bind (fun p => parseDQT8 p.tail) = some q := by
  rw [dqtPayload_eq id q hq, bind_tail]
  exact parse_of_inv q _ hq (by rw [List.length_map, List.length_range]) (fun i hi => List.getElem?_map_range _ hi) hr
end Dct
