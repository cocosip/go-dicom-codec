import GdcVerif.Spec.T81HEnc
import GdcVerif.Lemmas.T81HStream
import GdcVerif.Lemmas.JllStreamDec
/-!
  The specification's ENCODER at scan level (`Spec/T81HEnc.lean`: `packBits`, `encodeDiffBits`, `scanBitsFrom`).
  Its bit packer `Packs` its bits (`packBits_packs`), its per-difference encoder emits the model's `symWrite`
  image (`encodeDiffBits_symWrite`), so its scan bytes pack `JLL.scanBits` under the table of each component
  (`specScan_packs`); with `JLL.decScan_of_packs` the model's sample loop decodes them (`decodeScanSel_spec`).
  `planesArr` reads the specification's image (lists) as the model's planes (arrays).
-/
namespace T81H
open JLL

theorem bitsMsb_eq (v : Nat) : ∀ n : Nat, bitsMsb v n = bitsOf v n := by
  intro n; rw [bitsOf_eq, bitsMsb, Bits.msb_eq_map]

theorem packBits_nil : packBits [] = [] := by rw [packBits]

theorem packBits_cons (b : Bool) (r : List Bool) :
    packBits (b :: r) =
      stuff (ofBits ((b :: r).take 8 ++ List.replicate (8 - ((b :: r).take 8).length) true)) ++
        packBits ((b :: r).drop 8) := by
  rw [packBits]
  simp only [byteOfBits, foldl_bits, Nat.zero_mul, Nat.zero_add, stuff]

theorem packBits_packs : ∀ (bs : List Bool), Packs (packBits bs) bs
  | [] => ⟨0, by decide, by simpa [packBits_nil] using Emits.nil⟩
  | b :: r => by
    rw [packBits_cons]
    generalize hch : (b :: r).take 8 ++ List.replicate (8 - ((b :: r).take 8).length) true = ch
    have hchl : ch.length = 8 := by
      rw [← hch]; simp only [List.length_append, List.length_take, List.length_replicate]; omega
    have hbyte : Emits (stuff (ofBits ch)) ch := by
      have := Emits.byte (b := ofBits ch) (by have := ofBits_lt ch; rwa [hchl] at this)
      rwa [← hchl, bitsOf_ofBits] at this
    by_cases h8 : 8 ≤ (b :: r).length
    · obtain ⟨pad, h3, h5⟩ := packBits_packs ((b :: r).drop 8)
      have h0 : 8 - ((b :: r).take 8).length = 0 := by
        simp only [List.length_take]; omega
      rw [h0, List.replicate_zero, List.append_nil] at hch
      subst hch
      refine ⟨pad, h3, ?_⟩
      have := hbyte.append h5
      rwa [← List.append_assoc, List.take_append_drop] at this
    · have hd : (b :: r).drop 8 = [] := List.drop_eq_nil_of_le (by omega)
      have ht : (b :: r).take 8 = b :: r := List.take_of_length_le (by omega)
      refine ⟨8 - (b :: r).length, ?_, ?_⟩
      · simp only [List.length_cons]; omega
      · rw [hd, packBits_nil, List.append_nil, ← ht, hch]
        exact hbyte
termination_by bs => bs.length
decreasing_by
  simp only [List.length_drop, List.length_cons]
  omega

theorem encodeDiffBits_symWrite (bits : List Nat) (values : Array Nat) (hv : ValidTable bits values = true)
    (x p : Int) (b : List Bool)
    (he : encodeDiffBits (codeTable bits values.toList) (diff x p) = some b) :
    (symOfDiff (encDiff x p)).1 ∈ values.toList ∧
      b = (symWrite (buildHuffmanCodes bits values) (symOfDiff (encDiff x p))).flatMap (fun w => bitsOf w.1 w.2) := by
  have hsym := symOf_spec x p
  generalize diff x p = d at *
  unfold encodeDiffBits at he
  cases hf : (codeTable bits values.toList).find? (fun e => e.1 = ssss d) with
  | none => rw [hf] at he; simp at he
  | some e =>
    rw [hf] at he
    obtain ⟨sym, code, len⟩ := e
    simp only [Option.some.injEq] at he
    have hp : sym = ssss d := by simpa using List.find?_some hf
    subst hp
    obtain ⟨hm, hcode⟩ := (mem_codeTable hv).1 (List.mem_of_find?_eq_some hf)
    rw [hsym]
    refine ⟨hm, ?_⟩
    rw [← he, bitsMsb_eq, bitsMsb_eq, symWrite_bits hcode, extraBits_snd]
    by_cases h : 0 < ssss d ∧ ssss d ≠ 16
    · rw [if_pos h, if_neg (by omega)]
    · rw [if_neg h, if_pos (by omega)]
      rfl

/-- One difference in the shape of the `decodeScan` loop body; the model's difference value is the spec's
    difference as an int16 (32768 ↦ −32768) -/
theorem readDiff_spec (bits : List Nat) (values : Array Nat) (t : Table)
    (hv : ValidTable bits values = true) (ht : Table.build bits values = .ok t)
    (x p : Int) (b : List Bool)
    (he : encodeDiffBits (codeTable bits values.toList) (diff x p) = some b)
    (dd : HuffDec) (hs : StuffOk dd.data = true) (hb : dd.nBits ≤ 7) (rest : List Bool)
    (hp : pending dd = b ++ rest) :
    ∃ d1 d2, dd.decode t = .ok (ssss (diff x p), d1) ∧
      ((0 < ssss (diff x p) ∧ ssss (diff x p) ≠ 16) →
        d1.readBits (ssss (diff x p)) = some ((extraBits (diff x p)).1, d2)) ∧
      (¬ (0 < ssss (diff x p) ∧ ssss (diff x p) ≠ 16) → d2 = d1) ∧
      pending d2 = rest ∧ StuffOk d2.data = true ∧ d2.nBits ≤ 7 ∧
      (if ssss (diff x p) = 0 then (0 : Int)
       else if ssss (diff x p) = 16 then receiveLosslessDifference 16 0
       else receiveLosslessDifference (ssss (diff x p) : Int) ((extraBits (diff x p)).1 : Int))
        = (if diff x p = 32768 then -32768 else diff x p) := by
  obtain ⟨hm, hbq⟩ := encodeDiffBits_symWrite bits values hv x p b he
  have hr := encDiff_range' x p
  have hx := symOfDiff_ok _ hr.1 hr.2
  rw [hbq] at hp
  obtain ⟨d1, d2, h1, h2, h3, h5, h6, h4⟩ := Reads.sym hv ht hx hm ⟨hs, hb, hp⟩
  have hd := symDiff_eq (encDiff x p) hr.1 hr.2 (ssss (diff x p)) (extraBits (diff x p)).1 (symOf_spec x p)
  rw [symOf_spec x p] at h1 h2 h3
  rw [encDiff_diff] at hd
  exact ⟨d1, d2, h1, h2, h3, h4, h5, h6, hd⟩

def planesArr (planes : List (List Int)) : Planes := (planes.map List.toArray).toArray

theorem cell_planesArr (planes : List (List Int)) (c i : Nat) :
    cell (planesArr planes) c i = (planes.getD c []).getD i 0 := by
  simp only [cell, planesArr, List.getD_eq_getElem?_getD]
  cases h : planes[c]? with
  | none => simp [h]
  | some pl => simp [h]

theorem cell_of_plane (planes : List (List Int)) (c : Nat) (plane : List Int) (h : planes[c]? = some plane)
    (i : Nat) : plane.getD i 0 = cell (planesArr planes) c i := by
  rw [cell_planesArr, List.getD_eq_getElem?_getD (l := planes), h]; rfl

theorem planesArr_sized (w h : Nat) (planes : List (List Int)) (hl : ∀ pl ∈ planes, pl.length = w * h) :
    Sized w h planes.length (planesArr planes) := by
  refine ⟨by simp [planesArr], ?_⟩
  intro c hc
  have : planes[c]? = some planes[c] := List.getElem?_eq_getElem hc
  simp [planesArr, this, hl planes[c] (List.getElem_mem hc)]

theorem planesArr_inRange (P : Nat) (hP : 2 ≤ P ∧ P ≤ 16) (planes : List (List Int))
    (hr : ∀ pl ∈ planes, ∀ x ∈ pl, 0 ≤ x ∧ x < (2:Int) ^ P) : InRange P (planesArr planes) := by
  have hf := pow_facts (P : Int) (by omega) (by omega)
  rw [Go.shl_one] at hf
  intro c i
  rw [Go.shl_one, cell_planesArr]
  -- a sample outside the image reads as 0, which is in range
  exact List.getD_of_forall_mem
    (List.getD_of_forall_mem (P := fun pl => ∀ x ∈ pl, 0 ≤ x ∧ x < (2:Int) ^ P) hr (by simp) c)
    ⟨Int.le_refl 0, by omega⟩ i

theorem decSample_spec (P : Nat) (hP : 2 ≤ P ∧ P ≤ 16) (x p : Int) (hx : 0 ≤ x ∧ x < (2:Int) ^ P) :
    decSample (P : Int) p (if diff x p = 32768 then -32768 else diff x p) = x := by
  rw [← encDiff_diff]
  exact diff_wrap_inverse' (P : Int) p x (by omega) (by rw [Go.shl_one]; exact hx)

/-- lossless14sv1: the prediction is always in range (a neighbouring sample or 2^(P−1)) -/
theorem sv1DecSample_spec (P : Nat) (hP : 2 ≤ P ∧ P ≤ 16) (x p : Int) (hx : 0 ≤ x ∧ x < (2:Int) ^ P)
    (hp : 0 ≤ p ∧ p < (2:Int) ^ P) :
    sv1DecSample (P : Int) p (if diff x p = 32768 then -32768 else diff x p) = x := by
  rw [← encDiff_diff]
  rw [← Go.shl_one] at hx hp
  exact sv1DecSample_encDiff (P : Int) x p (by omega) hx hp

theorem decPredicted_px (P sel w h row col : Nat) (nb : Nb) (hP : 1 ≤ P) (hs : 1 ≤ sel ∧ sel ≤ 7)
    (hrow : row < h) (hcol : col < w) :
    decPredicted P sel row col nb = px P 0 sel row col nb.left nb.up nb.upLeft := by
  rw [decPredicted_eq_enc]
  exact encPredicted_conforms P sel row col nb hP hs

/-- the table `HuffmanTable.Build` makes of (BITS, HUFFVAL) (a dummy when `Build` fails) -/
def mkTable (bits vals : List Nat) : Table :=
  match Table.build bits vals.toArray with
  | .ok t => t
  | _ => { bits := bits, values := vals.toArray, codes := [], lookup := #[] }

theorem mkTable_ok (bits vals : List Nat) (hv : ValidTable bits vals.toArray = true) :
    Table.build bits vals.toArray = .ok (mkTable bits vals) := by
  obtain ⟨t, ht, _⟩ := build_ok _ _ hv
  simp [mkTable, ht]

theorem scanBitsFrom_succ (P w nc sel : Nat) (planes : List (List Int)) (tbls : List (List (Nat × Nat × Nat)))
    (n i : Nat) (bits : List Bool) (h : scanBitsFrom P w nc sel planes tbls (n + 1) i = some bits) :
    ∃ tbl plane b r, tbls[i % nc]? = some tbl ∧ planes[i % nc]? = some plane ∧
      encodeDiffBits tbl (diff (plane.getD (i / nc) 0) (px P 0 sel (i / nc / w) (i / nc % w)
        (plane.getD (i / nc - 1) 0) (plane.getD (i / nc - w) 0) (plane.getD (i / nc - w - 1) 0))) = some b ∧
      scanBitsFrom P w nc sel planes tbls n (i + 1) = some r ∧ bits = b ++ r := by
  unfold scanBitsFrom at h
  simp only at h
  cases h1 : tbls[i % nc]? with
  | none => simp [h1] at h
  | some tbl =>
    cases h2 : planes[i % nc]? with
    | none => simp [h1, h2] at h
    | some plane =>
      simp only [h1, h2] at h
      split at h
      · rename_i b r hb hr
        exact ⟨tbl, plane, b, r, rfl, rfl, hb, hr, by simpa using h.symm⟩
      · simp at h

theorem scanBitsFrom_eq (sv1 : Bool) (P pred w nc : Nat) (planes : List (List Int))
    (tbls : List (List (Nat × Nat × Nat))) (B : Nat → List Nat) (V : Nat → Array Nat)
    (hP : 1 ≤ P) (hpred : 1 ≤ pred ∧ pred ≤ 7) (hsv1 : sv1 = true → pred = 1) (hnc : 0 < nc)
    (hct : SpecTables nc tbls B V) :
    ∀ (n i : Nat) (bits : List Bool), scanBitsFrom P w nc pred planes tbls n i = some bits →
      bits = ((List.range' i n).map (posOf w nc)).flatMap (posBits sv1 P pred w B V (planesArr planes)) ∧
      ∀ k ∈ List.range' i n, (symOf sv1 P pred w (planesArr planes) (posOf w nc k)).1 ∈ (V (k % nc)).toList := by
  intro n
  induction n with
  | zero =>
    intro i bits hb
    simp only [scanBitsFrom, Option.some.injEq] at hb
    subst hb
    exact ⟨rfl, by simp⟩
  | succ n ih =>
    intro i bits hb
    obtain ⟨tb, plane, b, r, ht, hpl0, he, hrest, rfl⟩ := scanBitsFrom_succ P w nc pred planes tbls n i bits hb
    obtain ⟨hv, hct1⟩ := hct (i % nc) (Nat.mod_lt _ hnc)
    rw [ht] at hct1
    simp only [Option.some.injEq] at hct1
    subst hct1
    simp only [cell_of_plane planes (i % nc) plane hpl0] at he
    rw [px_predOf sv1 P pred w _ hP hpred hsv1 (i / nc) (i % nc) (cell _ (i % nc)) fun _ _ => rfl] at he
    obtain ⟨hm, hbq⟩ := encodeDiffBits_symWrite _ _ hv _ _ b he
    rw [← symOf_posOf] at hm hbq
    obtain ⟨hr, hmr⟩ := ih (i + 1) r hrest
    refine ⟨?_, ?_⟩
    · rw [List.range'_succ, List.map_cons, List.flatMap_cons, ← hr, hbq]
      rfl
    · intro k hk
      rw [List.range'_succ, List.mem_cons] at hk
      rcases hk with rfl | hk
      · exact hm
      · exact hmr k hk

theorem specScan_packs (sv1 : Bool) (P pred w h : Nat) (planes : List (List Int))
    (tbls : List (List (Nat × Nat × Nat))) (B : Nat → List Nat) (V : Nat → Array Nat)
    (bits : List Bool) (hP : 1 ≤ P) (hpred : 1 ≤ pred ∧ pred ≤ 7) (hsv1 : sv1 = true → pred = 1)
    (hnc : 0 < planes.length) (hct : SpecTables planes.length tbls B V)
    (hbits : scanBitsFrom P w planes.length pred planes tbls (w * h * planes.length) 0 = some bits) :
    Packs (packBits bits) (scanBits sv1 P pred w h planes.length B V (planesArr planes)) ∧
      Coded sv1 P pred w h planes.length V (planesArr planes) := by
  obtain ⟨hb, hmem⟩ := scanBitsFrom_eq sv1 P pred w planes.length planes tbls B V hP hpred hsv1
    hnc hct _ _ bits hbits
  exact ⟨hb ▸ packBits_packs bits, fun k hk => hmem k (by simpa using hk)⟩

theorem decodeScanSel_spec (sv1 : Bool) (P pred w h : Nat) (planes : List (List Int))
    (tbls : List (List (Nat × Nat × Nat))) (tbl : Nat → Outcome Table) (B : Nat → List Nat) (V : Nat → Array Nat)
    (bits : List Bool)
    (hP : 2 ≤ P ∧ P ≤ 16) (hpred : 1 ≤ pred ∧ pred ≤ 7) (hsv1 : sv1 = true → pred = 1)
    (hnc : 0 < planes.length)
    (hlen : ∀ pl ∈ planes, pl.length = w * h)
    (hr : ∀ pl ∈ planes, ∀ x ∈ pl, 0 ≤ x ∧ x < (2:Int) ^ P)
    (hct : SpecTables planes.length tbls B V)
    (hheld : ∀ c, c < planes.length → tbl c = Table.build (B c) (V c))
    (hbits : scanBitsFrom P w planes.length pred planes tbls (w * h * planes.length) 0 = some bits) :
    JLL.Stream.decodeScanSel sv1 P pred w h planes.length tbl (packBits bits) = .ok (planesArr planes) := by
  obtain ⟨hpk, hm⟩ := specScan_packs sv1 P pred w h planes tbls B V bits (by omega) hpred hsv1 hnc hct hbits
  have hT : ∀ c, c < planes.length → ValidTable (B c) (V c) = true ∧
      Table.build (B c) (V c) = .ok (mkTable (B c) (V c).toList) := fun c hc =>
    ⟨(hct c hc).1, mkTable_ok _ _ (hct c hc).1⟩
  rw [JLL.Stream.decodeScanSel_tables sv1 P pred w h planes.length tbl _ _ fun c hc => (hheld c hc).trans (hT c hc).2]
  exact decScan_of_packs sv1 P pred w h planes.length B V _ hT _
    (planesArr_sized w h planes hlen) (planesArr_inRange P hP planes hr) hP hm hpk

end T81H
