import GdcVerif.Lemmas.MqcSegDec
import GdcVerif.Lemmas.MqcTerm
/-!
  MQ round trip, second half: `mq_run` puts together the facts at the end of the run (`flush_facts`) and the initial
  lock-step relation (`decNew_rel`); the theorem `decode (encode ds) = ds` is `decodeAll_rel` on top of it.
-/
namespace Mqc
open Gen.J2kMqc

theorem decNew_rel (B : Nat → Nat) (last len : Nat) (hB : BOk B last len) (n : Nat) (bytes : List Nat)
    (hlen : bytes.length = len) (hbytes : ∀ k, k < len → bytes[k]? = some (B (k + 1)))
    (hfe : FE B last (Enc.new n)) :
    ∃ d0, Dec.new bytes n = some d0 ∧ Rel B last len (Enc.new n) d0 := by
  obtain ⟨d0, hd0, hr⟩ := decInit_rel B last len hB (Enc.new n) 0 bytes rfl rfl rfl rfl
    (show rd (#[0] : Array Nat) 0 ≠ 255 by decide) #[] rfl (fun k hk => absurd hk (Nat.not_lt_zero _)) (by omega)
    (fun k hk => by rw [Nat.zero_add]; exact hbytes k (hlen ▸ hk)) hfe
  have hsh : shiftDec #[] d0 = d0 := by unfold shiftDec; simp
  exact ⟨d0, hd0, hsh ▸ hr⟩

theorem mq_run (n : Nat) (ds : List (Nat × Nat)) (hds : ∀ d ∈ ds, d.2 < n) :
    ∃ e ef bytes last len d0, encodeAll (Enc.new n) ds = some e ∧ RegOk e ∧ 0x8000 ≤ e.a ∧ flush e = some (ef, bytes) ∧
      BOk (finalB ef.buf last) last len ∧ FE (finalB ef.buf last) last e ∧
      Dec.new bytes n = some d0 ∧ Rel (finalB ef.buf last) last len (Enc.new n) d0 := by
  obtain ⟨h0, hn0, hs0⟩ := new_ok n
  obtain ⟨e, he, hr, hn⟩ := encodeAll_new n ds hds
  obtain ⟨ef, bytes, last, len, hfl, hB, hfe, hlen, hbytes⟩ := flush_facts e hr hn
  obtain ⟨d0, hd0, hrel0⟩ := decNew_rel _ last len hB n bytes hlen hbytes
    (encodeAll_back _ last ds (Enc.new n) e h0 hn0 (by rw [hs0]; exact hds) he hfe)
  exact ⟨e, ef, bytes, last, len, d0, he, hr, hn, hfl, hB, hfe, hd0, hrel0⟩

theorem mq_roundtrip (n : Nat) (ds : List (Nat × Nat)) (hds : ∀ x ∈ ds, x.1 ≤ 1 ∧ x.2 < n) :
    ∃ bytes, encodeBytes n ds = some bytes ∧ decodeBits bytes n (ds.map (·.2)) = some (ds.map (·.1)) := by
  obtain ⟨h0, hn0, hs0⟩ := new_ok n
  obtain ⟨e, ef, bytes, last, len, d0, he, _, _, hfl, hB, hfe, hd0, hrel0⟩ := mq_run n ds (fun x hx => (hds x hx).2)
  obtain ⟨d', hd', _⟩ := decodeAll_rel _ last len hB ds (Enc.new n) d0 e h0 hn0 (by rw [hs0]; exact hds) hrel0 he hfe
  exact ⟨bytes, by unfold encodeBytes; rw [he]; simp only [hfl, Option.map_some],
    by unfold decodeBits; rw [hd0]; simp only [hd', Option.map_some]⟩

end Mqc
