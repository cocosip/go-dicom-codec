import GdcVerif.Lemmas.Basics
/-!
  Two-digit mixed-radix numerals `a·n + b` with `b < n`: the arithmetic behind every row-major
  address (`y·stride + x`, `blockY·width + blockX`, sample·bytes + byte): their order (`lt`, `lex_lt`), their digits
  (`div_mod`, `inj`, `digits`), their successor (`succ_digits`), the same over `Int`; and row-major enumeration: a list
  built row by row is the list over the linear index, read through `k / w`, `k % w` (`grid_eq`).
-/
namespace Radix

theorem lt {a b m n : Nat} (ha : a < m) (hb : b < n) : a * n + b < m * n := by
  have : (a + 1) * n ≤ m * n := Nat.mul_le_mul_right n ha
  rw [Nat.succ_mul] at this
  omega

theorem lex_lt {a a' b b' n : Nat} (ha : a' < a) (hb : b' < n) : a' * n + b' < a * n + b :=
  Nat.lt_of_lt_of_le (lt ha hb) (Nat.le_add_right _ _)

theorem div_mod {b n : Nat} (a : Nat) (hb : b < n) : (a * n + b) / n = a ∧ (a * n + b) % n = b := by
  rw [Nat.mul_comm, Nat.mul_add_div (by omega), Nat.mul_add_mod, Nat.div_eq_of_lt hb, Nat.mod_eq_of_lt hb]
  exact ⟨rfl, rfl⟩

theorem inj {a b a' b' n : Nat} (hb : b < n) (hb' : b' < n) (h : a * n + b = a' * n + b') :
    a = a' ∧ b = b' := by
  have e := div_mod a hb
  rw [h] at e
  have e' := div_mod a' hb'
  exact ⟨e.1.symm.trans e'.1, e.2.symm.trans e'.2⟩

theorem digits {t m n : Nat} (ht : t < m * n) : t / n < m ∧ t % n < n ∧ t / n * n + t % n = t := by
  have hn : 0 < n := Nat.pos_of_ne_zero (by rintro rfl; simp at ht)
  exact ⟨Nat.div_lt_of_lt_mul (by rwa [Nat.mul_comm]), Nat.mod_lt _ hn, Nat.div_add_mod' t n⟩

theorem succ_digits (nc i : Nat) (hnc : 0 < nc) :
    (i % nc + 1 < nc ∧ (i + 1) / nc = i / nc ∧ (i + 1) % nc = i % nc + 1) ∨
    (i % nc + 1 = nc ∧ (i + 1) / nc = i / nc + 1 ∧ (i + 1) % nc = 0) := by
  have hr : i % nc < nc := Nat.mod_lt _ hnc
  have hi : i / nc * nc + i % nc = i := Nat.div_add_mod' i nc
  by_cases h : i % nc + 1 < nc
  · have := div_mod (i / nc) h
    rw [show i / nc * nc + (i % nc + 1) = i + 1 by omega] at this
    exact .inl ⟨h, this⟩
  · have := div_mod (i / nc + 1) hnc
    rw [show (i / nc + 1) * nc + 0 = i + 1 by rw [Nat.succ_mul]; omega] at this
    exact .inr ⟨by omega, this⟩

/-! The same over `Int`, for indices the Go code keeps as `int`. -/

theorem lt_int {a b m n : Int} (ha : a < m) (hb0 : 0 ≤ b) (hb : b < n) : a * n + b < n * m := by
  have h1 : (a + 1) * n ≤ m * n := Int.mul_le_mul_of_nonneg_right (by omega) (by omega)
  rw [Int.add_mul, Int.one_mul, Int.mul_comm m] at h1
  omega

theorem div_mod_int {a b n : Int} (hb0 : 0 ≤ b) (hb : b < n) : (a * n + b) / n = a ∧ (a * n + b) % n = b :=
  (Int.ediv_emod_unique (by omega)).2 ⟨by rw [Int.mul_comm n, Int.add_comm], hb0, hb⟩

theorem digits_int {t m n : Int} (hn : 0 < n) (h0 : 0 ≤ t) (ht : t < n * m) :
    0 ≤ t % n ∧ t % n < n ∧ 0 ≤ t / n ∧ t / n < m :=
  ⟨Int.emod_nonneg _ (by omega), Int.emod_lt_of_pos _ hn, Int.ediv_nonneg h0 (by omega),
    Int.ediv_lt_of_lt_mul hn (by rwa [Int.mul_comm])⟩

theorem grid_eq {α : Type} (w : Nat) (f : Nat → Nat → α) : ∀ h : Nat,
    (List.range h).flatMap (fun y => (List.range w).map (f y)) =
      (List.range (h * w)).map (fun k => f (k / w) (k % w))
  | 0 => by simp
  | h + 1 => by
    rw [List.range_succ, List.flatMap_append, grid_eq w f h, Nat.succ_mul, List.range_add, List.map_append,
      List.map_map]
    simp only [List.flatMap_cons, List.flatMap_nil, List.append_nil]
    congr 1
    apply List.map_congr_left
    intro x hx
    have e := div_mod h (List.mem_range.1 hx)
    simp only [Function.comp, e.1, e.2]

theorem grid_congr {α : Type} (w h : Nat) (f g : Nat → Nat → α) (hfg : ∀ y x, y < h → x < w → f y x = g y x) :
    ((List.range h).flatMap fun y => (List.range w).map fun x => f y x) =
      (List.range h).flatMap fun y => (List.range w).map fun x => g y x :=
  List.flatMap_congr_left fun y hy => List.map_congr_left fun x hx => hfg y x (List.mem_range.mp hy) (List.mem_range.mp hx)

theorem grid_length {α : Type} (g : Nat → Nat → α) (w h : Nat) :
    ((List.range h).flatMap fun y => (List.range w).map fun x => g y x).length = h * w := by
  rw [grid_eq w g h]; simp

theorem grid_getD {α : Type} (g : Nat → Nat → α) (d : α) (w h j i : Nat) (hj : j < h) (hi : i < w) :
    ((List.range h).flatMap fun y => (List.range w).map fun x => g y x).getD (j * w + i) d = g j i := by
  have e := div_mod j hi
  rw [grid_eq w g h, List.getD_eq_getElem?_getD, List.getElem?_map, List.getElem?_range (lt hj hi)]
  simp only [Option.map_some, Option.getD_some, e.1, e.2]

theorem rows_eq {α : Type} (d : α) (w h : Nat) (c : List α) (hc : c.length = w * h) :
    (List.range h).flatMap (fun y => (List.range w).map (fun x => c.getD (y * w + x) d)) = c := by
  rw [grid_eq w (fun y x => c.getD (y * w + x) d) h]
  apply List.ext_getElem
  · simp [hc, Nat.mul_comm]
  · intro k h1 h2
    simp only [List.getElem_map, List.getElem_range, Nat.div_add_mod']
    rw [List.getD_eq_getElem?_getD, List.getElem?_eq_getElem h2, Option.getD_some]

theorem range_flat (a b : Nat) :
    (List.range a).flatMap (fun i => (List.range b).map (fun j => i * b + j)) = List.range (a * b) := by
  rw [grid_eq b (fun i j => i * b + j) a]
  simp only [Nat.div_add_mod', List.map_id']

theorem range_flatMap_mul {β : Type} (m : Nat) (B : Nat → List β) (n : Nat) :
    (List.range n).flatMap (fun i => (List.range m).flatMap (fun c => B (i * m + c)))
      = (List.range (n * m)).flatMap B := by
  rw [← range_flat n m, List.flatMap_assoc]
  simp only [List.flatMap_map]

theorem nodup_grid (nX nY : Nat) :
    ((List.range nY).flatMap fun y => (List.range nX).map fun x => (x, y)).Nodup := by
  rw [grid_eq nX (fun y x => (x, y)) nY, List.Nodup, List.pairwise_map]
  refine List.Pairwise.imp (fun {a b} hne h => hne ?_) List.nodup_range
  injection h with h1 h2
  rw [← Nat.div_add_mod' a nX, ← Nat.div_add_mod' b nX, h1, h2]

end Radix
