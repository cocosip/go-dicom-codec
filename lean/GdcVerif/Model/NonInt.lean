/-!
  C18 — abstract non-interference.

  A store maps locations to values.  A step DECLARES a read set and a write set and carries a function
  `f`; its transition is *defined* as: every location of the write set gets `f` applied to the store
  restricted to the read set, every other location keeps its value.  So "depends only on the read set,
  changes only the write set" holds by construction (`tr_frame`, `tr_dep`) — it is part of the model, not
  an assumption.  Threads are lists of steps; a schedule is a list of thread ids; each pick runs the next
  step of that thread (a finished thread's pick is a no-op).
  Core Lean only.
-/
namespace NonInt

variable {L Val : Type} [DecidableEq L] [Inhabited Val]

structure Step (L Val : Type) where
  reads : List L
  writes : List L
  f : (L → Val) → L → Val

/-- the store as the step is allowed to see it -/
def restrict (s : L → Val) (rs : List L) : L → Val := fun l => if l ∈ rs then s l else default

def Step.tr (st : Step L Val) (s : L → Val) : L → Val :=
  fun l => if l ∈ st.writes then st.f (restrict s st.reads) l else s l

theorem tr_frame (st : Step L Val) (s : L → Val) (l : L) (h : l ∉ st.writes) : st.tr s l = s l := by
  simp [Step.tr, h]

theorem restrict_congr (s s' : L → Val) (rs : List L) (h : ∀ l, l ∈ rs → s l = s' l) :
    restrict s rs = restrict s' rs := by
  funext l
  unfold restrict
  by_cases hl : l ∈ rs
  · simp [hl, h l hl]
  · simp [hl]

theorem tr_dep (st : Step L Val) (s s' : L → Val) (h : ∀ l, l ∈ st.reads → s l = s' l) (l : L)
    (hl : l ∈ st.writes) : st.tr s l = st.tr s' l := by
  simp [Step.tr, hl, restrict_congr s s' st.reads h]

structure Conf (L Val : Type) where
  store : L → Val
  pc : Nat → Nat

abbrev Prog (L Val : Type) := Nat → List (Step L Val)

/-- thread `t` takes its next step (nothing happens when it has finished) -/
def stepThread (prog : Prog L Val) (c : Conf L Val) (t : Nat) : Conf L Val :=
  match (prog t)[c.pc t]? with
  | none => c
  | some st => { store := st.tr c.store, pc := fun u => if u = t then c.pc t + 1 else c.pc u }

/-- run a schedule: any interleaving is a list of thread ids -/
def run (prog : Prog L Val) (c : Conf L Val) (sched : List Nat) : Conf L Val :=
  sched.foldl (stepThread prog) c

/-- thread `t` alone takes `n` steps -/
def solo (prog : Prog L Val) (t : Nat) (c : Conf L Val) (n : Nat) : Conf L Val :=
  run prog c (List.replicate n t)

def accesses (th : List (Step L Val)) : List L := th.flatMap (fun st => st.reads ++ st.writes)
def writesOf (th : List (Step L Val)) : List L := th.flatMap (fun st => st.writes)

/-- every location a thread writes is neither read nor written by any other thread -/
def Isolated (prog : Prog L Val) : Prop :=
  ∀ u v, u ≠ v → ∀ l, l ∈ writesOf (prog u) → l ∉ accesses (prog v)

/-- a race: two steps of different threads touch a common location and at least one writes it -/
def Race (prog : Prog L Val) : Prop :=
  ∃ u v, u ≠ v ∧ ∃ su, su ∈ prog u ∧ ∃ sv, sv ∈ prog v ∧ ∃ l, l ∈ su.writes ∧ (l ∈ sv.reads ∨ l ∈ sv.writes)

omit [DecidableEq L] [Inhabited Val] in
theorem mem_writesOf {th : List (Step L Val)} {st : Step L Val} (h : st ∈ th) {l : L} (hl : l ∈ st.writes) :
    l ∈ writesOf th :=
  List.mem_flatMap.mpr ⟨st, h, hl⟩

omit [DecidableEq L] [Inhabited Val] in
theorem mem_accesses {th : List (Step L Val)} {st : Step L Val} (h : st ∈ th) {l : L}
    (hl : l ∈ st.reads ∨ l ∈ st.writes) : l ∈ accesses th :=
  List.mem_flatMap.mpr ⟨st, h, List.mem_append.mpr hl⟩

omit [DecidableEq L] [Inhabited Val] in
/-- (i) isolation excludes every race: whatever the schedule, the steps it runs are steps of the threads -/
theorem no_race_of_isolated (prog : Prog L Val) (h : Isolated prog) : ¬ Race prog := by
  rintro ⟨u, v, huv, su, hsu, sv, hsv, l, hw, hrw⟩
  exact h u v huv l (mem_writesOf hsu hw) (mem_accesses hsv hrw)

/-- the relation kept along a schedule: same program counter for `t`, same values on everything `t` touches -/
def Rel (prog : Prog L Val) (t : Nat) (c d : Conf L Val) : Prop :=
  c.pc t = d.pc t ∧ ∀ l, l ∈ accesses (prog t) → c.store l = d.store l

theorem rel_step_self (prog : Prog L Val) (t : Nat) (c d : Conf L Val) (h : Rel prog t c d) :
    Rel prog t (stepThread prog c t) (stepThread prog d t) := by
  obtain ⟨hpc, hst⟩ := h
  unfold stepThread
  rw [← hpc]
  cases hget : (prog t)[c.pc t]? with
  | none => exact ⟨hpc, hst⟩
  | some st =>
    have hmem : st ∈ prog t := List.mem_of_getElem? hget
    refine ⟨by simp [hpc], fun l hl => ?_⟩
    simp only
    by_cases hw : l ∈ st.writes
    · exact tr_dep st c.store d.store (fun r hr => hst r (mem_accesses hmem (Or.inl hr))) l hw
    · rw [tr_frame st _ l hw, tr_frame st _ l hw]; exact hst l hl

theorem rel_step_other (prog : Prog L Val) (hiso : Isolated prog) (t u : Nat) (hut : u ≠ t)
    (c d : Conf L Val) (h : Rel prog t c d) : Rel prog t (stepThread prog c u) d := by
  obtain ⟨hpc, hst⟩ := h
  unfold stepThread
  cases hget : (prog u)[c.pc u]? with
  | none => exact ⟨hpc, hst⟩
  | some st =>
    have hmem : st ∈ prog u := List.mem_of_getElem? hget
    refine ⟨by simp [Ne.symm hut, hpc], fun l hl => ?_⟩
    simp only
    have hw : l ∉ st.writes := fun hw => hiso u t hut l (mem_writesOf hmem hw) hl
    rw [tr_frame st _ l hw]; exact hst l hl

theorem rel_run (prog : Prog L Val) (hiso : Isolated prog) (t : Nat) (sched : List Nat) :
    ∀ c d : Conf L Val, Rel prog t c d →
      Rel prog t (run prog c sched) (run prog d (List.replicate (sched.count t) t)) := by
  induction sched with
  | nil => intro c d h; simpa [run] using h
  | cons u rest ih =>
    intro c d h
    by_cases hut : u = t
    · subst hut
      have : (u :: rest).count u = rest.count u + 1 := by simp
      rw [this, List.replicate_succ]
      simp only [run, List.foldl_cons]
      exact ih _ _ (rel_step_self prog u c d h)
    · have : (u :: rest).count t = rest.count t := by simp [hut]
      rw [this]
      simp only [run, List.foldl_cons]
      exact ih _ d (rel_step_other prog hiso t u hut c d h)

/-- (ii) non-interference, for every schedule: on every location thread `t` reads or writes, the store after the
    interleaved run equals the store after `t` alone has taken the same number of steps from the same start -/
theorem noninterference (prog : Prog L Val) (hiso : Isolated prog) (t : Nat) (c : Conf L Val) (sched : List Nat) :
    ∀ l, l ∈ accesses (prog t) →
      (run prog c sched).store l = (solo prog t c (sched.count t)).store l :=
  (rel_run prog hiso t sched c c ⟨rfl, fun _ _ => rfl⟩).2

theorem noninterference_pc (prog : Prog L Val) (hiso : Isolated prog) (t : Nat) (c : Conf L Val) (sched : List Nat) :
    (run prog c sched).pc t = (solo prog t c (sched.count t)).pc t :=
  (rel_run prog hiso t sched c c ⟨rfl, fun _ _ => rfl⟩).1

end NonInt
