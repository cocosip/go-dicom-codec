/-
  Shared vocabulary of the C08/C09 parser models: outcomes with explicit panic sites, and the
  generic "marker loop" runner.

  Every Go decoder loop modelled here has the shape `for { read a marker; handle its segment }`.
  The model of a loop is a NON-recursive `step` (one turn of the Go loop) plus a proof that a turn
  which continues leaves strictly fewer unread bytes (`hlt`).  `run` iterates `step` by
  well-founded recursion on the number of unread bytes — the termination measure of C09, stated
  and proved, not replaced by fuel.  `run_inv` is the one induction all loop-level theorems use.
-/
namespace PC

abbrev Bytes := List Nat

/-- every index / division / `make` on stream-derived values in the modelled code -/
inductive Site
  | huffLookup      -- HuffmanTable.Build: lookupTable[code+j]
  | huffValues      -- HuffmanTable.Build: Values[p]
  | sv1TableSel     -- lossless14sv1 decodeScan: d.dcTables[comp.dcTableSelector]
  | jllTableSel     -- jpeg/lossless decodeScan: d.dcTables[d.dcTableSelectors[comp]]
  | jllSelIndex     -- jpeg/lossless parseSOS: data[2+component*2], d.dcTableSelectors[component]
  | blTableSel      -- baseline decodeBlock: d.dcTables[comp.dcTableSelector]
  | blQuantSel      -- baseline parseDQT: d.qtables[tq]
  | blDivCeil       -- baseline parseSOF / decodeScan: DivCeil(_, 0)
  | jlsThresholds   -- computeThresholds: 256 / (maxVal + 1)
  | jlsRange        -- ComputeCodingParameters: (maxVal + 2·near) / (2·near + 1)
  | j2kMake         -- make([]T, n) with n < 0 (parseQCD, parseCOM, parseQCC, parsePOC, …)
  | j2kIndex        -- slice/array index in the JPEG 2000 header code
deriving Repr, DecidableEq

/-- how a decoder call ends, as far as the model follows it -/
inductive Res
  | ok
  | err
  | panic (s : Site)
  /-- the walk reached code that is not modelled (entropy decoding, tile bodies) -/
  | beyond
deriving Repr, DecidableEq

inductive Step (σ : Type) where
  | done (st : σ) (r : Res)
  | more (st : σ) (rest : Bytes)

/-- iterate one-turn `step` until it is done.  Measure: unread bytes. -/
def run {σ : Type} (step : σ → Bytes → Step σ)
    (hlt : ∀ {st bs st' r}, step st bs = .more st' r → r.length < bs.length)
    (st : σ) (bs : Bytes) : σ × Res :=
  match h : step st bs with
  | .done st' r => (st', r)
  | .more st' r => run step hlt st' r
termination_by bs.length
decreasing_by exact hlt h

theorem run_inv {σ : Type} (step : σ → Bytes → Step σ)
    (hlt : ∀ {st bs st' r}, step st bs = .more st' r → r.length < bs.length)
    (Inv : σ → Bytes → Prop) (P : σ × Res → Prop)
    (hmore : ∀ st bs st' r, Inv st bs → step st bs = .more st' r → Inv st' r)
    (hdone : ∀ st bs st' o, Inv st bs → step st bs = .done st' o → P (st', o))
    (st : σ) (bs : Bytes) (hi : Inv st bs) : P (run step hlt st bs) := by
  induction hn : bs.length using Nat.strongRecOn generalizing st bs with
  | _ n ih =>
    unfold run
    split
    · rename_i st' r h
      exact hdone st bs st' r hi h
    · rename_i st' r h
      exact ih r.length (by have := hlt h; omega) st' r (hmore st bs st' r hi h) rfl

theorem ite_ind {α : Sort _} {P : α → Prop} {c : Prop} [Decidable c] {a b : α} (ha : c → P a) (hb : ¬ c → P b) :
    P (if c then a else b) := by
  split
  · exact ha ‹_›
  · exact hb ‹_›

theorem of_ite_none {α : Type} {c : Prop} [Decidable c] {b : Option α} {x : α}
    (h : (if c then none else b) = some x) : ¬ c ∧ b = some x := by
  split at h
  · cases h
  · exact ⟨‹_›, h⟩

def NoPanic (o : Res) : Prop := ∀ s, o ≠ .panic s

theorem NoPanic.err : NoPanic .err := fun _ => nofun
theorem NoPanic.ok : NoPanic .ok := fun _ => nofun
theorem NoPanic.beyond : NoPanic .beyond := fun _ => nofun

/-- a property of a fallible call: `Q` of the value it returns, no panic among its errors -/
def OkPost {α : Type} (Q : α → Prop) : Except Res α → Prop
  | .ok v => Q v
  | .error e => NoPanic e

theorem OkPost.of_ok {α : Type} {Q : α → Prop} {x : Except Res α} {v : α} (h : OkPost Q x) (he : x = .ok v) : Q v := by
  subst he
  exact h

theorem OkPost.of_error {α : Type} {Q : α → Prop} {x : Except Res α} {e : Res} (h : OkPost Q x) (he : x = .error e) :
    NoPanic e := by
  subst he
  exact h

theorem OkPost.ne_panic {α : Type} {Q : α → Prop} {x : Except Res α} (h : OkPost Q x) (s : Site) : x ≠ .error (.panic s) :=
  fun he => h.of_error he s rfl

abbrev NoPanicE {α : Type} (x : Except Res α) : Prop := OkPost (fun _ => True) x

/-- a property of one turn: `M` of the state and unread bytes it continues with, `D` of the state and
    result it ends with.  Statements about a `step` are goals `(step st bs).Post M D`, taken apart along
    the definition of `step` — no hypothesis `step st bs = …` has to be inverted. -/
def Step.Post {σ : Type} (M : σ → Bytes → Prop) (D : σ → Res → Prop) : Step σ → Prop
  | .more st r => M st r
  | .done st o => D st o

namespace Step.Post
variable {σ : Type} {M : σ → Bytes → Prop} {D : σ → Res → Prop}

theorem ite {c : Prop} [Decidable c] {a b : Step σ} (ha : c → a.Post M D) (hb : ¬ c → b.Post M D) :
    (if c then a else b).Post M D := ite_ind ha hb

theorem of_more {x : Step σ} {st : σ} {r : Bytes} (hp : x.Post M D) (h : x = .more st r) : M st r := by
  subst h
  exact hp

theorem of_done {x : Step σ} {st : σ} {o : Res} (hp : x.Post M D) (h : x = .done st o) : D st o := by
  subst h
  exact hp

end Step.Post

abbrev Shrinks {σ : Type} (bs : Bytes) : Step σ → Prop :=
  Step.Post (fun _ r => r.length < bs.length) fun _ _ => True

theorem run_post {σ : Type} (step : σ → Bytes → Step σ)
    (hlt : ∀ {st bs st' r}, step st bs = .more st' r → r.length < bs.length)
    (Inv : σ → Bytes → Prop) (P : σ × Res → Prop)
    (h : ∀ st bs, Inv st bs → (step st bs).Post Inv fun st' o => P (st', o))
    (st : σ) (bs : Bytes) (hi : Inv st bs) : P (run step hlt st bs) :=
  run_inv step hlt Inv P (fun st bs _ _ hi hs => (h st bs hi).of_more hs)
    (fun st bs _ _ hi hs => (h st bs hi).of_done hs) st bs hi

/-- fuel-bounded evaluation of the same loop — used ONLY to compute `run` on concrete inputs in
    regression examples (`run_eq_of_runN`); no theorem about the decoders is stated over it -/
def runN {σ : Type} (step : σ → Bytes → Step σ) : Nat → σ → Bytes → Option (σ × Res)
  | 0, _, _ => none
  | n + 1, st, bs =>
    match step st bs with
    | .done st' r => some (st', r)
    | .more st' r => runN step n st' r

theorem run_eq_of_runN {σ : Type} (step : σ → Bytes → Step σ)
    (hlt : ∀ {st bs st' r}, step st bs = .more st' r → r.length < bs.length)
    (n : Nat) (st : σ) (bs : Bytes) (x : σ × Res) (h : runN step n st bs = some x) :
    run step hlt st bs = x := by
  induction n generalizing st bs with
  | zero => simp [runN] at h
  | succ n ih =>
    unfold runN at h
    unfold run
    split
    · rename_i st' r hs
      rw [hs] at h
      simp only at h
      injection h
    · rename_i st' r hs
      rw [hs] at h
      simp only at h
      exact ih st' r h

/-- number of turns is bounded by the number of unread bytes (C09: time of the header walk) -/
def turns {σ : Type} (step : σ → Bytes → Step σ)
    (hlt : ∀ {st bs st' r}, step st bs = .more st' r → r.length < bs.length)
    (st : σ) (bs : Bytes) : Nat :=
  match h : step st bs with
  | .done _ _ => 1
  | .more st' r => 1 + turns step hlt st' r
termination_by bs.length
decreasing_by exact hlt h

theorem turns_le {σ : Type} (step : σ → Bytes → Step σ)
    (hlt : ∀ {st bs st' r}, step st bs = .more st' r → r.length < bs.length)
    (st : σ) (bs : Bytes) : turns step hlt st bs ≤ bs.length + 1 := by
  induction hn : bs.length using Nat.strongRecOn generalizing st bs with
  | _ n ih =>
    unfold turns
    split
    · omega
    · rename_i st' r h
      have h1 := hlt h
      have := ih r.length (by omega) st' r rfl
      omega

end PC
