import GdcVerif.Lemmas.J2kTurn
/-!
  The loop of `Parser.Parse` over `J2kH.step`.  It terminates because every turn that goes on leaves
  fewer bytes unread, which is part of what `Turn` says of a turn (hence this model file imports a lemma file).
  `soc_run_post` is the induction both loop-level theorems use (`j2k_parse_total` in Props/C08, `parse_alloc_sum`
  here); `parse_eval` computes `parse` on a concrete input for the regression examples.
-/
namespace J2kH
open PC

theorem step_lt {st st' : St} {bs r : Bytes} (h : step st bs = .more st' r) : r.length < bs.length :=
  (step_turn st bs).shrinks.of_more h

/-- `Parser.Parse` -/
def parse (bs : Bytes) : St × Res :=
  match u16 bs 0 with
  | none => ({}, .err)
  | some m => if m ≠ 0xFF4F then ({}, .err) else run step step_lt {} (bs.drop 2)

theorem soc_run_post {Inv : St → Bytes → Prop} {P : St × Res → Prop} {bs : Bytes} (herr : P ({}, .err))
    (hstep : ∀ st bs, Inv st bs → (step st bs).Post Inv fun st' o => P (st', o)) (hinit : Inv {} (bs.drop 2)) :
    P (parse bs) := by
  unfold parse
  split
  · exact herr
  · split
    · exact herr
    · exact run_post step step_lt Inv P hstep {} _ hinit

theorem parse_eval {bs : Bytes} {x : St × Res} (n : Nat) (h1 : u16 bs 0 = some 0xFF4F)
    (h2 : runN step n {} (bs.drop 2) = some x) : parse bs = x := by
  unfold parse
  rw [h1]
  exact run_eq_of_runN _ _ n _ _ _ h2

/-- C09: every successful segment allocates at most twice the bytes it consumes, and a failing one ends the parse -/
theorem parse_alloc_sum (bs : Bytes) (hb : IsBytes bs) : (parse bs).1.allocs.sum ≤ 2 * bs.length + 196605 :=
  soc_run_post (Inv := Good bs.length) (P := fun p => p.1.allocs.sum ≤ 2 * bs.length + 196605) (Nat.zero_le _)
    (fun st b hi => (step_turn st b).good hi) (.init hb)

end J2kH
