/-!
  C10 — frames map 1:1, in order, independently, deterministically.

  Part 1: a small imperative language over the *fields* of a codec object.  A per-frame `step` is
  a command; its may-write set, must-write (kill) set and upward-exposed read set are COMPUTED
  from the syntax (the same kill analysis `gofacts` F3 runs on jpeg2000.Encoder/Decoder), and the
  analysis is proved sound here — so "reads only its read set, changes only its write set" is a
  theorem about the model, not a hypothesis.
  Part 2: state machines in general (`Machine`), the invariant form that covers memo fields.
  Part 3: the decoded-frame-length model of the ten codec adapters (code-shaped).
  Core Lean only.
-/
namespace Frames

/-! ## Part 1: field language -/

/-- expressions over fields (`F`), the current frame (`Fr`) and values (`V`) -/
inductive Ex (F V Fr : Type) where
  | fld : F → Ex F V Fr
  | frm : (Fr → V) → Ex F V Fr
  | cst : V → Ex F V Fr
  | app : (V → V → V) → Ex F V Fr → Ex F V Fr → Ex F V Fr

namespace Ex
variable {F V Fr : Type}

def eval : Ex F V Fr → (F → V) → Fr → V
  | fld f, s, _ => s f
  | frm g, _, fr => g fr
  | cst v, _, _ => v
  | app op a b, s, fr => op (a.eval s fr) (b.eval s fr)

def reads : Ex F V Fr → List F
  | fld f => [f]
  | frm _ => []
  | cst _ => []
  | app _ a b => a.reads ++ b.reads

theorem eval_congr (e : Ex F V Fr) (s s' : F → V) (fr : Fr)
    (h : ∀ f, f ∈ e.reads → s f = s' f) : e.eval s fr = e.eval s' fr := by
  induction e with
  | fld f => exact h f (by simp [reads])
  | frm g => rfl
  | cst v => rfl
  | app op a b iha ihb =>
    simp only [eval]
    rw [iha (fun f hf => h f (by simp [reads, hf])), ihb (fun f hf => h f (by simp [reads, hf]))]
end Ex

/-- per-frame commands: field assignment, output emission, sequencing, branching -/
inductive Cmd (F V Fr : Type) where
  | skip : Cmd F V Fr
  | set : F → Ex F V Fr → Cmd F V Fr
  | out : Ex F V Fr → Cmd F V Fr
  | seq : Cmd F V Fr → Cmd F V Fr → Cmd F V Fr
  | ite : Ex F V Fr → (V → Bool) → Cmd F V Fr → Cmd F V Fr → Cmd F V Fr
  | rep : Ex F V Fr → (V → Nat) → Cmd F V Fr → Cmd F V Fr

namespace Cmd
variable {F V Fr : Type} [DecidableEq F]

/-- n-fold iteration of a step function, concatenating the outputs -/
def iterExec (g : (F → V) → (F → V) × List V) : Nat → (F → V) → (F → V) × List V
  | 0, s => (s, [])
  | n + 1, s => ((iterExec g n (g s).1).1, (g s).2 ++ (iterExec g n (g s).1).2)

/-- execution: new field store and the list of emitted values; `rep e cnt b` runs `b` as many times as
    `cnt` says of the value of `e` on entry (a loop whose trip count depends on what was read) -/
def exec : Cmd F V Fr → (F → V) → Fr → (F → V) × List V
  | skip, s, _ => (s, [])
  | set f e, s, fr => (fun g => if g = f then e.eval s fr else s g, [])
  | out e, s, fr => (s, [e.eval s fr])
  | seq a b, s, fr => ((b.exec (a.exec s fr).1 fr).1, (a.exec s fr).2 ++ (b.exec (a.exec s fr).1 fr).2)
  | ite c p a b, s, fr => if p (c.eval s fr) then a.exec s fr else b.exec s fr
  | rep e cnt b, s, fr => iterExec (fun t => b.exec t fr) (cnt (e.eval s fr)) s

/-- fields the command may write -/
def writes : Cmd F V Fr → List F
  | skip => []
  | set f _ => [f]
  | out _ => []
  | seq a b => a.writes ++ b.writes
  | ite _ _ a b => a.writes ++ b.writes
  | rep _ _ b => b.writes

/-- fields the command writes on every path (kill set) -/
def kills : Cmd F V Fr → List F
  | skip => []
  | set f _ => [f]
  | out _ => []
  | seq a b => a.kills ++ b.kills
  | ite _ _ a b => a.kills.filter (fun f => f ∈ b.kills)
  | rep _ _ _ => []

/-- fields whose incoming value may be read before the command has written them -/
def exposed : Cmd F V Fr → List F
  | skip => []
  | set _ e => e.reads
  | out e => e.reads
  | seq a b => a.exposed ++ b.exposed.filter (fun f => f ∉ a.kills)
  | ite c _ a b => c.reads ++ a.exposed ++ b.exposed
  | rep e _ b => e.reads ++ b.exposed

omit [DecidableEq F] in
theorem iterExec_frame (g : (F → V) → (F → V) × List V) (f : F) (hg : ∀ s, (g s).1 f = s f) (n : Nat)
    (s : F → V) : (iterExec g n s).1 f = s f := by
  induction n generalizing s with
  | zero => rfl
  | succ n ih => simp only [iterExec]; rw [ih, hg]

omit [DecidableEq F] in
theorem iterExec_congr (g : (F → V) → (F → V) × List V) (X : F → Prop)
    (hg : ∀ s s', (∀ f, X f → s f = s' f) → (g s).2 = (g s').2 ∧ ∀ f, X f → (g s).1 f = (g s').1 f)
    (n : Nat) (s s' : F → V) (hs : ∀ f, X f → s f = s' f) :
    (iterExec g n s).2 = (iterExec g n s').2 ∧ ∀ f, X f → (iterExec g n s).1 f = (iterExec g n s').1 f := by
  induction n generalizing s s' with
  | zero => exact ⟨rfl, hs⟩
  | succ n ih =>
    obtain ⟨o, st⟩ := hg s s' hs
    obtain ⟨o2, st2⟩ := ih (g s).1 (g s').1 st
    exact ⟨by simp only [iterExec]; rw [o, o2], by simpa only [iterExec] using st2⟩

/-- frame rule: a field outside the may-write set keeps its value -/
theorem exec_frame (c : Cmd F V Fr) (s : F → V) (fr : Fr) (f : F) (h : f ∉ c.writes) :
    (c.exec s fr).1 f = s f := by
  induction c generalizing s with
  | skip => rfl
  | set g e =>
    have : f ≠ g := by simpa [writes] using h
    simp [exec, this]
  | out e => rfl
  | seq a b iha ihb =>
    simp only [writes, List.mem_append, not_or] at h
    simp only [exec]
    rw [ihb _ h.2, iha _ h.1]
  | ite c p a b iha ihb =>
    simp only [writes, List.mem_append, not_or] at h
    simp only [exec]
    split
    · exact iha _ h.1
    · exact ihb _ h.2
  | rep e cnt b ih =>
    have hb : f ∉ b.writes := by simpa [writes] using h
    simp only [exec]
    exact iterExec_frame _ f (fun t => ih t hb) _ s

/-- soundness of the exposed-read / kill analysis: two stores that agree on a set `X` containing the
    exposed reads give the same outputs, and the resulting stores agree on `X` and on every killed field -/
theorem exec_congr (c : Cmd F V Fr) (X : F → Prop) (s s' : F → V) (fr : Fr)
    (hx : ∀ f, f ∈ c.exposed → X f) (hs : ∀ f, X f → s f = s' f) :
    (c.exec s fr).2 = (c.exec s' fr).2 ∧
      ∀ f, (X f ∨ f ∈ c.kills) → (c.exec s fr).1 f = (c.exec s' fr).1 f := by
  induction c generalizing X s s' with
  | skip => exact ⟨rfl, fun f hf => hs f (hf.resolve_right List.not_mem_nil)⟩
  | set g e =>
    have he : e.eval s fr = e.eval s' fr :=
      Ex.eval_congr e s s' fr (fun f hf => hs f (hx f hf))
    refine ⟨rfl, fun f hf => ?_⟩
    simp only [exec]
    by_cases hfg : f = g
    · simp [hfg, he]
    · simp only [hfg, if_false]
      cases hf with
      | inl h => exact hs f h
      | inr h => simp [kills, hfg] at h
  | out e =>
    have he : e.eval s fr = e.eval s' fr :=
      Ex.eval_congr e s s' fr (fun f hf => hs f (hx f hf))
    exact ⟨by simp [exec, he], fun f hf => hs f (hf.resolve_right List.not_mem_nil)⟩
  | seq a b iha ihb =>
    have hxa : ∀ f, f ∈ a.exposed → X f := fun f hf => hx f (by simp [exposed, hf])
    obtain ⟨oa, sa⟩ := iha X s s' hxa hs
    -- after `a` the stores agree on X ∪ kills a
    let X' : F → Prop := fun f => X f ∨ f ∈ a.kills
    have hxb : ∀ f, f ∈ b.exposed → X' f := by
      intro f hf
      by_cases hk : f ∈ a.kills
      · exact Or.inr hk
      · exact Or.inl (hx f (by simp [exposed, hf, hk]))
    obtain ⟨ob, sb⟩ := ihb X' (a.exec s fr).1 (a.exec s' fr).1 hxb (fun f hf => sa f hf)
    refine ⟨by simp only [exec]; rw [oa, ob], fun f hf => ?_⟩
    simp only [exec]
    apply sb
    rcases hf with h | h
    · exact Or.inl (Or.inl h)
    · exact (List.mem_append.1 h).imp Or.inr id
  | ite c p a b iha ihb =>
    have hc : c.eval s fr = c.eval s' fr :=
      Ex.eval_congr c s s' fr (fun f hf => hs f (hx f (by simp [exposed, hf])))
    have hxa : ∀ f, f ∈ a.exposed → X f := fun f hf => hx f (by simp [exposed, hf])
    have hxb : ∀ f, f ∈ b.exposed → X f := fun f hf => hx f (by simp [exposed, hf])
    simp only [exec, hc]
    split
    · obtain ⟨o, st⟩ := iha X s s' hxa hs
      exact ⟨o, fun f hf => st f (hf.imp id fun h => (List.mem_filter.1 h).1)⟩
    · obtain ⟨o, st⟩ := ihb X s s' hxb hs
      exact ⟨o, fun f hf => st f (hf.imp id fun h => by simpa using (List.mem_filter.1 h).2)⟩
  | rep e cnt b ih =>
    have he : e.eval s fr = e.eval s' fr :=
      Ex.eval_congr e s s' fr (fun f hf => hs f (hx f (by simp [exposed, hf])))
    have hxb : ∀ f, f ∈ b.exposed → X f := fun f hf => hx f (by simp [exposed, hf])
    simp only [exec, he]
    have := iterExec_congr (fun t => b.exec t fr) X
      (fun t t' ht => ⟨(ih X t t' hxb ht).1, fun f hf => (ih X t t' hxb ht).2 f (Or.inl hf)⟩)
      (cnt (e.eval s' fr)) s s' hs
    exact ⟨this.1, fun f hf => this.2 f (hf.resolve_right List.not_mem_nil)⟩

/-- run a command once per frame on one object, threading the field store -/
def runFrames (c : Cmd F V Fr) : (F → V) → List Fr → List (List V)
  | _, [] => []
  | s, fr :: rest => (c.exec s fr).2 :: runFrames c (c.exec s fr).1 rest

/-- the per-frame function the object refines: the step run from the initial store -/
def frameFn (c : Cmd F V Fr) (s0 : F → V) (fr : Fr) : List V := (c.exec s0 fr).2

/-- `Refines c`: every field whose incoming value the step may read is configuration (never written);
    equivalently every written field is killed before it is read.  Decidable, computed from the syntax. -/
def Refines (c : Cmd F V Fr) : Prop := ∀ f, f ∈ c.exposed → f ∉ c.writes

instance (c : Cmd F V Fr) : Decidable (Refines c) := by unfold Refines; exact List.decidableBAll _ _

/-- the fields that break `Refines`: read before written and written — the leaky fields -/
def leaky (c : Cmd F V Fr) : List F := c.exposed.filter (fun f => f ∈ c.writes)

theorem refines_iff_leaky_nil (c : Cmd F V Fr) : Refines c ↔ leaky c = [] := by
  unfold Refines leaky
  rw [List.filter_eq_nil_iff]
  constructor
  · intro h f hf; simpa using h f hf
  · intro h f hf; simpa using h f hf

/-- what the analysis gives without any assumption on the step: the output of one call, and every field the
    call never writes, depend only on the frame, the never-written fields and the leaky fields -/
theorem exec_congr_leaky (c : Cmd F V Fr) (s s' : F → V) (fr : Fr)
    (hs : ∀ f, (f ∉ c.writes ∨ f ∈ leaky c) → s f = s' f) :
    (c.exec s fr).2 = (c.exec s' fr).2 ∧ ∀ f, f ∉ c.writes → (c.exec s fr).1 f = (c.exec s' fr).1 f :=
  have hc := exec_congr c (fun f => f ∉ c.writes ∨ f ∈ leaky c) s s' fr
    (fun f hf => (Decidable.em (f ∈ c.writes)).symm.imp id fun hw => List.mem_filter.2 ⟨hf, by simpa using hw⟩) hs
  ⟨hc.1, fun f hf => hc.2 f (Or.inl (Or.inl hf))⟩

/-- leaky fields that are *stationary*: if from every state that agrees with `s0` on the configuration and
    on the leaky fields the step leaves the leaky fields as they are in `s0` (a cache that is already filled
    and is refilled with the same value), then from every such state the run is a `map` -/
theorem run_eq_map_of_agree (c : Cmd F V Fr) (s0 : F → V)
    (hstat : ∀ s fr, (∀ f, (f ∉ c.writes ∨ f ∈ leaky c) → s f = s0 f) →
      ∀ f, f ∈ leaky c → (c.exec s fr).1 f = s0 f)
    (fs : List Fr) (s : F → V) (hs : ∀ f, (f ∉ c.writes ∨ f ∈ leaky c) → s f = s0 f) :
    runFrames c s fs = fs.map (frameFn c s0) := by
  induction fs generalizing s with
  | nil => rfl
  | cons fr rest ih =>
    rw [runFrames, List.map_cons, frameFn, (exec_congr_leaky c s s0 fr hs).1, ih]
    exact fun f hf => hf.elim (fun h => (exec_frame c s fr f h).trans (hs f (Or.inl h))) (hstat s fr hs f)

theorem run_eq_map_of_stationary (c : Cmd F V Fr) (s0 : F → V)
    (hstat : ∀ s fr, (∀ f, (f ∉ c.writes ∨ f ∈ leaky c) → s f = s0 f) →
      ∀ f, f ∈ leaky c → (c.exec s fr).1 f = s0 f)
    (fs : List Fr) : runFrames c s0 fs = fs.map (frameFn c s0) :=
  run_eq_map_of_agree c s0 hstat fs s0 (fun _ _ => rfl)

theorem run_eq_map_aux (c : Cmd F V Fr) (h : Refines c) (s0 s : F → V)
    (hs : ∀ f, f ∉ c.writes → s f = s0 f) (fs : List Fr) :
    runFrames c s fs = fs.map (frameFn c s0) := by
  have hl : ∀ f, f ∉ leaky c := by
    rw [(refines_iff_leaky_nil c).1 h]
    exact fun _ => List.not_mem_nil
  exact run_eq_map_of_agree c s0 (fun _ _ _ f hf => absurd hf (hl f)) fs s
    (fun f hf => hs f (hf.resolve_right (hl f)))

/-- refinement: if every read field is configuration or killed, running the object over a frame
    sequence is `map` of a pure per-frame function -/
theorem run_eq_map (c : Cmd F V Fr) (h : Refines c) (s0 : F → V) (fs : List Fr) :
    runFrames c s0 fs = fs.map (frameFn c s0) :=
  run_eq_map_aux c h s0 s0 (fun _ _ => rfl) fs

end Cmd

/-! ## Part 2: state machines, semantic form -/

structure Machine (St Fr Out : Type) where
  step : St → Fr → St × Out

namespace Machine
variable {St Fr Out : Type}

def run (m : Machine St Fr Out) : St → List Fr → List Out
  | _, [] => []
  | s, fr :: rest => (m.step s fr).2 :: run m (m.step s fr).1 rest

/-- invariant form (covers caches/memo fields): if a predicate `Good` holds initially, is preserved by
    every step, and the output of a step from any good state equals the output from the initial state,
    then the run is a `map` -/
theorem run_eq_map_of_inv (m : Machine St Fr Out) (Good : St → Prop) (s0 : St)
    (hpres : ∀ s fr, Good s → Good (m.step s fr).1)
    (hout : ∀ s fr, Good s → (m.step s fr).2 = (m.step s0 fr).2)
    (s : St) (hs : Good s) (fs : List Fr) :
    m.run s fs = fs.map (fun fr => (m.step s0 fr).2) := by
  induction fs generalizing s with
  | nil => rfl
  | cons fr rest ih =>
    simp only [run, List.map_cons]
    rw [hout s fr hs, ih _ (hpres s fr hs)]

end Machine

/-! consequences of `run = map f`, stated for any list function of that shape -/
section MapFacts
variable {Fr Out : Type} (f : Fr → Out)

theorem map_length (fs : List Fr) : (fs.map f).length = fs.length := List.length_map ..

theorem map_getElem (fs : List Fr) (i : Nat) (h : i < fs.length) :
    (fs.map f)[i]'(by simpa using h) = f fs[i] := by simp

theorem map_perm {fs gs : List Fr} (h : fs.Perm gs) : (fs.map f).Perm (gs.map f) := h.map f

theorem map_sublist {fs gs : List Fr} (h : fs.Sublist gs) : (fs.map f).Sublist (gs.map f) := h.map f

theorem map_replicate (n : Nat) (fr : Fr) : (List.replicate n fr).map f = List.replicate n (f fr) :=
  List.map_replicate

theorem map_append (fs gs : List Fr) : (fs ++ gs).map f = fs.map f ++ gs.map f := List.map_append
end MapFacts

/-! ## Part 3: decoded frame length as a function of the FrameInfo the adapter passes down -/

structure Info where
  w : Nat
  h : Nat
  spp : Nat
  ba : Nat
  bs : Nat
  deriving Repr, DecidableEq

/-- what the property requires: Rows·Columns·Samples·⌈BitsAllocated/8⌉ -/
def expectedLen (i : Info) : Nat := i.w * i.h * i.spp * ((i.ba + 7) / 8)

inductive Kind where
  | rle | baseline | extended | jpegll | jls | j2k | htj2k
  deriving Repr, DecidableEq

def pad8 (n : Nat) : Nat := (n + 7) / 8 * 8

/-- since fix ae34483 every adapter that hands BitsStored down as the sample depth (all but RLE and HTJ2K)
    rejects, in Encode and in Decode, a frame whose BitsStored and BitsAllocated need different bytes per sample -/
def layoutOK (i : Info) : Prop := (i.bs + 7) / 8 = (i.ba + 7) / 8

instance (i : Info) : Decidable (layoutOK i) := by unfold layoutOK; exact inferInstance

/-- Code-shaped model of Encode→Decode through each adapter (`none` = the adapter rejects the frame):
    * rle/rle.go encodeFrame/decodeFrame: bytesAllocated = (BitsAllocated-1)/8+1, odd lengths padded;
    * jpeg/baseline/codec.go: BitsStored > 8 rejected; Encode(frame, w, h, spp, quality) reads one byte per
      sample; decoder.convertToPixels: w·h·comps bytes;
    * jpeg/extended/codec.go: BitsStored > 12 rejected; bitDepth := 8 if BitsStored ≤ 8 else 12; the 12-bit
      coder takes one component only and returns 2 bytes per sample; the 8-bit path is image/jpeg:
      DecodeSimple copies the rows of `image.Gray` tightly (since fix 5946dc5; before, `Pix` was copied
      whole, with stride and rows padded to multiples of 8), RGB is repacked;
    * jpeg/lossless, lossless14sv1: Encode(..., int(BitsStored), ...); samplesToPixels/convertToPixels:
      (precision+7)/8 bytes per sample;
    * jpegls/lossless, nearlossless: BitsStored ∈ 2..16 passed as depth; integersToPixels: 1 byte if ≤ 8 else 2;
    * jpeg2000/lossless, lossy: DefaultEncodeParams(..., int(BitsStored), ...); Decoder.GetPixelData:
      1 byte if bitDepth ≤ 8 else 2;
    * jpeg2000/htj2k: DefaultEncodeParams(..., int(BitsAllocated), ...). -/
def decodedLen (k : Kind) (i : Info) : Option Nat :=
  match k with
  | .rle => let n := i.w * i.h * i.spp * ((i.ba - 1) / 8 + 1); some (n + n % 2)
  | .baseline => if i.bs > 8 ∨ ¬ layoutOK i then none else some (i.w * i.h * i.spp)
  | .extended =>
    if i.bs > 12 ∨ ¬ layoutOK i then none
    else if i.bs ≤ 8 then
      (if i.spp = 1 then some (i.w * i.h) else some (i.w * i.h * 3))
    else (if i.spp = 1 then some (i.w * i.h * 2) else none)
  | .jpegll => if ¬ layoutOK i then none else some (i.w * i.h * i.spp * ((i.bs + 7) / 8))
  | .jls => if i.bs < 2 ∨ i.bs > 16 ∨ ¬ layoutOK i then none else some (i.w * i.h * i.spp * (if i.bs ≤ 8 then 1 else 2))
  | .j2k => if ¬ layoutOK i then none else some (i.w * i.h * i.spp * (if i.bs ≤ 8 then 1 else 2))
  | .htj2k => some (i.w * i.h * i.spp * (if i.ba ≤ 8 then 1 else 2))

/-- the property's quantifier: BitsAllocated ∈ {8,16}, 1 < BitsStored ≤ BitsAllocated, Samples ∈ {1,3} -/
def Info.InScope (i : Info) : Prop :=
  (i.ba = 8 ∨ i.ba = 16) ∧ 1 < i.bs ∧ i.bs ≤ i.ba ∧ (i.spp = 1 ∨ i.spp = 3) ∧ 0 < i.w ∧ 0 < i.h

instance (i : Info) : Decidable i.InScope := by unfold Info.InScope; exact inferInstance

end Frames
