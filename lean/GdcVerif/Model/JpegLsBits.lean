import GdcVerif.GoPrelude
/-!
  Hand model of the one loop inside `ComputeCodingParameters`' call graph:
  `bitsLen` (jpegls/lossless/context.go).  The generated `ComputeCodingParameters`
  (Gen/JpegLs.lean) calls this definition through the go2lean callmap; the correspondence
  run compares it with the real function (`jls-bitsLen`).

      func bitsLen(n int) int {
          if n <= 1 { return 1 }
          length := 0
          n--
          for n > 0 { n >>= 1; length++ }
          return length
      }

  Go's `int` has 64 bits, so for `n > 0` the loop body runs at most 63 times: the model's
  loop carries that bound as structural fuel (64) instead of a termination proof.
-/
namespace JpegLsBits

/-- `for n > 0 { n >>= 1; length++ }` with at most `fuel` iterations -/
def bitsLoop : Nat → Nat → Nat → Nat
  | 0, _, len => len
  | fuel + 1, n, len => if n > 0 then bitsLoop fuel (n / 2) (len + 1) else len

def bitsLen (n : Int) : Int :=
  if n ≤ 1 then 1 else (bitsLoop 64 (n - 1).toNat 0 : Nat)

/-- the loop counts the binary digits of `n`: result `len + j` with `2^(j-1) ≤ n < 2^j` (`j = 0` for `n = 0`) -/
theorem bitsLoop_spec : ∀ (fuel n len : Nat), n < 2 ^ fuel →
    ∃ j, bitsLoop fuel n len = len + j ∧ n < 2 ^ j ∧ (n = 0 → j = 0) ∧ (0 < n → 0 < j ∧ 2 ^ (j - 1) ≤ n)
  | 0, n, len, h => ⟨0, by simp [bitsLoop], by simpa using h, fun _ => rfl, by intro hn; simp at h; omega⟩
  | fuel + 1, n, len, h => by
    unfold bitsLoop
    by_cases hn : n > 0
    · simp only [hn, if_true]
      have h2 : n / 2 < 2 ^ fuel := by
        rw [Nat.pow_succ] at h; omega
      obtain ⟨j, hj, hlt, hzero, hpos⟩ := bitsLoop_spec fuel (n / 2) (len + 1) h2
      refine ⟨j + 1, by omega, by rw [Nat.pow_succ]; omega, by omega, fun _ => ⟨by omega, ?_⟩⟩
      simp only [Nat.add_sub_cancel]
      by_cases h0 : 0 < n / 2
      · obtain ⟨hj0, hle⟩ := hpos h0
        have : 2 ^ j = 2 ^ (j - 1) * 2 := by
          rw [← Nat.pow_succ]; congr 1; omega
        omega
      · rw [hzero (by omega)]
        show 1 ≤ n
        omega
    · simp only [hn, if_false]
      exact ⟨0, by simp, by have : (2:Nat) ^ 0 = 1 := rfl
                            omega, fun _ => rfl, fun h' => h'.elim⟩

/-- `bitsLen n = ⌈log2 n⌉` for `2 ≤ n ≤ 2^63`: `2^(bitsLen n − 1) < n ≤ 2^(bitsLen n)`; and `bitsLen 1 = 1`. -/
theorem bitsLen_spec (n : Int) (h2 : 2 ≤ n) (hn : n ≤ 2 ^ 63) :
    ∃ j : Nat, bitsLen n = j ∧ 1 ≤ j ∧ (2 : Int) ^ (j - 1) < n ∧ n ≤ (2 : Int) ^ j := by
  unfold bitsLen
  have : ¬ n ≤ 1 := by omega
  simp only [this, if_false]
  have hm : (n - 1).toNat < 2 ^ 64 := by
    simp only [Int.reducePow] at hn
    simp only [Nat.reducePow]
    omega
  obtain ⟨j, hj, hlt, _, hpos⟩ := bitsLoop_spec 64 (n - 1).toNat 0 hm
  obtain ⟨hj0, hle⟩ := hpos (by omega)
  refine ⟨j, by rw [hj]; simp, hj0, ?_, ?_⟩
  · have : ((2 ^ (j - 1) : Nat) : Int) ≤ (((n - 1).toNat : Nat) : Int) := Int.ofNat_le.mpr hle
    have e : ((2 ^ (j - 1) : Nat) : Int) = (2:Int) ^ (j - 1) := by simp
    rw [e] at this; omega
  · have : (((n - 1).toNat : Nat) : Int) < ((2 ^ j : Nat) : Int) := Int.ofNat_lt.mpr hlt
    have e : ((2 ^ j : Nat) : Int) = (2:Int) ^ j := by simp
    rw [e] at this; omega

theorem bitsLen_one : bitsLen 1 = 1 := by decide

end JpegLsBits
