import GdcVerif.Model.JpegMarkers
/-
  Header walks of the two JPEG-LS decoders (HEAD, after commit c3ac264 "precision outside 2..16"):
    /repo/jpegls/lossless/decoder.go      Decoder.decode, parseSOF55, parseLSE, parseSOS
    /repo/jpegls/nearlossless/decoder.go  Decoder.decode, parseSOF55, parseLSE, parseSOS, applyCodingParameters
  and the divisions of the parameter derivation they trigger
    /repo/jpegls/lossless/context.go      ComputeCodingParameters ((maxVal+2·near)/(2·near+1)),
                                          computeThresholds (256/(maxVal+1), 3/factor).
  Go `int` is 64-bit: `1 << uint(p)` is modelled with explicit wrap-around although the guard now
  keeps p in 2..16 — the theorems show the division sites dead.
-/
namespace JlsH
open PC JM

def wrap64 (x : Int) : Int := (x + 2 ^ 63) % 2 ^ 64 - 2 ^ 63

/-- `(1 << uint(bitDepth)) - 1` in Go's 64-bit `int` -/
def maxValOf (p : Nat) : Int := wrap64 (wrap64 (if p ≥ 64 then 0 else 2 ^ p) - 1)

/-- the divisions of `computeThresholds(maxVal, near)`: `256/(maxVal+1)` and then `3/factor`,
    `7/factor`, `21/factor` on the branch maxVal < 128 -/
def thresholdsDivOk (maxVal : Int) : Bool :=
  if maxVal ≥ 128 then true
  else if wrap64 (maxVal + 1) = 0 then false
  else if (256 : Int).tdiv (wrap64 (maxVal + 1)) = 0 then false
  else true

/-- `ComputeCodingParameters(maxVal, near, reset)`: the range division (near > 0 only) and
    computeThresholds; `none` when all divisors are non-zero, else the site -/
def codingParamsPanic (maxVal near : Int) : Option Site :=
  if near > 0 ∧ wrap64 (2 * near + 1) = 0 then some .jlsRange
  else if thresholdsDivOk maxVal then none else some .jlsThresholds

structure St where
  maxVal : Int := 0
  bitDepth : Nat := 0
  width : Nat := 0
  height : Nat := 0
  comps : Nat := 0
  near : Nat := 0
  allocs : List Nat := []
deriving Repr, DecidableEq

/-- contexts: 365 `*Context` of 4 ints each, allocated by NewContextTable on every (re)initialisation -/
def ctxAlloc : Nat := 365 * (8 + 32)

/-- frame header fields shared by both decoders' parseSOF55: error, or (p, h, w, nc) -/
def sofFields (data : Bytes) : Option (Nat × Nat × Nat × Nat) :=
  if data.length < 6 then none
  else
    let p := data.getD 0 0
    let h := data.getD 1 0 * 256 + data.getD 2 0
    let w := data.getD 3 0 * 256 + data.getD 4 0
    let nc := data.getD 5 0
    if p < 2 ∨ p > 16 then none
    else if w = 0 ∨ h = 0 then none
    else if nc ≠ 1 ∧ nc ≠ 3 then none
    else some (p, h, w, nc)

/-- lossless parseSOF55: NewTraits + initCodingParameters (ComputeCodingParameters three times) -/
def sof55Core (st : St) (data : Bytes) : H St :=
  match sofFields data with
  | none => .stop st .err
  | some (p, h, w, nc) =>
    match codingParamsPanic (maxValOf p) 0 with
    | some s => .stop st (.panic s)
    | none => .cont { st with maxVal := maxValOf p, bitDepth := p, width := w, height := h, comps := nc,
                              allocs := st.allocs ++ [ctxAlloc] }

/-- lossless parseSOF55 with the guard of commit 72b8b5a: a second frame header is rejected
    (`dec.components != 0`; the length check in front of it gives the same outcome) -/
def sof55 (st : St) (data : Bytes) : H St :=
  if st.comps ≠ 0 then .stop st .err else sof55Core st data

/-- lossless parseLSE -/
def lse (st : St) (data : Bytes) : H St :=
  match data with
  | [] => .stop st .err
  | id :: _ =>
    if id ≠ 1 then .cont st
    else if data.length < 11 then .stop st .err
    else
      let mv : Int := (data.getD 1 0 * 256 + data.getD 2 0 : Nat)
      let mv := if mv ≤ 0 then st.maxVal else mv
      match codingParamsPanic mv 0 with
      | some s => .stop st (.panic s)
      | none => .cont { st with maxVal := mv, allocs := st.allocs ++ [ctxAlloc] }

/-- interleave check shared by both parseSOS -/
def sosOk (st : St) (data : Bytes) : Bool :=
  if data.length < 4 then false
  else if data.getD 0 0 ≠ st.comps then false
  else
    let il := data.getD (data.length - 2) 0
    if st.comps = 1 ∧ il ≠ 0 then false
    else if st.comps > 1 ∧ il ≠ 2 then false
    else true

/-- what a scan start allocates: the scan byte buffer (≤ unread input) and `make([]int, w·h·comps)` -/
def scanAllocs (st : St) (unread : Nat) : List Nat := [unread, 8 * (st.width * st.height * st.comps)]

/-- one turn of the lossless decoder's marker loop -/
def step (st : St) (bs : Bytes) : Step St :=
  match readMarker bs with
  | none => .done st .err           -- EOF ⇒ "incomplete JPEG-LS data", other errors as they are
  | some (m, rest) =>
    let fail := fun (s : St) (a : Nat) => { s with allocs := s.allocs ++ [a] }
    if m = 0xFFF7 then
      segTurn st rest fail fun pl _ => sof55 { st with allocs := st.allocs ++ [pl.length] } pl
    else if m = 0xFFF8 then
      segTurn st rest fail fun pl _ => lse { st with allocs := st.allocs ++ [pl.length] } pl
    else if m = 0xFFDA then
      segTurn st rest fail fun pl unread =>
        if sosOk st pl then .stop { st with allocs := st.allocs ++ [pl.length] ++ scanAllocs st unread } .beyond
        else .stop { st with allocs := st.allocs ++ [pl.length] } .err
    else if m = 0xFFD9 then .done st .err
    else if hasLength m then
      segTurn st rest fail fun pl _ => .cont { st with allocs := st.allocs ++ [pl.length] }
    else .more st rest

theorem step_lt {st st' : St} {bs r : Bytes} (h : step st bs = .more st' r) : r.length < bs.length := by
  refine Step.Post.of_more (x := step st bs) (?_ : Shrinks bs _) h
  unfold step
  refine markerTurn_post trivial fun m rest hm => ?_
  have hr := readMarker_lt hm
  exact .ite (fun _ => segTurn_shrinks hr) fun _ =>
    .ite (fun _ => segTurn_shrinks hr) fun _ =>
    .ite (fun _ => segTurn_shrinks hr) fun _ =>
    .ite (fun _ => trivial) fun _ =>
    .ite (fun _ => segTurn_shrinks hr) fun _ =>
    hr

/-- `jpegls/lossless.Decode` up to the start of the scan -/
def header (bs : Bytes) : St × Res :=
  match readMarker bs with
  | none => ({}, .err)
  | some (m, rest) => if m ≠ 0xFFD8 then ({}, .err) else run step step_lt {} rest

/-! ## near-lossless decoder: parameters are derived at SOS, once NEAR is known -/

/-- nearlossless parseSOF55: only stores -/
def nsof55Core (st : St) (data : Bytes) : H St :=
  match sofFields data with
  | none => .stop st .err
  | some (p, h, w, nc) => .cont { st with maxVal := maxValOf p, bitDepth := p, width := w, height := h, comps := nc }

/-- nearlossless parseSOF55 with the guard of commit 72b8b5a -/
def nsof55 (st : St) (data : Bytes) : H St :=
  if st.comps ≠ 0 then .stop st .err else nsof55Core st data

/-- nearlossless parseLSE: only stores (MAXVAL when > 0) -/
def nlse (st : St) (data : Bytes) : H St :=
  match data with
  | [] => .stop st .err
  | id :: _ =>
    if id = 1 ∧ data.length ≥ 11 then
      let mv : Int := (data.getD 1 0 * 256 + data.getD 2 0 : Nat)
      .cont { st with maxVal := if mv > 0 then mv else st.maxVal }
    else .cont st

/-- nearlossless parseSOS: NEAR = data[len−3], then applyCodingParameters -/
def nsos (st : St) (data : Bytes) (unread : Nat) : H St :=
  if sosOk st data then
    let near := data.getD (data.length - 3) 0
    match codingParamsPanic st.maxVal near with
    | some s => .stop st (.panic s)
    | none => .stop { st with near := near, allocs := st.allocs ++ [ctxAlloc] ++ scanAllocs st unread } .beyond
  else .stop st .err

def nstep (st : St) (bs : Bytes) : Step St :=
  match readMarker bs with
  | none => .done st .err
  | some (m, rest) =>
    let fail := fun (s : St) (a : Nat) => { s with allocs := s.allocs ++ [a] }
    if m = 0xFFF7 then
      segTurn st rest fail fun pl _ => nsof55 { st with allocs := st.allocs ++ [pl.length] } pl
    else if m = 0xFFF8 then
      segTurn st rest fail fun pl _ => nlse { st with allocs := st.allocs ++ [pl.length] } pl
    else if m = 0xFFDA then
      segTurn st rest fail fun pl unread => nsos { st with allocs := st.allocs ++ [pl.length] } pl unread
    else if m = 0xFFD9 then .done st .err
    else if hasLength m then
      segTurn st rest fail fun pl _ => .cont { st with allocs := st.allocs ++ [pl.length] }
    else .more st rest

theorem nstep_lt {st st' : St} {bs r : Bytes} (h : nstep st bs = .more st' r) : r.length < bs.length := by
  refine Step.Post.of_more (x := nstep st bs) (?_ : Shrinks bs _) h
  unfold nstep
  refine markerTurn_post trivial fun m rest hm => ?_
  have hr := readMarker_lt hm
  exact .ite (fun _ => segTurn_shrinks hr) fun _ =>
    .ite (fun _ => segTurn_shrinks hr) fun _ =>
    .ite (fun _ => segTurn_shrinks hr) fun _ =>
    .ite (fun _ => trivial) fun _ =>
    .ite (fun _ => segTurn_shrinks hr) fun _ =>
    hr

/-- `jpegls/nearlossless.Decode` up to the start of the scan -/
def nheader (bs : Bytes) : St × Res :=
  match readMarker bs with
  | none => ({}, .err)
  | some (m, rest) => if m ≠ 0xFFD8 then ({}, .err) else run nstep nstep_lt {} rest

end JlsH
