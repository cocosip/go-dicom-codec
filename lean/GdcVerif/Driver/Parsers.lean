import GdcVerif.Driver.Util
import GdcVerif.Model.JpegMarkers
import GdcVerif.Model.JlsHeader
import GdcVerif.Model.J2kParse
import GdcVerif.Model.J2kMct
import GdcVerif.Model.J2kPacketBody
/-! Driver ops of the C08/C09 parser models. -/
namespace Drv.Parsers
open Drv PC

def sp (xs : List Nat) : String := " ".intercalate (xs.map toString)

def resStr : Res → String
  | .ok => "ok"
  | .err => "err"
  | .panic _ => "panic"
  | .beyond => "beyond"

def semi (s : String) : List String := if s = "-" then [] else s.splitOn ";"

def pktIncl? (s : String) : Option PktBody.Incl :=
  if s = "x" then some { included := false, len := 0 }
  else s.toNat?.map fun n => { included := true, len := n }

def pkt? (s : String) : Option PktBody.Pkt :=
  match s.splitOn ":" with
  | [h, ds] =>
    match h.toNat? with
    | some h =>
      if ds = "e" then some { hdrLen := h, incls := none }
      else ((ds.splitOn ",").mapM pktIncl?).map fun cs => { hdrLen := h, incls := some cs }
    | none => none
  | _ => none

def pktResStr : PktBody.PktRes → String
  | .empty => "e"
  | .full r =>
    ",".intercalate (r.incls.map fun c => if c.included then toString c.len else "x") ++ ":" ++ toString r.body ++ ":" ++
      (if r.partialBuf then "1" else "0")

def mctSeg? (s : String) : Option Mct.MctSeg :=
  match s.splitOn ":" with
  | [i, a, e, p, vs] =>
    match i.toNat?, a.toNat?, e.toNat?, p.toNat?, parseInts vs with
    | some i, some a, some e, some p, some vs => some { index := i, arrayType := a, elemType := e, vals := vs, pad := p }
    | _, _, _, _, _ => none
  | _ => none

def mccSeg? (s : String) : Option Mct.MccSeg :=
  match s.splitOn ":" with
  | [i, ct, ids, outs, d, o, rv] =>
    match i.toNat?, ct.toNat?, parseInts ids, parseInts outs, d.toNat?, o.toNat?, rv.toNat? with
    | some i, some ct, some ids, some outs, some d, some o, some rv =>
      some { index := i, collType := ct, numComps := ids.length, compIDs := ids.map Int.toNat, outIDs := outs.map Int.toNat,
             decorr := d, offs := o, reversible := rv = 1 }
    | _, _, _, _, _, _, _ => none
  | _ => none

/-- ops:
  `pkt-body total mode hdrLen:d,d,x;…` → `ok l,l,x:body:partial;… big=k` | `err`   (decodePacket → gatherCBData hand-over; big = MiB allocated for code-block buffers)
  `mct-apply comps mct;… mcc;… mco;…` → `ok v0,…` | `panic`   (decoder-side Part-2 transform of a zero image, one value per component)
  `jm-readmarker hex`      → `ok <marker> <unread>` | `err`
  `jm-readsegment hex`     → `ok <payload length> <unread>` | `err`
  `jm-build b0,…,b15 n`    → `ok` | `err` | `panic`   (HuffmanTable.Build with len(Values) = n)
  `parse-sv1 hex`          → `ok w h comps precision` | `err` | `panic` | `beyond`
  `parse-jll hex`          → `ok w h comps precision` | `err` | `panic` | `beyond`
  `parse-bl hex`           → `err` | `panic` | `beyond`
  `parse-jls hex`, `parse-jlsn hex` → `err` | `panic` | `beyond`
  `parse-j2k hex`          → `ok xsiz ysiz xosiz yosiz xtsiz ytsiz csiz ncoc nqcc npoc nrgn ncom nmct nmcc nmco ntiles datalen | cod… | qcd…` | `err` | `panic` | `beyond`
-/
def step? : List String → Option String
  | ["jm-readmarker", hx] =>
    some <| match JM.readMarker (hexToBytes hx) with
    | some (m, rest) => s!"ok {m} {rest.length}"
    | none => "err"
  | ["jm-readsegment", hx] =>
    some <| match JM.readSegment (hexToBytes hx) with
    | some (pl, rest) => s!"ok {pl.length} {rest.length}"
    | none => "err"
  | ["jm-build", bits, n] =>
    some <| match parseInts bits, n.toNat? with
    | some bs, some n =>
      match JM.build (bs.map Int.toNat) n with
      | .ok () => "ok"
      | .error e => resStr e
    | _, _ => "bad-op"
  | ["parse-sv1", hx] =>
    some <| match JM.sv1Decode (hexToBytes hx) with
    | (st, .ok) => "ok " ++ sp [st.width, st.height, st.comps.length, st.precision]
    | (_, r) => resStr r
  | ["parse-jll", hx] =>
    some <| match JM.jllDecode (hexToBytes hx) with
    | (st, .ok) => "ok " ++ sp [st.width, st.height, st.comps, st.precision]
    | (_, r) => resStr r
  | ["parse-bl", hx] => some <| resStr (JM.blDecode (hexToBytes hx)).2
  | ["parse-jls", hx] => some <| resStr (JlsH.header (hexToBytes hx)).2
  | ["parse-jlsn", hx] => some <| resStr (JlsH.nheader (hexToBytes hx)).2
  | ["parse-j2k", hx] =>
    some <| match J2kH.parse (hexToBytes hx) with
    | (st, .ok) =>
      match st.siz, st.cod, st.qcd with
      | some s, some c, some q =>
        "ok " ++ sp [s.xsiz, s.ysiz, s.xosiz, s.yosiz, s.xtsiz, s.ytsiz, s.csiz, st.coc.length, st.qcc.length,
                     st.npoc, st.nrgn, st.ncom, st.nmct, st.nmcc, st.nmco, st.tiles.length, (st.tiles.map (·.dataLen)).foldl (· + ·) 0]
          ++ " | " ++ sp c ++ " | " ++ sp q
      | _, _, _ => "bad-model"
    | (_, r) => resStr r
  | ["pkt-body", total, mode, ps] =>
    some <| match total.toNat?, mode.toNat?, (ps.splitOn ";").mapM pkt? with
    | some total, some mode, some ps =>
      let m : PktBody.Mode := if mode = 1 then .resilient else if mode = 2 then .strict else .default
      match PktBody.decodeSeq total m 0 ps with
      | none => "err"
      | some rs => "ok " ++ ";".intercalate (rs.map pktResStr) ++ " big=" ++ toString ((PktBody.tileAllocs rs).foldl (· + ·) 0 / 1048576)
    | _, _, _ => "bad-op"
  | ["mct-apply", comps, a, b, c] =>
    some <| match comps.toNat?, (semi a).mapM mctSeg?, (semi b).mapM mccSeg?, (semi c).mapM parseInts with
    | some comps, some mct, some mcc, some mco =>
      match Mct.transform { mct := mct, mcc := mcc, mco := mco.map (·.map Int.toNat) } comps (List.replicate comps 0) with
      | some v => "ok " ++ intsToStr v
      | none => "panic"
    | _, _, _, _ => "bad-op"
  | _ => none

end Drv.Parsers
